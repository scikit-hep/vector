/-
Specification layer, extension to SIGNED proper time (hand-written; does not touch `Spec/Basic.lean`).

`Spec/Basic.lean` reads a τ-stored 4-vector as `t = √(τ² + |p|²)` on the domain `0 ≤ τ`. The library also uses
NEGATIVE τ: `τ < 0` encodes a SPACE-LIKE vector (with `t ≥ 0`) whose invariant is `t² − |p|² = −τ²`:

  τ²ₛ := copysign(τ², τ)   (`tau2S`: `τ²` for `τ ≥ 0`, `−τ²` for `τ < 0`),
  t   := √(τ²ₛ + |p|²)      (`tOfS`),  representable iff `0 ≤ τ²ₛ + |p|²` (`CanonTmpS`).

Under `CanonTmpS` the stored signed `τ²ₛ` IS the invariant `t² − |p|²`, so for τ storage
space-like ⇔ `τ < 0`, light-like ⇔ `τ = 0`, time-like ⇔ `τ > 0`.
-/
import VectorModel.Spec.Basic
import VectorModel.Lemmas.Prim
import Mathlib.Tactic.Ring
import Mathlib.Tactic.Linarith
import Mathlib.Tactic.Positivity
import Mathlib.Tactic.NormNum

namespace VR
namespace Spec
open VK Real

/-! ### the signed square of the stored proper time -/

/-- `copysign(τ², τ)`: the invariant `t² − |p|²` encoded by a stored (signed) τ -/
noncomputable def tau2S (d : ℝ) : ℝ := P.copysign (d ^ 2) d

theorem tau2S_of_nonneg {d : ℝ} (h : 0 ≤ d) : tau2S d = d ^ 2 := P.copysign_sq h

theorem tau2S_of_neg {d : ℝ} (h : d < 0) : tau2S d = -d ^ 2 := by
  rw [tau2S, P.copysign_of_neg _ h, abs_of_nonneg (sq_nonneg d)]

@[simp] theorem tau2S_zero : tau2S 0 = 0 := by rw [tau2S_of_nonneg le_rfl]; norm_num

theorem abs_tau2S (d : ℝ) : |tau2S d| = d ^ 2 := by
  rcases le_or_gt 0 d with h | h
  · rw [tau2S_of_nonneg h, abs_of_nonneg (sq_nonneg d)]
  · rw [tau2S_of_neg h, abs_neg, abs_of_nonneg (sq_nonneg d)]

theorem tau2S_pos_iff {d : ℝ} : 0 < tau2S d ↔ 0 < d := by
  rcases le_or_gt 0 d with h | h
  · rw [tau2S_of_nonneg h]
    constructor
    · intro h2; rcases eq_or_lt_of_le h with h0 | h0
      · rw [← h0] at h2; norm_num at h2
      · exact h0
    · intro h2; positivity
  · rw [tau2S_of_neg h]
    constructor
    · intro h2; linarith [sq_nonneg d]
    · intro h2; linarith

theorem tau2S_neg_iff {d : ℝ} : tau2S d < 0 ↔ d < 0 := by
  rcases le_or_gt 0 d with h | h
  · rw [tau2S_of_nonneg h]
    constructor
    · intro h2; linarith [sq_nonneg d]
    · intro h2; linarith
  · rw [tau2S_of_neg h]
    constructor
    · intro _; exact h
    · intro _; have : 0 < d ^ 2 := sq_pos_of_ne_zero (ne_of_lt h)
      linarith

theorem tau2S_eq_zero_iff {d : ℝ} : tau2S d = 0 ↔ d = 0 := by
  constructor
  · intro h
    have := abs_tau2S d
    rw [h, abs_zero] at this
    exact pow_eq_zero_iff (two_ne_zero) |>.mp this.symm
  · intro h; rw [h]; exact tau2S_zero

theorem tau2S_nonneg_iff {d : ℝ} : 0 ≤ tau2S d ↔ 0 ≤ d := by
  rw [← not_lt, tau2S_neg_iff, not_lt]

theorem sign_tau2S (d : ℝ) : Real.sign (tau2S d) = Real.sign d := by
  rcases lt_trichotomy d 0 with h | h | h
  · rw [Real.sign_of_neg h, Real.sign_of_neg (tau2S_neg_iff.mpr h)]
  · rw [h, tau2S_zero]
  · rw [Real.sign_of_pos h, Real.sign_of_pos (tau2S_pos_iff.mpr h)]

theorem sign_mul_sqrt_abs_tau2S (d : ℝ) : Real.sign (tau2S d) * sqrt |tau2S d| = d := by
  rw [sign_tau2S, abs_tau2S, sqrt_sq_eq_abs]
  rcases lt_trichotomy d 0 with h | h | h
  · rw [Real.sign_of_neg h, abs_of_neg h]; ring
  · rw [h]; simp
  · rw [Real.sign_of_pos h, abs_of_pos h]; ring

theorem tau2S_copysign_sqrt_abs (s : ℝ) : tau2S (P.copysign (sqrt |s|) s) = s := by
  rcases le_or_gt 0 s with h | h
  · rw [P.copysign_sqrt_abs_of_nonneg h, tau2S_of_nonneg (sqrt_nonneg _), sq_sqrt h]
  · rw [tau2S_of_neg ((P.copysign_sqrt_abs_neg_iff s).mpr h), P.copysign_sqrt_abs_sq, abs_of_neg h, neg_neg]

theorem tau2S_mul_of_nonneg (d f : ℝ) (hf : 0 ≤ f) : tau2S (d * f) = f ^ 2 * tau2S d := by
  rcases le_or_gt 0 d with h | h
  · rw [tau2S_of_nonneg h, tau2S_of_nonneg (mul_nonneg h hf)]; ring
  · rcases eq_or_lt_of_le hf with h0 | h0
    · rw [← h0]; simp
    · rw [tau2S_of_neg h, tau2S_of_neg (mul_neg_of_neg_of_pos h h0)]; ring

/-! ### signed-τ denotation of the temporal coordinate -/

/-- temporal storage is representable (signed-τ reading): the denoted vector has a real time component,
`0 ≤ τ²ₛ + |p|²` — every `τ ≥ 0`, and `τ < 0` only when `τ² ≤ |p|²` -/
def CanonTmpS : Az → Lon → Tmp → ℝ → ℝ → ℝ → ℝ → Prop
  | _, _, .t, _, _, _, _ => True
  | az, lon, .tau, a, b, c, d => 0 ≤ tau2S d + mag2Of az lon a b c

noncomputable def tOfS : Az → Lon → Tmp → ℝ → ℝ → ℝ → ℝ → ℝ
  | _, _, .t, _, _, _, d => d
  | az, lon, .tau, a, b, c, d => sqrt (tau2S d + mag2Of az lon a b c)

noncomputable def cart4S (az : Az) (lon : Lon) (tmp : Tmp) (a b c d : ℝ) : ℝ × ℝ × ℝ × ℝ :=
  (xOf az a b, yOf az a b, zOf az lon a b c, tOfS az lon tmp a b c d)

noncomputable def interp4S (r : Ret) (v : ℝ × ℝ × ℝ × ℝ) : Option (ℝ × ℝ × ℝ × ℝ) :=
  match retAz r, retLon r, retTmp r with
  | some az, some lon, some tmp => some (cart4S az lon tmp v.1 v.2.1 v.2.2.1 v.2.2.2)
  | _, _, _ => none

theorem mag2Of_nonneg' (az : Az) (lon : Lon) (a b c : ℝ) : 0 ≤ mag2Of az lon a b c := by
  unfold mag2Of; positivity

theorem tOfS_t (az : Az) (lon : Lon) (a b c d : ℝ) : tOfS az lon .t a b c d = d := rfl

theorem tOfS_tau (az : Az) (lon : Lon) (a b c d : ℝ) :
    tOfS az lon .tau a b c d = sqrt (tau2S d + mag2Of az lon a b c) := rfl

theorem canonTmpS_tau (az : Az) (lon : Lon) (a b c d : ℝ) :
    CanonTmpS az lon .tau a b c d ↔ 0 ≤ tau2S d + mag2Of az lon a b c := Iff.rfl

/-- the signed reading EXTENDS the unsigned one: on `0 ≤ τ` (`CanonTmp`) the storage is representable … -/
theorem CanonTmpS_of_CanonTmp (az : Az) (lon : Lon) (tmp : Tmp) (a b c d : ℝ) (h : CanonTmp tmp d) :
    CanonTmpS az lon tmp a b c d := by
  cases tmp
  · cases az <;> cases lon <;> trivial
  · rw [canonTmpS_tau]
    have h0 : (0 : ℝ) ≤ d := h
    have := mag2Of_nonneg' az lon a b c
    rw [tau2S_of_nonneg h0]; positivity

/-- … and denotes the same time component. -/
theorem tOfS_eq_tOf (az : Az) (lon : Lon) (tmp : Tmp) (a b c d : ℝ) (h : CanonTmp tmp d) :
    tOfS az lon tmp a b c d = tOf az lon tmp a b c d := by
  cases tmp
  · cases az <;> cases lon <;> rfl
  · have h0 : (0 : ℝ) ≤ d := h
    rw [tOfS_tau, tau2S_of_nonneg h0]
    cases az <;> cases lon <;> rfl

theorem cart4S_eq_cart4 (az : Az) (lon : Lon) (tmp : Tmp) (a b c d : ℝ) (h : CanonTmp tmp d) :
    cart4S az lon tmp a b c d = cart4 az lon tmp a b c d := by
  simp only [cart4S, cart4, tOfS_eq_tOf az lon tmp a b c d h]

theorem cart4S_t (az : Az) (lon : Lon) (a b c d : ℝ) : cart4S az lon .t a b c d = cart4 az lon .t a b c d :=
  cart4S_eq_cart4 az lon .t a b c d trivial

theorem interp4S_eq_interp4 (r : Ret) (v : ℝ × ℝ × ℝ × ℝ) (h : retTmp r = some .tau → 0 ≤ v.2.2.2) :
    interp4S r v = interp4 r v := by
  unfold interp4S interp4
  generalize retTmp r = t at h
  cases retAz r <;> cases retLon r <;> cases t <;> try rfl
  next az lon tmp =>
    exact congrArg some (cart4S_eq_cart4 az lon tmp _ _ _ _ (by cases tmp; exacts [trivial, h rfl]))

theorem tOfS_tau_nonneg (az : Az) (lon : Lon) (a b c d : ℝ) : 0 ≤ tOfS az lon .tau a b c d := by
  rw [tOfS_tau]; exact sqrt_nonneg _

theorem tOfS_tau_sq (az : Az) (lon : Lon) (a b c d : ℝ) (h : CanonTmpS az lon .tau a b c d) :
    tOfS az lon .tau a b c d ^ 2 = tau2S d + mag2Of az lon a b c := by
  rw [tOfS_tau, sq_sqrt ((canonTmpS_tau az lon a b c d).mp h)]

theorem tOfS_sq_sub_mag2 (az : Az) (lon : Lon) (a b c d : ℝ) (h : CanonTmpS az lon .tau a b c d) :
    tOfS az lon .tau a b c d ^ 2 - mag2Of az lon a b c = tau2S d := by
  rw [tOfS_tau_sq az lon a b c d h]; ring

theorem spacelike_iff_tau_neg (az : Az) (lon : Lon) (a b c d : ℝ) (h : CanonTmpS az lon .tau a b c d) :
    tOfS az lon .tau a b c d ^ 2 - mag2Of az lon a b c < 0 ↔ d < 0 := by
  rw [tOfS_sq_sub_mag2 az lon a b c d h, tau2S_neg_iff]

theorem lightlike_iff_tau_zero (az : Az) (lon : Lon) (a b c d : ℝ) (h : CanonTmpS az lon .tau a b c d) :
    tOfS az lon .tau a b c d ^ 2 - mag2Of az lon a b c = 0 ↔ d = 0 := by
  rw [tOfS_sq_sub_mag2 az lon a b c d h, tau2S_eq_zero_iff]

theorem timelike_iff_tau_pos (az : Az) (lon : Lon) (a b c d : ℝ) (h : CanonTmpS az lon .tau a b c d) :
    0 < tOfS az lon .tau a b c d ^ 2 - mag2Of az lon a b c ↔ 0 < d := by
  rw [tOfS_sq_sub_mag2 az lon a b c d h, tau2S_pos_iff]

theorem canonTmpS_of_neg (az : Az) (lon : Lon) (a b c d : ℝ) (hd : d < 0) :
    CanonTmpS az lon .tau a b c d ↔ d ^ 2 ≤ mag2Of az lon a b c := by
  rw [canonTmpS_tau, tau2S_of_neg hd]
  constructor <;> intro h <;> linarith

theorem interp4S_same (k0 : Az) (k1 : Lon) (k2 : Tmp) (v : ℝ × ℝ × ℝ × ℝ) :
    interp4S (Ret.vec [RP.az k0, RP.lon k1, RP.tmp k2]) v = some (cart4S k0 k1 k2 v.1 v.2.1 v.2.2.1 v.2.2.2) := rfl

/-! ### the space-like τ-stored sample point of the examples: `(x, y, z, τ) = (3, 0, 0, −2)` denotes `t = √5` -/

theorem canonTmpS_sample : CanonTmpS .xy .z .tau 3 0 0 (-2) := by
  show 0 ≤ tau2S (-2) + mag2Of .xy .z 3 0 0
  rw [tau2S_of_neg (by norm_num)]; norm_num [mag2Of, xOf, yOf, zOf]

theorem tOfS_sample : tOfS .xy .z .tau 3 0 0 (-2) = sqrt 5 := by
  rw [tOfS_tau, tau2S_of_neg (by norm_num)]; norm_num [mag2Of, xOf, yOf, zOf]

theorem sqrt_five_pos : (0 : ℝ) < sqrt 5 := sqrt_pos.mpr (by norm_num)

example : CanonTmpS .xy .z .tau 3 0 0 (-2) ∧ tOfS .xy .z .tau 3 0 0 (-2) = sqrt 5
    ∧ tOfS .xy .z .tau 3 0 0 (-2) ^ 2 - mag2Of .xy .z 3 0 0 < 0 :=
  ⟨canonTmpS_sample, tOfS_sample, by rw [spacelike_iff_tau_neg _ _ _ _ _ _ canonTmpS_sample]; norm_num⟩

end Spec
end VR
