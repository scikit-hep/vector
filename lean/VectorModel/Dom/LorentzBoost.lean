/-
Regularity ("Dom") theorems for the Lorentz boosts:
`boostX/Y/Z_beta`, `boostX/Y/Z_gamma` (12 keys each), `boost_beta3` (72 keys), `boost_p4` (144 keys).

Hypotheses are those of the C01 + C02 refinement theorems `refine_lorentz_boost…_spec` of `Refine/LorentzBin.lean`.
The compute layer returns the boosted vector in CARTESIAN spatial components (`x, y, z` plus `t`, or the stored `tau`),
so no side-condition on the boosted vector arises here.

Findings (see the `…_partial` theorems): `refine_lorentz_boost_beta3_spec` has no `SinOK` for either operand and
`refine_lorentz_boost_p4_spec` none for the FIRST operand, although a θ-stored operand is converted by `z = ρ / tan θ`,
which divides by zero at `θ = 0, π` (where `TanOK`, i.e. `cos θ ≠ 0`, holds).
-/
import VectorModel.Dom.Basic
import VectorModel.Dom.Planar
import VectorModel.Dom.LorentzAcc
import VectorModel.Refine.LorentzBin

namespace VR
open VK Spec Real

namespace D

theorem cart_sumsq (k0 : Az) (k1 : Lon) (a b c : ℝ) (h : TanOK k1 c) :
    planar_x.eval k0 a b ^ 2 + planar_y.eval k0 a b ^ 2 + spatial_z.eval k0 k1 a b c ^ 2 = mag2Of k0 k1 a b c := by
  rw [refine_planar_x, refine_planar_y, refine_spatial_z k0 k1 a b c h]; rfl

/-- `lorentz_t.xy_z_tau` takes the square root of a quantity clamped by `maximum(·, 0)` -/
theorem transform4D_cartesian_tau_dom (xx xy xz xt yx yy yz yt zx zy zz zt x y z tau : ℝ) :
    lorentz_transform4D.cartesian_tau.Dom xx xy xz xt yx yy yz yt zx zy zz zt x y z tau :=
  le_max_right _ _

/-- the kernel of `boost_beta3` (for either time key of the boosted vector) is regular for a subluminal velocity:
`√(1 − β²) > 0`, `1 + γ > 0` -/
theorem beta3_core (k2 : Tmp) (x1 y1 z1 d bx by' bz : ℝ) (h : bx ^ 2 + by' ^ 2 + bz ^ 2 < 1) :
    match k2 with
    | .t => lorentz_boost_beta3.cartesian_t.Dom x1 y1 z1 d bx by' bz
    | .tau => lorentz_boost_beta3.cartesian_tau.Dom x1 y1 z1 d bx by' bz := by
  have hp : 0 < 1 - (bx ^ 2 + by' ^ 2 + bz ^ 2) := sub_pos.mpr h
  have hs := Real.sqrt_pos.mpr hp
  have hg : 1 + 1 / sqrt (1 - (bx ^ 2 + by' ^ 2 + bz ^ 2)) ≠ 0 := (add_pos one_pos (one_div_pos.mpr hs)).ne'
  cases k2
  case t => exact ⟨hp.le, hs.ne', hg⟩
  case tau => exact ⟨hp.le, hs.ne', hg, transform4D_cartesian_tau_dom _ _ _ _ _ _ _ _ _ _ _ _ _ _ _ _⟩

/-- the kernel of `boost_p4` (for either time key of the boosted vector) is regular for a booster with positive mass
and non-negative energy: `mass ≠ 0`, `mass² (γ + 1) ≠ 0` -/
theorem p4_core (k2 : Tmp) (x1 y1 z1 d E m m2 x2 y2 z2 : ℝ) (hm : 0 < m) (hm2 : 0 < m2) (hE : 0 ≤ E) :
    match k2 with
    | .t => lorentz_boost_p4.cartesian_t.Dom x1 y1 z1 d E m m2 x2 y2 z2
    | .tau => lorentz_boost_p4.cartesian_tau.Dom x1 y1 z1 d E m m2 x2 y2 z2 := by
  have hg : 0 < E / m + 1 := add_pos_of_nonneg_of_pos (div_nonneg hE hm.le) one_pos
  cases k2
  case t => exact ⟨hm.ne', mul_ne_zero hm2.ne' hg.ne'⟩
  case tau => exact ⟨hm.ne', mul_ne_zero hm2.ne' hg.ne', transform4D_cartesian_tau_dom _ _ _ _ _ _ _ _ _ _ _ _ _ _ _ _⟩

theorem beta3_cart (k2 : Tmp) (k3 : Az) (k4 : Lon) (x1 y1 z1 d a4 a5 a6 : ℝ)
    (h2 : TanOK k4 a6) (hs2 : SinOK k4 a6) (hβ : mag2Of k3 k4 a4 a5 a6 < 1) :
    lorentz_boost_beta3.evalDom .xy .z k2 k3 k4 x1 y1 z1 d a4 a5 a6 := by
  have hZ := dom_spatial_z_partial k3 k4 a4 a5 a6 h2 hs2
  rw [← cart_sumsq k3 k4 a4 a5 a6 h2] at hβ
  have C := beta3_core k2 x1 y1 z1 d _ _ _ hβ
  cases k3 <;> cases k4
  case xy.z | rhophi.z | rhophi.eta => cases k2 <;> exact C
  all_goals cases k2 <;> exact ⟨hZ, C⟩

/-- `boost_p4`, Cartesian first operand (24 keys): `[mag2 ∧] 0 ≤ radicand ∧ [z ∧] kernel`, where the booster's `mag2` is
partial for θ/η storage and its `z` for θ storage and `(x, y, η)` -/
theorem p4_cart (k2 : Tmp) (k3 : Az) (k4 : Lon) (k5 : Tmp) (x1 y1 z1 d a4 a5 a6 a7 : ℝ)
    (h2 : TanOK k4 a6) (hs2 : SinOK k4 a6) (hd2 : CanonTmp k5 a7)
    (hm : 0 < tOf k3 k4 k5 a4 a5 a6 a7 ^ 2 - mag2Of k3 k4 a4 a5 a6) (ht : 0 < tOf k3 k4 k5 a4 a5 a6 a7) :
    lorentz_boost_p4.evalDom .xy .z k2 k3 k4 k5 x1 y1 z1 d a4 a5 a6 a7 := by
  have hM := dom_spatial_mag2 k3 k4 a4 a5 a6 hs2
  have hZ := dom_spatial_z_partial k3 k4 a4 a5 a6 h2 hs2
  have hmag := refine_spatial_mag2 k3 k4 a4 a5 a6 hs2
  cases k5
  case t =>
    -- booster stored with `t`: `mass² = t² − |p|²`, `mass = √mass²`, `energy = t`
    rw [tOf_t] at hm ht
    rw [← hmag] at hm
    have hA := hm.le
    have C := fun x2 y2 z2 => p4_core k2 x1 y1 z1 d a7 _ _ x2 y2 z2 (Real.sqrt_pos.mpr hm) hm ht.le
    cases k4
    case z => cases k2 <;> cases k3 <;> exact ⟨hA, C _ _ _⟩
    case theta => cases k2 <;> cases k3 <;> exact ⟨hM, hA, hZ, C _ _ _⟩
    case eta =>
      cases k3
      case xy => cases k2 <;> exact ⟨hM, hA, hZ, C _ _ _⟩
      case rhophi => cases k2 <;> exact ⟨hM, hA, C _ _ _⟩
  case tau =>
    -- booster stored with `tau`: `mass = τ > 0`, `energy = √(τ² + |p|²)`
    rw [tOf_tau_sq, add_sub_cancel_right] at hm
    have h7 : 0 < a7 := lt_of_le_of_ne hd2 (fun h => hm.ne' (by rw [← h, zero_pow two_ne_zero]))
    have hA : 0 ≤ a7 ^ 2 + spatial_mag2.eval k3 k4 a4 a5 a6 :=
      add_nonneg (sq_nonneg a7) (hmag ▸ add_nonneg (L.sumsq_nonneg _ _) (sq_nonneg _))
    have C := fun x2 y2 z2 => p4_core k2 x1 y1 z1 d (sqrt (a7 ^ 2 + spatial_mag2.eval k3 k4 a4 a5 a6)) a7 _ x2 y2 z2
      h7 hm (Real.sqrt_nonneg _)
    cases k4
    case z => cases k2 <;> cases k3 <;> exact ⟨hA, C _ _ _⟩
    case theta => cases k2 <;> cases k3 <;> exact ⟨hM, hA, hZ, C _ _ _⟩
    case eta =>
      cases k3
      case xy => cases k2 <;> exact ⟨hM, hA, hZ, C _ _ _⟩
      case rhophi => cases k2 <;> exact ⟨hM, hA, C _ _ _⟩

end D

/-! ### boosts along a coordinate axis (hypotheses of `refine_lorentz_boost{X,Y,Z}_{beta,gamma}_spec`) -/

/-- the six modules have the same regularity predicate up to the condition `K` on the boost parameter: `K`, the
conversion of the operand to `z` (θ storage and `(x, y, η)`) and to `t` (τ storage) -/
private theorem axis_dom {K : Prop} (k0 : Az) (k1 : Lon) (k2 : Tmp) (a b c d : ℝ) (hK : K)
    (h : TanOK k1 c) (hs : SinOK k1 c) :
    match k0, k1, k2 with
    | .xy, .z, .t | .rhophi, .z, .t | .rhophi, .eta, .t => K
    | _, _, .t => K ∧ spatial_z.evalDom k0 k1 a b c
    | .xy, .z, .tau | .rhophi, .z, .tau | .rhophi, .eta, .tau => K ∧ lorentz_t.evalDom k0 k1 .tau a b c d
    | _, _, .tau => K ∧ spatial_z.evalDom k0 k1 a b c ∧ lorentz_t.evalDom k0 k1 .tau a b c d := by
  have hz := dom_spatial_z_partial k0 k1 a b c h hs
  have hT := D.lorentz_t_dom k0 k1 .tau a b c d hs
  cases k2
  · cases k0 <;> cases k1
    case xy.z | rhophi.z | rhophi.eta => exact hK
    all_goals exact ⟨hK, hz⟩
  · cases k0 <;> cases k1
    case xy.z | rhophi.z | rhophi.eta => exact ⟨hK, hT⟩
    all_goals exact ⟨hK, hz, hT⟩

theorem dom_lorentz_boostX_beta (k0 : Az) (k1 : Lon) (k2 : Tmp) (β a b c d : ℝ)
    (h : TanOK k1 c) (hs : SinOK k1 c) (_hd : CanonTmp k2 d) (hβ : |β| < 1) :
    lorentz_boostX_beta.evalDom k0 k1 k2 β a b c d := by
  have := axis_dom k0 k1 k2 a b c d (L.one_sub_sq_pos hβ) h hs
  cases k0 <;> cases k1 <;> cases k2 <;> exact this

theorem dom_lorentz_boostY_beta (k0 : Az) (k1 : Lon) (k2 : Tmp) (β a b c d : ℝ)
    (h : TanOK k1 c) (hs : SinOK k1 c) (_hd : CanonTmp k2 d) (hβ : |β| < 1) :
    lorentz_boostY_beta.evalDom k0 k1 k2 β a b c d := by
  have := axis_dom k0 k1 k2 a b c d (L.one_sub_sq_pos hβ) h hs
  cases k0 <;> cases k1 <;> cases k2 <;> exact this

theorem dom_lorentz_boostZ_beta (k0 : Az) (k1 : Lon) (k2 : Tmp) (β a b c d : ℝ)
    (h : TanOK k1 c) (hs : SinOK k1 c) (_hd : CanonTmp k2 d) (hβ : |β| < 1) :
    lorentz_boostZ_beta.evalDom k0 k1 k2 β a b c d := by
  have := axis_dom k0 k1 k2 a b c d (L.one_sub_sq_pos hβ) h hs
  cases k0 <;> cases k1 <;> cases k2 <;> exact this

theorem dom_lorentz_boostX_gamma (k0 : Az) (k1 : Lon) (k2 : Tmp) (γ a b c d : ℝ)
    (h : TanOK k1 c) (hs : SinOK k1 c) (_hd : CanonTmp k2 d) (hγ : 1 ≤ |γ|) :
    lorentz_boostX_gamma.evalDom k0 k1 k2 γ a b c d := by
  have := axis_dom k0 k1 k2 a b c d (L.abs_sq_sub_one_nonneg hγ) h hs
  cases k0 <;> cases k1 <;> cases k2 <;> exact this

theorem dom_lorentz_boostY_gamma (k0 : Az) (k1 : Lon) (k2 : Tmp) (γ a b c d : ℝ)
    (h : TanOK k1 c) (hs : SinOK k1 c) (_hd : CanonTmp k2 d) (hγ : 1 ≤ |γ|) :
    lorentz_boostY_gamma.evalDom k0 k1 k2 γ a b c d := by
  have := axis_dom k0 k1 k2 a b c d (L.abs_sq_sub_one_nonneg hγ) h hs
  cases k0 <;> cases k1 <;> cases k2 <;> exact this

theorem dom_lorentz_boostZ_gamma (k0 : Az) (k1 : Lon) (k2 : Tmp) (γ a b c d : ℝ)
    (h : TanOK k1 c) (hs : SinOK k1 c) (_hd : CanonTmp k2 d) (hγ : 1 ≤ |γ|) :
    lorentz_boostZ_gamma.evalDom k0 k1 k2 γ a b c d := by
  have := axis_dom k0 k1 k2 a b c d (L.abs_sq_sub_one_nonneg hγ) h hs
  cases k0 <;> cases k1 <;> cases k2 <;> exact this

example : TanOK .theta 1 ∧ SinOK .theta 1 ∧ CanonTmp .tau 2 ∧ |(1 / 2 : ℝ)| < 1 ∧ (1 : ℝ) ≤ |(-2)| := by
  exact ⟨Spec.tanOK_one .theta, Spec.sinOK_one .theta, zero_le_two, by norm_num, by norm_num⟩

/-! ### boost_beta3 (72 keys) -/

/-- EXTRA HYPOTHESIS: `hs1 : SinOK k1 a2` and `hs2 : SinOK k4 a6` (`sin θ ≠ 0` for a θ-stored operand), which
`refine_lorentz_boost_beta3_spec` does not have.  Every key with `k1 = .theta` or `k4 = .theta` needs it: the operand is
converted by `spatial_z.*_theta`, `z = ρ / tan θ`, and `tan θ = 0` at `θ = 0, π` although `TanOK` (`cos θ ≠ 0`) holds.
See `dom_lorentz_boost_beta3_fails`. -/
theorem dom_lorentz_boost_beta3_partial (k0 : Az) (k1 : Lon) (k2 : Tmp) (k3 : Az) (k4 : Lon) (a0 a1 a2 a3 a4 a5 a6 : ℝ)
    (h1 : TanOK k1 a2) (h2 : TanOK k4 a6) (_hd : CanonTmp k2 a3) (hβ : mag2Of k3 k4 a4 a5 a6 < 1)
    (hs1 : SinOK k1 a2) (hs2 : SinOK k4 a6) :
    lorentz_boost_beta3.evalDom k0 k1 k2 k3 k4 a0 a1 a2 a3 a4 a5 a6 := by
  have hz1 := dom_spatial_z_partial k0 k1 a0 a1 a2 h1 hs1
  have hB := D.beta3_cart k2 k3 k4 (planar_x.eval k0 a0 a1) (planar_y.eval k0 a0 a1) (spatial_z.eval k0 k1 a0 a1 a2) a3
    a4 a5 a6 h2 hs2 hβ
  -- every variant converts the first operand and calls the variant for a Cartesian first operand
  cases k0 <;> cases k1
  case xy.z => exact hB
  case rhophi.z | rhophi.eta => cases k2 <;> cases k3 <;> cases k4 <;> exact hB
  all_goals cases k2 <;> cases k3 <;> cases k4 <;> exact ⟨hz1, hB⟩

/-- the hypotheses of `refine_lorentz_boost_beta3_spec` alone do not give regularity: at `(ρ, φ, θ, t) = (1, 0, 0, 5)`
boosted by `β = (1/2, 0, 0)` the code evaluates `1 / tan 0` -/
theorem dom_lorentz_boost_beta3_fails :
    TanOK .theta 0 ∧ TanOK .z 0 ∧ CanonTmp .t 5 ∧ mag2Of .xy .z (1 / 2) 0 0 < 1
      ∧ ¬ lorentz_boost_beta3.evalDom .rhophi .theta .t .xy .z 1 0 0 5 (1 / 2) 0 0 := by
  refine ⟨Spec.TanOK_theta_zero, trivial, trivial, ?_, fun h => h.1.2 Real.tan_zero⟩
  show ((1 : ℝ) / 2) ^ 2 + 0 ^ 2 + 0 ^ 2 < 1
  norm_num

example : TanOK .theta 1 ∧ TanOK .eta 2 ∧ CanonTmp .tau 1 ∧ mag2Of .xy .z (1 / 2) 0 0 < 1 ∧ SinOK .theta 1 ∧ SinOK .eta 2 :=
  ⟨Spec.tanOK_one .theta, trivial, zero_le_one, dom_lorentz_boost_beta3_fails.2.2.2.1, Spec.sinOK_one .theta, trivial⟩

/-! ### boost_p4 (144 keys) -/

/-- EXTRA HYPOTHESIS: `hs1 : SinOK k1 a2` (`sin θ ≠ 0` for a θ-stored FIRST operand), which
`refine_lorentz_boost_p4_spec` does not have (it has `SinOK` for the booster only).  Every key with `k1 = .theta` needs
it: the operand is converted by `z = ρ / tan θ`.  See `dom_lorentz_boost_p4_fails`. -/
theorem dom_lorentz_boost_p4_partial (k0 : Az) (k1 : Lon) (k2 : Tmp) (k3 : Az) (k4 : Lon) (k5 : Tmp)
    (a0 a1 a2 a3 a4 a5 a6 a7 : ℝ) (h1 : TanOK k1 a2) (h2 : TanOK k4 a6) (hs2 : SinOK k4 a6)
    (_hd1 : CanonTmp k2 a3) (hd2 : CanonTmp k5 a7)
    (hm : 0 < tOf k3 k4 k5 a4 a5 a6 a7 ^ 2 - mag2Of k3 k4 a4 a5 a6) (ht : 0 < tOf k3 k4 k5 a4 a5 a6 a7)
    (hs1 : SinOK k1 a2) :
    lorentz_boost_p4.evalDom k0 k1 k2 k3 k4 k5 a0 a1 a2 a3 a4 a5 a6 a7 := by
  have hz1 := dom_spatial_z_partial k0 k1 a0 a1 a2 h1 hs1
  have hB := D.p4_cart k2 k3 k4 k5 (planar_x.eval k0 a0 a1) (planar_y.eval k0 a0 a1) (spatial_z.eval k0 k1 a0 a1 a2) a3
    a4 a5 a6 a7 h2 hs2 hd2 hm ht
  -- every variant converts the first operand and calls the variant for a Cartesian first operand
  cases k0 <;> cases k1
  case xy.z => exact hB
  case rhophi.z | rhophi.eta => cases k2 <;> cases k3 <;> cases k4 <;> cases k5 <;> exact hB
  all_goals cases k2 <;> cases k3 <;> cases k4 <;> cases k5 <;> exact ⟨hz1, hB⟩

/-- the hypotheses of `refine_lorentz_boost_p4_spec` alone do not give regularity: at `(ρ, φ, θ, t) = (1, 0, 0, 5)`
boosted by `p = (0, 0, 3, 5)` the code evaluates `1 / tan 0` -/
theorem dom_lorentz_boost_p4_fails :
    TanOK .theta 0 ∧ TanOK .z 3 ∧ SinOK .z 3 ∧ CanonTmp .t 5 ∧ CanonTmp .t 5
      ∧ 0 < tOf .xy .z .t 0 0 3 5 ^ 2 - mag2Of .xy .z 0 0 3 ∧ 0 < tOf .xy .z .t 0 0 3 5
      ∧ ¬ lorentz_boost_p4.evalDom .rhophi .theta .t .xy .z .t 1 0 0 5 0 0 3 5 := by
  refine ⟨Spec.TanOK_theta_zero, trivial, trivial, trivial, trivial, ?_, ?_, fun h => h.1.2 Real.tan_zero⟩
  · show (0 : ℝ) < 5 ^ 2 - (0 ^ 2 + 0 ^ 2 + 3 ^ 2)
    norm_num
  · show (0 : ℝ) < 5
    norm_num

example : TanOK .theta 1 ∧ TanOK .eta 2 ∧ SinOK .eta 2 ∧ CanonTmp .tau 1 ∧ CanonTmp .tau 1
    ∧ 0 < tOf .xy .eta .tau 1 0 2 1 ^ 2 - mag2Of .xy .eta 1 0 2 ∧ 0 < tOf .xy .eta .tau 1 0 2 1 ∧ SinOK .theta 1 := by
  have hm : 0 < tOf .xy .eta .tau 1 0 2 1 ^ 2 - mag2Of .xy .eta 1 0 2 := by rw [tOf_tau_sq, add_sub_cancel_right]; exact pow_pos one_pos 2
  have hr : 0 < rhoOf .xy 1 0 := L.sqrt_sumsq_pos (Or.inl one_ne_zero)
  have ht : 0 < sqrt ((1 : ℝ) ^ 2 + mag2Of .xy .eta 1 0 2) := sqrt_pos.mpr (add_pos (pow_pos one_pos 2) (Spec.mag2Of_pos hr))
  exact ⟨Spec.tanOK_one .theta, trivial, trivial, zero_le_one, zero_le_one, hm, ht, Spec.sinOK_one .theta⟩

end VR
