/-
Regularity ("Dom") theorems for the spatial accessors (`z`, `theta`, `costheta`, `cottheta`, `mag`, `mag2`; `eta` is in
Dom/Basic.lean) and for ALL planar compute modules.  Each `dom_<module>` has exactly the hypotheses of `refine_<module>`
(Refine/SpatialZ.lean, Refine/SpatialAcc.lean, Refine/Planar.lean, Refine/Equal.lean, Props/C12.lean, Props/C13.lean).
Where those hypotheses do not exclude a singular point of the code the theorem is named `…_partial` and carries a documented
EXTRA HYPOTHESIS.
-/
import VectorModel.Dom.Basic
import VectorModel.Refine.Planar
import VectorModel.Refine.SpatialZ
import VectorModel.Refine.SpatialAcc

namespace VR
open VK Spec Real

namespace D

theorem cos_two_arctan_exp_neg_ne_zero {e : ℝ} (he : e ≠ 0) : cos (2 * arctan (exp (-e))) ≠ 0 := by
  rw [L.cos_two_arctan_exp_neg]
  exact div_ne_zero (fun h => he (Real.sinh_eq_zero.mp h)) (Real.cosh_pos e).ne'

theorem sin_two_arctan_exp_neg_ne_zero (e : ℝ) : sin (2 * arctan (exp (-e))) ≠ 0 := by
  rw [L.sin_two_arctan_exp_neg]
  exact div_ne_zero one_ne_zero (Real.cosh_pos e).ne'

/-- the regularity condition of `ρ / tan θ` -/
theorem z_theta {c : ℝ} (hc : cos c ≠ 0) (hs : sin c ≠ 0) : cos c ≠ 0 ∧ tan c ≠ 0 := ⟨hc, L.tan_ne_zero hc hs⟩

/-- the same for `θ(η) = 2 arctan e^{-η}`, off the transverse plane `η = 0` -/
theorem z_theta_of_eta {e : ℝ} (he : e ≠ 0) :
    cos ((2.0 : ℝ) * arctan (exp (-e))) ≠ 0 ∧ tan ((2.0 : ℝ) * arctan (exp (-e))) ≠ 0 := by
  rw [L.two_pt_zero]
  exact z_theta (cos_two_arctan_exp_neg_ne_zero he) (sin_two_arctan_exp_neg_ne_zero e)

end D

/-! ## spatial accessors -/

/-- `mag2`: `sin² θ ≠ 0` for θ storage, `e^{-η} ≠ 0` always -/
theorem dom_spatial_mag2 (k0 : Az) (k1 : Lon) (a b c : ℝ) (h : SinOK k1 c) : spatial_mag2.evalDom k0 k1 a b c := by
  cases k1
  case z => cases k0 <;> trivial
  case theta => cases k0 <;> exact pow_ne_zero 2 h
  case eta => cases k0 <;> exact (Real.exp_pos _).ne'

theorem D.magDom_of_sinOK (k0 : Az) (k1 : Lon) (a b c : ℝ) (h : SinOK k1 c) : spatial_mag.evalDom k0 k1 a b c := by
  cases k0 <;> cases k1
  case xy.z => exact D.sumsq3_nonneg a b c
  case xy.theta => exact ⟨D.sumsq_nonneg a b, abs_ne_zero.mpr h⟩
  case xy.eta => exact ⟨(Real.exp_pos _).ne', D.sumsq_nonneg a b⟩
  case rhophi.z => exact D.sumsq_nonneg a c
  case rhophi.theta => exact abs_ne_zero.mpr h
  case rhophi.eta => exact (Real.exp_pos _).ne'

/-- `mag` (hypotheses of `refine_spatial_mag`) -/
theorem dom_spatial_mag (k0 : Az) (k1 : Lon) (a b c : ℝ) (_h2 : Canon2 k0 a b) (h : SinOK k1 c) :
    spatial_mag.evalDom k0 k1 a b c :=
  D.magDom_of_sinOK k0 k1 a b c h

/-- `mag` (hypotheses of `refine_spatial_mag_canon`) -/
theorem dom_spatial_mag_canon (k0 : Az) (k1 : Lon) (a b c : ℝ) (h : Canon3 k0 k1 a b c) :
    spatial_mag.evalDom k0 k1 a b c :=
  dom_spatial_mag k0 k1 a b c h.1 (Spec.SinOK_of_canonLon h.2)

/-- `costheta` is regular away from the origin (`z / |p|` for z storage; θ/η storage apply total functions) -/
theorem dom_spatial_costheta (k0 : Az) (k1 : Lon) (a b c : ℝ) (_h : Canon3 k0 k1 a b c)
    (hm : 0 < mag2Of k0 k1 a b c) : spatial_costheta.evalDom k0 k1 a b c := by
  cases k1
  case z =>
    cases k0
    case xy => exact ⟨hm.le, (Real.sqrt_pos.mpr hm).ne'⟩
    case rhophi =>
      rw [Spec.mag2Of_eq] at hm
      exact ⟨hm.le, (Real.sqrt_pos.mpr hm).ne'⟩
  case theta => cases k0 <;> trivial
  case eta => cases k0 <;> trivial

/-- `theta` is regular away from the origin (`arccos (z / |p|)` for z storage) -/
theorem dom_spatial_theta (k0 : Az) (k1 : Lon) (a b c : ℝ) (h : Canon3 k0 k1 a b c)
    (hm : 0 < mag2Of k0 k1 a b c) : spatial_theta.evalDom k0 k1 a b c := by
  have hc := dom_spatial_costheta k0 k1 a b c h hm
  cases k1
  case z =>
    cases k0
    case xy => exact ⟨hc, L.ratio_mem (D.sumsq_nonneg a b)⟩
    case rhophi => exact ⟨hc, L.ratio_mem (sq_nonneg a)⟩
  case theta => cases k0 <;> trivial
  case eta => cases k0 <;> trivial

example : Canon3 .xy .z 0 0 1 ∧ 0 < mag2Of .xy .z 0 0 1 :=
  ⟨⟨trivial, trivial⟩, add_pos_of_nonneg_of_pos (D.sumsq_nonneg 0 0) (pow_pos one_pos 2)⟩

/-- `z` is regular for every key once `sin θ ≠ 0` is added for θ storage.

EXTRA HYPOTHESIS `hs : SinOK k1 c` (`sin θ ≠ 0`, needed by the keys `(xy, theta)` and `(rhophi, theta)`): the code computes
`ρ / tan θ`; `refine_spatial_z` assumes only `TanOK` (`cos θ ≠ 0`), which does not exclude `θ = 0`, where `tan θ = 0` and the real
code divides by zero (`vector.obj(rho=1, phi=0, theta=0).z = inf`), while the refinement theorem, read with Lean's `1 / 0 = 0`,
claims `z = ρ·(cos 0 / sin 0) = 0`.  `θ = 0` is outside the representable domain `CanonLon` (`0 < θ < π`), and `CanonLon`
implies `SinOK` (`Spec.SinOK_of_canonLon`). -/
theorem dom_spatial_z_partial (k0 : Az) (k1 : Lon) (a b c : ℝ) (h : TanOK k1 c) (hs : SinOK k1 c) :
    spatial_z.evalDom k0 k1 a b c := by
  cases k0 <;> cases k1
  case xy.theta => exact ⟨D.sumsq_nonneg a b, D.z_theta h hs⟩
  case xy.eta => exact D.sumsq_nonneg a b
  case rhophi.theta => exact D.z_theta h hs
  all_goals trivial

/-- `p`, preceded by the side-condition `z` of the conversion with `spatial_z` under the keys where that is partial: the
shape in which a generated `Dom` lists a converted operand -/
def D.WithZ (k0 : Az) (k1 : Lon) (z p : Prop) : Prop :=
  match k0, k1 with
  | .xy, .z | .rhophi, .z | .rhophi, .eta => p
  | _, _ => z ∧ p

theorem D.withZ (k0 : Az) (k1 : Lon) {z p : Prop} (hz : z) (hp : p) : D.WithZ k0 k1 z p := by
  cases k0 <;> cases k1
  case xy.z | rhophi.z | rhophi.eta => exact hp
  all_goals exact ⟨hz, hp⟩

/-- the same under the representable-domain hypothesis used by the binary spatial refinement theorems -/
theorem dom_spatial_z_canon (k0 : Az) (k1 : Lon) (a b c : ℝ) (h : TanOK k1 c) (hc : CanonLon k0 k1 a b c) :
    spatial_z.evalDom k0 k1 a b c :=
  dom_spatial_z_partial k0 k1 a b c h (Spec.SinOK_of_canonLon hc)

/-- `cottheta` is regular for every key once `sin θ ≠ 0` (θ storage) and `η ≠ 0` (η storage) are added.

EXTRA HYPOTHESIS `hs : SinOK k1 c` (keys `(·, theta)`): the code computes `1 / tan θ`; `refine_spatial_cottheta` assumes `0 < ρ`
and `TanOK` (`cos θ ≠ 0`) only, which admit `θ = 0` where the real code divides by zero
(`vector.obj(rho=1, phi=0, theta=0).cottheta = inf`; the theorem, with Lean's `1 / 0 = 0`, claims `0`).
EXTRA HYPOTHESIS `he : k1 = .eta → c ≠ 0` (keys `(·, eta)`): the code computes `1 / tan (2 arctan e^{-η})`; at `η = 0` the argument is
exactly `π/2`, the pole of `tan` (`cos = 0`).  `TanOK` is `True` for η storage, so the refinement hypotheses admit `η = 0`; the
theorem claims `cot θ = sinh 0 = 0` there (Lean: `tan (π/2) = 0`, `1 / 0 = 0`), the real code returns
`vector.obj(rho=1, phi=0, eta=0).cottheta = 6.123233995736766e-17` (`1 / tan(fl(π/2))`).  Same removable singularity as `TanOK`,
but not recorded in the hypotheses for η storage. -/
theorem dom_spatial_cottheta_partial (k0 : Az) (k1 : Lon) (a b c : ℝ) (hr : 0 < rhoOf k0 a b) (ht : TanOK k1 c)
    (hs : SinOK k1 c) (he : k1 = .eta → c ≠ 0) : spatial_cottheta.evalDom k0 k1 a b c := by
  cases k1
  case z =>
    cases k0
    case xy => exact ⟨D.sumsq_nonneg a b, D.sqrt_ne_zero_of_rhoOf_xy hr⟩
    case rhophi => exact (show (0 : ℝ) < a from hr).ne'
  case theta => cases k0 <;> exact D.z_theta ht hs
  case eta => cases k0 <;> exact D.z_theta_of_eta (he rfl)

example : 0 < rhoOf .rhophi 1 0 ∧ TanOK .theta 1 ∧ SinOK .theta 1 ∧ ((Lon.theta = .eta) → (1:ℝ) ≠ 0) :=
  ⟨one_pos, Spec.tanOK_one .theta, Spec.sinOK_one .theta, fun _ => one_ne_zero⟩

/-- the refinement hypotheses of `refine_spatial_z` alone do not give regularity: `TanOK .theta 0` holds, `tan 0 = 0` -/
example : TanOK .theta 0 ∧ ¬ spatial_z.evalDom .rhophi .theta 1 0 0 := by
  exact ⟨Spec.TanOK_theta_zero, fun h => h.2 Real.tan_zero⟩

/-- the refinement hypotheses of `refine_spatial_cottheta` alone do not give regularity at `η = 0` (`θ = π/2`) -/
example : 0 < rhoOf .rhophi 1 0 ∧ TanOK .eta 0 ∧ ¬ spatial_cottheta.evalDom .rhophi .eta 1 0 0 := by
  refine ⟨one_pos, trivial, fun h => h.1 ?_⟩
  show cos (2.0 * arctan (exp (-0))) = 0
  rw [L.two_pt_zero, neg_zero, Real.exp_zero, Real.arctan_one, show 2 * (π / 4) = π / 2 by ring, Real.cos_pi_div_two]

/-! ## planar modules

`planar_unit` is in Dom/Basic.lean.  The only partial primitives in the planar compute layer are `sqrt (x² + y²)` and
`% (2π)` (in `rectify`), both regular everywhere, so no planar module needs more than its refinement hypotheses (none, mostly). -/

theorem dom_planar_x (k : Az) (a b : ℝ) : planar_x.evalDom k a b := by
  cases k <;> simp only [dd_planar_x]

theorem dom_planar_y (k : Az) (a b : ℝ) : planar_y.evalDom k a b := by
  cases k <;> simp only [dd_planar_y]

theorem dom_planar_rho (k : Az) (a b : ℝ) : planar_rho.evalDom k a b := by
  cases k <;> simp only [dd_planar_rho, d_planar_rho2]
  exact D.sumsq_nonneg a b

theorem dom_planar_rho2 (k : Az) (a b : ℝ) : planar_rho2.evalDom k a b := by
  cases k <;> simp only [dd_planar_rho2]

theorem dom_planar_phi (k : Az) (a b : ℝ) (_h : 0 < rhoOf k a b) (_hp : CanonPhi k a b) : planar_phi.evalDom k a b := by
  cases k <;> simp only [dd_planar_phi]

theorem dom_planar_dot (k0 k1 : Az) (a0 a1 a2 a3 : ℝ) : planar_dot.evalDom k0 k1 a0 a1 a2 a3 := by
  cases k0 <;> cases k1 <;> simp only [dd_planar_dot]

theorem dom_planar_add (k0 k1 : Az) (a0 a1 a2 a3 : ℝ) : planar_add.evalDom k0 k1 a0 a1 a2 a3 := by
  cases k0 <;> cases k1 <;> simp only [dd_planar_add]
  exact ⟨D.sumsq_nonneg _ _, L.two_pi_ne_zero⟩

theorem dom_planar_subtract (k0 k1 : Az) (a0 a1 a2 a3 : ℝ) : planar_subtract.evalDom k0 k1 a0 a1 a2 a3 := by
  cases k0 <;> cases k1 <;> simp only [dd_planar_subtract]
  exact ⟨D.sumsq_nonneg _ _, L.two_pi_ne_zero⟩

theorem dom_planar_scale (k : Az) (f a b : ℝ) : planar_scale.evalDom k f a b := by
  cases k <;> simp only [dd_planar_scale]
  exact L.two_pi_ne_zero

theorem dom_planar_rotateZ (k : Az) (ang a b : ℝ) : planar_rotateZ.evalDom k ang a b := by
  cases k <;> simp only [dd_planar_rotateZ]
  exact L.two_pi_ne_zero

theorem dom_planar_transform2D (k : Az) (xx xy yx yy a b : ℝ) : planar_transform2D.evalDom k xx xy yx yy a b := by
  cases k <;> simp only [dd_planar_transform2D]

theorem dom_planar_deltaphi (k0 k1 : Az) (a0 a1 a2 a3 : ℝ) : planar_deltaphi.evalDom k0 k1 a0 a1 a2 a3 := by
  cases k0 <;> cases k1 <;> simp only [dd_planar_deltaphi] <;> exact L.two_pi_ne_zero

/-- hypothesis of `refine_planar_equal` -/
theorem dom_planar_equal (k0 k1 : Az) (a0 a1 a2 a3 : ℝ) (_h : planar_equal.eval k0 k1 a0 a1 a2 a3) :
    planar_equal.evalDom k0 k1 a0 a1 a2 a3 := by
  cases k0 <;> cases k1 <;> simp only [dd_planar_equal]

/-- hypothesis of `refine_planar_not_equal` -/
theorem dom_planar_not_equal (k0 k1 : Az) (a0 a1 a2 a3 : ℝ) (_h : ¬ cart2 k0 a0 a1 = cart2 k1 a2 a3) :
    planar_not_equal.evalDom k0 k1 a0 a1 a2 a3 := by
  cases k0 <;> cases k1 <;> simp only [dd_planar_not_equal]

/-- `c12_planar_isclose_same` / `c12_planar_isclose_mono` (no hypotheses on the operands) -/
theorem dom_planar_isclose (k0 k1 : Az) (r t e a0 a1 a2 a3 : ℝ) : planar_isclose.evalDom k0 k1 r t e a0 a1 a2 a3 := by
  cases k0 <;> cases k1 <;> simp only [dd_planar_isclose]

/-- `c13_planar_is_parallel_iff` (no hypotheses): only `sqrt (x² + y²)` of Cartesian operands -/
theorem dom_planar_is_parallel (k0 k1 : Az) (tol a0 a1 b0 b1 : ℝ) : planar_is_parallel.evalDom k0 k1 tol a0 a1 b0 b1 := by
  cases k0 <;> cases k1 <;> simp only [dd_planar_is_parallel, dd_planar_rho, d_planar_rho2] <;>
    first
      | exact ⟨D.sumsq_nonneg _ _, D.sumsq_nonneg _ _⟩
      | exact D.sumsq_nonneg _ _

theorem dom_planar_is_antiparallel (k0 k1 : Az) (tol a0 a1 b0 b1 : ℝ) :
    planar_is_antiparallel.evalDom k0 k1 tol a0 a1 b0 b1 := by
  cases k0 <;> cases k1 <;> simp only [dd_planar_is_antiparallel, dd_planar_rho, d_planar_rho2] <;>
    first
      | exact ⟨D.sumsq_nonneg _ _, D.sumsq_nonneg _ _⟩
      | exact D.sumsq_nonneg _ _

theorem dom_planar_is_perpendicular (k0 k1 : Az) (tol a0 a1 b0 b1 : ℝ) :
    planar_is_perpendicular.evalDom k0 k1 tol a0 a1 b0 b1 := by
  cases k0 <;> cases k1 <;> simp only [dd_planar_is_perpendicular, dd_planar_rho, d_planar_rho2] <;>
    first
      | exact ⟨D.sumsq_nonneg _ _, D.sumsq_nonneg _ _⟩
      | exact D.sumsq_nonneg _ _

example : 0 < rhoOf .rhophi 2 1 ∧ CanonPhi .rhophi 2 1 :=
  ⟨two_pos, (neg_neg_of_pos Real.pi_pos).trans one_pos, L.one_lt_pi.le⟩
example : planar_equal.eval .xy .xy 1 2 1 2 := by simp only [d_planar_equal]; exact ⟨trivial, trivial⟩
example : ¬ cart2 .xy 1 2 = cart2 .xy 2 2 := fun h => absurd (congrArg Prod.fst h) (by norm_num [cart2, xOf])

end VR
