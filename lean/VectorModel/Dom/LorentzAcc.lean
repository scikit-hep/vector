/-
Regularity ("Dom") theorems for the Lorentz accessor modules and the unary Lorentz operations:
under the hypotheses of the refinement theorem `refine_lorentz_<module>` the variant found under EVERY key applies no
partial primitive (`/`, `sqrt`, `log`, `tan`, …) at a singular point.

The generated predicate of a variant lists the predicates of its callees and leaves out those that are `True`, so the
shape of the conjunction depends on the key: `lorentz_t` contributes for τ storage only, `lorentz_tau` for t storage only,
`spatial_mag2` for θ/η storage, `spatial_z` for θ storage and for `(x, y, η)`.  The proofs split the keys accordingly.
The accessors other modules call (`t`, `tau`, `rapidity`) are first treated under the weakest hypotheses (`D.lorentz_t_dom`,
`D.lorentz_tau_dom`, `D.rapidity_dom`: `SinOK`, `TanOK` instead of `CanonLon`).
-/
import VectorModel.Dom.Basic
import VectorModel.Dom.Planar
import VectorModel.Refine.LorentzAcc

namespace VR
open VK Spec Real

namespace D

/-- `t` is regular for every key when `sin θ ≠ 0`: the argument of the square root is a `max(·, 0)` -/
theorem lorentz_t_dom (k0 : Az) (k1 : Lon) (k2 : Tmp) (a b c d : ℝ) (h : SinOK k1 c) :
    lorentz_t.evalDom k0 k1 k2 a b c d := by
  have hm := dom_spatial_mag2 k0 k1 a b c h
  cases k2
  case t => cases k0 <;> cases k1 <;> trivial
  case tau =>
    cases k1
    case z => cases k0 <;> exact le_max_right _ _
    case theta => cases k0 <;> exact ⟨hm, le_max_right _ _⟩
    case eta => cases k0 <;> exact ⟨hm, le_max_right _ _⟩

/-- the side-conditions of `½ log((t + z)/(t − z))` -/
theorem rapidity_core {t z : ℝ} (h : |z| < t) : t - z ≠ 0 ∧ 0 < (t + z) / (t - z) :=
  have h' := abs_lt.mp h
  ⟨(sub_pos.mpr h'.2).ne', div_pos (neg_lt_iff_pos_add'.mp h'.1) (sub_pos.mpr h'.2)⟩

/-- `τ` is regular for every key when `sin θ ≠ 0`: `copysign(√|t² − |p|²|, …)` for `t` storage, the stored value otherwise -/
theorem lorentz_tau_dom (k0 : Az) (k1 : Lon) (k2 : Tmp) (a b c d : ℝ) (h : SinOK k1 c) :
    lorentz_tau.evalDom k0 k1 k2 a b c d := by
  have hm := dom_spatial_mag2 k0 k1 a b c h
  cases k2
  case t =>
    cases k1
    case z => cases k0 <;> exact abs_nonneg _
    case theta => cases k0 <;> exact ⟨hm, abs_nonneg _⟩
    case eta => cases k0 <;> exact ⟨hm, abs_nonneg _⟩
  case tau => cases k0 <;> cases k1 <;> trivial

theorem rapidity_dom (k0 : Az) (k1 : Lon) (k2 : Tmp) (a b c d : ℝ) (h : TanOK k1 c) (hs : SinOK k1 c)
    (hd : CanonTmp k2 d) (hz : |zOf k0 k1 a b c| < tOf k0 k1 k2 a b c d) : lorentz_rapidity.evalDom k0 k1 k2 a b c d := by
  have zdom := dom_spatial_z_partial k0 k1 a b c h hs
  have tdom := lorentz_t_dom k0 k1 k2 a b c d hs
  rw [← lorentz_t_eq_tOf k0 k1 k2 a b c d hs hd, ← refine_spatial_z k0 k1 a b c h] at hz
  have rap := rapidity_core hz
  cases k2
  · have := withZ k0 k1 zdom rap
    cases k0 <;> cases k1 <;> exact this
  · have := withZ k0 k1 zdom (And.intro tdom rap)
    cases k0 <;> cases k1 <;> exact this

end D

/-! ### t2, t, tau2, tau -/

theorem dom_lorentz_t2 (k0 : Az) (k1 : Lon) (k2 : Tmp) (a b c d : ℝ)
    (h : CanonLon k0 k1 a b c) (_hd : CanonTmp k2 d) :
    lorentz_t2.evalDom k0 k1 k2 a b c d := by
  have hm := dom_spatial_mag2 k0 k1 a b c (Spec.SinOK_of_canonLon h)
  cases k0 <;> cases k1 <;> cases k2 <;> first | exact hm | trivial

theorem dom_lorentz_t (k0 : Az) (k1 : Lon) (k2 : Tmp) (a b c d : ℝ)
    (h : CanonLon k0 k1 a b c) (_hd : CanonTmp k2 d) :
    lorentz_t.evalDom k0 k1 k2 a b c d :=
  D.lorentz_t_dom k0 k1 k2 a b c d (Spec.SinOK_of_canonLon h)

theorem dom_lorentz_tau2 (k0 : Az) (k1 : Lon) (k2 : Tmp) (a b c d : ℝ)
    (h : CanonLon k0 k1 a b c) (_hd : CanonTmp k2 d) :
    lorentz_tau2.evalDom k0 k1 k2 a b c d := by
  have hm := dom_spatial_mag2 k0 k1 a b c (Spec.SinOK_of_canonLon h)
  cases k0 <;> cases k1 <;> cases k2 <;> first | exact hm | trivial

theorem dom_lorentz_tau (k0 : Az) (k1 : Lon) (k2 : Tmp) (a b c d : ℝ)
    (h : CanonLon k0 k1 a b c) (_hd : CanonTmp k2 d) :
    lorentz_tau.evalDom k0 k1 k2 a b c d :=
  D.lorentz_tau_dom k0 k1 k2 a b c d (Spec.SinOK_of_canonLon h)

example : CanonLon .xy .theta 1 0 1 ∧ CanonTmp .tau 2 :=
  ⟨⟨L.sqrt_sumsq_pos (Or.inl one_ne_zero), one_pos, L.one_lt_pi⟩, zero_le_two⟩

/-! ### beta, gamma, rapidity -/

theorem dom_lorentz_beta (k0 : Az) (k1 : Lon) (k2 : Tmp) (a b c d : ℝ)
    (h : Canon3 k0 k1 a b c) (hd : CanonTmp k2 d) (ht : tOf k0 k1 k2 a b c d ≠ 0) :
    lorentz_beta.evalDom k0 k1 k2 a b c d := by
  have magdom := dom_spatial_mag_canon k0 k1 a b c h
  have tdom := dom_lorentz_t k0 k1 k2 a b c d h.2 hd
  rw [← refine_lorentz_t k0 k1 k2 a b c d h.2 hd] at ht
  cases k2
  · cases k0 <;> cases k1 <;> exact ⟨magdom, ht⟩
  · cases k0 <;> cases k1 <;> exact ⟨magdom, tdom, ht⟩

theorem dom_lorentz_gamma (k0 : Az) (k1 : Lon) (k2 : Tmp) (a b c d : ℝ)
    (h : CanonLon k0 k1 a b c) (hd : CanonTmp k2 d)
    (hs : 0 < tOf k0 k1 k2 a b c d ^ 2 - mag2Of k0 k1 a b c) :
    lorentz_gamma.evalDom k0 k1 k2 a b c d := by
  have taudom := dom_lorentz_tau k0 k1 k2 a b c d h hd
  have tdom := dom_lorentz_t k0 k1 k2 a b c d h hd
  have taune : lorentz_tau.eval k0 k1 k2 a b c d ≠ 0 := by
    rw [refine_lorentz_tau_pos k0 k1 k2 a b c d h hd hs]; exact (sqrt_pos.mpr hs).ne'
  cases k2
  · cases k0 <;> cases k1 <;> exact ⟨taudom, taune⟩
  · cases k0 <;> cases k1 <;> exact ⟨tdom, taune⟩

theorem dom_lorentz_rapidity (k0 : Az) (k1 : Lon) (k2 : Tmp) (a b c d : ℝ)
    (h : CanonLon k0 k1 a b c) (htan : TanOK k1 c) (hd : CanonTmp k2 d)
    (hz : |zOf k0 k1 a b c| < tOf k0 k1 k2 a b c d) :
    lorentz_rapidity.evalDom k0 k1 k2 a b c d :=
  D.rapidity_dom k0 k1 k2 a b c d htan (Spec.SinOK_of_canonLon h) hd hz

example : Canon3 .rhophi .eta 1 0 0 ∧ CanonTmp .t 2 ∧ tOf .rhophi .eta .t 1 0 0 2 ≠ 0
    ∧ 0 < tOf .rhophi .eta .t 1 0 0 2 ^ 2 - mag2Of .rhophi .eta 1 0 0
    ∧ |zOf .rhophi .eta 1 0 0| < tOf .rhophi .eta .t 1 0 0 2 := by
  have hz : zOf .rhophi .eta 1 0 0 = 0 := by show (1 : ℝ) * sinh 0 = 0; rw [sinh_zero, mul_zero]
  have hm : mag2Of .rhophi .eta 1 0 0 = 1 := by
    rw [Spec.mag2Of_eq, hz]; show (1 : ℝ) ^ 2 + 0 ^ 2 = 1; norm_num
  refine ⟨⟨zero_le_one, one_pos⟩, trivial, two_ne_zero, ?_, ?_⟩
  · rw [hm]; show (0 : ℝ) < 2 ^ 2 - 1; norm_num
  · rw [hz, abs_zero]; exact two_pos

/-! ### Et2, Et -/

private theorem exp_neg_dom (c : ℝ) : exp (-c) ≠ 0 ∧ exp (-c) + 1 / exp (-c) ≠ 0 :=
  ⟨(exp_pos _).ne', (add_pos (exp_pos _) (one_div_pos.mpr (exp_pos _))).ne'⟩

/-- the `t`-keyed variants of `Et2` at an arbitrary time argument -/
private theorem Et2_core_dom (k0 : Az) (k1 : Lon) (a b c t : ℝ) (hm : 0 < mag2Of k0 k1 a b c) :
    lorentz_Et2.evalDom k0 k1 .t a b c t := by
  cases k1
  case z =>
    cases k0
    case xy => exact hm.ne'
    case rhophi => rw [Spec.mag2Of_eq] at hm; exact hm.ne'
  case theta => cases k0 <;> trivial
  case eta => cases k0 <;> exact exp_neg_dom c

theorem dom_lorentz_Et2 (k0 : Az) (k1 : Lon) (k2 : Tmp) (a b c d : ℝ)
    (h : CanonLon k0 k1 a b c) (hd : CanonTmp k2 d) (hm : 0 < mag2Of k0 k1 a b c) :
    lorentz_Et2.evalDom k0 k1 k2 a b c d := by
  have tdom := dom_lorentz_t k0 k1 k2 a b c d h hd
  have core := Et2_core_dom k0 k1 a b c (lorentz_t.eval k0 k1 k2 a b c d) hm
  cases k2
  case t => cases k0 <;> cases k1 <;> exact core
  case tau =>
    cases k1
    case z => cases k0 <;> exact ⟨tdom, core⟩
    case theta => cases k0 <;> exact tdom
    case eta => cases k0 <;> exact ⟨tdom, core⟩

/-- the `t`-keyed variants of `Et` at an arbitrary time argument -/
private theorem Et_core_dom (k0 : Az) (k1 : Lon) (a b c t : ℝ) (hm : 0 < mag2Of k0 k1 a b c) :
    lorentz_Et.evalDom k0 k1 .t a b c t := by
  cases k1
  case z =>
    cases k0
    case xy => exact ⟨hm.ne', div_nonneg (mul_nonneg (sq_nonneg t) (D.sumsq_nonneg a b)) hm.le⟩
    case rhophi => rw [Spec.mag2Of_eq] at hm; exact ⟨hm.le, (sqrt_pos.mpr hm).ne'⟩
  case theta => cases k0 <;> trivial
  case eta => cases k0 <;> exact exp_neg_dom c

theorem dom_lorentz_Et (k0 : Az) (k1 : Lon) (k2 : Tmp) (a b c d : ℝ)
    (h : Canon3 k0 k1 a b c) (hd : CanonTmp k2 d) (hm : 0 < mag2Of k0 k1 a b c)
    (_ht : 0 ≤ tOf k0 k1 k2 a b c d) :
    lorentz_Et.evalDom k0 k1 k2 a b c d := by
  have tdom := dom_lorentz_t k0 k1 k2 a b c d h.2 hd
  have core := Et_core_dom k0 k1 a b c (lorentz_t.eval k0 k1 k2 a b c d) hm
  cases k2
  case t => cases k0 <;> cases k1 <;> exact core
  case tau =>
    cases k1
    case z => cases k0 <;> exact ⟨tdom, core⟩
    case theta => cases k0 <;> exact tdom
    case eta => cases k0 <;> exact ⟨tdom, core⟩

example : Canon3 .rhophi .z 1 0 0 ∧ CanonTmp .t 2 ∧ 0 < mag2Of .rhophi .z 1 0 0
    ∧ 0 ≤ tOf .rhophi .z .t 1 0 0 2 :=
  ⟨⟨zero_le_one, trivial⟩, trivial, Spec.mag2Of_pos (k0 := .rhophi) one_pos, zero_le_two⟩

/-! ### Mt2, Mt

FINDING.  `refine_lorentz_Mt2` / `refine_lorentz_Mt` assume only `TanOK k1 c` (`cos θ ≠ 0`) and `CanonTmp k2 d`.  For the keys
`(_, θ, t)` the code computes `z = ρ / tan θ`; `tan θ ≠ 0` needs `sin θ ≠ 0`, which those hypotheses do not grant.  At
`θ = 0` (e.g. `x = 1, y = 0, θ = 0, t = 2`) the real code returns `z = inf`, `Mt2 = -inf`, `Mt = nan`, whereas the refinement
theorems (through Lean's `ρ / 0 = 0` on the code side and `cos 0 / sin 0 = 0` on the specification side) claim `Mt2 = 4`,
`Mt = 2`. -/

/-- EXTRA HYPOTHESIS: `hsin : k2 = .t → SinOK k1 c` (`sin θ ≠ 0` for the keys `(xy|rhophi, theta, t)`), needed because these
variants divide by `tan θ` (`z = ρ / tan θ`); `refine_lorentz_Mt2` has only `TanOK` (`cos θ ≠ 0`). The `tau`-keyed variants
(`max(τ² + ρ², 0)`) are regular without it. -/
theorem dom_lorentz_Mt2_partial (k0 : Az) (k1 : Lon) (k2 : Tmp) (a b c d : ℝ)
    (htan : TanOK k1 c) (_hd : CanonTmp k2 d) (hsin : k2 = .t → SinOK k1 c) :
    lorentz_Mt2.evalDom k0 k1 k2 a b c d := by
  cases k2
  · have zdom := dom_spatial_z_partial k0 k1 a b c htan (hsin rfl)
    -- `lorentz_Mt2.evalDom k0 k1 .t` is `spatial_z.evalDom k0 k1` (`True` for the keys without a conversion)
    cases k0 <;> cases k1 <;> exact zdom
  · cases k0 <;> cases k1 <;> trivial

/-- EXTRA HYPOTHESIS: `hsin : k2 = .t → SinOK k1 c`, as for `dom_lorentz_Mt2_partial` (`Mt = √Mt2` calls the same
`z = ρ / tan θ`). -/
theorem dom_lorentz_Mt_partial (k0 : Az) (k1 : Lon) (k2 : Tmp) (a b c d : ℝ)
    (htan : TanOK k1 c) (hd : CanonTmp k2 d)
    (hs : 0 ≤ tOf k0 k1 k2 a b c d ^ 2 - zOf k0 k1 a b c ^ 2) (hsin : k2 = .t → SinOK k1 c) :
    lorentz_Mt.evalDom k0 k1 k2 a b c d := by
  have m2dom := dom_lorentz_Mt2_partial k0 k1 k2 a b c d htan hd hsin
  rw [← refine_lorentz_Mt2 k0 k1 k2 a b c d htan hd] at hs
  cases k2
  · have := D.withZ k0 k1 m2dom hs
    cases k0 <;> cases k1 <;> exact this
  · cases k0 <;> cases k1 <;> exact hs

example : TanOK .theta 1 ∧ CanonTmp .t 1 ∧ (Tmp.t = .t → SinOK .theta 1)
    ∧ 0 ≤ tOf .xy .z .t 1 0 0 1 ^ 2 - zOf .xy .z 1 0 0 ^ 2 := by
  refine ⟨Spec.tanOK_one .theta, trivial, fun _ => Spec.sinOK_one .theta, ?_⟩
  show (0 : ℝ) ≤ 1 ^ 2 - 0 ^ 2
  norm_num

/-- the counterexample point satisfies the hypotheses of `refine_lorentz_Mt2` / `refine_lorentz_Mt`, and the side-condition
`tan θ ≠ 0` of `z = ρ / tan θ` fails there -/
example : TanOK .theta 0 ∧ CanonTmp .t 2 ∧ 0 ≤ tOf .xy .theta .t 1 0 0 2 ^ 2 - zOf .xy .theta 1 0 0 ^ 2
    ∧ ¬ lorentz_Mt2.evalDom .xy .theta .t 1 0 0 2 := by
  refine ⟨Spec.TanOK_theta_zero, trivial, ?_, fun h => h.2.2 tan_zero⟩
  · show (0 : ℝ) ≤ 2 ^ 2 - (sqrt (1 ^ 2 + 0 ^ 2) * (cos 0 / sin 0)) ^ 2
    rw [sin_zero, div_zero, mul_zero]; norm_num

/-! ### to_beta3 -/

/-- hypotheses of `refine_lorentz_to_beta3_ne_zero` (`_hpos`, which that theorem needs for the VALUE of the `(x, y, θ|η)`
variants at negative `t`, plays no role for regularity) -/
theorem dom_lorentz_to_beta3 (k0 : Az) (k1 : Lon) (k2 : Tmp) (a b c d : ℝ)
    (h : CanonLon k0 k1 a b c) (hd : CanonTmp k2 d) (ht : tOf k0 k1 k2 a b c d ≠ 0)
    (_hpos : k0 = .xy → k1 = .z ∨ 0 < tOf k0 k1 k2 a b c d) :
    lorentz_to_beta3.evalDom k0 k1 k2 a b c d := by
  have tdom := dom_lorentz_t k0 k1 k2 a b c d h hd
  rw [← refine_lorentz_t k0 k1 k2 a b c d h hd] at ht
  cases k2
  · cases k0 <;> cases k1 <;> exact ht
  · cases k0 <;> cases k1 <;> exact ⟨tdom, ht⟩

/-- hypotheses of `refine_lorentz_to_beta3_partial` -/
theorem dom_lorentz_to_beta3_pos (k0 : Az) (k1 : Lon) (k2 : Tmp) (a b c d : ℝ)
    (h : CanonLon k0 k1 a b c) (hd : CanonTmp k2 d) (ht : 0 < tOf k0 k1 k2 a b c d) :
    lorentz_to_beta3.evalDom k0 k1 k2 a b c d :=
  dom_lorentz_to_beta3 k0 k1 k2 a b c d h hd ht.ne' (fun _ => Or.inr ht)

example : CanonLon .xy .eta 1 0 1 ∧ CanonTmp .t 2 ∧ 0 < tOf .xy .eta .t 1 0 1 2 :=
  ⟨L.sqrt_sumsq_pos (Or.inl one_ne_zero), trivial, two_pos⟩

/-! ### unit, scale, transform4D -/

theorem dom_lorentz_unit (k0 : Az) (k1 : Lon) (k2 : Tmp) (a b c d : ℝ) (hs : SinOK k1 c) (hd : CanonTmp k2 d)
    (hm : tOf k0 k1 k2 a b c d ^ 2 - mag2Of k0 k1 a b c ≠ 0) :
    lorentz_unit.evalDom k0 k1 k2 a b c d := by
  cases k2
  · have m2 := dom_spatial_mag2 k0 k1 a b c hs
    rw [tOf_t, ← lorentz_tau2_t_eq k0 k1 a b c d hs] at hm
    have hn : sqrt |lorentz_tau2.eval k0 k1 .t a b c d| ≠ 0 := (sqrt_pos.mpr (abs_pos.mpr hm)).ne'
    cases k1
    · cases k0 <;> exact ⟨abs_nonneg _, hn⟩
    · cases k0 <;> exact ⟨m2, abs_nonneg _, hn⟩
    · cases k0 <;> exact ⟨m2, abs_nonneg _, hn⟩
  · rw [tOf_tau_sq, add_sub_cancel_right] at hm
    have hd0 : |d| ≠ 0 := abs_ne_zero.mpr ((pow_ne_zero_iff two_ne_zero).mp hm)
    cases k0 <;> cases k1 <;> exact hd0

example : SinOK .theta 1 ∧ CanonTmp .t 1 ∧ tOf .xy .z .t 0 0 0 1 ^ 2 - mag2Of .xy .z 0 0 0 ≠ 0 := by
  refine ⟨Spec.sinOK_one .theta, trivial, ?_⟩
  show (1 : ℝ) ^ 2 - (0 ^ 2 + 0 ^ 2 + 0 ^ 2) ≠ 0
  norm_num

/-- the only partial primitive in `scale` is the `% (2π)` of the azimuth rectification (polar azimuth storage) -/
theorem dom_lorentz_scale (k0 : Az) (k1 : Lon) (k2 : Tmp) (f a b c d : ℝ) (_h : ThetaRange k1 c)
    (_hf : k2 = .tau → 0 ≤ f) :
    lorentz_scale.evalDom k0 k1 k2 f a b c d := by
  cases k0
  · cases k1 <;> cases k2 <;> trivial
  · cases k1 <;> cases k2 <;> exact L.two_pi_ne_zero

example : ThetaRange .theta 1 ∧ (Tmp.tau = .tau → (0 : ℝ) ≤ 2) :=
  ⟨⟨zero_le_one, L.one_lt_pi.le⟩, fun _ => zero_le_two⟩

theorem dom_lorentz_transform4D (k0 : Az) (k1 : Lon) (k2 : Tmp)
    (xx xy xz xt yx yy yz yt zx zy zz zt tx ty tz tt a b c d : ℝ)
    (h : TanOK k1 c) (hs : SinOK k1 c) (_hd : CanonTmp k2 d) :
    lorentz_transform4D.evalDom k0 k1 k2 xx xy xz xt yx yy yz yt zx zy zz zt tx ty tz tt a b c d := by
  have zdom := dom_spatial_z_partial k0 k1 a b c h hs
  have tdom := D.lorentz_t_dom k0 k1 k2 a b c d hs
  cases k2
  · cases k0 <;> cases k1 <;> exact zdom
  · have := D.withZ k0 k1 zdom tdom
    cases k0 <;> cases k1 <;> exact this

example : TanOK .theta 1 ∧ SinOK .theta 1 ∧ CanonTmp .tau 2 :=
  ⟨Spec.tanOK_one .theta, Spec.sinOK_one .theta, zero_le_two⟩

end VR
