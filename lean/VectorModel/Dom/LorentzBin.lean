/-
Regularity ("Dom") theorems for the binary Lorentz (4D) compute modules with 144 keys
`add`, `subtract`, `dot`, `equal`, `not_equal`, `isclose`, `deltaRapidityPhi`, `deltaRapidityPhi2`, and for
`is_timelike`, `is_lightlike`, `is_spacelike` (12 keys: `dot` of the operand with itself).

Every generated variant `k_<key1>_<key2>` calls the spatial variant of the same operation on the spatial parts and the
temporal accessor `lorentz_t` of each operand.  Method: regularity of the temporal accessors is proved ONCE per operand
(`D.lorentz_t_dom`, `D.lorentz_tau_dom`, `D.rapidity_dom` of `Dom/LorentzAcc`), that of the spatial variants is taken from
`Dom/SpatialBin` (36 keys), and each 144-key module is assembled by one combinator (`LB.lorentz_*_of`) after `cases` on the
six keys: the generated predicate of a variant is the conjunction of those of its callees that are not literally `True`, so
after unfolding it every conjunct is one of the combinator's hypotheses.

Theorems named `dom_<module>` have EXACTLY the hypotheses of the refinement theorem of the module; theorems named
`dom_<module>_partial` need an EXTRA HYPOTHESIS (documented at the theorem).
-/
import VectorModel.Dom.Planar
import VectorModel.Dom.SpatialBin
import VectorModel.Dom.LorentzAcc
import VectorModel.Refine.LorentzBin

namespace VR
open VK Spec Real

namespace LB

/-! ### dot -/

/-- the two key pairs of `dot` that go through `θ(η) = 2 arctan e^{-η}` and then divide by `tan θ(η)`: singular at `η = 0` -/
def DotEtaOK : Az → Lon → Az → Lon → ℝ → ℝ → Prop
  | .rhophi, .eta, .rhophi, .theta, c, _ => c ≠ 0
  | .rhophi, .theta, .rhophi, .eta, _, f => f ≠ 0
  | _, _, _, _, _, _ => True

/-! The six assembly lemmas `lorentz_<m>_of` are one proof: after `cases` on the six keys the unfolded predicate is the
conjunction of those of `t1`, `t2`, `s` (and `r`) that are not `True`.  They differ in the module, in the spatial predicate
`s`, and `add` / `subtract` take `r` in addition; the generated predicates are separate constants, so the split is repeated
per module. -/

theorem lorentz_dot_of (k0 : Az) (k1 : Lon) (k2 : Tmp) (k3 : Az) (k4 : Lon) (k5 : Tmp) (a0 a1 a2 a3 a4 a5 a6 a7 : ℝ)
    (t1 : lorentz_t.evalDom k0 k1 k2 a0 a1 a2 a3) (t2 : lorentz_t.evalDom k3 k4 k5 a4 a5 a6 a7)
    (s : spatial_dot.evalDom k0 k1 k3 k4 a0 a1 a2 a4 a5 a6) :
    lorentz_dot.evalDom k0 k1 k2 k3 k4 k5 a0 a1 a2 a3 a4 a5 a6 a7 := by
  cases k0 <;> cases k1 <;> cases k2 <;> cases k3 <;> cases k4 <;> cases k5 <;>
    dsimp only [dd_lorentz_dot] <;> (with_reducible and_intros) <;> assumption

/-! ### add, subtract -/

/-- `r`: for `τ ⊕ τ` the result is stored as `τ`, computed by the `τ` accessor from the result's `t` -/
theorem lorentz_add_of (k0 : Az) (k1 : Lon) (k2 : Tmp) (k3 : Az) (k4 : Lon) (k5 : Tmp) (a0 a1 a2 a3 a4 a5 a6 a7 : ℝ)
    (t1 : lorentz_t.evalDom k0 k1 k2 a0 a1 a2 a3) (t2 : lorentz_t.evalDom k3 k4 k5 a4 a5 a6 a7)
    (s : spatial_add.evalDom k0 k1 k3 k4 a0 a1 a2 a4 a5 a6)
    (r : lorentz_tau.evalDom (azOfRet (spatial_add.ret k0 k1 k3 k4)) (lonOfRet (spatial_add.ret k0 k1 k3 k4)) .t
      (spatial_add.eval k0 k1 k3 k4 a0 a1 a2 a4 a5 a6).1 (spatial_add.eval k0 k1 k3 k4 a0 a1 a2 a4 a5 a6).2.1
      (spatial_add.eval k0 k1 k3 k4 a0 a1 a2 a4 a5 a6).2.2
      (lorentz_t.eval k0 k1 k2 a0 a1 a2 a3 + lorentz_t.eval k3 k4 k5 a4 a5 a6 a7)) :
    lorentz_add.evalDom k0 k1 k2 k3 k4 k5 a0 a1 a2 a3 a4 a5 a6 a7 := by
  cases k0 <;> cases k1 <;> cases k2 <;> cases k3 <;> cases k4 <;> cases k5 <;>
    dsimp only [dd_lorentz_add] <;> (with_reducible and_intros) <;> assumption

theorem lorentz_subtract_of (k0 : Az) (k1 : Lon) (k2 : Tmp) (k3 : Az) (k4 : Lon) (k5 : Tmp) (a0 a1 a2 a3 a4 a5 a6 a7 : ℝ)
    (t1 : lorentz_t.evalDom k0 k1 k2 a0 a1 a2 a3) (t2 : lorentz_t.evalDom k3 k4 k5 a4 a5 a6 a7)
    (s : spatial_subtract.evalDom k0 k1 k3 k4 a0 a1 a2 a4 a5 a6)
    (r : lorentz_tau.evalDom (azOfRet (spatial_subtract.ret k0 k1 k3 k4)) (lonOfRet (spatial_subtract.ret k0 k1 k3 k4)) .t
      (spatial_subtract.eval k0 k1 k3 k4 a0 a1 a2 a4 a5 a6).1 (spatial_subtract.eval k0 k1 k3 k4 a0 a1 a2 a4 a5 a6).2.1
      (spatial_subtract.eval k0 k1 k3 k4 a0 a1 a2 a4 a5 a6).2.2
      (lorentz_t.eval k0 k1 k2 a0 a1 a2 a3 - lorentz_t.eval k3 k4 k5 a4 a5 a6 a7)) :
    lorentz_subtract.evalDom k0 k1 k2 k3 k4 k5 a0 a1 a2 a3 a4 a5 a6 a7 := by
  cases k0 <;> cases k1 <;> cases k2 <;> cases k3 <;> cases k4 <;> cases k5 <;>
    dsimp only [dd_lorentz_subtract] <;> (with_reducible and_intros) <;> assumption

/-! ### equal, not_equal, isclose -/

theorem lorentz_equal_of (k0 : Az) (k1 : Lon) (k2 : Tmp) (k3 : Az) (k4 : Lon) (k5 : Tmp)
    (a0 a1 a2 a3 a4 a5 a6 a7 : ℝ)
    (t1 : lorentz_t.evalDom k0 k1 k2 a0 a1 a2 a3) (t2 : lorentz_t.evalDom k3 k4 k5 a4 a5 a6 a7)
    (s : spatial_equal.evalDom k0 k1 k3 k4 a0 a1 a2 a4 a5 a6) :
    lorentz_equal.evalDom k0 k1 k2 k3 k4 k5 a0 a1 a2 a3 a4 a5 a6 a7 := by
  cases k0 <;> cases k1 <;> cases k2 <;> cases k3 <;> cases k4 <;> cases k5 <;>
    dsimp only [dd_lorentz_equal] <;> (with_reducible and_intros) <;> assumption

theorem lorentz_not_equal_of (k0 : Az) (k1 : Lon) (k2 : Tmp) (k3 : Az) (k4 : Lon) (k5 : Tmp)
    (a0 a1 a2 a3 a4 a5 a6 a7 : ℝ)
    (t1 : lorentz_t.evalDom k0 k1 k2 a0 a1 a2 a3) (t2 : lorentz_t.evalDom k3 k4 k5 a4 a5 a6 a7)
    (s : spatial_not_equal.evalDom k0 k1 k3 k4 a0 a1 a2 a4 a5 a6) :
    lorentz_not_equal.evalDom k0 k1 k2 k3 k4 k5 a0 a1 a2 a3 a4 a5 a6 a7 := by
  cases k0 <;> cases k1 <;> cases k2 <;> cases k3 <;> cases k4 <;> cases k5 <;>
    dsimp only [dd_lorentz_not_equal] <;> (with_reducible and_intros) <;> assumption

theorem lorentz_isclose_of (k0 : Az) (k1 : Lon) (k2 : Tmp) (k3 : Az) (k4 : Lon) (k5 : Tmp)
    (r t e a0 a1 a2 a3 a4 a5 a6 a7 : ℝ)
    (t1 : lorentz_t.evalDom k0 k1 k2 a0 a1 a2 a3) (t2 : lorentz_t.evalDom k3 k4 k5 a4 a5 a6 a7)
    (s : spatial_isclose.evalDom k0 k1 k3 k4 r t e a0 a1 a2 a4 a5 a6) :
    lorentz_isclose.evalDom k0 k1 k2 k3 k4 k5 r t e a0 a1 a2 a3 a4 a5 a6 a7 := by
  cases k0 <;> cases k1 <;> cases k2 <;> cases k3 <;> cases k4 <;> cases k5 <;>
    dsimp only [dd_lorentz_isclose] <;> (with_reducible and_intros) <;> assumption

/-! ### deltaRapidityPhi2, deltaRapidityPhi -/

theorem lorentz_deltaRapidityPhi2_evalDom_eq (k0 : Az) (k1 : Lon) (k2 : Tmp) (k3 : Az) (k4 : Lon) (k5 : Tmp)
    (a0 a1 a2 a3 a4 a5 a6 a7 : ℝ) :
    lorentz_deltaRapidityPhi2.evalDom k0 k1 k2 k3 k4 k5 a0 a1 a2 a3 a4 a5 a6 a7 =
      (planar_deltaphi.evalDom k0 k3 a0 a1 a4 a5 ∧
        lorentz_rapidity.evalDom k0 k1 k2 a0 a1 a2 a3 ∧ lorentz_rapidity.evalDom k3 k4 k5 a4 a5 a6 a7) := by
  cases k0 <;> cases k1 <;> cases k2 <;> cases k3 <;> cases k4 <;> cases k5 <;> rfl

theorem lorentz_deltaRapidityPhi_evalDom_eq (k0 : Az) (k1 : Lon) (k2 : Tmp) (k3 : Az) (k4 : Lon) (k5 : Tmp)
    (a0 a1 a2 a3 a4 a5 a6 a7 : ℝ) :
    lorentz_deltaRapidityPhi.evalDom k0 k1 k2 k3 k4 k5 a0 a1 a2 a3 a4 a5 a6 a7 =
      (lorentz_deltaRapidityPhi2.evalDom k0 k1 k2 k3 k4 k5 a0 a1 a2 a3 a4 a5 a6 a7 ∧
        0 ≤ lorentz_deltaRapidityPhi2.eval k0 k1 k2 k3 k4 k5 a0 a1 a2 a3 a4 a5 a6 a7) := by
  cases k0 <;> cases k1 <;> cases k2 <;> cases k3 <;> cases k4 <;> cases k5 <;> rfl

end LB

/-! ### dot -/

/-- EXTRA HYPOTHESIS: `he` (`η ≠ 0` for the η operand of the key pairs `(rhophi, eta, _) × (rhophi, theta, _)` and
`(rhophi, theta, _) × (rhophi, eta, _)`, 8 of the 144 keys).  The spatial variants `rhophi_eta_rhophi_theta` /
`rhophi_theta_rhophi_eta` convert `η` to `θ(η) = 2 arctan e^{-η}` and then compute `1 / (tan θ(η) · tan θ₂)`; at `η = 0`
this is `tan (π/2)` exactly.  `refine_lorentz_dot` (hypotheses `TanOK`, `SinOK`, `CanonTmp` only; `TanOK .eta _ = True`)
holds there because Lean's `tan (π/2) = 0` and `1 / 0 = 0` happen to give the right value `cot (π/2) = 0`.  (In floating
point `2 * arctan 1.0` is not exactly `π/2`, `tan` returns `1.6e16` and the real code returns the correct finite value.) -/
theorem dom_lorentz_dot_partial (k0 : Az) (k1 : Lon) (k2 : Tmp) (k3 : Az) (k4 : Lon) (k5 : Tmp)
    (a0 a1 a2 a3 a4 a5 a6 a7 : ℝ) (h1 : TanOK k1 a2) (h2 : TanOK k4 a6) (hs1 : SinOK k1 a2) (hs2 : SinOK k4 a6)
    (_hd1 : CanonTmp k2 a3) (_hd2 : CanonTmp k5 a7) (he : LB.DotEtaOK k0 k1 k3 k4 a2 a6) :
    lorentz_dot.evalDom k0 k1 k2 k3 k4 k5 a0 a1 a2 a3 a4 a5 a6 a7 :=
  LB.lorentz_dot_of k0 k1 k2 k3 k4 k5 a0 a1 a2 a3 a4 a5 a6 a7 (D.lorentz_t_dom k0 k1 k2 a0 a1 a2 a3 hs1)
    (D.lorentz_t_dom k3 k4 k5 a4 a5 a6 a7 hs2) (dom_spatial_dot_partial k0 k1 k3 k4 a0 a1 a2 a4 a5 a6 h1 h2 hs1 hs2 he)

/-- the extra hypothesis is needed: at `η₁ = 0` all hypotheses of `refine_lorentz_dot` hold but the variant
`k_rhophi_eta_t_rhophi_theta_t` evaluates `tan (π/2)` -/
theorem dom_lorentz_dot_singular :
    (TanOK .eta 0 ∧ TanOK .theta 1 ∧ SinOK .eta 0 ∧ SinOK .theta 1 ∧ CanonTmp .t 1 ∧ CanonTmp .t 1) ∧
      ¬ lorentz_dot.evalDom .rhophi .eta .t .rhophi .theta .t 1 0 0 1 1 0 1 1 := by
  refine ⟨⟨trivial, Spec.tanOK_one .theta, trivial,
    Spec.sinOK_one .theta, trivial, trivial⟩, ?_⟩
  simp only [dd_lorentz_dot, dd_spatial_dot, d_spatial_theta]
  intro h
  apply h.1
  rw [L.two_pt_zero, L.cos_two_arctan_exp_neg, Real.sinh_zero, zero_div]

example : TanOK .theta 1 ∧ SinOK .theta 1 ∧ CanonTmp .tau 2 ∧ LB.DotEtaOK .rhophi .eta .rhophi .theta 1 1 :=
  ⟨Spec.tanOK_one .theta, Spec.sinOK_one .theta,
    by show (0 : ℝ) ≤ 2; norm_num, one_ne_zero⟩

/-! ### is_timelike, is_lightlike, is_spacelike

The three predicates threshold the Minkowski self-product `lorentz_dot.eval k k v v` (`c13_is_…_iff_dot`, a definitional
unfolding without hypotheses that consults no value).  The theorems that give them a VALUE are
`c13_causal_classes_t_keys` (hypothesis `hθ`) and `c13_causal_classes_tau_keys` (hypotheses `hθ`, `0 ≤ tau`); their
hypotheses are the ones used here (`CanonTmp k2 a3` is `0 ≤ a3` for τ storage and `True` for t storage). -/

/-- regularity of the Minkowski self-product: `dot` of two operands of the same system never goes through `θ(η)` -/
private theorem mdotSelf_dom (k0 : Az) (k1 : Lon) (k2 : Tmp) (a0 a1 a2 a3 : ℝ)
    (hθ : k1 = .theta → Real.sin a2 ≠ 0 ∧ Real.cos a2 ≠ 0) (hd : CanonTmp k2 a3) :
    lorentz_dot.evalDom k0 k1 k2 k0 k1 k2 a0 a1 a2 a3 a0 a1 a2 a3 :=
  have ⟨hs, ht⟩ := Spec.sinOK_tanOK_of_theta hθ
  dom_lorentz_dot_partial k0 k1 k2 k0 k1 k2 a0 a1 a2 a3 a0 a1 a2 a3 ht ht hs hs hd hd
    (by cases k0 <;> cases k1 <;> trivial)

theorem dom_lorentz_is_timelike (k0 : Az) (k1 : Lon) (k2 : Tmp) (tol a0 a1 a2 a3 : ℝ)
    (hθ : k1 = .theta → Real.sin a2 ≠ 0 ∧ Real.cos a2 ≠ 0) (htau : CanonTmp k2 a3) :
    lorentz_is_timelike.evalDom k0 k1 k2 tol a0 a1 a2 a3 := by
  have h := mdotSelf_dom k0 k1 k2 a0 a1 a2 a3 hθ htau
  cases k0 <;> cases k1 <;> cases k2 <;> exact h

theorem dom_lorentz_is_lightlike (k0 : Az) (k1 : Lon) (k2 : Tmp) (tol a0 a1 a2 a3 : ℝ)
    (hθ : k1 = .theta → Real.sin a2 ≠ 0 ∧ Real.cos a2 ≠ 0) (htau : CanonTmp k2 a3) :
    lorentz_is_lightlike.evalDom k0 k1 k2 tol a0 a1 a2 a3 := by
  have h := mdotSelf_dom k0 k1 k2 a0 a1 a2 a3 hθ htau
  cases k0 <;> cases k1 <;> cases k2 <;> exact h

theorem dom_lorentz_is_spacelike (k0 : Az) (k1 : Lon) (k2 : Tmp) (tol a0 a1 a2 a3 : ℝ)
    (hθ : k1 = .theta → Real.sin a2 ≠ 0 ∧ Real.cos a2 ≠ 0) (htau : CanonTmp k2 a3) :
    lorentz_is_spacelike.evalDom k0 k1 k2 tol a0 a1 a2 a3 := by
  have h := mdotSelf_dom k0 k1 k2 a0 a1 a2 a3 hθ htau
  cases k0 <;> cases k1 <;> cases k2 <;> exact h

example : (Lon.theta = .theta → Real.sin (Real.pi / 4) ≠ 0 ∧ Real.cos (Real.pi / 4) ≠ 0) ∧ CanonTmp .tau 1 := by
  refine ⟨fun _ => ?_, zero_le_one⟩
  have h4 : π / 4 < π / 2 := div_lt_div_of_pos_left pi_pos two_pos (by norm_num)
  exact ⟨(sin_pos_of_pos_of_lt_pi (div_pos pi_pos four_pos) (h4.trans (half_lt_self pi_pos))).ne',
    (cos_pos_of_mem_Ioo ⟨(neg_neg_of_pos (half_pos pi_pos)).trans (div_pos pi_pos four_pos), h4⟩).ne'⟩

/-! ### add, subtract -/

theorem dom_lorentz_add (k0 : Az) (k1 : Lon) (k2 : Tmp) (k3 : Az) (k4 : Lon) (k5 : Tmp) (a0 a1 a2 a3 a4 a5 a6 a7 : ℝ)
    (h1 : TanOK k1 a2) (h2 : TanOK k4 a6) (hs1 : SinOK k1 a2) (hs2 : SinOK k4 a6)
    (_hd1 : CanonTmp k2 a3) (_hd2 : CanonTmp k5 a7)
    (hrep : Representable3 (spatial_add.ret k0 k1 k3 k4) (add3 (cart3 k0 k1 a0 a1 a2) (cart3 k3 k4 a4 a5 a6))) :
    lorentz_add.evalDom k0 k1 k2 k3 k4 k5 a0 a1 a2 a3 a4 a5 a6 a7 :=
  LB.lorentz_add_of k0 k1 k2 k3 k4 k5 a0 a1 a2 a3 a4 a5 a6 a7 (D.lorentz_t_dom k0 k1 k2 a0 a1 a2 a3 hs1)
    (D.lorentz_t_dom k3 k4 k5 a4 a5 a6 a7 hs2) (dom_spatial_add_partial k0 k1 k3 k4 a0 a1 a2 a4 a5 a6 h1 h2 hrep hs1 hs2)
    (D.lorentz_tau_dom _ _ .t _ _ _ _ (spatial_add_sinOK k0 k1 k3 k4 a0 a1 a2 a4 a5 a6 hrep))

theorem dom_lorentz_subtract (k0 : Az) (k1 : Lon) (k2 : Tmp) (k3 : Az) (k4 : Lon) (k5 : Tmp)
    (a0 a1 a2 a3 a4 a5 a6 a7 : ℝ)
    (h1 : TanOK k1 a2) (h2 : TanOK k4 a6) (hs1 : SinOK k1 a2) (hs2 : SinOK k4 a6)
    (_hd1 : CanonTmp k2 a3) (_hd2 : CanonTmp k5 a7)
    (hrep : Representable3 (spatial_subtract.ret k0 k1 k3 k4) (sub3 (cart3 k0 k1 a0 a1 a2) (cart3 k3 k4 a4 a5 a6)))
    (_hc : k2 = .tau → k5 = .tau →
      0 ≤ tOf k0 k1 k2 a0 a1 a2 a3 - tOf k3 k4 k5 a4 a5 a6 a7 ∧
      (xOf k0 a0 a1 - xOf k3 a4 a5) ^ 2 + (yOf k0 a0 a1 - yOf k3 a4 a5) ^ 2 + (zOf k0 k1 a0 a1 a2 - zOf k3 k4 a4 a5 a6) ^ 2
        ≤ (tOf k0 k1 k2 a0 a1 a2 a3 - tOf k3 k4 k5 a4 a5 a6 a7) ^ 2) :
    lorentz_subtract.evalDom k0 k1 k2 k3 k4 k5 a0 a1 a2 a3 a4 a5 a6 a7 :=
  LB.lorentz_subtract_of k0 k1 k2 k3 k4 k5 a0 a1 a2 a3 a4 a5 a6 a7 (D.lorentz_t_dom k0 k1 k2 a0 a1 a2 a3 hs1)
    (D.lorentz_t_dom k3 k4 k5 a4 a5 a6 a7 hs2) (dom_spatial_subtract_partial k0 k1 k3 k4 a0 a1 a2 a4 a5 a6 h1 h2 hrep hs1 hs2)
    (D.lorentz_tau_dom _ _ .t _ _ _ _ (spatial_subtract_sinOK k0 k1 k3 k4 a0 a1 a2 a4 a5 a6 hrep))

example : TanOK .theta 1 ∧ SinOK .theta 1 ∧ CanonTmp .tau 2 ∧
    Representable3 (spatial_add.ret .xy .theta .xy .theta) (add3 (cart3 .xy .theta 1 0 1) (cart3 .xy .theta 1 0 1)) := by
  refine ⟨Spec.tanOK_one .theta, Spec.sinOK_one .theta,
    by show (0 : ℝ) ≤ 2; norm_num, Or.inr ?_⟩
  norm_num [add3, cart3, xOf, yOf]

/-! ### equal, not_equal, isclose -/

theorem dom_lorentz_equal (k0 : Az) (k1 : Lon) (k2 : Tmp) (k3 : Az) (k4 : Lon) (k5 : Tmp)
    (a0 a1 a2 a3 a4 a5 a6 a7 : ℝ)
    (c1 : Canon4 k0 k1 k2 a0 a1 a2 a3) (c2 : Canon4 k3 k4 k5 a4 a5 a6 a7) (t1 : TanOK k1 a2) (t2 : TanOK k4 a6)
    (_h : lorentz_equal.eval k0 k1 k2 k3 k4 k5 a0 a1 a2 a3 a4 a5 a6 a7) :
    lorentz_equal.evalDom k0 k1 k2 k3 k4 k5 a0 a1 a2 a3 a4 a5 a6 a7 :=
  LB.lorentz_equal_of k0 k1 k2 k3 k4 k5 a0 a1 a2 a3 a4 a5 a6 a7
    (D.lorentz_t_dom k0 k1 k2 a0 a1 a2 a3 (Spec.SinOK_of_canonLon c1.1.2))
    (D.lorentz_t_dom k3 k4 k5 a4 a5 a6 a7 (Spec.SinOK_of_canonLon c2.1.2))
    ((spatial_equal_evalDom_eq ..).mpr (cmpDom_of_canonLon k0 k1 k3 k4 a0 a1 a2 a4 a5 a6 c1.1.2 c2.1.2 t1 t2))

theorem dom_lorentz_not_equal (k0 : Az) (k1 : Lon) (k2 : Tmp) (k3 : Az) (k4 : Lon) (k5 : Tmp)
    (a0 a1 a2 a3 a4 a5 a6 a7 : ℝ)
    (c1 : Canon4 k0 k1 k2 a0 a1 a2 a3) (c2 : Canon4 k3 k4 k5 a4 a5 a6 a7) (t1 : TanOK k1 a2) (t2 : TanOK k4 a6)
    (_h : ¬ cart4 k0 k1 k2 a0 a1 a2 a3 = cart4 k3 k4 k5 a4 a5 a6 a7) :
    lorentz_not_equal.evalDom k0 k1 k2 k3 k4 k5 a0 a1 a2 a3 a4 a5 a6 a7 :=
  LB.lorentz_not_equal_of k0 k1 k2 k3 k4 k5 a0 a1 a2 a3 a4 a5 a6 a7
    (D.lorentz_t_dom k0 k1 k2 a0 a1 a2 a3 (Spec.SinOK_of_canonLon c1.1.2))
    (D.lorentz_t_dom k3 k4 k5 a4 a5 a6 a7 (Spec.SinOK_of_canonLon c2.1.2))
    ((spatial_not_equal_evalDom_eq ..).mpr (cmpDom_of_canonLon k0 k1 k3 k4 a0 a1 a2 a4 a5 a6 c1.1.2 c2.1.2 t1 t2))

/-- `isclose` between operands of the SAME coordinate system (the setting of `c12_lorentz_isclose_same` and
`c12_lorentz_isclose_refl`, no hypothesis on the operands) compares the stored coordinates directly: `evalDom` is `True` -/
theorem dom_lorentz_isclose_same (k0 : Az) (k1 : Lon) (k2 : Tmp) (r t e a0 a1 a2 a3 b0 b1 b2 b3 : ℝ) :
    lorentz_isclose.evalDom k0 k1 k2 k0 k1 k2 r t e a0 a1 a2 a3 b0 b1 b2 b3 := by
  cases k0 <;> cases k1 <;> cases k2 <;> simp only [dd_lorentz_isclose, dd_spatial_isclose]

/-- EXTRA HYPOTHESIS: `c1`, `c2`, `t1`, `t2` (those of `refine_lorentz_equal`).  There is no refinement theorem for
`isclose` between different coordinate systems; the theorems `c12_lorentz_isclose_of_eq` / `c12_lorentz_isclose_mono` are
stated for all 144 key pairs with NO hypothesis on the operands (`_hr`, `_ht` are the hypotheses of `…_of_eq` on the
tolerances).  They are implications between two evaluations of the same conversions, so they are true also where a
conversion is singular (e.g. `θ = 0` converted to `η = −log tan 0`), but only by using the same totalised value on both
sides; regularity needs the representability of both operands. -/
theorem dom_lorentz_isclose_partial (k0 : Az) (k1 : Lon) (k2 : Tmp) (k3 : Az) (k4 : Lon) (k5 : Tmp)
    (r t e a0 a1 a2 a3 a4 a5 a6 a7 : ℝ) (_hr : 0 ≤ r) (_ht : 0 ≤ t)
    (c1 : Canon4 k0 k1 k2 a0 a1 a2 a3) (c2 : Canon4 k3 k4 k5 a4 a5 a6 a7) (t1 : TanOK k1 a2) (t2 : TanOK k4 a6) :
    lorentz_isclose.evalDom k0 k1 k2 k3 k4 k5 r t e a0 a1 a2 a3 a4 a5 a6 a7 :=
  LB.lorentz_isclose_of k0 k1 k2 k3 k4 k5 r t e a0 a1 a2 a3 a4 a5 a6 a7
    (D.lorentz_t_dom k0 k1 k2 a0 a1 a2 a3 (Spec.SinOK_of_canonLon c1.1.2))
    (D.lorentz_t_dom k3 k4 k5 a4 a5 a6 a7 (Spec.SinOK_of_canonLon c2.1.2))
    ((spatial_isclose_evalDom_eq ..).mpr (cmpDom_of_canonLon k0 k1 k3 k4 a0 a1 a2 a4 a5 a6 c1.1.2 c2.1.2 t1 t2))

example : Canon4 .rhophi .eta .tau 1 0 0 2 ∧ TanOK .eta 0 := by
  refine ⟨⟨⟨by norm_num [Canon2], by norm_num [CanonLon, rhoOf]⟩, ?_⟩, trivial⟩
  show (0 : ℝ) ≤ 2; norm_num

/-! ### deltaRapidityPhi2, deltaRapidityPhi -/

theorem dom_lorentz_deltaRapidityPhi2 (k0 : Az) (k1 : Lon) (k2 : Tmp) (k3 : Az) (k4 : Lon) (k5 : Tmp)
    (a0 a1 a2 a3 a4 a5 a6 a7 : ℝ)
    (h1 : TanOK k1 a2) (h2 : TanOK k4 a6) (hs1 : SinOK k1 a2) (hs2 : SinOK k4 a6)
    (hd1 : CanonTmp k2 a3) (hd2 : CanonTmp k5 a7)
    (hz1 : |zOf k0 k1 a0 a1 a2| < tOf k0 k1 k2 a0 a1 a2 a3) (hz2 : |zOf k3 k4 a4 a5 a6| < tOf k3 k4 k5 a4 a5 a6 a7) :
    lorentz_deltaRapidityPhi2.evalDom k0 k1 k2 k3 k4 k5 a0 a1 a2 a3 a4 a5 a6 a7 :=
  (LB.lorentz_deltaRapidityPhi2_evalDom_eq ..).mpr ⟨dom_planar_deltaphi k0 k3 a0 a1 a4 a5,
    D.rapidity_dom k0 k1 k2 a0 a1 a2 a3 h1 hs1 hd1 hz1, D.rapidity_dom k3 k4 k5 a4 a5 a6 a7 h2 hs2 hd2 hz2⟩

theorem dom_lorentz_deltaRapidityPhi (k0 : Az) (k1 : Lon) (k2 : Tmp) (k3 : Az) (k4 : Lon) (k5 : Tmp)
    (a0 a1 a2 a3 a4 a5 a6 a7 : ℝ)
    (h1 : TanOK k1 a2) (h2 : TanOK k4 a6) (hs1 : SinOK k1 a2) (hs2 : SinOK k4 a6)
    (hd1 : CanonTmp k2 a3) (hd2 : CanonTmp k5 a7)
    (hz1 : |zOf k0 k1 a0 a1 a2| < tOf k0 k1 k2 a0 a1 a2 a3) (hz2 : |zOf k3 k4 a4 a5 a6| < tOf k3 k4 k5 a4 a5 a6 a7) :
    lorentz_deltaRapidityPhi.evalDom k0 k1 k2 k3 k4 k5 a0 a1 a2 a3 a4 a5 a6 a7 := by
  rw [LB.lorentz_deltaRapidityPhi_evalDom_eq]
  refine ⟨dom_lorentz_deltaRapidityPhi2 k0 k1 k2 k3 k4 k5 a0 a1 a2 a3 a4 a5 a6 a7 h1 h2 hs1 hs2 hd1 hd2 hz1 hz2, ?_⟩
  rw [lorentz_deltaRapidityPhi2_eval_eq]
  positivity

example : |zOf .xy .z 0 0 1| < tOf .xy .z .t 0 0 1 2 := by norm_num [zOf, tOf]


end VR
