/-
Regularity ("Dom") theorems, shared lemmas and two worked examples.

For every compute function `f` the translator generates `f.Dom args : Prop` (Gen/Dom): the conjunction of the
side-conditions of every partial primitive application in `f` and its callees (`b ≠ 0` for `a / b`, `0 ≤ a` for `sqrt a`,
`cos a ≠ 0` for `tan a`, `0 < a` for `log a`, `-1 ≤ a ≤ 1` for `arccos a`, `0 < a` for `a ** -0.5`).  The theorems
`dom_<module>` state that under the hypotheses of the refinement theorem `refine_<module>` the variant found under
EVERY key is regular: no IEEE exceptional value arises in exact arithmetic and none of Lean's totalised values
(`x / 0 = 0`, `√(-1) = 0`, `log 0 = 0`, `arccos 2 = 0`) is consulted.

How to read the proofs.  The generated `Dom` of a variant is the conjunction of its own side-conditions and of the `Dom`s of
its callees IN THE ORDER OF THE BODY, and a callee whose `Dom` is `True` is LEFT OUT: the shape of the conjunction depends on
the key.  Most variants convert their operand with `spatial_z` (total for the keys `(xy, z)`, `(ρφ, z)`, `(ρφ, η)`; partial
for θ storage and `(xy, η)`: `D.WithZ`, Dom/Planar.lean) and, in 4D, with `lorentz_t` (total for `t`, partial for `τ`
storage).  After `cases` on the keys a goal `M.evalDom .xy .theta …` unfolds by `whnf` to that conjunction, and
`exact ⟨…⟩` supplies the conjuncts in order.  Namespace `D` holds the facts about single conversions and kernels the
`dom_<module>` theorems are assembled from, `LB` (Dom/LorentzBin.lean) the 144-key assembly lemmas.

Names.  `dom_<m>` has exactly the hypotheses of `refine_<m>`; `dom_<m>_partial` has an EXTRA HYPOTHESIS, documented at the
theorem, because the refinement hypotheses admit a singular point of the code (there the refinement theorem holds only
through a totalised value); `dom_<m>_canon` is the same under the representable-domain hypothesis `CanonLon`, which implies
the extra one.  That the extra hypothesis is needed is witnessed by `dom_<m>_needs_<what>`, `…_singular`, `…_fails` or an
`example` directly below the theorem: an input satisfying the refinement hypotheses where `evalDom` fails.
-/
import VectorModel.Gen.Dom.All
import VectorModel.Spec.Basic
import VectorModel.Refine.SpatialAcc

namespace VR
open VK Spec Real

namespace D

theorem sqrt_ne_zero_of_rhoOf_xy {a b : ℝ} (h : 0 < rhoOf .xy a b) : sqrt (a ^ 2 + b ^ 2) ≠ 0 := h.ne'
theorem sumsq_pos_of_rhoOf_xy {a b : ℝ} (h : 0 < rhoOf .xy a b) : 0 < a ^ 2 + b ^ 2 := Real.sqrt_pos.mp h
theorem sumsq_nonneg (a b : ℝ) : 0 ≤ a ^ 2 + b ^ 2 := L.sumsq_nonneg a b
theorem sumsq3_nonneg (a b c : ℝ) : 0 ≤ a ^ 2 + b ^ 2 + c ^ 2 := add_nonneg (L.sumsq_nonneg a b) (sq_nonneg c)

theorem cos_half_pos {c : ℝ} (h0 : 0 < c) (h1 : c < π) : 0 < cos (0.5 * c) := (L.half_angle_pos h0 h1).2
theorem tan_half_pos {c : ℝ} (h0 : 0 < c) (h1 : c < π) : 0 < tan (0.5 * c) := L.tan_half_pos h0 h1

end D

/-! ### worked examples -/

theorem dom_planar_unit (k : Az) (a b : ℝ) (h : 0 < rhoOf k a b) : planar_unit.evalDom k a b := by
  cases k
  case xy => exact ⟨D.sumsq_nonneg a b, D.sqrt_ne_zero_of_rhoOf_xy h⟩
  case rhophi => trivial

/-- `eta` is regular off the z axis (`CanonLon` supplies `0 < ρ` for θ/η storage, `hr` for z storage) -/
theorem dom_spatial_eta (k0 : Az) (k1 : Lon) (a b c : ℝ) (h : CanonLon k0 k1 a b c) (hr : 0 < rhoOf k0 a b) :
    spatial_eta.evalDom k0 k1 a b c := by
  cases k1
  case z =>
    cases k0
    case xy => exact ⟨D.sumsq_nonneg a b, D.sqrt_ne_zero_of_rhoOf_xy hr⟩
    case rhophi => exact (show (0 : ℝ) < a from hr).ne'
  case theta =>
    have ht : cos (0.5 * c) ≠ 0 ∧ 0 < tan (0.5 * c) := ⟨(D.cos_half_pos h.2.1 h.2.2).ne', D.tan_half_pos h.2.1 h.2.2⟩
    cases k0 <;> exact ht
  case eta => cases k0 <;> trivial

example : CanonLon .rhophi .theta 2 1 1 ∧ 0 < rhoOf .rhophi 2 1 :=
  ⟨⟨two_pos, one_pos, L.one_lt_pi⟩, two_pos⟩

end VR
