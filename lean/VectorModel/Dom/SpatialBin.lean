/-
Regularity ("Dom") theorems for the binary / vector-valued spatial (3D) compute modules
`add`, `subtract`, `dot`, `cross`, `scale`, `unit`, `deltaangle`, `deltaeta`, `deltaR`, `deltaR2`,
`equal`, `not_equal`, `isclose`, `is_parallel`, `is_antiparallel`, `is_perpendicular`.

Method: regularity of the accessors / converters (`spatial_z`, `spatial_mag`) per operand key comes from `Dom/Planar`
(`dom_spatial_z_partial`, `D.magDom_of_sinOK`); every 36-key module then does `cases` on the four keys, unfolds its
`dd_<module>` lemma and closes the conjuncts with the per-operand facts (`and_intros <;> assumption`, or the tuple written out).

Theorems named `dom_<module>` have EXACTLY the hypotheses of the refinement theorem of the module; theorems named
`dom_<module>_partial` need an EXTRA HYPOTHESIS (documented at the theorem): the refinement theorem holds at inputs where
the real code hits a singularity.
-/
import VectorModel.Dom.Planar
import VectorModel.Refine.SpatialBin
import VectorModel.Refine.SpatialRot

namespace VR
open VK Spec Real

namespace D

/-- the regularity condition of `1 / (tan θ₁ tan θ₂)` -/
theorem dot_theta_theta {t1 t2 : ℝ} (h1 : cos t1 ≠ 0 ∧ tan t1 ≠ 0) (h2 : cos t2 ≠ 0 ∧ tan t2 ≠ 0) :
    cos t1 ≠ 0 ∧ cos t2 ≠ 0 ∧ tan t1 * tan t2 ≠ 0 := ⟨h1.1, h2.1, mul_ne_zero h1.2 h2.2⟩

theorem clamp_mem (x : ℝ) : -1 ≤ max (-1) (min 1 x) ∧ max (-1) (min 1 x) ≤ 1 :=
  ⟨le_max_left _ _, max_le (by norm_num) (min_le_left _ _)⟩

end D

theorem spatial_mag_ne_zero (k0 : Az) (k1 : Lon) (a b c : ℝ) (h2 : Canon2 k0 a b) (hs : SinOK k1 c)
    (hm : 0 < mag2Of k0 k1 a b c) : spatial_mag.eval k0 k1 a b c ≠ 0 := by
  rw [refine_spatial_mag k0 k1 a b c h2 hs]
  exact (Real.sqrt_pos.mpr hm).ne'

/-! ### dot -/

/-- the two keys of `dot` that go through `θ(η) = 2 arctan e^{-η}` and then divide by `tan θ(η)`: singular at `η = 0` -/
def DotEtaOK : Az → Lon → Az → Lon → ℝ → ℝ → Prop
  | .rhophi, .eta, .rhophi, .theta, c, _ => c ≠ 0
  | .rhophi, .theta, .rhophi, .eta, _, f => f ≠ 0
  | _, _, _, _, _, _ => True

/-- EXTRA HYPOTHESIS: `hs1`/`hs2` (`sin θ ≠ 0` for every θ operand: the code computes `ρ / tan θ`, and `tan θ = 0` at
`θ = 0, π`, where `refine_spatial_dot` (only `TanOK`) is proved with Lean's `1 / 0 = 0`), and `he` (`η ≠ 0` for the keys
`rhophi_eta_rhophi_theta` / `rhophi_theta_rhophi_eta`, which compute `tan (2 arctan e^{-η})`, i.e. `tan (π/2)` at `η = 0`). -/
theorem dom_spatial_dot_partial (k0 : Az) (k1 : Lon) (k2 : Az) (k3 : Lon) (a0 a1 a2 a3 a4 a5 : ℝ)
    (h1 : TanOK k1 a2) (h2 : TanOK k3 a5)
    (hs1 : SinOK k1 a2) (hs2 : SinOK k3 a5) (he : DotEtaOK k0 k1 k2 k3 a2 a5) :
    spatial_dot.evalDom k0 k1 k2 k3 a0 a1 a2 a3 a4 a5 := by
  have z1 := dom_spatial_z_partial k0 k1 a0 a1 a2 h1 hs1
  have z2 := dom_spatial_z_partial k2 k3 a3 a4 a5 h2 hs2
  cases k0 <;> cases k2
  -- an operand with Cartesian azimuth: the product of the Cartesian components, only the conversions to `z` are partial
  case xy.xy | xy.rhophi | rhophi.xy =>
    cases k1 <;> cases k3 <;> dsimp only [dd_spatial_dot] <;> (with_reducible and_intros) <;> assumption
  -- both polar: `ρ₁ ρ₂ (cos Δφ + cot θ₁ cot θ₂)`, an η operand against a θ operand is first converted to `θ(η)`
  cases k1 <;> cases k3 <;> simp only [dd_spatial_dot]
  case z.theta => exact z2
  case theta.z => exact z1
  case theta.theta => exact D.dot_theta_theta z1 z2
  case theta.eta => exact D.dot_theta_theta z1 (D.z_theta_of_eta he)
  case eta.theta => exact D.dot_theta_theta (D.z_theta_of_eta he) z2
  case eta.eta => exact ⟨(Real.exp_pos _).ne', (Real.exp_pos _).ne'⟩

example : TanOK .theta 1 ∧ SinOK .theta 1 ∧ DotEtaOK .rhophi .eta .rhophi .theta 1 1 :=
  ⟨Spec.tanOK_one .theta, Spec.sinOK_one .theta, one_ne_zero⟩

/-! ### cross -/

/-- EXTRA HYPOTHESIS: `hs1`/`hs2` (`sin θ ≠ 0` for every θ operand, all 20 keys with a θ operand: the converter computes
`ρ / tan θ`; `refine_spatial_cross` assumes only `TanOK`). -/
theorem dom_spatial_cross_partial (k0 : Az) (k1 : Lon) (k2 : Az) (k3 : Lon) (a0 a1 a2 a3 a4 a5 : ℝ)
    (h1 : TanOK k1 a2) (h2 : TanOK k3 a5) (hs1 : SinOK k1 a2) (hs2 : SinOK k3 a5) :
    spatial_cross.evalDom k0 k1 k2 k3 a0 a1 a2 a3 a4 a5 := by
  have z1 := dom_spatial_z_partial k0 k1 a0 a1 a2 h1 hs1
  have z2 := dom_spatial_z_partial k2 k3 a3 a4 a5 h2 hs2
  cases k0 <;> cases k2 <;> cases k1 <;> cases k3 <;>
    dsimp only [dd_spatial_cross] <;> (with_reducible and_intros) <;> assumption

/-! ### scale -/

/-- `scale` is regular everywhere (the only partial primitive is `% (2π)`) -/
theorem dom_spatial_scale (k0 : Az) (k1 : Lon) (f a b c : ℝ) (_h : ThetaRange k1 c) :
    spatial_scale.evalDom k0 k1 f a b c := by
  cases k0 <;> cases k1 <;> simp only [dd_spatial_scale] <;> exact L.two_pi_ne_zero

example : ThetaRange .theta 1 := ⟨by norm_num, by linarith [Real.one_le_pi_div_two, Real.pi_pos]⟩

/-! ### unit -/

theorem dom_spatial_unit (k0 : Az) (k1 : Lon) (a b c : ℝ) (h : Canon3 k0 k1 a b c) (hm : 0 < mag2Of k0 k1 a b c) :
    spatial_unit.evalDom k0 k1 a b c := by
  have hs := Spec.SinOK_of_canonLon h.2
  have md := D.magDom_of_sinOK k0 k1 a b c hs
  have mn := spatial_mag_ne_zero k0 k1 a b c h.1 hs hm
  cases k0 <;> cases k1 <;> simp only [spatial_mag.evalDom, spatial_mag.eval] at md mn <;>
    simp only [dd_spatial_unit] <;> exact ⟨md, mn⟩

example : Canon3 .rhophi .eta 1 0 0 ∧ 0 < mag2Of .rhophi .eta 1 0 0 := by
  refine ⟨⟨by norm_num [Canon2], by norm_num [CanonLon, rhoOf]⟩, ?_⟩
  norm_num [mag2Of, xOf, yOf, zOf, rhoOf]

/-! ### deltaangle -/

/-- EXTRA HYPOTHESIS: `hm1`/`hm2` (both operands non-zero: the code divides `dot` by `|p₁|` and by `|p₂|`; for every key;
`refine_spatial_deltaangle` holds for a zero operand only through Lean's `x / 0 = 0`), and `he` (`η ≠ 0` for the keys
`rhophi_eta_rhophi_theta` / `rhophi_theta_rhophi_eta`, inherited from `dot`: `tan (2 arctan e^{-η})` at `η = 0`). -/
theorem dom_spatial_deltaangle_partial (k0 : Az) (k1 : Lon) (k2 : Az) (k3 : Lon) (a b c d e f : ℝ)
    (hc1 : Canon2 k0 a b) (hc2 : Canon2 k2 d e) (ht1 : TanOK k1 c) (ht2 : TanOK k3 f)
    (hs1 : k1 = .theta → sin c ≠ 0) (hs2 : k3 = .theta → sin f ≠ 0)
    (hm1 : 0 < mag2Of k0 k1 a b c) (hm2 : 0 < mag2Of k2 k3 d e f) (he : DotEtaOK k0 k1 k2 k3 c f) :
    spatial_deltaangle.evalDom k0 k1 k2 k3 a b c d e f := by
  have s1 := Spec.sinOK_iff.mpr hs1
  have s2 := Spec.sinOK_iff.mpr hs2
  have m1 := D.magDom_of_sinOK k0 k1 a b c s1
  have m2 := D.magDom_of_sinOK k2 k3 d e f s2
  have n1 := spatial_mag_ne_zero k0 k1 a b c hc1 s1 hm1
  have n2 := spatial_mag_ne_zero k2 k3 d e f hc2 s2 hm2
  have dd := dom_spatial_dot_partial k0 k1 k2 k3 a b c d e f ht1 ht2 s1 s2 he
  cases k0 <;> cases k2 <;> cases k1 <;> cases k3 <;>
    simp only [dd_spatial_deltaangle] <;>
    -- the second shape: the keys under which the `Dom` of the `dot` variant is `True` and is left out
    first
      | exact ⟨m1, m2, dd, n1, n2, D.clamp_mem _⟩
      | exact ⟨m1, m2, n1, n2, D.clamp_mem _⟩

/-- the same under the hypotheses of `refine_spatial_deltaangle_canon` (same EXTRA HYPOTHESES) -/
theorem dom_spatial_deltaangle_canon_partial (k0 : Az) (k1 : Lon) (k2 : Az) (k3 : Lon) (a b c d e f : ℝ)
    (hc1 : Canon3 k0 k1 a b c) (hc2 : Canon3 k2 k3 d e f) (ht1 : TanOK k1 c) (ht2 : TanOK k3 f)
    (hm1 : 0 < mag2Of k0 k1 a b c) (hm2 : 0 < mag2Of k2 k3 d e f) (he : DotEtaOK k0 k1 k2 k3 c f) :
    spatial_deltaangle.evalDom k0 k1 k2 k3 a b c d e f := by
  refine dom_spatial_deltaangle_partial k0 k1 k2 k3 a b c d e f hc1.1 hc2.1 ht1 ht2 ?_ ?_ hm1 hm2 he
  · exact Spec.sin_ne_zero_of_canonLon hc1.2
  · exact Spec.sin_ne_zero_of_canonLon hc2.2

example : Canon2 .rhophi 2 7 ∧ Canon2 .xy 3 4 ∧ TanOK .theta 1 ∧ TanOK .z 5 ∧ ((Lon.theta = .theta) → sin (1 : ℝ) ≠ 0)
    ∧ 0 < mag2Of .rhophi .theta 2 7 1 ∧ 0 < mag2Of .xy .z 3 4 5 ∧ DotEtaOK .rhophi .theta .xy .z 1 5 := by
  have hs := L.sin_one_pos
  refine ⟨by norm_num [Canon2], trivial, Spec.tanOK_one .theta, trivial, fun _ => hs.ne', ?_, ?_, trivial⟩
  · rw [Spec.mag2Of_eq]
    have : (0 : ℝ) < rhoOf .rhophi 2 7 := by norm_num [rhoOf]
    positivity
  · norm_num [mag2Of, xOf, yOf, zOf]

/-! ### deltaeta, deltaR2, deltaR -/

theorem dom_spatial_deltaeta (k0 : Az) (k1 : Lon) (k2 : Az) (k3 : Lon) (a b c d e f : ℝ)
    (hr1 : 0 < rhoOf k0 a b) (hr2 : 0 < rhoOf k2 d e)
    (h1 : CanonLon k0 k1 a b c) (h2 : CanonLon k2 k3 d e f) :
    spatial_deltaeta.evalDom k0 k1 k2 k3 a b c d e f := by
  have e1 := dom_spatial_eta k0 k1 a b c h1 hr1
  have e2 := dom_spatial_eta k2 k3 d e f h2 hr2
  cases k0 <;> cases k2 <;> cases k1 <;> cases k3 <;>
    dsimp only [dd_spatial_deltaeta] <;> (with_reducible and_intros) <;> assumption

theorem dom_spatial_deltaR2 (k0 : Az) (k1 : Lon) (k2 : Az) (k3 : Lon) (a b c d e f : ℝ)
    (hr1 : 0 < rhoOf k0 a b) (hr2 : 0 < rhoOf k2 d e)
    (h1 : CanonLon k0 k1 a b c) (h2 : CanonLon k2 k3 d e f) :
    spatial_deltaR2.evalDom k0 k1 k2 k3 a b c d e f := by
  have de := dom_spatial_deltaeta k0 k1 k2 k3 a b c d e f hr1 hr2 h1 h2
  cases k0 <;> cases k2 <;> cases k1 <;> cases k3 <;>
    simp only [dd_spatial_deltaR2, dd_planar_deltaphi] <;>
    -- the second shape: both operands store `η`, the `Dom` of the `deltaeta` variant is `True` and is left out
    first
      | exact ⟨L.two_pi_ne_zero, de⟩
      | exact L.two_pi_ne_zero

/-- hypotheses: those of `refine_spatial_deltaR_key` (= those of `refine_spatial_deltaR2`).  The structural theorem
`refine_spatial_deltaR` (`deltaR = √deltaR2`, no hypotheses) says nothing about the denotation and is NOT regular on the
z axis (`ρ = 0`: `arcsinh (z / ρ)`). -/
theorem dom_spatial_deltaR (k0 : Az) (k1 : Lon) (k2 : Az) (k3 : Lon) (a b c d e f : ℝ)
    (hr1 : 0 < rhoOf k0 a b) (hr2 : 0 < rhoOf k2 d e)
    (h1 : CanonLon k0 k1 a b c) (h2 : CanonLon k2 k3 d e f) :
    spatial_deltaR.evalDom k0 k1 k2 k3 a b c d e f := by
  have d2 := dom_spatial_deltaR2 k0 k1 k2 k3 a b c d e f hr1 hr2 h1 h2
  have nn : 0 ≤ spatial_deltaR2.eval k0 k1 k2 k3 a b c d e f := by
    rw [refine_spatial_deltaR2 k0 k1 k2 k3 a b c d e f hr1 hr2 h1 h2]; positivity
  cases k0 <;> cases k2 <;> cases k1 <;> cases k3 <;>
    simp only [dd_spatial_deltaR] <;> exact ⟨d2, nn⟩

example : 0 < rhoOf .xy 3 4 ∧ 0 < rhoOf .rhophi 2 7 ∧ CanonLon .xy .theta 3 4 1 ∧ CanonLon .rhophi .eta 2 7 (-1) := by
  have h : 0 < rhoOf .xy 3 4 := L.sqrt_sumsq_pos (Or.inl (by norm_num))
  have h' : 0 < rhoOf .rhophi 2 7 := by norm_num [rhoOf]
  exact ⟨h, h', ⟨h, one_pos, by linarith [two_le_pi]⟩, h'⟩

/-! ### equal, not_equal, isclose -/

/-- regularity of the one conversion made by the `equal` / `not_equal` / `isclose` variant under a key: a θ/η operand is
converted to `z` (`spatial_z`) when the other stores `z`, a θ operand to `η` (`spatial_eta`) when the other stores `η`;
operands of like kind are compared as stored -/
def CmpDom (k0 : Az) (k1 : Lon) (k2 : Az) (k3 : Lon) (a0 a1 a2 a3 a4 a5 : ℝ) : Prop :=
  match k1, k3 with
  | .z, .z => True
  | .theta, .theta => True
  | .eta, .eta => True
  | .z, _ => spatial_z.evalDom k2 k3 a3 a4 a5
  | _, .z => spatial_z.evalDom k0 k1 a0 a1 a2
  | .theta, .eta => spatial_eta.evalDom k0 .theta a0 a1 a2
  | .eta, .theta => spatial_eta.evalDom k2 .theta a3 a4 a5

theorem cmpDom_of_canonLon (k0 : Az) (k1 : Lon) (k2 : Az) (k3 : Lon) (a0 a1 a2 a3 a4 a5 : ℝ)
    (c1 : CanonLon k0 k1 a0 a1 a2) (c2 : CanonLon k2 k3 a3 a4 a5) (t1 : TanOK k1 a2) (t2 : TanOK k3 a5) :
    CmpDom k0 k1 k2 k3 a0 a1 a2 a3 a4 a5 := by
  have z1 := dom_spatial_z_partial k0 k1 a0 a1 a2 t1 (Spec.SinOK_of_canonLon c1)
  have z2 := dom_spatial_z_partial k2 k3 a3 a4 a5 t2 (Spec.SinOK_of_canonLon c2)
  cases k1 <;> cases k3
  · trivial
  · exact z2
  · exact z2
  · exact z1
  · trivial
  · exact dom_spatial_eta k0 .theta a0 a1 a2 c1 c1.1
  · exact z1
  · exact dom_spatial_eta k2 .theta a3 a4 a5 c2 c2.1
  · trivial

theorem spatial_equal_evalDom_eq (k0 : Az) (k1 : Lon) (k2 : Az) (k3 : Lon) (a0 a1 a2 a3 a4 a5 : ℝ) :
    spatial_equal.evalDom k0 k1 k2 k3 a0 a1 a2 a3 a4 a5 = CmpDom k0 k1 k2 k3 a0 a1 a2 a3 a4 a5 := by
  cases k0 <;> cases k1 <;> cases k2 <;> cases k3 <;> rfl

theorem spatial_not_equal_evalDom_eq (k0 : Az) (k1 : Lon) (k2 : Az) (k3 : Lon) (a0 a1 a2 a3 a4 a5 : ℝ) :
    spatial_not_equal.evalDom k0 k1 k2 k3 a0 a1 a2 a3 a4 a5 = CmpDom k0 k1 k2 k3 a0 a1 a2 a3 a4 a5 := by
  cases k0 <;> cases k1 <;> cases k2 <;> cases k3 <;> rfl

theorem spatial_isclose_evalDom_eq (k0 : Az) (k1 : Lon) (k2 : Az) (k3 : Lon) (r t e a0 a1 a2 a3 a4 a5 : ℝ) :
    spatial_isclose.evalDom k0 k1 k2 k3 r t e a0 a1 a2 a3 a4 a5 = CmpDom k0 k1 k2 k3 a0 a1 a2 a3 a4 a5 := by
  cases k0 <;> cases k1 <;> cases k2 <;> cases k3 <;> rfl

theorem dom_spatial_equal (k0 : Az) (k1 : Lon) (k2 : Az) (k3 : Lon) (a0 a1 a2 a3 a4 a5 : ℝ)
    (c1 : Canon3 k0 k1 a0 a1 a2) (c2 : Canon3 k2 k3 a3 a4 a5) (t1 : TanOK k1 a2) (t2 : TanOK k3 a5)
    (_h : spatial_equal.eval k0 k1 k2 k3 a0 a1 a2 a3 a4 a5) :
    spatial_equal.evalDom k0 k1 k2 k3 a0 a1 a2 a3 a4 a5 := by
  rw [spatial_equal_evalDom_eq]
  exact cmpDom_of_canonLon k0 k1 k2 k3 a0 a1 a2 a3 a4 a5 c1.2 c2.2 t1 t2

theorem dom_spatial_not_equal (k0 : Az) (k1 : Lon) (k2 : Az) (k3 : Lon) (a0 a1 a2 a3 a4 a5 : ℝ)
    (c1 : Canon3 k0 k1 a0 a1 a2) (c2 : Canon3 k2 k3 a3 a4 a5) (t1 : TanOK k1 a2) (t2 : TanOK k3 a5)
    (_h : ¬ cart3 k0 k1 a0 a1 a2 = cart3 k2 k3 a3 a4 a5) :
    spatial_not_equal.evalDom k0 k1 k2 k3 a0 a1 a2 a3 a4 a5 := by
  rw [spatial_not_equal_evalDom_eq]
  exact cmpDom_of_canonLon k0 k1 k2 k3 a0 a1 a2 a3 a4 a5 c1.2 c2.2 t1 t2

example : Canon3 .rhophi .theta 2 1 1 ∧ Canon3 .xy .eta 3 4 0 ∧ TanOK .theta 1 ∧ TanOK .eta 0 := by
  have h : 0 < rhoOf .xy 3 4 := L.sqrt_sumsq_pos (Or.inl (by norm_num))
  refine ⟨⟨by norm_num [Canon2], ⟨by norm_num [rhoOf], one_pos, by linarith [two_le_pi]⟩⟩, ⟨trivial, h⟩,
    Spec.tanOK_one .theta, trivial⟩

/-- `isclose` between operands of the SAME coordinate system (the setting of `c12_spatial_isclose_same` / `_refl`) compares
the stored coordinates: no partial primitive at all -/
theorem dom_spatial_isclose_same (k0 : Az) (k1 : Lon) (r t e a0 a1 a2 b0 b1 b2 : ℝ) :
    spatial_isclose.evalDom k0 k1 k0 k1 r t e a0 a1 a2 b0 b1 b2 := by
  cases k0 <;> cases k1 <;> simp only [dd_spatial_isclose]

/-- EXTRA HYPOTHESIS: `c1`, `c2`, `t1`, `t2` (those of `refine_spatial_equal`).  The `c12_spatial_isclose_of_eq` / `_mono` /
`c08_spatial_isclose_iff_equal` theorems are stated for all 36 key pairs with NO hypothesis on the operands (they are
propositional consequences of the definitions), but the mixed keys convert a θ operand with `ρ / tan θ` (θ against `z`:
needs `cos θ ≠ 0`, `sin θ ≠ 0`) or `-log tan (θ/2)` (θ against η: needs `0 < θ < π`). -/
theorem dom_spatial_isclose_partial (k0 : Az) (k1 : Lon) (k2 : Az) (k3 : Lon) (r t e a0 a1 a2 a3 a4 a5 : ℝ)
    (c1 : Canon3 k0 k1 a0 a1 a2) (c2 : Canon3 k2 k3 a3 a4 a5) (t1 : TanOK k1 a2) (t2 : TanOK k3 a5) :
    spatial_isclose.evalDom k0 k1 k2 k3 r t e a0 a1 a2 a3 a4 a5 := by
  rw [spatial_isclose_evalDom_eq]
  exact cmpDom_of_canonLon k0 k1 k2 k3 a0 a1 a2 a3 a4 a5 c1.2 c2.2 t1 t2

/-! ### is_parallel, is_antiparallel, is_perpendicular

`dot` against `|tol|`-scaled `mag · mag` (no division): regular wherever `dot` and both `mag` are. -/

/-- EXTRA HYPOTHESIS: `h1`, `h2`, `hs1`, `hs2`, `he` (all of them: `c13_spatial_is_parallel_iff` is a definitional unfolding
with no hypothesis).  θ operands need `cos θ ≠ 0` and `sin θ ≠ 0` (`ρ / tan θ` in `dot`, `ρ / |sin θ|` in `mag`); the keys
`rhophi_eta_rhophi_theta` / `rhophi_theta_rhophi_eta` need `η ≠ 0` (inherited from `dot`). -/
theorem dom_spatial_is_parallel_partial (k0 : Az) (k1 : Lon) (k2 : Az) (k3 : Lon) (tol a0 a1 a2 b0 b1 b2 : ℝ)
    (h1 : TanOK k1 a2) (h2 : TanOK k3 b2) (hs1 : SinOK k1 a2) (hs2 : SinOK k3 b2) (he : DotEtaOK k0 k1 k2 k3 a2 b2) :
    spatial_is_parallel.evalDom k0 k1 k2 k3 tol a0 a1 a2 b0 b1 b2 := by
  have m1 := D.magDom_of_sinOK k0 k1 a0 a1 a2 hs1
  have m2 := D.magDom_of_sinOK k2 k3 b0 b1 b2 hs2
  have dd := dom_spatial_dot_partial k0 k1 k2 k3 a0 a1 a2 b0 b1 b2 h1 h2 hs1 hs2 he
  cases k0 <;> cases k2 <;> cases k1 <;> cases k3 <;>
    dsimp only [dd_spatial_is_parallel] <;> (with_reducible and_intros) <;> assumption

/-- EXTRA HYPOTHESIS: as for `dom_spatial_is_parallel_partial` -/
theorem dom_spatial_is_antiparallel_partial (k0 : Az) (k1 : Lon) (k2 : Az) (k3 : Lon) (tol a0 a1 a2 b0 b1 b2 : ℝ)
    (h1 : TanOK k1 a2) (h2 : TanOK k3 b2) (hs1 : SinOK k1 a2) (hs2 : SinOK k3 b2) (he : DotEtaOK k0 k1 k2 k3 a2 b2) :
    spatial_is_antiparallel.evalDom k0 k1 k2 k3 tol a0 a1 a2 b0 b1 b2 := by
  have e : spatial_is_antiparallel.evalDom k0 k1 k2 k3 tol a0 a1 a2 b0 b1 b2 =
      spatial_is_parallel.evalDom k0 k1 k2 k3 tol a0 a1 a2 b0 b1 b2 := by
    cases k0 <;> cases k1 <;> cases k2 <;> cases k3 <;> rfl
  rw [e]
  exact dom_spatial_is_parallel_partial k0 k1 k2 k3 tol a0 a1 a2 b0 b1 b2 h1 h2 hs1 hs2 he

/-- EXTRA HYPOTHESIS: as for `dom_spatial_is_parallel_partial` -/
theorem dom_spatial_is_perpendicular_partial (k0 : Az) (k1 : Lon) (k2 : Az) (k3 : Lon) (tol a0 a1 a2 b0 b1 b2 : ℝ)
    (h1 : TanOK k1 a2) (h2 : TanOK k3 b2) (hs1 : SinOK k1 a2) (hs2 : SinOK k3 b2) (he : DotEtaOK k0 k1 k2 k3 a2 b2) :
    spatial_is_perpendicular.evalDom k0 k1 k2 k3 tol a0 a1 a2 b0 b1 b2 := by
  have e : spatial_is_perpendicular.evalDom k0 k1 k2 k3 tol a0 a1 a2 b0 b1 b2 =
      spatial_is_parallel.evalDom k0 k1 k2 k3 tol a0 a1 a2 b0 b1 b2 := by
    cases k0 <;> cases k1 <;> cases k2 <;> cases k3 <;> rfl
  rw [e]
  exact dom_spatial_is_parallel_partial k0 k1 k2 k3 tol a0 a1 a2 b0 b1 b2 h1 h2 hs1 hs2 he

example : TanOK .theta 1 ∧ TanOK .eta 2 ∧ SinOK .theta 1 ∧ SinOK .eta 2 ∧ DotEtaOK .rhophi .theta .rhophi .eta 1 2 :=
  ⟨Spec.tanOK_one .theta, trivial, Spec.sinOK_one .theta, trivial,
    two_ne_zero⟩

/-! ### add / subtract

31 keys convert the operands to `x, y, z` (only `spatial_z` is partial); the 5 same-system keys re-encode the longitudinal
coordinate of the sum (`spatial_theta.*_z`, `spatial_eta.*_z`), regular because the result is off the z axis
(`Representable3`). -/

/-- the re-encoder `spatial_theta.*_z` applied to a result off the z axis: the accessor theorem at a `z` key (for
`spatial_eta.*_z`, `dom_spatial_eta` at a `z` key: `√(x² + y²) ≠ 0` resp. `ρ ≠ 0`) -/
private theorem theta_z_dom (k0 : Az) (a b z : ℝ) (hr : 0 < rhoOf k0 a b) : spatial_theta.evalDom k0 .z a b z :=
  dom_spatial_theta k0 .z a b z ⟨Spec.canon2_of_rho_pos hr, trivial⟩ (Spec.mag2Of_pos hr)

private theorem padd_dom (r1 p1 r2 p2 : ℝ) : planar_add.rhophi_rhophi.Dom r1 p1 r2 p2 :=
  ⟨by positivity, L.two_pi_ne_zero⟩
private theorem psub_dom (r1 p1 r2 p2 : ℝ) : planar_subtract.rhophi_rhophi.Dom r1 p1 r2 p2 :=
  ⟨by positivity, L.two_pi_ne_zero⟩

/-- EXTRA HYPOTHESIS: `hs1`/`hs2` (`sin θ ≠ 0` for every θ operand, all 20 keys with a θ operand: the converter computes
`ρ / tan θ`; `refine_spatial_add` assumes only `TanOK`, and holds at `θ = 0, π` through Lean's `1 / 0 = 0`). -/
theorem dom_spatial_add_partial (k0 : Az) (k1 : Lon) (k2 : Az) (k3 : Lon) (a0 a1 a2 a3 a4 a5 : ℝ)
    (h1 : TanOK k1 a2) (h2 : TanOK k3 a5)
    (hrep : Representable3 (spatial_add.ret k0 k1 k2 k3) (add3 (cart3 k0 k1 a0 a1 a2) (cart3 k2 k3 a3 a4 a5)))
    (hs1 : SinOK k1 a2) (hs2 : SinOK k3 a5) :
    spatial_add.evalDom k0 k1 k2 k3 a0 a1 a2 a3 a4 a5 := by
  have z1 := dom_spatial_z_partial k0 k1 a0 a1 a2 h1 hs1
  have z2 := dom_spatial_z_partial k2 k3 a3 a4 a5 h2 hs2
  have hρ := planar_add_rho_pos a0 a1 a3 a4
  cases k0 <;> cases k2 <;> cases k1 <;> cases k3 <;> dsimp only [dd_spatial_add]
  case xy.xy.theta.theta => exact ⟨z1, z2, theta_z_dom .xy _ _ _ (Real.sqrt_pos.mpr (hrep.resolve_left nofun))⟩
  case xy.xy.eta.eta => exact ⟨z1, z2, dom_spatial_eta .xy .z _ _ 0 trivial (Real.sqrt_pos.mpr (hrep.resolve_left nofun))⟩
  case rhophi.rhophi.z.z => exact padd_dom ..
  case rhophi.rhophi.theta.theta => exact ⟨padd_dom .., z1, z2, theta_z_dom .rhophi _ _ _ (hρ (hrep.resolve_left nofun))⟩
  case rhophi.rhophi.eta.eta => exact ⟨padd_dom .., (hρ (hrep.resolve_left nofun)).ne'⟩
  all_goals (with_reducible and_intros) <;> assumption

/-- EXTRA HYPOTHESIS: `hs1`/`hs2`, as for `dom_spatial_add_partial` -/
theorem dom_spatial_subtract_partial (k0 : Az) (k1 : Lon) (k2 : Az) (k3 : Lon) (a0 a1 a2 a3 a4 a5 : ℝ)
    (h1 : TanOK k1 a2) (h2 : TanOK k3 a5)
    (hrep : Representable3 (spatial_subtract.ret k0 k1 k2 k3) (sub3 (cart3 k0 k1 a0 a1 a2) (cart3 k2 k3 a3 a4 a5)))
    (hs1 : SinOK k1 a2) (hs2 : SinOK k3 a5) :
    spatial_subtract.evalDom k0 k1 k2 k3 a0 a1 a2 a3 a4 a5 := by
  have z1 := dom_spatial_z_partial k0 k1 a0 a1 a2 h1 hs1
  have z2 := dom_spatial_z_partial k2 k3 a3 a4 a5 h2 hs2
  have hρ := planar_subtract_rho_pos a0 a1 a3 a4
  cases k0 <;> cases k2 <;> cases k1 <;> cases k3 <;> dsimp only [dd_spatial_subtract]
  case xy.xy.theta.theta => exact ⟨z1, z2, theta_z_dom .xy _ _ _ (Real.sqrt_pos.mpr (hrep.resolve_left nofun))⟩
  case xy.xy.eta.eta => exact ⟨z1, z2, dom_spatial_eta .xy .z _ _ 0 trivial (Real.sqrt_pos.mpr (hrep.resolve_left nofun))⟩
  case rhophi.rhophi.z.z => exact psub_dom ..
  case rhophi.rhophi.theta.theta => exact ⟨psub_dom .., z1, z2, theta_z_dom .rhophi _ _ _ (hρ (hrep.resolve_left nofun))⟩
  case rhophi.rhophi.eta.eta => exact ⟨psub_dom .., (hρ (hrep.resolve_left nofun)).ne'⟩
  all_goals (with_reducible and_intros) <;> assumption

example : TanOK .theta 1 ∧ SinOK .theta 1 ∧ Representable3 (spatial_add.ret .xy .theta .xy .theta)
    (add3 (cart3 .xy .theta 1 0 1) (cart3 .xy .theta 1 0 1)) :=
  ⟨Spec.tanOK_one .theta, Spec.sinOK_one .theta,
    Or.inr (by norm_num [add3, cart3, xOf, yOf])⟩

/-! ### the EXTRA HYPOTHESES are necessary: inputs satisfying the refinement hypotheses at which the code is singular -/

/-- `θ = 0` satisfies `TanOK` (`cos 0 = 1`) but `ρ / tan 0` divides by zero (real code: `dot = inf`; `refine_spatial_dot`
claims `1`) -/
theorem dom_spatial_dot_needs_sinOK :
    TanOK .theta 0 ∧ TanOK .z 1 ∧ ¬ spatial_dot.evalDom .xy .theta .xy .z 1 0 0 1 0 1 := by
  refine ⟨Spec.TanOK_theta_zero, trivial, ?_⟩
  simp only [dd_spatial_dot, dd_spatial_z]
  intro h
  exact h.2.2 Real.tan_zero

/-- `η = 0` against a θ operand in polar azimuth: `tan (2 arctan e^0) = tan (π/2)` (real code: finite, because the float
nearest to `π/2` has a finite tangent; removable, like `TanOK`) -/
theorem dom_spatial_dot_needs_etaOK :
    TanOK .eta 0 ∧ TanOK .theta 1 ∧ SinOK .theta 1 ∧ ¬ spatial_dot.evalDom .rhophi .eta .rhophi .theta 1 0 0 1 0 1 := by
  refine ⟨trivial, Spec.tanOK_one .theta, Spec.sinOK_one .theta, ?_⟩
  simp only [dd_spatial_dot, d_spatial_theta]
  intro h
  apply h.1
  have e : (2.0 : ℝ) * arctan (exp (-0)) = π / 2 := by
    rw [L.two_pt_zero, neg_zero, Real.exp_zero, Real.arctan_one]; ring
  rw [e, Real.cos_pi_div_two]

/-- a zero operand satisfies every hypothesis of `refine_spatial_deltaangle` but `dot / |p₁|` divides by zero (real code:
`nan`; the refinement theorem claims `arccos 0 = π/2`) -/
theorem dom_spatial_deltaangle_needs_nonzero :
    Canon2 .xy 0 0 ∧ TanOK .z 0 ∧ ¬ spatial_deltaangle.evalDom .xy .z .xy .z 0 0 0 1 0 0 := by
  refine ⟨trivial, trivial, ?_⟩
  simp only [dd_spatial_deltaangle, d_spatial_mag, d_spatial_mag2]
  intro h
  apply h.2.2.1
  norm_num

end VR
