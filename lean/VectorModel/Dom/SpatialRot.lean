/-
Regularity ("Dom") theorems for the spatial rotation / transform modules
`rotateX`, `rotateY`, `rotate_axis`, `rotate_euler` (72 keys), `rotate_quaternion`, `transform3D`.

Every non-Cartesian variant of these modules converts its operand(s) to Cartesian components with the accessors
`planar_x`, `planar_y`, `spatial_z` and then applies the Cartesian variant; all results are Cartesian `(xy, z)`.  The only
partial primitives are therefore
* `ρ / tan θ` in `spatial_z.*_theta` (side-conditions `cos θ ≠ 0`, `tan θ ≠ 0`),
* `√(x² + y²)` in `spatial_z.xy_*` (side-condition `0 ≤ x² + y²`, always true),
* the normalisation `u / √(ux² + uy² + uz²)` of the axis in `rotate_axis.cartesian`.

FINDINGS.  The refinement theorems of these modules (`refine_spatial_rotateX`, …, `refine_spatial_rotate_axis` in
Refine/SpatialRot.lean) carry only `TanOK k1 c` (`cos θ ≠ 0`).  That does NOT imply `tan θ ≠ 0`: at `θ = 0` (and `θ = π`)
the code divides by `tan θ = 0`.  And `refine_spatial_rotate_axis` admits the zero vector as axis, where the code divides
by `√0 = 0`.  Hence all six theorems below are `…_partial`, with the extra hypotheses spelt out.
-/
import VectorModel.Dom.Basic
import VectorModel.Dom.Planar
import VectorModel.Refine.SpatialRot

namespace VR
open VK Spec Real

private theorem dom_z (k0 : Az) (k1 : Lon) (a b c : ℝ) (h : TanOK k1 c) (hs : k1 = .theta → sin c ≠ 0) :
    spatial_z.evalDom k0 k1 a b c :=
  dom_spatial_z_partial k0 k1 a b c h (Spec.sinOK_iff.mpr hs)

/-! ### rotateX, rotateY, rotate_quaternion, transform3D, rotate_euler: `evalDom` is that of `spatial_z` on the operand

The five `_partial` / `_canon` pairs differ only in the module (the generated predicates are separate constants, so there
is no statement over "the module"); each docstring records what the real code returns for that module at `θ = 0`. -/

/-- EXTRA HYPOTHESIS: `hs : k1 = .theta → sin c ≠ 0`.  Needed by the keys `(xy, theta)` and `(rhophi, theta)`, whose
variants compute `z = ρ / tan θ`: `refine_spatial_rotateX` assumes only `TanOK k1 c` (`cos θ ≠ 0`), which holds at `θ = 0`
where `tan θ = 0`.  There the real code returns `z = +inf` for `ρ > 0` (e.g. `rho=1, phi=0, theta=0`, angle 0.3 gives
`(1, -inf, inf)`), whereas the refinement theorem, through Lean's `1 / 0 = 0`, claims `rotX` of `(1, 0, 0)`. -/
theorem dom_spatial_rotateX_partial (k0 : Az) (k1 : Lon) (ang a b c : ℝ) (h : TanOK k1 c)
    (hs : k1 = .theta → sin c ≠ 0) :
    spatial_rotateX.evalDom k0 k1 ang a b c := by
  have hz := dom_z k0 k1 a b c h hs
  cases k0 <;> cases k1 <;> exact hz

/-- the same under the representable-domain hypothesis `CanonLon` (which gives `0 < θ < π`) -/
theorem dom_spatial_rotateX_canon (k0 : Az) (k1 : Lon) (ang a b c : ℝ) (h : TanOK k1 c)
    (hc : CanonLon k0 k1 a b c) :
    spatial_rotateX.evalDom k0 k1 ang a b c :=
  dom_spatial_rotateX_partial k0 k1 ang a b c h (Spec.sin_ne_zero_of_canonLon hc)

/-- EXTRA HYPOTHESIS: `hs : k1 = .theta → sin c ≠ 0` (keys `(xy, theta)`, `(rhophi, theta)`; `z = ρ / tan θ` at `θ = 0`,
see `dom_spatial_rotateX_partial`).  Real code at `rho=1, phi=0, theta=0`, angle 0.3: `(inf, 0, inf)`. -/
theorem dom_spatial_rotateY_partial (k0 : Az) (k1 : Lon) (ang a b c : ℝ) (h : TanOK k1 c)
    (hs : k1 = .theta → sin c ≠ 0) :
    spatial_rotateY.evalDom k0 k1 ang a b c := by
  have hz := dom_z k0 k1 a b c h hs
  cases k0 <;> cases k1 <;> exact hz

theorem dom_spatial_rotateY_canon (k0 : Az) (k1 : Lon) (ang a b c : ℝ) (h : TanOK k1 c)
    (hc : CanonLon k0 k1 a b c) :
    spatial_rotateY.evalDom k0 k1 ang a b c :=
  dom_spatial_rotateY_partial k0 k1 ang a b c h (Spec.sin_ne_zero_of_canonLon hc)

/-- EXTRA HYPOTHESIS: `hs : k1 = .theta → sin c ≠ 0` (keys `(xy, theta)`, `(rhophi, theta)`; `z = ρ / tan θ` at `θ = 0`).
Real code at `rho=1, phi=0, theta=0` with the identity quaternion `(1, 0, 0, 0)`: `(nan, nan, inf)`; the refinement
theorem claims the Cartesian formula on `(1, 0, 0)`. -/
theorem dom_spatial_rotate_quaternion_partial (k0 : Az) (k1 : Lon) (u i j k a b c : ℝ) (h : TanOK k1 c)
    (hs : k1 = .theta → sin c ≠ 0) :
    spatial_rotate_quaternion.evalDom k0 k1 u i j k a b c := by
  have hz := dom_z k0 k1 a b c h hs
  cases k0 <;> cases k1 <;> exact hz

theorem dom_spatial_rotate_quaternion_canon (k0 : Az) (k1 : Lon) (u i j k a b c : ℝ) (h : TanOK k1 c)
    (hc : CanonLon k0 k1 a b c) :
    spatial_rotate_quaternion.evalDom k0 k1 u i j k a b c :=
  dom_spatial_rotate_quaternion_partial k0 k1 u i j k a b c h (Spec.sin_ne_zero_of_canonLon hc)

/-- EXTRA HYPOTHESIS: `hs : k1 = .theta → sin c ≠ 0` (keys `(xy, theta)`, `(rhophi, theta)`; `z = ρ / tan θ` at `θ = 0`).
Real code at `rho=1, phi=0, theta=0` with the identity matrix: `(nan, nan, inf)`; `refine_spatial_transform3D_interp`
claims `(1, 0, 0)`. -/
theorem dom_spatial_transform3D_partial (k0 : Az) (k1 : Lon) (xx xy xz yx yy yz zx zy zz a b c : ℝ)
    (h : TanOK k1 c) (hs : k1 = .theta → sin c ≠ 0) :
    spatial_transform3D.evalDom k0 k1 xx xy xz yx yy yz zx zy zz a b c := by
  have hz := dom_z k0 k1 a b c h hs
  cases k0 <;> cases k1 <;> exact hz

theorem dom_spatial_transform3D_canon (k0 : Az) (k1 : Lon) (xx xy xz yx yy yz zx zy zz a b c : ℝ)
    (h : TanOK k1 c) (hc : CanonLon k0 k1 a b c) :
    spatial_transform3D.evalDom k0 k1 xx xy xz yx yy yz zx zy zz a b c :=
  dom_spatial_transform3D_partial k0 k1 xx xy xz yx yy yz zx zy zz a b c h (Spec.sin_ne_zero_of_canonLon hc)

/-- EXTRA HYPOTHESIS: `hs : k1 = .theta → sin c ≠ 0` (the 24 keys `(xy | rhophi, theta, order)`; `z = ρ / tan θ` at
`θ = 0`).  Real code at `rho=1, phi=0, theta=0`, angles `(0.1, 0.2, 0.3)`, order `zxz`: `(inf, inf, inf)`. -/
theorem dom_spatial_rotate_euler_partial (k0 : Az) (k1 : Lon) (o : Ord) (phi theta psi a b c : ℝ)
    (h : TanOK k1 c) (hs : k1 = .theta → sin c ≠ 0) :
    spatial_rotate_euler.evalDom k0 k1 o phi theta psi a b c := by
  have hz := dom_z k0 k1 a b c h hs
  cases k0 <;> cases k1 <;> cases o <;> exact hz

theorem dom_spatial_rotate_euler_canon (k0 : Az) (k1 : Lon) (o : Ord) (phi theta psi a b c : ℝ)
    (h : TanOK k1 c) (hc : CanonLon k0 k1 a b c) :
    spatial_rotate_euler.evalDom k0 k1 o phi theta psi a b c :=
  dom_spatial_rotate_euler_partial k0 k1 o phi theta psi a b c h (Spec.sin_ne_zero_of_canonLon hc)

/-- the hypotheses (with the extra one) are satisfiable for θ storage, and `CanonLon` too -/
example : TanOK .theta 1 ∧ ((Lon.theta = .theta) → sin (1 : ℝ) ≠ 0) ∧ CanonLon .rhophi .theta 2 1 1 :=
  ⟨Spec.tanOK_one .theta, fun _ => Spec.sinOK_one .theta, ⟨two_pos, one_pos, L.one_lt_pi⟩⟩

/-- the refinement hypothesis alone is satisfied at the singular point `θ = 0`, where the side-condition fails -/
example : TanOK .theta 0 ∧ ¬ spatial_rotateX.evalDom .rhophi .theta 0.3 1 0 0 := by
  exact ⟨Spec.TanOK_theta_zero, fun h => h.2 Real.tan_zero⟩

/-! ### rotate_axis (36 keys: axis × vector) -/

/-- the Cartesian variant normalises the axis: regular iff the axis is not the zero vector -/
private theorem dom_axis_cart (ang x1 y1 z1 x2 y2 z2 : ℝ) (hu : 0 < x1 ^ 2 + y1 ^ 2 + z1 ^ 2) :
    spatial_rotate_axis.cartesian.Dom ang x1 y1 z1 x2 y2 z2 :=
  ⟨hu.le, (Real.sqrt_pos.mpr hu).ne'⟩

/-- EXTRA HYPOTHESES (`refine_spatial_rotate_axis` has only `h1`, `h2`):
* `hu : 0 < mag2Of k0 k1 a b c` — ALL 36 keys: `rotate_axis.cartesian` divides the axis by its length
  `√(ux² + uy² + uz²)`.  At the zero axis the real code returns `(nan, nan, nan)` (`x=1,y=2,z=3` about `x=0,y=0,z=0`);
  the refinement theorem (C01: every key equals the Cartesian key on the denotations) holds there only because both
  sides consult Lean's `u / 0 = 0`.  The C10 theorems (`c10_rotate_axis_dot`, `…_eval_dot`, …) do carry this hypothesis.
* `hs1 : k1 = .theta → sin c ≠ 0`, `hs2 : k3 = .theta → sin f ≠ 0` — the keys with θ storage for the axis resp. the
  vector: `z = ρ / tan θ` at `θ = 0` (`cos θ ≠ 0` does not exclude it).  Real code, axis `rho=1, phi=0, theta=0`:
  `(nan, nan, nan)`. -/
theorem dom_spatial_rotate_axis_partial (k0 : Az) (k1 : Lon) (k2 : Az) (k3 : Lon) (ang a b c d e f : ℝ)
    (h1 : TanOK k1 c) (h2 : TanOK k3 f)
    (hu : 0 < mag2Of k0 k1 a b c) (hs1 : k1 = .theta → sin c ≠ 0) (hs2 : k3 = .theta → sin f ≠ 0) :
    spatial_rotate_axis.evalDom k0 k1 k2 k3 ang a b c d e f := by
  have hz1 := dom_z k0 k1 a b c h1 hs1
  have hz2 := dom_z k2 k3 d e f h2 hs2
  have hc : spatial_rotate_axis.cartesian.Dom ang (planar_x.eval k0 a b) (planar_y.eval k0 a b)
      (spatial_z.eval k0 k1 a b c) (planar_x.eval k2 d e) (planar_y.eval k2 d e) (spatial_z.eval k2 k3 d e f) := by
    apply dom_axis_cart
    rw [refine_spatial_z k0 k1 a b c h1, refine_planar_x, refine_planar_y]
    exact hu
  have := D.withZ k0 k1 hz1 (D.withZ k2 k3 hz2 hc)
  cases k0 <;> cases k1 <;> cases k2 <;> cases k3 <;> exact this

/-- under the representable-domain hypotheses: `CanonLon` gives `sin θ ≠ 0`; the non-zero axis is still needed
(`CanonLon` gives `0 < ρ` for θ/η storage only) -/
theorem dom_spatial_rotate_axis_canon (k0 : Az) (k1 : Lon) (k2 : Az) (k3 : Lon) (ang a b c d e f : ℝ)
    (h1 : TanOK k1 c) (h2 : TanOK k3 f)
    (hu : 0 < mag2Of k0 k1 a b c) (hc1 : CanonLon k0 k1 a b c) (hc2 : CanonLon k2 k3 d e f) :
    spatial_rotate_axis.evalDom k0 k1 k2 k3 ang a b c d e f :=
  dom_spatial_rotate_axis_partial k0 k1 k2 k3 ang a b c d e f h1 h2 hu
    (Spec.sin_ne_zero_of_canonLon hc1) (Spec.sin_ne_zero_of_canonLon hc2)

/-- the hypotheses are satisfiable (η-stored axis, θ-stored vector) -/
example : TanOK .eta 0 ∧ TanOK .theta 1 ∧ 0 < mag2Of .rhophi .eta 2 1 0 ∧ ((Lon.theta = .theta) → sin (1 : ℝ) ≠ 0) := by
  exact ⟨trivial, Spec.tanOK_one .theta, Spec.mag2Of_pos (k0 := .rhophi) two_pos, fun _ => Spec.sinOK_one .theta⟩

/-- the refinement hypotheses alone are satisfied at the zero axis, where the side-condition fails -/
example : TanOK .z 0 ∧ TanOK .z 3 ∧ ¬ spatial_rotate_axis.evalDom .xy .z .xy .z 0.3 0 0 0 1 2 3 := by
  refine ⟨trivial, trivial, fun h => h.2 ?_⟩
  show sqrt ((0 : ℝ) ^ 2 + 0 ^ 2 + 0 ^ 2) = 0
  rw [zero_pow two_ne_zero, add_zero, add_zero, sqrt_zero]

end VR
