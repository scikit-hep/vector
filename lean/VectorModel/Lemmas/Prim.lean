/- Helper lemmas about the real-number prelude (`Prim/Real.lean`). -/
import VectorModel.Prim.Real

namespace VR
namespace P

theorem isclose_iff (a b r t e : ℝ) : isclose a b r t e ↔ |a - b| ≤ t + r * |b| := Iff.rfl

theorem isclose_refl {r t : ℝ} (hr : 0 ≤ r) (ht : 0 ≤ t) (a e : ℝ) : isclose a a r t e := by
  unfold isclose
  rw [sub_self, abs_zero]
  exact add_nonneg ht (mul_nonneg hr (abs_nonneg a))

theorem isclose_of_eq {a b r t : ℝ} (h : a = b) (hr : 0 ≤ r) (ht : 0 ≤ t) (e : ℝ) : isclose a b r t e := by
  subst h; exact isclose_refl hr ht a e

theorem isclose_mono {a b r t r' t' e e' : ℝ} (h : isclose a b r t e) (hr : r ≤ r') (ht : t ≤ t') :
    isclose a b r' t' e' := by
  unfold isclose at *
  have := mul_le_mul_of_nonneg_right hr (abs_nonneg b)
  linarith

theorem copysign_of_nonneg (a : ℝ) {b : ℝ} (h : 0 ≤ b) : copysign a b = |a| := if_pos h

theorem copysign_of_neg (a : ℝ) {b : ℝ} (h : b < 0) : copysign a b = -|a| := if_neg (not_le.mpr h)

theorem abs_copysign (a b : ℝ) : |copysign a b| = |a| := by
  rcases le_or_gt 0 b with h | h
  · rw [copysign_of_nonneg _ h, abs_abs]
  · rw [copysign_of_neg _ h, abs_neg, abs_abs]

/-- `copysign(b², b)` for `0 ≤ b`: what the code stores as `tau2` for a τ-stored vector -/
theorem copysign_sq {b : ℝ} (h : 0 ≤ b) : copysign (b ^ 2) b = b ^ 2 := by
  rw [copysign_of_nonneg _ h, abs_of_nonneg (sq_nonneg b)]

/-! ### the signed square root `copysign (√|s|) s`: what the code stores as `tau` for `s = t² − |p|²` -/

theorem copysign_sqrt_abs_of_nonneg {s : ℝ} (h : 0 ≤ s) : copysign (Real.sqrt |s|) s = Real.sqrt s := by
  rw [copysign_of_nonneg _ h, abs_of_nonneg (Real.sqrt_nonneg _), abs_of_nonneg h]

theorem copysign_sqrt_abs_nonneg_iff (s : ℝ) : 0 ≤ copysign (Real.sqrt |s|) s ↔ 0 ≤ s := by
  refine ⟨fun h => le_of_not_gt fun hs => ?_, fun h => (copysign_of_nonneg _ h).symm ▸ abs_nonneg _⟩
  rw [copysign_of_neg _ hs, abs_of_nonneg (Real.sqrt_nonneg _), neg_nonneg] at h
  exact absurd (Real.sqrt_pos.mpr (abs_pos.mpr hs.ne)) (not_lt.mpr h)

theorem copysign_sqrt_abs_neg_iff (s : ℝ) : copysign (Real.sqrt |s|) s < 0 ↔ s < 0 := by
  rw [← not_le, copysign_sqrt_abs_nonneg_iff, not_le]

theorem copysign_sqrt_abs_sq (s : ℝ) : copysign (Real.sqrt |s|) s ^ 2 = |s| := by
  rcases le_or_gt 0 s with h | h
  · rw [copysign_of_nonneg _ h, sq_abs, Real.sq_sqrt (abs_nonneg s)]
  · rw [copysign_of_neg _ h, neg_sq, sq_abs, Real.sq_sqrt (abs_nonneg s)]

theorem copysign_sqrt_abs (s : ℝ) : copysign (Real.sqrt |s|) s = Real.sign s * Real.sqrt |s| := by
  rcases lt_trichotomy s 0 with hs | hs | hs
  · rw [copysign_of_neg _ hs, Real.sign_of_neg hs, abs_of_nonneg (Real.sqrt_nonneg _), neg_one_mul]
  · subst hs; rw [copysign_of_nonneg _ le_rfl, abs_zero, Real.sqrt_zero, abs_zero, mul_zero]
  · rw [copysign_of_nonneg _ hs.le, Real.sign_of_pos hs, abs_of_nonneg (Real.sqrt_nonneg _), one_mul]

end P
end VR
