/-
Tactics for goals about the generated list wrappers `<module>.evalL` (`Gen/Exec`, `Gen/Real`, `Gen/Sym`).
Every `M.evalL k a` is a `match` on the key list `k` and the argument list `a` (fixing their lengths), followed by the
decoding of every key atom with `KA.az?`, `KA.lon?`, `KA.tmp?`, `KA.ord?`; where all of that succeeds the result is
`some (packed result of M.eval at the decoded key, M.ret at the decoded key)`, otherwise `none`.  The number and kinds of
the key atoms differ from module to module, so the steps that take a `M.evalL` apart are tactics working on whatever
hypotheses of the relevant type are there, not lemmas.  Last, the instances by which a statement about all keys of a key type is
decidable.
-/
import Lean.Elab.Tactic
import VectorModel.Prim.Keys

namespace VK
open Lean Elab Tactic Meta

/-- `cases_first T₁ T₂ …`: `cases` on the first (oldest) local hypothesis whose type is one of the constants `Tᵢ`.
Write it in parentheses when another tactic follows on the next line. -/
elab "cases_first" ns:ident+ : tactic => withMainContext do
  let names ← ns.mapM fun n => realizeGlobalConstNoOverloadWithInfo n
  for d in (← getLCtx) do
    if d.isImplementationDetail then continue
    let ty ← whnfR (← instantiateMVars d.type)
    if names.any (ty.isConstOf ·) then
      let gs ← (← getMainGoal).cases d.fvarId
      replaceMainGoal (gs.map (·.mvarId)).toList
      return
  throwError "cases_first: no such hypothesis"

/-- `cases` on the first local hypothesis whose type is a `List` -/
elab "cases_list" : tactic => withMainContext do
  for d in (← getLCtx) do
    if d.isImplementationDetail then continue
    let ty ← instantiateMVars d.type
    if ty.isAppOfArity ``List 1 then
      let gs ← (← getMainGoal).cases d.fvarId
      replaceMainGoal (gs.map (·.mvarId)).toList
      return
  throwError "cases_list: no hypothesis of List type"

/-- revert every key variable (local hypotheses of type `Az`, `Lon`, `Tmp`, `Ord`), so that a goal about all keys of a
module's key type is closed and can be evaluated (by `decide`, with the instances `c05DecAz` … `c05DecOrd` at the end of this file) -/
elab "revert_keys" : tactic => withMainContext do
  let mut fvs : Array FVarId := #[]
  for d in (← getLCtx) do
    if d.isImplementationDetail then continue
    let ty ← instantiateMVars d.type
    if ty.isConstOf ``VK.Az || ty.isConstOf ``VK.Lon || ty.isConstOf ``VK.Tmp || ty.isConstOf ``VK.Ord then
      fvs := fvs.push d.fvarId
  let (_, g) ← (← getMainGoal).revert fvs
  replaceMainGoal [g]

/-- `evalL_inv M.evalL at h`, for `h : M.evalL k a = some r`: afterwards `k` is a list of atoms of the kinds the module
expects (`[.az c₀, .lon c₁, …]`), `a` a list of the module's arity, and `r` the packed result at that key.  (In every
other branch of the `match`, and wherever an atom has another kind, `h` reads `none = some r`.) -/
macro "evalL_inv " f:ident " at " h:ident : tactic => `(tactic|
  (unfold $f at $h:ident
   split at $h:ident
   rotate_left
   · cases $h:ident
   repeat (cases_first VK.KA <;> try (cases $h:ident; done))
   cases $h:ident))

/-- `evalL_spec M.evalL` proves `VG.EvalLSpec m M.evalL` (`Props/C05.lean`) for the list wrapper of module `m` in any copy of the
generated code: invert `M.evalL k a = some (out, ret)`; at a list of atoms with variable coordinate systems the four facts asked of
`k`, `a`, `ret` and `out` evaluate -/
macro "evalL_spec " f:ident : tactic => `(tactic|
  (refine ⟨fun k a out ret h => ?_⟩
   evalL_inv $f at h
   exact ⟨⟨rfl, rfl⟩, rfl, rfl⟩))

end VK

namespace VG
open VK

/-- a statement about all keys of a module's key type is decidable by enumeration (what `revert_keys; decide` evaluates) -/
instance c05DecAz (p : Az → Prop) [DecidablePred p] : Decidable (∀ a, p a) :=
  decidable_of_iff (∀ a ∈ Az.all, p a) ⟨fun h a => h a (by cases a <;> decide), fun h a _ => h a⟩
instance c05DecLon (p : Lon → Prop) [DecidablePred p] : Decidable (∀ a, p a) :=
  decidable_of_iff (∀ a ∈ Lon.all, p a) ⟨fun h a => h a (by cases a <;> decide), fun h a _ => h a⟩
instance c05DecTmp (p : Tmp → Prop) [DecidablePred p] : Decidable (∀ a, p a) :=
  decidable_of_iff (∀ a ∈ Tmp.all, p a) ⟨fun h a => h a (by cases a <;> decide), fun h a _ => h a⟩
instance c05DecOrd (p : Ord → Prop) [DecidablePred p] : Decidable (∀ a, p a) :=
  decidable_of_iff (∀ a ∈ Ord.all, p a) ⟨fun h a => h a (by cases a <;> decide), fun h a _ => h a⟩

end VG
