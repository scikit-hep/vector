/-
The Awkward behavior registry of `Glue/Ufunc.lean` (`VU.akTable`, the 420 keys registered in awkward.py L1615-1709) IS THE CHAIN
of the other three backends, TABULATED: under a key `(u, sig)` made of record names, object classes (dimensions 2-4) and `Real`,
with at least one record name, is registered what `chain` does with the operands the key stands for, if it accepts them
(`akReg`).  `akTable_at`: one kernel evaluation over the finite lattice of key elements (the table is a finite fact), extended to
every signature.  Hence `akFind = akReg` and no key is registered twice (`akKeys_nodup`).  Used by `Props/C05Ufunc.lean`.
-/
import VectorModel.Glue.Ufunc

set_option linter.unusedVariables false
namespace VU

/-- every element a registered key is made of, plus `other` -/
def els : List KeyEl :=
  [.name false 2, .name false 3, .name false 4, .name true 2, .name true 3, .name true 4,
   .objCls 2, .objCls 3, .objCls 4, .real, .other]

def KeyEl.isName : KeyEl → Bool | .name _ _ => true | _ => false

def KeyEl.vecOk : KeyEl → Bool
  | .name _ d => 2 ≤ d && d ≤ 4
  | .objCls d => 2 ≤ d && d ≤ 4
  | _ => false

/-- the ONE chain the three `__array_ufunc__` are instances of; `powOut`: what `power` does when outputs are given;
`n`: number of outputs -/
def chain (powOut : Route) (u : Ufunc) (ins : List OpK) (n : Nat) : Route :=
  match u, ins with
  | .absolute, [a] =>
    if a.isVec then (if n != 0 then .typeError else
      match normOf (dimOf a) with | some acc => .valueOf acc 0 | none => .returnsNone) else .notImplemented
  | .add, [a, b] => if a.isVec && b.isVec then .call .add 0 [.input 1] n else .notImplemented
  | .subtract, [a, b] => if a.isVec && b.isVec then .call .subtract 0 [.input 1] n else .notImplemented
  | .multiply, [a, b] =>
    if a.isVec && !b.isVec then .call .scale 0 [.input 1] n
    else if !a.isVec && b.isVec then .call .scale 1 [.input 0] n
    else .notImplemented
  | .negative, [a] => if a.isVec then .call .scale 0 [.negOne] n else .notImplemented
  | .positive, [a] => if a.isVec then .identity 0 else .notImplemented
  | .true_divide, [a, b] => if a.isVec && !b.isVec then .call .scale 0 [.inv 1] n else .notImplemented
  | .power, [a, b] =>
    if a.isVec && !b.isVec then
      match normOf (dimOf a) with
      | some acc => if n != 0 then powOut else .valuePow acc 0 (.input 1)
      | none => .typeError
    else .notImplemented
  | .square, [a] =>
    if a.isVec then (if n != 0 then .typeError else
      match norm2Of (dimOf a) with | some acc => .valueOf acc 0 | none => .returnsNone) else .notImplemented
  | .sqrt, [a] =>
    if a.isVec then (if n != 0 then .typeError else
      match norm2Of (dimOf a) with | some acc => .valuePow acc 0 .quarter | none => .returnsNone) else .notImplemented
  | .cbrt, [a] =>
    if a.isVec then (if n != 0 then .typeError else
      match norm2Of (dimOf a) with | some acc => .valuePow acc 0 .sixth | none => .returnsNone) else .notImplemented
  | .matmul, [a, b] =>
    if a.isVec && b.isVec then (if n != 0 then .typeError else .call .dot 0 [.input 1] 0) else .notImplemented
  | .equal, [a, b] =>
    if a.isVec && b.isVec then (if n != 0 then .typeError else .call .equal 0 [.input 1] 0) else .notImplemented
  | .not_equal, [a, b] =>
    if a.isVec && b.isVec then (if n != 0 then .typeError else .call .not_equal 0 [.input 1] 0) else .notImplemented
  | _, _ => .notImplemented

/-- what the Awkward registry + lookup make of a request for `u`, given what the chain of the other three backends makes of it:
the same route, except that `power` tests `expo == 2` first (and chokes on an array exponent), and that a refusal is an
exception (`TypeError`, or `ValueError` when a plain array is among the inputs) instead of `NotImplemented` -/
def akView (u : Ufunc) (ins : List OpK) (r : Route) : Route :=
  match u, r with
  | _, .notImplemented => if ins.any (· == .array) then .valueError else .typeError
  | .power, .valuePow a i (.input j) =>
    if ins[j]? == some .array then .valueError
    else match norm2Of (dimOf (ins[i]?.getD .scalar)) with
      | some a2 => .ifTwo j false (.valueOf a2 i) r
      | none => r
  | _, r => r

/-- the operand a key element stands for: a record name is an Awkward vector, an object class an object, `Real` a number -/
def elKind : KeyEl → OpK
  | .name m d => .vec .ak d m
  | .objCls d => .vec .obj d false
  | _ => .scalar

def KeyEl.regOk : KeyEl → Bool
  | .real => true
  | e => e.vecOk

/-- the GENERATING RULE of the registry: under `(u, sig)` — key elements of dimension 2-4 or `Real`, at least one record name —
is registered what the chain of the other three backends does with the operands the key stands for, if it accepts them -/
def akReg (u : Ufunc) (sig : List KeyEl) : Option Route :=
  if sig.all KeyEl.regOk && sig.any KeyEl.isName && (chain .typeError u (sig.map elKind) 0).accepted then
    some (akView u (sig.map elKind) (chain .typeError u (sig.map elKind) 0))
  else none

theorem chain_len (e : Route) (u : Ufunc) (ins : List OpK) (n : Nat) (h : ins.length ≠ 1 ∧ ins.length ≠ 2) :
    chain e u ins n = .notImplemented := by
  unfold chain
  split <;> first | rfl | simp at h

theorem KeyEl.regOk_els (e : KeyEl) (h : e.regOk = true) : e ∈ els := by
  have dims : ∀ d : Nat, (2 ≤ d && d ≤ 4) = true → d = 2 ∨ d = 3 ∨ d = 4 := fun d h => by
    simp only [Bool.and_eq_true, decide_eq_true_eq] at h
    omega
  rcases e with ⟨m, d⟩ | d | _ | _
  · rcases dims d h with rfl | rfl | rfl <;> cases m <;> decide
  · rcases dims d h with rfl | rfl | rfl <;> decide
  · decide
  · cases h

abbrev keyShape (sig : List KeyEl) : Prop := (sig.length = 1 ∨ sig.length = 2) ∧ ∀ x ∈ sig, x ∈ els

theorem akTable_keys : ∀ e ∈ akTable, keyShape e.2.1 := by decide +kernel

theorem akReg_keyShape (u : Ufunc) (sig : List KeyEl) (h : ¬ keyShape sig) : akReg u sig = none := by
  refine if_neg fun hc => h ?_
  simp only [Bool.and_eq_true, List.all_eq_true] at hc
  refine ⟨Decidable.byContradiction fun hl => ?_, fun x hx => x.regOk_els (hc.1.1 x hx)⟩
  rw [chain_len _ u _ 0 (by simpa using hl)] at hc
  exact absurd hc.2 (by decide)

theorem Ufunc.mem_all (u : Ufunc) : u ∈ Ufunc.all := by cases u <;> decide

-- The entries are selected in three steps (ufunc, first element of the key, whole key) and not by one predicate: the kernel
-- then evaluates the list of a ufunc once for all signatures, and the list of a first element once for all second elements.
theorem akTable_at_els : ∀ u ∈ Ufunc.all, ∀ a ∈ els, ∀ sig ∈ [a] :: els.map ([a, ·]),
    ((((akTable.filter (·.1 == u)).filter (·.2.1.head? == some a)).filter (·.2.1 == sig)).map (·.2.2)) =
      (akReg u sig).toList := by decide +kernel

theorem filter_key (l : List AkEntry) (u : Ufunc) (a : KeyEl) (t : List KeyEl) :
    l.filter (fun e => e.1 == u && e.2.1 == a :: t) =
      ((l.filter (·.1 == u)).filter (·.2.1.head? == some a)).filter (·.2.1 == a :: t) := by
  rw [List.filter_filter, List.filter_filter]
  congr 1
  funext e
  cases h : e.2.1 == a :: t
  · simp
  · simp [eq_of_beq h]

/-- **the table is its generating rule**: the routes registered under ANY key `(u, sig)` are the one `akReg` gives, or none.
Keys of the shape of a registered key are covered by the evaluation `akTable_at_els`; under any other key nothing is
registered and the rule gives nothing. -/
theorem akTable_at (u : Ufunc) (sig : List KeyEl) :
    (akTable.filter fun e => e.1 == u && e.2.1 == sig).map (·.2.2) = (akReg u sig).toList := by
  by_cases hk : keyShape sig
  · obtain ⟨hl, h⟩ := hk
    have hs : ∃ a t, sig = a :: t ∧ sig ∈ [a] :: els.map ([a, ·]) := by
      rcases sig with _ | ⟨a, _ | ⟨b, _ | ⟨c, rest⟩⟩⟩
      · simp at hl
      · exact ⟨a, [], rfl, List.mem_cons_self⟩
      · exact ⟨a, [b], rfl, List.mem_cons_of_mem _ (List.mem_map.2 ⟨b, h b (by simp), rfl⟩)⟩
      · simp at hl
    obtain ⟨a, t, rfl, hm⟩ := hs
    rw [filter_key]
    exact akTable_at_els u (Ufunc.mem_all u) a (h a List.mem_cons_self) _ hm
  · rw [akReg_keyShape u sig hk, List.filter_eq_nil_iff.2]
    · rfl
    · intro e he hq
      simp only [Bool.and_eq_true, beq_iff_eq] at hq
      exact hk (hq.2 ▸ akTable_keys e he)

theorem akFind_eq_reg : akFind = akReg := by
  funext u sig
  rw [akFind, ← List.head?_filter, ← List.head?_map, akTable_at u sig, Option.head?_toList]

theorem akKeys_length : akKeys.length = 420 := by decide +kernel

/-- no key is registered twice (the Python dict would silently keep the last one) -/
theorem akKeys_nodup : akKeys.Nodup := by
  refine List.nodup_iff_count.2 fun k => ?_
  by_cases hk : k ∈ akKeys
  · obtain ⟨e, he, rfl⟩ := List.mem_map.1 hk
    have h := congrArg List.length (akTable_at e.1 e.2.1)
    rw [List.length_map] at h
    rw [akKeys, List.count_eq_countP, List.countP_map, List.countP_eq_length_filter]
    exact (show _ = _ from h) ▸ Option.length_toList_le
  · rw [List.count_eq_zero.2 hk]; exact Nat.zero_le 1

end VU
