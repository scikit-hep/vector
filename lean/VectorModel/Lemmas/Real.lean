/- Reusable real-analysis lemmas behind the refinement and regularity proofs. -/
import VectorModel.Prim.Real
import VectorModel.Lemmas.Prim
import Mathlib.Analysis.Complex.Norm
import Mathlib.Tactic.Ring
import Mathlib.Tactic.Linarith
import Mathlib.Tactic.Positivity
import Mathlib.Tactic.FieldSimp
import Mathlib.Tactic.LinearCombination
import Mathlib.Tactic.NormNum

namespace VR
namespace L
open Real

/-! ### the code's `rectify`: `(φ + π) % 2π − π` -/

theorem two_pi_ne_zero : (2 : ℝ) * π ≠ 0 := two_pi_pos.ne'

/-- `rectify φ = φ - n·2π` for an integer `n` (the code's `(φ + π) % 2π - π`). -/
theorem rectify_eq (p : ℝ) : P.mod (p + π) (2 * π) - π = p - ((⌊(p + π) / (2 * π)⌋ : ℤ) : ℝ) * (2 * π) := by
  unfold P.mod; ring

theorem cos_rectify (p : ℝ) : cos (P.mod (p + π) (2 * π) - π) = cos p := by
  rw [rectify_eq, cos_sub_int_mul_two_pi]

theorem sin_rectify (p : ℝ) : sin (P.mod (p + π) (2 * π) - π) = sin p := by
  rw [rectify_eq, sin_sub_int_mul_two_pi]

/-- the code's rectify lands in `[-π, π)`: `a % m` is `m` times the fractional part of `a / m` -/
theorem rectify_mem (p : ℝ) : -π ≤ P.mod (p + π) (2 * π) - π ∧ P.mod (p + π) (2 * π) - π < π := by
  have e : P.mod (p + π) (2 * π) = Int.fract ((p + π) / (2 * π)) * (2 * π) := by
    unfold P.mod Int.fract
    rw [sub_mul, div_mul_cancel₀ _ two_pi_ne_zero, mul_comm]
  rw [e]
  constructor
  · rw [le_sub_iff_add_le, neg_add_cancel]
    exact mul_nonneg (Int.fract_nonneg _) two_pi_pos.le
  · rw [sub_lt_iff_lt_add, ← two_mul]
    exact mul_lt_of_lt_one_left two_pi_pos (Int.fract_lt_one _)

theorem rectify_sub_int (p : ℝ) (n : ℤ) :
    P.mod (p - n * (2 * π) + π) (2 * π) - π = P.mod (p + π) (2 * π) - π := by
  have e : (p - n * (2 * π) + π) / (2 * π) = (p + π) / (2 * π) - n := by
    rw [sub_add_eq_add_sub, sub_div, mul_div_cancel_right₀ _ two_pi_ne_zero]
  unfold P.mod
  rw [e, Int.floor_sub_intCast, Int.cast_sub]
  ring

/-! ### polar form of a planar vector -/

/-- `|w| cos(arg w) = Re w`, `|w| sin(arg w) = Im w` in the form the code produces: `sqrt(a²+b²)`, `arctan2 b a`. -/
theorem sqrt_mul_cos_arctan2 (a b : ℝ) : sqrt (a ^ 2 + b ^ 2) * cos (P.arctan2 b a) = a := by
  have := Complex.norm_mul_cos_arg ⟨a, b⟩
  rwa [Complex.norm_eq_sqrt_sq_add_sq] at this

theorem sqrt_mul_sin_arctan2 (a b : ℝ) : sqrt (a ^ 2 + b ^ 2) * sin (P.arctan2 b a) = b := by
  have := Complex.norm_mul_sin_arg ⟨a, b⟩
  rwa [Complex.norm_eq_sqrt_sq_add_sq] at this

theorem arctan2_polar {r p : ℝ} (hr : 0 < r) (h1 : -π < p) (h2 : p ≤ π) :
    P.arctan2 (r * sin p) (r * cos p) = p := by
  unfold P.arctan2
  have : (⟨r * cos p, r * sin p⟩ : ℂ) = (r : ℂ) * (Complex.cos p + Complex.sin p * Complex.I) := by
    apply Complex.ext <;> simp [Complex.cos_ofReal_re, Complex.sin_ofReal_re, Complex.cos_ofReal_im, Complex.sin_ofReal_im]
  rw [this]
  exact Complex.arg_mul_cos_add_sin_mul_I hr ⟨h1, h2⟩

theorem arctan2_polar_mod {r : ℝ} (hr : 0 < r) (p : ℝ) :
    ∃ n : ℤ, P.arctan2 (r * sin p) (r * cos p) = p - n * (2 * π) := by
  -- `q` is the representative of `p` in `(-π, π]`
  obtain ⟨q, hq, n, hd⟩ : ∃ q : ℝ, (-π < q ∧ q ≤ π) ∧ ∃ n : ℤ, q = p - n * (2 * π) :=
    ⟨toIocMod two_pi_pos (-π) p, ⟨(toIocMod_mem_Ioc _ _ _).1, (toIocMod_mem_Ioc _ _ _).2.trans_eq (by ring)⟩,
      toIocDiv two_pi_pos (-π) p, by rw [toIocMod, zsmul_eq_mul]⟩
  refine ⟨n, ?_⟩
  rw [← hd, ← arctan2_polar hr hq.1 hq.2, hd, sin_sub_int_mul_two_pi, cos_sub_int_mul_two_pi]

theorem sumsq_nonneg (a b : ℝ) : 0 ≤ a ^ 2 + b ^ 2 := add_nonneg (sq_nonneg a) (sq_nonneg b)

theorem sq_sqrt_sumsq (a b : ℝ) : sqrt (a ^ 2 + b ^ 2) ^ 2 = a ^ 2 + b ^ 2 :=
  Real.sq_sqrt (sumsq_nonneg a b)

theorem sqrt_sumsq_pos {a b : ℝ} (h : a ≠ 0 ∨ b ≠ 0) : 0 < sqrt (a ^ 2 + b ^ 2) := by
  apply Real.sqrt_pos.mpr
  rcases h with h | h
  · exact add_pos_of_pos_of_nonneg (sq_pos_of_ne_zero h) (sq_nonneg b)
  · exact add_pos_of_nonneg_of_pos (sq_nonneg a) (sq_pos_of_ne_zero h)

theorem sqrt_sumsq_mul (f a b : ℝ) : sqrt ((a * f) ^ 2 + (b * f) ^ 2) = sqrt (a ^ 2 + b ^ 2) * |f| := by
  rw [mul_pow, mul_pow, ← add_mul, sqrt_mul (sumsq_nonneg a b), sqrt_sq_eq_abs]

theorem sqrt_sumsq_div (a b : ℝ) {n : ℝ} (hn : 0 < n) :
    sqrt ((a / n) ^ 2 + (b / n) ^ 2) = sqrt (a ^ 2 + b ^ 2) / n := by
  rw [div_pow, div_pow, ← add_div, sqrt_div (sumsq_nonneg a b), sqrt_sq hn.le]

/-- Cauchy–Schwarz in ℝ³, from Lagrange's identity `|p|²|q|² − (p·q)² = |p × q|²` -/
theorem cauchy_schwarz3 (x1 y1 z1 x2 y2 z2 : ℝ) :
    (x1 * x2 + y1 * y2 + z1 * z2) ^ 2 ≤ (x1 ^ 2 + y1 ^ 2 + z1 ^ 2) * (x2 ^ 2 + y2 ^ 2 + z2 ^ 2) := by
  have e : (x1 ^ 2 + y1 ^ 2 + z1 ^ 2) * (x2 ^ 2 + y2 ^ 2 + z2 ^ 2) - (x1 * x2 + y1 * y2 + z1 * z2) ^ 2 =
      (x1 * y2 - y1 * x2) ^ 2 + (x1 * z2 - z1 * x2) ^ 2 + (y1 * z2 - z1 * y2) ^ 2 := by ring
  exact sub_nonneg.mp (e ▸ by positivity)

/-! ### `θ` from `η`: `θ = 2 arctan e^{-η}` -/

/-- the generated code writes the literal `2.0` -/
theorem two_pt_zero : (2.0 : ℝ) = 2 := by norm_num

theorem exp_mul_exp_neg (e : ℝ) : exp e * exp (-e) = 1 := by
  rw [← exp_add, add_neg_cancel, exp_zero]

/-- the code's `1/sin θ` for η storage: `½(1 + e^{-2η}) / e^{-η} = cosh η` -/
theorem invsin_eta (e : ℝ) : (0.5 : ℝ) * (1 + exp (-e) ^ 2) / exp (-e) = cosh e := by
  rw [cosh_eq, div_eq_iff (exp_pos (-e)).ne']
  linear_combination (-1 / 2 : ℝ) * exp_mul_exp_neg e

/-- the code's `1/tan θ` for η storage: `½(1 − e^{-2η}) / e^{-η} = sinh η` -/
theorem invtan_eta (e : ℝ) : (0.5 : ℝ) * (1 - exp (-e) ^ 2) / exp (-e) = sinh e := by
  rw [sinh_eq, div_eq_iff (exp_pos (-e)).ne']
  linear_combination (-1 / 2 : ℝ) * exp_mul_exp_neg e

theorem cos_two_arctan (t : ℝ) : cos (2 * arctan t) = (1 - t ^ 2) / (1 + t ^ 2) := by
  have h : 1 + t ^ 2 ≠ 0 := (add_pos_of_pos_of_nonneg one_pos (sq_nonneg t)).ne'
  rw [cos_two_mul, cos_sq_arctan, eq_div_iff h]
  linear_combination (2 : ℝ) * one_div_mul_cancel h

theorem sin_two_arctan (t : ℝ) : sin (2 * arctan t) = 2 * t / (1 + t ^ 2) := by
  have h : (0 : ℝ) ≤ 1 + t ^ 2 := add_nonneg zero_le_one (sq_nonneg t)
  rw [sin_two_mul, sin_arctan, cos_arctan, mul_assoc, div_mul_div_comm, mul_one, mul_self_sqrt h, mul_div_assoc]

theorem cos_two_arctan_exp_neg (e : ℝ) : cos (2 * arctan (exp (-e))) = sinh e / cosh e := by
  have h : 1 + exp (-e) ^ 2 ≠ 0 := (add_pos_of_pos_of_nonneg one_pos (sq_nonneg _)).ne'
  rw [cos_two_arctan, sinh_eq, cosh_eq, div_eq_div_iff h (cosh_eq e ▸ (cosh_pos e).ne')]
  linear_combination (-exp (-e)) * exp_mul_exp_neg e

theorem sin_two_arctan_exp_neg (e : ℝ) : sin (2 * arctan (exp (-e))) = 1 / cosh e := by
  have h : 1 + exp (-e) ^ 2 ≠ 0 := (add_pos_of_pos_of_nonneg one_pos (sq_nonneg _)).ne'
  rw [sin_two_arctan, cosh_eq, div_eq_div_iff h (cosh_eq e ▸ (cosh_pos e).ne')]
  linear_combination exp_mul_exp_neg e

/-- `cot (2 arctan e^{-η}) = sinh η`; no singular point (`sin (2 arctan u) ≠ 0` for `u > 0`) -/
theorem cot_two_arctan_exp_neg (e : ℝ) :
    cos (2 * arctan (exp (-e))) / sin (2 * arctan (exp (-e))) = sinh e := by
  rw [cos_two_arctan_exp_neg, sin_two_arctan_exp_neg, div_div_div_cancel_right₀ (cosh_pos e).ne', div_one]

theorem two_arctan_exp_neg_pos (e : ℝ) : 0 < 2 * arctan (exp (-e)) :=
  mul_pos two_pos (arctan_pos.mpr (exp_pos _))

theorem two_arctan_exp_neg_lt_pi (e : ℝ) : 2 * arctan (exp (-e)) < π :=
  (lt_div_iff₀' two_pos).mp (arctan_lt_pi_div_two _)

/-! ### `η` from `θ`: `η = −log tan(θ/2)` -/

theorem half_angle_pos {c : ℝ} (h0 : 0 < c) (h1 : c < π) : 0 < sin (0.5 * c) ∧ 0 < cos (0.5 * c) := by
  have e : (0.5 : ℝ) * c = c / 2 := by ring
  have hp : 0 < c / 2 := half_pos h0
  have hl : c / 2 < π / 2 := div_lt_div_of_pos_right h1 two_pos
  rw [e]
  exact ⟨sin_pos_of_pos_of_lt_pi hp (hl.trans (half_lt_self pi_pos)),
    cos_pos_of_mem_Ioo ⟨(neg_neg_of_pos (half_pos pi_pos)).trans hp, hl⟩⟩

theorem tan_half_pos {c : ℝ} (h0 : 0 < c) (h1 : c < π) : 0 < tan (0.5 * c) := by
  rw [tan_eq_sin_div_cos]
  exact div_pos (half_angle_pos h0 h1).1 (half_angle_pos h0 h1).2

theorem sinh_neg_log_tan_half {th : ℝ} (h0 : 0 < th) (h1 : th < π) :
    sinh (-log (tan (0.5 * th))) = cos th / sin th := by
  obtain ⟨hs, hc⟩ := half_angle_pos h0 h1
  have e2 : th = 2 * (0.5 * th) := by ring
  rw [sinh_eq, neg_neg, exp_neg, exp_log (tan_half_pos h0 h1), tan_eq_sin_div_cos, inv_div,
    div_sub_div _ _ hs.ne' hc.ne', div_div]
  conv_rhs => rw [e2, cos_two_mul', sin_two_mul]
  congr 1 <;> ring

theorem tan_ne_zero {c : ℝ} (hc : cos c ≠ 0) (hs : sin c ≠ 0) : tan c ≠ 0 := by
  rw [tan_eq_sin_div_cos]; exact div_ne_zero hs hc

/-- the code's `ρ / tan θ` is `ρ cot θ` (also at `cos θ = 0`, where Lean's `tan` and division are both `0`) -/
theorem div_tan (r c : ℝ) : r / tan c = r * (cos c / sin c) := by
  rw [tan_eq_sin_div_cos, div_div_eq_mul_div, mul_div_assoc]

/-- the code's `1/(tan θ₁ tan θ₂)` is the product of the cotangents -/
theorem inv_tan_mul (a b : ℝ) : 1 / (tan a * tan b) = (cos a / sin a) * (cos b / sin b) := by
  rw [tan_eq_sin_div_cos, tan_eq_sin_div_cos, one_div, mul_inv, inv_div, inv_div]

/-! ### `|p|²` from `ρ` and a stored `θ` (`ρ²/sin²θ`) or `η` (`ρ² cosh²η`) -/

theorem sq_div_sin_sq (r : ℝ) {c : ℝ} (h : sin c ≠ 0) : r ^ 2 / sin c ^ 2 = r ^ 2 + (r * (cos c / sin c)) ^ 2 := by
  field_simp
  linear_combination (-(r ^ 2)) * (cos_sq_add_sin_sq c)

theorem sq_mul_cosh_sq (r c : ℝ) : r ^ 2 * cosh c ^ 2 = r ^ 2 + (r * sinh c) ^ 2 := by
  rw [cosh_sq]; ring

/-! ### `θ` from `z`: `θ = arccos(z/√(ρ²+z²))` -/

theorem abs_lt_sqrt_add_sq {s : ℝ} (hs : 0 < s) (z : ℝ) : |z| < sqrt (s + z ^ 2) := by
  rw [lt_sqrt (abs_nonneg z), sq_abs]; exact lt_add_of_pos_left _ hs

/-- `-1 ≤ z / √(s + z²) ≤ 1` for `0 ≤ s` (also at the origin, where Lean's `0 / 0 = 0`) -/
theorem ratio_mem {s z : ℝ} (hs : 0 ≤ s) : -1 ≤ z / sqrt (s + z ^ 2) ∧ z / sqrt (s + z ^ 2) ≤ 1 := by
  have hz : |z| ≤ sqrt (s + z ^ 2) := abs_le_sqrt (le_add_of_nonneg_left hs)
  rw [← abs_le, abs_div, abs_of_nonneg (sqrt_nonneg _)]
  exact div_le_one_of_le₀ hz (sqrt_nonneg _)

theorem arccos_ratio_mem {r z : ℝ} (hr : 0 < r) :
    0 < arccos (z / sqrt (r ^ 2 + z ^ 2)) ∧ arccos (z / sqrt (r ^ 2 + z ^ 2)) < π := by
  have hlt := abs_lt.mp (abs_lt_sqrt_add_sq (pow_pos hr 2) z)
  have hm : 0 < sqrt (r ^ 2 + z ^ 2) := (abs_nonneg z).trans_lt (abs_lt_sqrt_add_sq (pow_pos hr 2) z)
  rw [arccos_pos, arccos_lt_pi, div_lt_one hm, lt_div_iff₀ hm, neg_one_mul]
  exact ⟨hlt.2, hlt.1⟩

theorem cos_arccos_ratio (r z : ℝ) :
    cos (arccos (z / sqrt (r ^ 2 + z ^ 2))) = z / sqrt (r ^ 2 + z ^ 2) :=
  cos_arccos (ratio_mem (sq_nonneg r)).1 (ratio_mem (sq_nonneg r)).2

theorem sin_arccos_ratio {r z : ℝ} (hr : 0 < r) :
    sin (arccos (z / sqrt (r ^ 2 + z ^ 2))) = r / sqrt (r ^ 2 + z ^ 2) := by
  have hp : 0 < r ^ 2 + z ^ 2 := add_pos_of_pos_of_nonneg (pow_pos hr 2) (sq_nonneg z)
  rw [sin_arccos, div_pow, sq_sqrt hp.le, one_sub_div hp.ne', add_sub_cancel_right, sqrt_div (sq_nonneg r), sqrt_sq hr.le]

theorem cot_arccos_ratio {r z : ℝ} (hr : 0 < r) :
    r * (cos (arccos (z / sqrt (r ^ 2 + z ^ 2))) / sin (arccos (z / sqrt (r ^ 2 + z ^ 2)))) = z := by
  have hm : sqrt (r ^ 2 + z ^ 2) ≠ 0 :=
    (sqrt_pos.mpr (add_pos_of_pos_of_nonneg (pow_pos hr 2) (sq_nonneg z))).ne'
  rw [cos_arccos_ratio, sin_arccos_ratio hr, div_div_div_cancel_right₀ hm, mul_div_cancel₀ _ hr.ne']

/-! ### the sign of a scale factor -/

theorem sign_cases (f : ℝ) :
    (f < 0 ∧ P.sign f = -1 ∧ |f| = -f) ∨ (f = 0 ∧ P.sign f = 0 ∧ |f| = 0) ∨ (0 < f ∧ P.sign f = 1 ∧ |f| = f) := by
  rcases lt_trichotomy f 0 with hf | hf | hf
  · exact Or.inl ⟨hf, Real.sign_of_neg hf, abs_of_neg hf⟩
  · subst hf; exact Or.inr (Or.inl ⟨rfl, Real.sign_zero, abs_zero⟩)
  · exact Or.inr (Or.inr ⟨hf, Real.sign_of_pos hf, abs_of_pos hf⟩)

/-- the code turns the azimuth by π for a negative factor: `φ − ½(sign f − 1)π` -/
theorem scale_turn (f p : ℝ) :
    |f| * cos (p + -0.5 * (P.sign f - 1) * π) = f * cos p ∧ |f| * sin (p + -0.5 * (P.sign f - 1) * π) = f * sin p := by
  rcases sign_cases f with ⟨_, hs, ha⟩ | ⟨hf, hs, ha⟩ | ⟨_, hs, ha⟩ <;> rw [hs, ha]
  · have e : p + -0.5 * (-1 - 1) * π = p + π := by ring
    rw [e, cos_add_pi, sin_add_pi, neg_mul_neg, neg_mul_neg]; exact ⟨rfl, rfl⟩
  · rw [hf, zero_mul, zero_mul, zero_mul, zero_mul]; exact ⟨rfl, rfl⟩
  · have e : p + -0.5 * (1 - 1) * π = p := by ring
    rw [e]; exact ⟨rfl, rfl⟩

/-- for a negative factor the code reflects the polar angle, `|θ + ½(sign f − 1)π|`, for `0 ≤ θ ≤ π` -/
theorem scale_flip (f θ : ℝ) (h0 : 0 ≤ θ) (h1 : θ ≤ π) :
    |f| * (cos |θ + 0.5 * (P.sign f - 1) * π| / sin |θ + 0.5 * (P.sign f - 1) * π|) = f * (cos θ / sin θ) := by
  rcases sign_cases f with ⟨_, hs, ha⟩ | ⟨hf, hs, ha⟩ | ⟨_, hs, ha⟩ <;> rw [hs, ha]
  · have e : θ + 0.5 * (-1 - 1) * π = -(π - θ) := by ring
    rw [e, abs_neg, abs_of_nonneg (sub_nonneg.mpr h1), cos_pi_sub, sin_pi_sub, neg_div, neg_mul_neg]
  · rw [hf, zero_mul, zero_mul]
  · have e : θ + 0.5 * (1 - 1) * π = θ := by ring
    rw [e, abs_of_nonneg h0]

/-- for a negative factor the code turns the sign of the pseudorapidity: `η · sign f` -/
theorem scale_eta (f η : ℝ) : |f| * sinh (η * P.sign f) = f * sinh η := by
  rcases sign_cases f with ⟨_, hs, ha⟩ | ⟨hf, hs, ha⟩ | ⟨_, hs, ha⟩ <;> rw [hs, ha]
  · rw [mul_neg, mul_one, sinh_neg, neg_mul_neg]
  · rw [hf, zero_mul, zero_mul]
  · rw [mul_one]

/-! ### side-conditions of the boosts -/

theorem one_sub_sq_pos {β : ℝ} (h : |β| < 1) : 0 < 1 - β ^ 2 :=
  sub_pos.mpr ((sq_lt_one_iff_abs_lt_one β).mpr h)

theorem abs_sq_sub_one_nonneg {γ : ℝ} (h : 1 ≤ |γ|) : 0 ≤ |γ| ^ 2 - 1 :=
  sub_nonneg.mpr (one_le_pow₀ h)

theorem rpow_neg_half_pos {u : ℝ} (hu : 0 < u) : 0 < P.rpow u (-0.5) := Real.rpow_pos_of_pos hu _

theorem rpow_neg_half {u : ℝ} (hu : 0 < u) : P.rpow u (-0.5) = 1 / sqrt u := by
  have e : (-0.5 : ℝ) = -(1 / 2) := by norm_num
  show u ^ (-0.5 : ℝ) = 1 / sqrt u
  rw [e, Real.rpow_neg hu.le, ← Real.sqrt_eq_rpow, one_div]

theorem inv_sqrt_sq {u : ℝ} (hu : 0 < u) : (1 / sqrt u) ^ 2 * u = 1 ∧ 0 < 1 / sqrt u :=
  ⟨by rw [one_div, inv_pow, sq_sqrt hu.le, inv_mul_cancel₀ hu.ne'], one_div_pos.mpr (sqrt_pos.mpr hu)⟩

/-- the code's `u ** -0.5` squares to `1/u` -/
theorem rpow_neg_half_sq {u : ℝ} (hu : 0 < u) : P.rpow u (-0.5) ^ 2 * u = 1 := by
  rw [rpow_neg_half hu]; exact (inv_sqrt_sq hu).1

/-- the code's `γ = (1 − β²) ** −0.5`, `βγ = β·γ` for `|β| < 1` -/
theorem gam_beta {β : ℝ} (h : |β| < 1) :
    (P.rpow (1 - β ^ 2) (-0.5)) ^ 2 - (β * P.rpow (1 - β ^ 2) (-0.5)) ^ 2 = 1
      ∧ |β * P.rpow (1 - β ^ 2) (-0.5)| ≤ P.rpow (1 - β ^ 2) (-0.5) := by
  have hpos := one_sub_sq_pos h
  have hg0 := rpow_neg_half_pos hpos
  constructor
  · linear_combination rpow_neg_half_sq hpos
  · rw [abs_mul, abs_of_pos hg0]
    exact mul_le_of_le_one_left hg0.le h.le

/-- the code's `γ = |gamma|`, `βγ = copysign(√(γ² − 1), gamma)` for `1 ≤ |gamma|` -/
theorem gam_gamma {γ : ℝ} (h : 1 ≤ |γ|) :
    |γ| ^ 2 - (P.copysign (sqrt (|γ| ^ 2 - 1)) γ) ^ 2 = 1
      ∧ |P.copysign (sqrt (|γ| ^ 2 - 1)) γ| ≤ |γ| := by
  have h1 := abs_sq_sub_one_nonneg h
  have hc : |P.copysign (sqrt (|γ| ^ 2 - 1)) γ| = sqrt (|γ| ^ 2 - 1) := by
    rw [P.abs_copysign, abs_of_nonneg (sqrt_nonneg _)]
  constructor
  · rw [← sq_abs (P.copysign _ _), hc, sq_sqrt h1]; ring
  · rw [hc]; apply sqrt_le_iff.mpr; constructor
    · exact abs_nonneg _
    · linarith

theorem boost1_nonneg {g bg u T : ℝ} (hg0 : |bg| ≤ g) (hT : 0 ≤ T) (hu : u ^ 2 ≤ T ^ 2) : 0 ≤ bg * u + g * T := by
  have h1 : |bg * u| ≤ g * T := by
    rw [abs_mul]; exact mul_le_mul hg0 (abs_le_of_sq_le_sq hu hT) (abs_nonneg _) ((abs_nonneg _).trans hg0)
  linarith [neg_abs_le (bg * u)]

theorem four_velocity_p4 {E M x y z : ℝ} (hM : M ^ 2 = E ^ 2 - (x ^ 2 + y ^ 2 + z ^ 2)) (hM0 : M ≠ 0) :
    (E / M) ^ 2 = 1 + ((x / M) ^ 2 + (y / M) ^ 2 + (z / M) ^ 2) := by
  have h : (E / M) ^ 2 - ((x / M) ^ 2 + (y / M) ^ 2 + (z / M) ^ 2) = (E ^ 2 - (x ^ 2 + y ^ 2 + z ^ 2)) / M ^ 2 := by
    ring
  rw [← hM, div_self (pow_ne_zero 2 hM0)] at h
  linear_combination h

/-! ### causal vectors: `|p| ≤ t` -/

theorem dot_le {x1 y1 z1 x2 y2 z2 T1 T2 : ℝ} (h1 : x1 ^ 2 + y1 ^ 2 + z1 ^ 2 ≤ T1 ^ 2)
    (h2 : x2 ^ 2 + y2 ^ 2 + z2 ^ 2 ≤ T2 ^ 2) (hT1 : 0 ≤ T1) (hT2 : 0 ≤ T2) :
    |x1 * x2 + y1 * y2 + z1 * z2| ≤ T1 * T2 := by
  apply abs_le_of_sq_le_sq _ (mul_nonneg hT1 hT2)
  calc (x1 * x2 + y1 * y2 + z1 * z2) ^ 2
      ≤ (x1 ^ 2 + y1 ^ 2 + z1 ^ 2) * (x2 ^ 2 + y2 ^ 2 + z2 ^ 2) := cauchy_schwarz3 x1 y1 z1 x2 y2 z2
    _ ≤ T1 ^ 2 * T2 ^ 2 := mul_le_mul h1 h2 (by positivity) (by positivity)
    _ = (T1 * T2) ^ 2 := (mul_pow _ _ _).symm

theorem causal_add (x1 y1 z1 s1 x2 y2 z2 s2 : ℝ) (h1 : 0 ≤ s1) (h2 : 0 ≤ s2) :
    0 ≤ sqrt (s1 + (x1 ^ 2 + y1 ^ 2 + z1 ^ 2)) + sqrt (s2 + (x2 ^ 2 + y2 ^ 2 + z2 ^ 2)) ∧
    (x1 + x2) ^ 2 + (y1 + y2) ^ 2 + (z1 + z2) ^ 2
      ≤ (sqrt (s1 + (x1 ^ 2 + y1 ^ 2 + z1 ^ 2)) + sqrt (s2 + (x2 ^ 2 + y2 ^ 2 + z2 ^ 2))) ^ 2 := by
  have e1 : sqrt (s1 + (x1 ^ 2 + y1 ^ 2 + z1 ^ 2)) ^ 2 = s1 + (x1 ^ 2 + y1 ^ 2 + z1 ^ 2) := sq_sqrt (by positivity)
  have e2 : sqrt (s2 + (x2 ^ 2 + y2 ^ 2 + z2 ^ 2)) ^ 2 = s2 + (x2 ^ 2 + y2 ^ 2 + z2 ^ 2) := sq_sqrt (by positivity)
  have n1 := sqrt_nonneg (s1 + (x1 ^ 2 + y1 ^ 2 + z1 ^ 2))
  have n2 := sqrt_nonneg (s2 + (x2 ^ 2 + y2 ^ 2 + z2 ^ 2))
  generalize sqrt (s1 + (x1 ^ 2 + y1 ^ 2 + z1 ^ 2)) = T1 at e1 n1 ⊢
  generalize sqrt (s2 + (x2 ^ 2 + y2 ^ 2 + z2 ^ 2)) = T2 at e2 n2 ⊢
  refine ⟨add_nonneg n1 n2, ?_⟩
  have := dot_le (x1 := x1) (y1 := y1) (z1 := z1) (x2 := x2) (y2 := y2) (z2 := z2) (by linarith) (by linarith) n1 n2
  linarith [le_abs_self (x1 * x2 + y1 * y2 + z1 * z2)]

/-! ### the sample angle `θ = 1` of the non-vacuity examples -/

theorem one_lt_pi : (1 : ℝ) < π := one_lt_two.trans_le two_le_pi

theorem sin_one_pos : 0 < sin 1 := sin_pos_of_pos_of_lt_pi one_pos one_lt_pi

end L
end VR
