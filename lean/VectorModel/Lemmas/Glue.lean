/-
Lemmas about the hand-written glue (`Glue/Core.lean`, `Glue/Methods.lean`) that several files of `Props/` need, for every scalar
type and compute layer.  The glue decides by TYPES and only moves values; each operation gets a form in which the deciding part
is a function of the types alone — `handlerOf` as a fold over backend priorities, `wrapTy` beside `wrapVec`, `dispatch` stage by
stage (`dispatch_eq`, `dispatchArgs`), `toDim` and `binary` in closed form (`toDim_eq`; `binary_eq`, the guards being `Bin.route` of
the two dimensions) — from which inversion (`dispatch_ok_iff`, `toDim_ok`, `binary_inv`) and naturality in a re-labelling of the
operands (`handlerOf_map`, `dispatch_natural`) follow.
-/
import VectorModel.Glue.Methods

namespace VG
open VK

section
variable {S T B C : Type}

/-! ### vector types and well-formed vectors -/

theorem VT.dim_cases (ty : VT) : ty.dim = 2 ∨ ty.dim = 3 ∨ ty.dim = 4 := by
  unfold VT.dim; split <;> split <;> simp

/-- the two hypotheses are, unfolded, the two conjuncts of `Vec.WF` (`Props/C05`) and of `WFV` (`Props/C15`, `Props/C01Method`), and the
first two of `RecWF` (`Props/C18`) -/
theorem Vec.wf_cases {v : Vec S} (hwf : v.ty.tmp.isSome → v.ty.lon.isSome) (hlen : v.c.length = v.ty.dim) :
    (∃ be mom az a b, v = ⟨⟨be, mom, az, none, none⟩, [a, b]⟩) ∨
    (∃ be mom az l a b c, v = ⟨⟨be, mom, az, some l, none⟩, [a, b, c]⟩) ∨
    (∃ be mom az l tm a b c d, v = ⟨⟨be, mom, az, some l, some tm⟩, [a, b, c, d]⟩) := by
  obtain ⟨⟨be, mom, az, lon, tmp⟩, c⟩ := v
  cases lon <;> cases tmp <;> simp [VT.dim] at hwf hlen
  · left
    match c, hlen with
    | [a, b], _ => exact ⟨be, mom, az, a, b, rfl⟩
  · right; left
    match c, hlen with
    | [a, b, c], _ => exact ⟨be, mom, az, _, a, b, c, rfl⟩
  · right; right
    match c, hlen with
    | [a, b, c, d], _ => exact ⟨be, mom, az, _, _, a, b, c, d, rfl⟩

/-! ### `handlerOf` -/

/-- the folding step of "first element of maximal priority" -/
def pickStep {α : Type} (p : α → Nat) (h : Option α) (v : α) : Option α :=
  match h with
  | none => some v
  | some h => if p v > p h then some v else some h

theorem handlerOf_eq (vs : List (Vec S)) : handlerOf vs = vs.foldl (pickStep (·.ty.be.prio)) none := by
  unfold handlerOf
  congr
  funext h v
  cases h <;> rfl

theorem foldl_pickStep_map {α β : Type} (p : α → Nat) (q : β → Nat) (φ : α → β) (hφ : ∀ a, q (φ a) = p a) :
    ∀ (vs : List α) (h : Option α), (vs.map φ).foldl (pickStep q) (h.map φ) = (vs.foldl (pickStep p) h).map φ
  | [], _ => rfl
  | v :: vs, h => by
    rw [List.map_cons, List.foldl_cons, List.foldl_cons, ← foldl_pickStep_map p q φ hφ vs]
    congr 1
    cases h with
    | none => rfl
    | some h => simp only [pickStep, Option.map_some, hφ]; split <;> rfl

theorem handlerOf_map (φ : Vec S → Vec T) (hφ : ∀ v, (φ v).ty.be.prio = v.ty.be.prio) (vs : List (Vec S)) :
    handlerOf (vs.map φ) = (handlerOf vs).map φ := by
  rw [handlerOf_eq, handlerOf_eq]
  exact foldl_pickStep_map (·.ty.be.prio) (·.ty.be.prio) φ hφ vs none

theorem handlerOf_single (v : Vec S) : handlerOf [v] = some v := rfl

theorem handlerOf_pair (a b : Vec S) :
    handlerOf [a, b] = some (if b.ty.be.prio > a.ty.be.prio then b else a) := by
  simp only [handlerOf, List.foldl_cons, List.foldl_nil]
  split <;> rfl

/-! ### `_wrap_result` -/

/-- the type `wrapVec` gives the result: a function of the declared result and the TYPE of `self` -/
def wrapTy (t : VT) (be : Backend) (mom : Bool) : List RP → Option VT
  | [.az a] => some { be, mom, az := a, lon := t.lon, tmp := t.tmp }
  | [.az a, .none] => some { be, mom, az := a, lon := none, tmp := none }
  | [.az a, .lon l] => some { be, mom, az := a, lon := some l, tmp := if t.dim = 4 then t.tmp else none }
  | [.az a, .lon l, .none] => some { be, mom, az := a, lon := some l, tmp := none }
  | [.az a, .lon l, .tmp tm] => some { be, mom, az := a, lon := some l, tmp := some tm }
  | _ => none

theorem wrapVec_ty {self r : Vec S} {be : Backend} {mom : Bool} {raw : List S} {parts : List RP}
    (h : wrapVec self be mom raw parts = .ok r) : wrapTy self.ty be mom parts = some r.ty := by
  unfold wrapVec at h
  unfold wrapTy
  split at h
  all_goals first
    | (cases h; rfl)
    | (split at h <;> cases h <;> simp_all)
    | cases h

theorem wrapTy_be_mom {t ty : VT} {be : Backend} {mom : Bool} {parts : List RP}
    (h : wrapTy t be mom parts = some ty) : ty.be = be ∧ ty.mom = mom := by
  unfold wrapTy at h
  split at h <;> cases h <;> exact ⟨rfl, rfl⟩

theorem wrapResult_ok_vec (self r : Vec S) (be : Backend) (mom : Bool) (out : Out S B) (ret : Ret)
    (h : wrapResult self be mom out ret = .ok (.vec r)) :
    ∃ raw parts, out = .vals raw ∧ ret = .vec parts ∧ wrapVec self be mom raw parts = .ok r := by
  unfold wrapResult at h
  split at h
  · cases h
  · cases h
  · rename_i parts raw
    refine ⟨raw, parts, rfl, rfl, ?_⟩
    cases hw : wrapVec self be mom raw parts with
    | error e => rw [hw] at h; cases h
    | ok v => rw [hw] at h; simp [Except.map] at h; rw [h]
  · cases h

theorem wrapResult_ok_scalar (self : Vec S) (be : Backend) (mom : Bool) (out : Out S B) (ret : Ret) (s : S)
    (h : wrapResult self be mom out ret = .ok (.scalar s)) : ret = .float ∧ out = .vals [s] := by
  unfold wrapResult at h
  split at h
  · cases h; exact ⟨rfl, rfl⟩
  · cases h
  · rename_i parts raw
    cases hw : wrapVec self be mom raw parts with
    | error e => rw [hw] at h; cases h
    | ok v => rw [hw] at h; simp [Except.map] at h
  · cases h

theorem wrapResult_ok_truth (self : Vec S) (be : Backend) (mom : Bool) (out : Out S B) (ret : Ret) (b : B)
    (h : wrapResult self be mom out ret = .ok (.truth b)) : ret = .bool ∧ out = .truth b := by
  unfold wrapResult at h
  split at h
  · cases h
  · cases h; exact ⟨rfl, rfl⟩
  · rename_i parts raw
    cases hw : wrapVec self be mom raw parts with
    | error e => rw [hw] at h; cases h
    | ok v => rw [hw] at h; simp [Except.map] at h
  · cases h

/-! ### `dispatch` -/

/-- the key and the coordinate arguments `dispatch` builds from the operands (`none`: an operand lacks a coordinate group
the module needs) -/
def dispatchArgs (m : ModuleId) (ord : Option Ord) (ops : List (Vec S)) : Option (List KA × List S) :=
  match (ops.zip (operandSlots m.info.shape)).mapM (fun (v, n) => operandKey v n) with
  | none => none
  | some parts =>
    some ((parts.map (·.1)).flatten ++ ord.toList.map KA.ord, (parts.map (·.2)).flatten)

/-- `dispatch`, stage by stage: arity, key and arguments (from the operands alone), the compute layer, the handler and
the flavor (from the counted operands alone), `_wrap_result` -/
theorem dispatch_eq (ev : Ev S B) (m : ModuleId) (sc : List S) (ord : Option Ord) (ops counted : List (Vec S)) :
    dispatch ev m sc ord ops counted =
      if (operandSlots m.info.shape).length != ops.length then .error .assertionError else
      match dispatchArgs m ord ops with
      | none => .error .attributeError
      | some (key, args) =>
        match ev m key (sc ++ args) with
        | none => .error .typeError
        | some (out, ret) =>
          match handlerOf counted with
          | none => .error .assertionError
          | some h => wrapResult h h.ty.be (counted.any (·.ty.mom)) out ret := by
  unfold dispatch dispatchArgs
  dsimp only
  cases ord <;> cases (ops.zip (operandSlots m.info.shape)).mapM (fun (v, n) => operandKey v n) <;> rfl

theorem dispatch_ok_iff (ev : Ev S B) (m : ModuleId) (sc : List S) (ord : Option Ord) (ops counted : List (Vec S))
    (res : Res S B) : dispatch ev m sc ord ops counted = .ok res ↔
      (operandSlots m.info.shape).length = ops.length ∧
      ∃ key args out ret hd, dispatchArgs m ord ops = some (key, args) ∧ ev m key (sc ++ args) = some (out, ret) ∧
        handlerOf counted = some hd ∧ wrapResult hd hd.ty.be (counted.any (·.ty.mom)) out ret = .ok res := by
  rw [dispatch_eq]
  constructor
  · intro h
    split at h
    · cases h
    · rename_i hl
      split at h
      · cases h
      · split at h
        · cases h
        · split at h
          · cases h
          · exact ⟨by simpa using hl, _, _, _, _, _, by assumption, by assumption, by assumption, h⟩
  · rintro ⟨hl, key, args, out, ret, hd, ha, he, hh, hw⟩
    simp only [hl, bne_self_eq_false, Bool.false_eq_true, if_false, ha, he, hh, hw]

theorem dispatchArgs_one {m : ModuleId} {ord : Option Ord} {v : Vec S} {n : Nat} {k : List KA} {c : List S}
    (hs : operandSlots m.info.shape = [n]) (hk : operandKey v n = some (k, c)) :
    dispatchArgs m ord [v] = some (k ++ ord.toList.map KA.ord, c) := by
  simp [dispatchArgs, hs, hk]

theorem dispatchArgs_two {m : ModuleId} {ord : Option Ord} {a b : Vec S} {n1 n2 : Nat} {k1 k2 : List KA} {c1 c2 : List S}
    (hs : operandSlots m.info.shape = [n1, n2]) (h1 : operandKey a n1 = some (k1, c1))
    (h2 : operandKey b n2 = some (k2, c2)) :
    dispatchArgs m ord [a, b] = some (k1 ++ k2 ++ ord.toList.map KA.ord, c1 ++ c2) := by
  simp [dispatchArgs, hs, h1, h2]

theorem mapM_zip_map {α β γ δ : Type} (φ : α → β) (ψ : γ → δ) (k : α × Nat → Option γ) (k' : β × Nat → Option δ)
    (hk : ∀ v n, k' (φ v, n) = (k (v, n)).map ψ) : ∀ (ops : List α) (slots : List Nat),
    ((ops.map φ).zip slots).mapM k' = ((ops.zip slots).mapM k).map (List.map ψ)
  | [], _ => by simp
  | _ :: _, [] => by simp
  | v :: ops, n :: slots => by
    simp only [List.map_cons, List.zip_cons_cons, List.mapM_cons, hk, mapM_zip_map φ ψ k k' hk ops slots]
    cases k (v, n) <;> simp
    cases (ops.zip slots).mapM k <;> simp

theorem dispatchArgs_map (φ : Vec S → Vec T) (f : S → T)
    (hkey : ∀ v n, operandKey (φ v) n = (operandKey v n).map (Prod.map id (List.map f)))
    (m : ModuleId) (ord : Option Ord) (ops : List (Vec S)) :
    dispatchArgs m ord (ops.map φ) = (dispatchArgs m ord ops).map (Prod.map id (List.map f)) := by
  unfold dispatchArgs
  rw [mapM_zip_map φ (Prod.map id (List.map f)) (fun (v, n) => operandKey v n) _ (fun v n => hkey v n)]
  cases (ops.zip (operandSlots m.info.shape)).mapM (fun (v, n) => operandKey v n) with
  | none => rfl
  | some parts => simp [List.map_map, List.map_flatten, Function.comp_def]

/-- `dispatch` is natural in every re-labelling `φ` of the operands (with `f` on the scalars) that commutes with the
extraction of keys and coordinates (`hkey`), with the compute layer (`hev`), and with the choice of the handler and the
wrapping of the raw result (`hwrap`); `ρ`, `ρ'` post-process the two results -/
theorem dispatch_natural {ev : Ev S B} {ev' : Ev T C} {R : Type} (φ : Vec S → Vec T) (f : S → T) (ω : Out S B → Out T C)
    (ρ : Res S B → R) (ρ' : Res T C → R) (m : ModuleId) (sc : List S) (ord : Option Ord) (ops counted : List (Vec S))
    (hkey : ∀ v n, operandKey (φ v) n = (operandKey v n).map (Prod.map id (List.map f)))
    (hev : ∀ k a, ev' m k (a.map f) = (ev m k a).map (Prod.map ω id))
    (hwrap : ∀ out ret, (match handlerOf counted with
        | none => .error .assertionError
        | some h => wrapResult h h.ty.be (counted.any (·.ty.mom)) out ret : Except Err (Res S B)).map ρ =
      (match handlerOf (counted.map φ) with
        | none => .error .assertionError
        | some h => wrapResult h h.ty.be ((counted.map φ).any (·.ty.mom)) (ω out) ret : Except Err (Res T C)).map ρ') :
    (dispatch ev m sc ord ops counted).map ρ = (dispatch ev' m (sc.map f) ord (ops.map φ) (counted.map φ)).map ρ' := by
  rw [dispatch_eq, dispatch_eq, dispatchArgs_map φ f hkey, List.length_map]
  split
  · rfl
  · cases dispatchArgs m ord ops with
    | none => rfl
    | some p =>
      simp only [Option.map_some, Prod.map, id, ← List.map_append, hev]
      cases ev m p.1 (sc ++ p.2) with
      | none => rfl
      | some q => exact hwrap q.1 q.2

/-! ### `toDim` -/

/-- `toDim` in closed form: the guards look at the dimensions and at the number of keywords only; an imputed coordinate has
the system and the value of the first keyword of its group, or the default -/
theorem toDim_eq (z : S) (target : Nat) (v : Vec S) (lonKw : List (Lon × S)) (tmpKw : List (Tmp × S)) (o : Nat) :
    toDim z target v lonKw tmpKw o =
      if o > 0 || (!(v.ty.dim == 2 && target ≥ 3) && !lonKw.isEmpty) || (!(v.ty.dim ≤ 3 && target == 4) && !tmpKw.isEmpty)
        then .error .typeError
      else if lonKw.length > 1 || tmpKw.length > 1 then .error .typeError
      else if target == v.ty.dim then .ok v
      else .ok ⟨{ v.ty with
          lon := if target < 3 then none else some (v.ty.lon.getD ((lonKw.head?.map (·.1)).getD .z)),
          tmp := if target < 4 then none else some (v.ty.tmp.getD ((tmpKw.head?.map (·.1)).getD .t)) },
        v.azEl ++ (if target < 3 then [] else if v.ty.lon.isSome then v.lonEl else [(lonKw.head?.map (·.2)).getD z]) ++
          (if target < 4 then [] else if v.ty.tmp.isSome then v.tmpEl else [(tmpKw.head?.map (·.2)).getD z])⟩ := by
  unfold toDim
  dsimp only
  cases v.ty.lon <;> cases v.ty.tmp <;> cases lonKw <;> cases tmpKw <;> rfl

private theorem ok_of_ite_error {ε α : Type} {c : Prop} [Decidable c] {e : ε} {x : Except ε α} {r : α}
    (h : (if c then .error e else x) = .ok r) : x = .ok r := by
  split at h
  · cases h
  · exact h

/-- a successful dimension change returns the vector itself (same dimension), or: the azimuthal pair, then per further
group of the target the stored coordinate and its system if the vector has the group, else an imputed value in an
imputed system (the keyword's, or the default) -/
theorem toDim_ok (z : S) (v r : Vec S) (target : Nat) (lonKw : List (Lon × S)) (tmpKw : List (Tmp × S)) (o : Nat)
    (h : toDim z target v lonKw tmpKw o = .ok r) :
    r = v ∧ target = v.ty.dim ∨
    ∃ (l : Lon) (tm : Tmp) (a b : S), r =
      ⟨{ v.ty with lon := if target < 3 then none else some (v.ty.lon.getD l),
                   tmp := if target < 4 then none else some (v.ty.tmp.getD tm) },
       v.azEl ++ (if target < 3 then [] else if v.ty.lon.isSome then v.lonEl else [a]) ++
         (if target < 4 then [] else if v.ty.tmp.isSome then v.tmpEl else [b])⟩ := by
  rw [toDim_eq] at h
  replace h := ok_of_ite_error (ok_of_ite_error h)
  split at h
  next hd => cases h; exact .inl ⟨rfl, eq_of_beq hd⟩
  next => cases h; exact .inr ⟨_, _, _, _, rfl⟩

theorem toDim_ty (z : S) (v r : Vec S) (target : Nat) (ht : target = 2 ∨ target = 3 ∨ target = 4) (lonKw : List (Lon × S))
    (tmpKw : List (Tmp × S)) (o : Nat) (h : toDim z target v lonKw tmpKw o = .ok r) :
    r.ty.be = v.ty.be ∧ r.ty.mom = v.ty.mom ∧ r.ty.az = v.ty.az ∧ r.ty.dim = target := by
  obtain ⟨rfl, rfl⟩ | ⟨l, tm, a, b, rfl⟩ := toDim_ok z v r target lonKw tmpKw o h
  · exact ⟨rfl, rfl, rfl, rfl⟩
  · rcases ht with rfl | rfl | rfl <;> exact ⟨rfl, rfl, rfl, rfl⟩

/-! ### `binary` -/

/-- scalar arguments of a binary method: the tolerance, or `rtol, atol, equal_nan` (defaults unless given), or none -/
def Bin.scalars (K : Consts S) (b : Bin) (extra : List S) : List S :=
  match b with
  | .isclose => if extra.isEmpty then [K.rtol, K.atol, K.bFalse] else extra
  | .is_parallel | .is_antiparallel | .is_perpendicular => if extra.isEmpty then [K.tol] else extra
  | _ => []

/-- what a binary method does with operands of dimensions `d` (`self`) and `e` (the other one), from the two dimensions
alone: the error it raises, or the compute module it dispatches to -/
def Bin.route (b : Bin) (d e : Nat) : Except Err ModuleId :=
  match b with
  | .add | .subtract | .dot | .equal | .not_equal | .isclose | .is_parallel | .is_antiparallel | .is_perpendicular =>
    if e != d then .error .typeError else
    match b.sameDimMod d with | some m => .ok m | none => .error .assertionError
  | .deltaphi => .ok .planar_deltaphi
  | .deltaangle | .deltaeta | .deltaR | .deltaR2 =>
    if d < 3 then .error .attributeError else
    if e != 3 && e != 4 then .error .typeError else
    .ok (match b with | .deltaangle => .spatial_deltaangle | .deltaeta => .spatial_deltaeta
                      | .deltaR => .spatial_deltaR | _ => .spatial_deltaR2)
  | .deltaRapidityPhi | .deltaRapidityPhi2 =>
    if d < 4 then .error .attributeError else
    if e != 4 then .error .typeError else
    .ok (match b with | .deltaRapidityPhi => .lorentz_deltaRapidityPhi | _ => .lorentz_deltaRapidityPhi2)
  | .cross =>
    if d < 3 then .error .attributeError else
    if d != 3 || e != 3 then .error .typeError else .ok .spatial_cross
  | .boost_p4 | .boostCM_of_p4 =>
    if d < 4 then .error .attributeError else if e != 4 then .error .typeError else .ok .lorentz_boost_p4
  | .boost_beta3 | .boostCM_of_beta3 =>
    if d < 4 then .error .attributeError else if e != 3 then .error .typeError else .ok .lorentz_boost_beta3
  | .boost | .boostCM_of =>
    if d < 4 then .error .attributeError else
    if e == 3 then .ok .lorentz_boost_beta3 else if e == 4 then .ok .lorentz_boost_p4 else .error .typeError

/-- the `boostCM_of*` methods boost by the NEGATED spatial part of their operand -/
def Bin.viaNeg : Bin → Bool
  | .boostCM_of_p4 | .boostCM_of_beta3 | .boostCM_of => true
  | _ => false

/-- the binary methods that require operands of equal dimension -/
def Bin.sameDim : Bin → Bool
  | .add | .subtract | .dot | .equal | .not_equal | .isclose | .is_parallel | .is_antiparallel | .is_perpendicular => true
  | _ => false

theorem Bin.route_sameDim (b : Bin) (hb : b.sameDim = true) (d e : Nat) :
    b.route d e = if e != d then .error .typeError else
      match b.sameDimMod d with | some m => .ok m | none => .error .assertionError := by
  cases b <;> first | rfl | cases hb

theorem Bin.viaNeg_sameDim {b : Bin} (hb : b.sameDim = true) : b.viaNeg = false := by
  cases b <;> first | rfl | cases hb

/-- the second operand as the compute module gets it -/
def binOperand (ev : Ev S B) (K : Consts S) (b : Bin) (o : Vec S) : Except Err (Vec S) :=
  if b.viaNeg then
    match negN ev K 3 o with
    | .ok (.vec n) => .ok n
    | .ok _ => .error .assertionError
    | .error e => .error e
  else .ok o

/-- `binary` in closed form: the guards look at the two dimensions only (`Bin.route`); what passes them is ONE `dispatch`,
on `self` and the (possibly negated) operand, both counted -/
theorem binary_eq (ev : Ev S B) (K : Consts S) (b : Bin) (self o : Vec S) (extra : List S) :
    binary ev K b self o extra =
      match b.route self.ty.dim o.ty.dim with
      | .error e => .error e
      | .ok m =>
        match binOperand ev K b o with
        | .error e => .error e
        | .ok o' => dispatch ev m (b.scalars K extra) none [self, o'] [self, o'] := by
  have key : ∀ (c : Prop) [Decidable c] (x y : Except Err ModuleId) (k : ModuleId → Except Err (Res S B)),
      (match (if c then x else y) with | .error e => Except.error e | .ok m => k m) =
        if c then (match x with | .error e => Except.error e | .ok m => k m)
        else (match y with | .error e => Except.error e | .ok m => k m) := by
    intro c inst x y k; cases inst <;> rfl
  cases b
  case boostCM_of_p4 | boostCM_of_beta3 | boostCM_of =>
    simp only [binary, Bin.route, binOperand, Bin.viaNeg, Bin.scalars, if_true, key]
    refine ite_congr rfl (fun _ => rfl) (fun _ => ?_)
    by_cases h3 : o.ty.dim = 3 <;> by_cases h4 : o.ty.dim = 4 <;> simp [h3, h4] <;>
      (cases negN ev K 3 o with | error e => rfl | ok r => cases r <;> rfl)
  case add | subtract | dot | equal | not_equal | isclose | is_parallel | is_antiparallel | is_perpendicular =>
    simp only [binary, Bin.route, binOperand, Bin.viaNeg, Bin.scalars, Bool.false_eq_true, if_false, key]
    refine ite_congr rfl (fun _ => rfl) (fun _ => ?_)
    cases Bin.sameDimMod _ self.ty.dim <;> rfl
  all_goals simp only [binary, Bin.route, binOperand, Bin.viaNeg, Bin.scalars, Bool.false_eq_true, if_false, key]

theorem binOperand_plain (ev : Ev S B) (K : Consts S) {b : Bin} (hn : b.viaNeg = false) (o : Vec S) :
    binOperand ev K b o = .ok o := by
  rw [binOperand, hn]; rfl

theorem binary_route_error (ev : Ev S B) (K : Consts S) {b : Bin} {self o : Vec S} (extra : List S) {e : Err}
    (h : b.route self.ty.dim o.ty.dim = .error e) : binary ev K b self o extra = .error e := by
  rw [binary_eq, h]

theorem binary_route_ok (ev : Ev S B) (K : Consts S) {b : Bin} {self o : Vec S} (extra : List S) {m : ModuleId}
    (h : b.route self.ty.dim o.ty.dim = .ok m) (hn : b.viaNeg = false) :
    binary ev K b self o extra = dispatch ev m (b.scalars K extra) none [self, o] [self, o] := by
  rw [binary_eq, h, binOperand_plain ev K hn]

/-- where `binary` succeeds: `Bin.route` of the two dimensions is a module `m`, the operand as the module gets it is a vector
`o'`, and the value is the `dispatch` of `m` on `self` and `o'` -/
theorem binary_inv (ev : Ev S B) (K : Consts S) {b : Bin} {self o : Vec S} {extra : List S} {r : Res S B}
    (h : binary ev K b self o extra = .ok r) :
    ∃ m o', b.route self.ty.dim o.ty.dim = .ok m ∧ binOperand ev K b o = .ok o' ∧
      dispatch ev m (b.scalars K extra) none [self, o'] [self, o'] = .ok r := by
  rw [binary_eq] at h
  split at h
  · cases h
  · split at h
    · cases h
    · exact ⟨_, _, ‹_›, ‹_›, h⟩

/-! ### `call` -/

/-- the local `u` of `VG.call`: a method of one vector `v`, defined on the classes of dimension ≥ `need` (`AttributeError` on the
others), that is `dispatch` of one module on `v` itself -/
def selfCall (ev : Ev S B) (v : Vec S) (m : ModuleId) (need : Nat) (sc : List S) (ord : Option Ord := none) :
    Except Err (Res S B) :=
  if v.ty.dim < need then .error .attributeError else dispatch ev m sc ord [v] [v]

theorem selfCall_of_le {ev : Ev S B} {v : Vec S} {m : ModuleId} {need : Nat} {sc : List S} {ord : Option Ord}
    (h : need ≤ v.ty.dim) : selfCall ev v m need sc ord = dispatch ev m sc ord [v] [v] := if_neg (Nat.not_lt.mpr h)

theorem selfCall_of_lt {ev : Ev S B} {v : Vec S} {m : ModuleId} {need : Nat} {sc : List S} {ord : Option Ord}
    (h : v.ty.dim < need) : selfCall ev v m need sc ord = .error .attributeError := if_pos h

end
end VG
