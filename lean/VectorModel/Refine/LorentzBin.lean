/-
Refinement theorems for the binary / transforming Lorentz (4D) compute modules:

* boosts (`boostX/Y/Z_beta`, `boostX/Y/Z_gamma`, `boost_beta3`, `boost_p4`) and `transform4D` — C01 + C02: the value
  computed under EVERY coordinate-system key denotes the boost (the matrix) applied to the Cartesian denotation of the
  operand; for `boost_beta3`, `boost_p4` also C01 alone: the same as the all-Cartesian `t` key on the denotations;
* `dot`, `scale`, `add`, `subtract`, `unit` — C01 + C02: the value denotes `Spec.mdot / smul4 / add4 / sub4 / …`
  of the denotations;
* `deltaRapidityPhi2`, `deltaRapidityPhi`: `Δφ² + Δy²` (and its root) of the planar `deltaphi` and the rapidities.

Every module is first brought to ONE form valid for all keys (by unfolding: the keys differ only in the accessors they convert the
operands with); the algebra is then done once, on that form. The eight boost modules share one form, `BoostForm`; their theorems,
for both readings of τ, are instances of those about it; `add` / `subtract` likewise share `addForm4`.

Names. `refine_lorentz_M…` are the statements about module `M`; the rest of the file are the forms, definitions and lemmas they
rest on. A vector-valued result is read through the declared result type (`interp4 (M.ret …)`; `interp3` for the spatial part in
`…_tau_spatial`), except where the raw value `M.eval …` is what is stated: `…_cart_t`, `…_tau_stored` and
`refine_lorentz_boost_p4_tau2` (a τ-stored boost vector gives the raw result of the `t`-stored one with its denoted time). The
scalar-valued `dot`, `deltaRapidityPhi2`, `deltaRapidityPhi` have no result type to read through. `lorentz_M_eval_eq`, `lorentz_M_ret_eq`: the one form of `M.eval`, `M.ret` for all keys
(`spatial_add_ret_eq`: the same through `azOfRet` / `lonOfRet`; `…_ret_sys` of `Refine/SpatialBin.lean`: through `commonSys`);
`…_spec`: every key denotes the `Spec` function of the denotation (C01 + C02); `…_cart`: every key denotes what the all-Cartesian
`t` key computes on the denotations (C01); `…_cart_t`: that key is the `Spec` function (C02); `…_tau_spatial`, `…_tau_stored`: the
spatial part and the returned τ of a τ key, with no hypothesis on the boost; `…_signed`: under the signed reading of τ. (`…_key` in
`Refine/SpatialRot.lean` says what `…_cart` says here.)

Hypotheses: `TanOK` (the code divides by `tan θ`), `SinOK` (the code divides by `sin² θ` when it needs `|p|²` of a
θ-stored vector, i.e. for τ-stored time), `CanonTmp` (`0 ≤ τ`), and for the τ-keys of the boosts a physical boost
parameter (`|β| < 1`, `1 ≤ |γ|`): the τ-variants return the STORED τ, which denotes the boosted time component only
because a Lorentz boost preserves the invariant mass. Where a statement about a τ-stored operand or result has a form for
the signed reading of τ (`Spec/SignedTau.lean`: `cart4S`, `interp4S`, `CanonTmpS`), that one is proved and the statement
under `0 ≤ τ` is its restriction (`cart4S_eq_cart4`, `interp4S_eq_interp4`); `scale` is the exception (its unsigned form asks
nothing of a stored τ).

The `example`s after the theorems of a module give a point at which the hypotheses of those theorems hold together: the statements
are not vacuous.
-/
import VectorModel.Spec.Basic
import VectorModel.Spec.LorentzBin
import VectorModel.Spec.SignedTau
import VectorModel.Lemmas.Real
import VectorModel.Refine.Planar
import VectorModel.Refine.SpatialZ
import VectorModel.Refine.SpatialAcc
import VectorModel.Refine.SpatialBin
import VectorModel.Refine.LorentzAcc
import VectorModel.Gen.Real.lorentz_t
import VectorModel.Gen.Real.lorentz_tau
import VectorModel.Gen.Real.lorentz_rapidity
import VectorModel.Gen.Real.lorentz_boostX_beta
import VectorModel.Gen.Real.lorentz_boostY_beta
import VectorModel.Gen.Real.lorentz_boostZ_beta
import VectorModel.Gen.Real.lorentz_boostX_gamma
import VectorModel.Gen.Real.lorentz_boostY_gamma
import VectorModel.Gen.Real.lorentz_boostZ_gamma
import VectorModel.Gen.Real.lorentz_transform4D
import VectorModel.Gen.Real.lorentz_boost_beta3
import VectorModel.Gen.Real.lorentz_boost_p4
import VectorModel.Gen.Real.lorentz_dot
import VectorModel.Gen.Real.lorentz_scale
import VectorModel.Gen.Real.lorentz_add
import VectorModel.Gen.Real.lorentz_subtract
import VectorModel.Gen.Real.lorentz_unit
import VectorModel.Gen.Real.lorentz_deltaRapidityPhi
import VectorModel.Gen.Real.lorentz_deltaRapidityPhi2
import Mathlib.Tactic.NormNum

namespace VR
open VK Spec Real

theorem interp3_same (k0 : Az) (k1 : Lon) (v : ℝ × ℝ × ℝ) :
    interp3 (Ret.vec [RP.az k0, RP.lon k1]) v = some (cart3 k0 k1 v.1 v.2.1 v.2.2) := rfl
theorem interp4_same (k0 : Az) (k1 : Lon) (k2 : Tmp) (v : ℝ × ℝ × ℝ × ℝ) :
    interp4 (Ret.vec [RP.az k0, RP.lon k1, RP.tmp k2]) v = some (cart4 k0 k1 k2 v.1 v.2.1 v.2.2.1 v.2.2.2) := rfl

/-! ### boosts: what a τ-stored result denotes

Every boost module computes, for a `t`-stored operand, the boosted Cartesian 4-vector `Λ v`; for a τ-stored operand the
spatial part of `Λ v` (with `v` rebuilt through `lorentz_t`) and the STORED τ (`keepTau`). The τ-stored result denotes
`Λ v` because `Λ` preserves the Minkowski square and keeps the time component non-negative (`IsBoost`). -/

/-- what the τ variants of the boosts return: the spatial part computed for the `t` variant, and the stored τ -/
def keepTau (k2 : Tmp) (d : ℝ) (w : ℝ × ℝ × ℝ × ℝ) : ℝ × ℝ × ℝ × ℝ :=
  match k2 with
  | .t => w
  | .tau => (w.1, w.2.1, w.2.2.1, d)

/-- `Λ` preserves the Minkowski square and keeps future-directed causal vectors future-directed -/
def IsBoost (Λ : ℝ × ℝ × ℝ × ℝ → ℝ × ℝ × ℝ × ℝ) : Prop :=
  ∀ v, mdot (Λ v) (Λ v) = mdot v v ∧ (0 ≤ v.2.2.2 → 0 ≤ mdot v v → 0 ≤ (Λ v).2.2.2)

theorem mdot_boostX {g bg : ℝ} (hg : g ^ 2 - bg ^ 2 = 1) (v w : ℝ × ℝ × ℝ × ℝ) :
    mdot (boostX g bg v) (boostX g bg w) = mdot v w := by
  simp only [mdot, boostX]
  linear_combination (v.2.2.2 * w.2.2.2 - v.1 * w.1) * hg

theorem mdot_boostY {g bg : ℝ} (hg : g ^ 2 - bg ^ 2 = 1) (v w : ℝ × ℝ × ℝ × ℝ) :
    mdot (boostY g bg v) (boostY g bg w) = mdot v w := by
  simp only [mdot, boostY]
  linear_combination (v.2.2.2 * w.2.2.2 - v.2.1 * w.2.1) * hg

theorem mdot_boostZ {g bg : ℝ} (hg : g ^ 2 - bg ^ 2 = 1) (v w : ℝ × ℝ × ℝ × ℝ) :
    mdot (boostZ g bg v) (boostZ g bg w) = mdot v w := by
  simp only [mdot, boostZ]
  linear_combination (v.2.2.2 * w.2.2.2 - v.2.2.1 * w.2.2.1) * hg

theorem mdot_boostU {G ux uy uz : ℝ} (hG : G ^ 2 = 1 + (ux ^ 2 + uy ^ 2 + uz ^ 2)) (hG1 : G + 1 ≠ 0)
    (v w : ℝ × ℝ × ℝ × ℝ) : mdot (boostU G ux uy uz v) (boostU G ux uy uz w) = mdot v w := by
  obtain ⟨x, y, z, t⟩ := v
  obtain ⟨x', y', z', t'⟩ := w
  simp only [mdot, boostU]
  -- with `c = u·p/(G+1) + t` the claim is polynomial in `c`, `c'`, given `u·p = (c − t)(G + 1)`
  generalize hc : (ux * x + uy * y + uz * z) / (G + 1) + t = c
  generalize hc' : (ux * x' + uy * y' + uz * z') / (G + 1) + t' = c'
  have ha : ux * x + uy * y + uz * z = (c - t) * (G + 1) := by
    rw [← hc, add_sub_cancel_right, div_mul_cancel₀ _ hG1]
  have ha' : ux * x' + uy * y' + uz * z' = (c' - t') * (G + 1) := by
    rw [← hc', add_sub_cancel_right, div_mul_cancel₀ _ hG1]
  linear_combination (ux * x' + uy * y' + uz * z' + G * t' - c') * ha + ((c - t) * (G + 1) + G * t - c) * ha'
    + c * c' * hG

theorem boostX_isBoost {g bg : ℝ} (h : g ^ 2 - bg ^ 2 = 1 ∧ |bg| ≤ g) : IsBoost (boostX g bg) := by
  refine fun v => ⟨mdot_boostX h.1 v v, fun ht hm => L.boost1_nonneg h.2 ht ?_⟩
  simp only [mdot] at hm
  linarith [sq_nonneg v.2.1, sq_nonneg v.2.2.1]

theorem boostY_isBoost {g bg : ℝ} (h : g ^ 2 - bg ^ 2 = 1 ∧ |bg| ≤ g) : IsBoost (boostY g bg) := by
  refine fun v => ⟨mdot_boostY h.1 v v, fun ht hm => L.boost1_nonneg h.2 ht ?_⟩
  simp only [mdot] at hm
  linarith [sq_nonneg v.1, sq_nonneg v.2.2.1]

theorem boostZ_isBoost {g bg : ℝ} (h : g ^ 2 - bg ^ 2 = 1 ∧ |bg| ≤ g) : IsBoost (boostZ g bg) := by
  refine fun v => ⟨mdot_boostZ h.1 v v, fun ht hm => L.boost1_nonneg h.2 ht ?_⟩
  simp only [mdot] at hm
  linarith [sq_nonneg v.1, sq_nonneg v.2.1]

/-- for `G > 0` it keeps future-directed causal vectors future-directed (Cauchy–Schwarz) -/
theorem boostU_isBoost {G ux uy uz : ℝ} (hG : G ^ 2 = 1 + (ux ^ 2 + uy ^ 2 + uz ^ 2)) (hG0 : 0 < G) :
    IsBoost (boostU G ux uy uz) := by
  refine fun v => ⟨mdot_boostU hG (by positivity) v v, fun ht hm => ?_⟩
  obtain ⟨x, y, z, t⟩ := v
  simp only [mdot] at hm ht
  have := L.dot_le (T1 := G) (T2 := t) (by linarith : ux ^ 2 + uy ^ 2 + uz ^ 2 ≤ G ^ 2)
    (by linarith : x ^ 2 + y ^ 2 + z ^ 2 ≤ t ^ 2) hG0.le ht
  simp only [boostU]
  linarith [neg_abs_le (ux * x + uy * y + uz * z)]

/-- a vector `w = (p', t')` with Minkowski square `s` has `√(s + |p'|²) = |t'|`: what a τ-stored `(p', τ)` with invariant
`s` (`τ²`, or `copysign(τ², τ)` under the signed reading) denotes as time component -/
theorem L.sqrt_mdot {s : ℝ} {w : ℝ × ℝ × ℝ × ℝ} (h : mdot w w = s) :
    sqrt (s + (w.1 ^ 2 + w.2.1 ^ 2 + w.2.2.1 ^ 2)) = |w.2.2.2| := by
  rw [← sqrt_sq_eq_abs, ← h]
  congr 1
  simp only [mdot]; ring

theorem mdot_cart4S_tau (k0 : Az) (k1 : Lon) (a b c d : ℝ) (hd : CanonTmpS k0 k1 .tau a b c d) :
    mdot (cart4S k0 k1 .tau a b c d) (cart4S k0 k1 .tau a b c d) = tau2S d := by
  have h := tOfS_sq_sub_mag2 k0 k1 a b c d hd
  simp only [mdot, cart4S]
  unfold mag2Of at h
  linear_combination h

def absTime (p : ℝ × ℝ × ℝ × ℝ) : ℝ × ℝ × ℝ × ℝ := (p.1, p.2.1, p.2.2.1, |p.2.2.2|)

/-- the τ-stored result `(p', τ)` of a boost `Λ v = (p', t')` denotes `(p', |t'|)` under the signed reading: `Λ`
preserves the invariant `τ²ₛ` -/
theorem interp4S_keepTau_abs {Λ : ℝ × ℝ × ℝ × ℝ → ℝ × ℝ × ℝ × ℝ} (k0 : Az) (k1 : Lon) (a b c d : ℝ)
    (hd : CanonTmpS k0 k1 .tau a b c d) (hΛ : IsBoost Λ) :
    interp4S (Ret.vec [RP.az .xy, RP.lon .z, RP.tmp .tau]) (keepTau .tau d (Λ (cart4S k0 k1 .tau a b c d)))
      = some (absTime (Λ (cart4S k0 k1 .tau a b c d))) := by
  have hm := ((hΛ _).1).trans (mdot_cart4S_tau k0 k1 a b c d hd)
  generalize Λ (cart4S k0 k1 .tau a b c d) = w at hm ⊢
  show some (w.1, w.2.1, w.2.2.1, sqrt (tau2S d + (w.1 ^ 2 + w.2.1 ^ 2 + w.2.2.1 ^ 2))) = _
  rw [L.sqrt_mdot hm]
  rfl

/-- a boost result in the form all boost modules produce it denotes the boosted signed-τ denotation; for a τ-stored
operand when the boosted time component is `≥ 0` (a boost can make the time component of a SPACE-LIKE vector negative,
which τ storage cannot represent) -/
theorem interp4S_keepTau_boost {Λ : ℝ × ℝ × ℝ × ℝ → ℝ × ℝ × ℝ × ℝ} (k0 : Az) (k1 : Lon) (k2 : Tmp) (a b c d : ℝ)
    (hd : CanonTmpS k0 k1 k2 a b c d) (hΛ : IsBoost Λ) (h0 : k2 = .tau → 0 ≤ (Λ (cart4S k0 k1 k2 a b c d)).2.2.2) :
    interp4S (Ret.vec [RP.az .xy, RP.lon .z, RP.tmp k2]) (keepTau k2 d (Λ (cart4S k0 k1 k2 a b c d)))
      = some (Λ (cart4S k0 k1 k2 a b c d)) := by
  cases k2
  · rfl
  · rw [interp4S_keepTau_abs k0 k1 a b c d hd hΛ, absTime, abs_of_nonneg (h0 rfl)]

/-- … and under `0 ≤ τ` the boosted denotation outright: the operand is then causal and future-directed, and a boost
keeps it so -/
theorem interp4_keepTau_boost {Λ : ℝ × ℝ × ℝ × ℝ → ℝ × ℝ × ℝ × ℝ} (k0 : Az) (k1 : Lon) (k2 : Tmp) (a b c d : ℝ)
    (hd : CanonTmp k2 d) (hΛ : k2 = .tau → IsBoost Λ) :
    interp4 (Ret.vec [RP.az .xy, RP.lon .z, RP.tmp k2]) (keepTau k2 d (Λ (cart4 k0 k1 k2 a b c d)))
      = some (Λ (cart4 k0 k1 k2 a b c d)) := by
  cases k2
  · rfl
  · have hS := CanonTmpS_of_CanonTmp k0 k1 .tau a b c d hd
    rw [← cart4S_eq_cart4 k0 k1 .tau a b c d hd]
    refine (interp4S_eq_interp4 _ (keepTau .tau d _) fun _ => hd).symm.trans
      (interp4S_keepTau_boost k0 k1 .tau a b c d hS (hΛ rfl) fun _ => (hΛ rfl _).2 (tOfS_tau_nonneg k0 k1 a b c d) ?_)
    rw [mdot_cart4S_tau k0 k1 a b c d hS]
    exact tau2S_nonneg_iff.mpr hd

/-- `boostZ` returns the azimuthal coordinates as stored, in the operand's own azimuthal system -/
theorem interp4_keepTau_az (k0 : Az) (k2 : Tmp) (d a b z t : ℝ) :
    interp4 (Ret.vec [RP.az k0, RP.lon .z, RP.tmp k2]) (keepTau k2 d (a, b, z, t))
      = interp4 (Ret.vec [RP.az .xy, RP.lon .z, RP.tmp k2]) (keepTau k2 d (xOf k0 a b, yOf k0 a b, z, t)) := by
  cases k0 <;> cases k2 <;> rfl

theorem interp4S_keepTau_az (k0 : Az) (k2 : Tmp) (d a b z t : ℝ) :
    interp4S (Ret.vec [RP.az k0, RP.lon .z, RP.tmp k2]) (keepTau k2 d (a, b, z, t))
      = interp4S (Ret.vec [RP.az .xy, RP.lon .z, RP.tmp k2]) (keepTau k2 d (xOf k0 a b, yOf k0 a b, z, t)) := by
  cases k0 <;> cases k2 <;> rfl

/-! ### the shape shared by the eight boost modules

Seen as a function of the boosted operand alone (parameter or boost vector fixed), every boost module declares a Cartesian
result of the operand's temporal kind (`boostZ` keeps the azimuthal pair in the operand's own system: `az = id`) and returns
`keepTau` of a tuple that denotes `Λ` of the converted operand, with the code's own `lorentz_t` as time component, when the
operand's longitudinal coordinate is admissible (`OK`). Neither reading of τ enters; each reading then supplies what that
time component is, and every per-module statement below is an instance. -/

structure BoostForm (ret : Az → Lon → Tmp → Ret) (eval : Az → Lon → Tmp → ℝ → ℝ → ℝ → ℝ → ℝ × ℝ × ℝ × ℝ)
    (Λ : ℝ × ℝ × ℝ × ℝ → ℝ × ℝ × ℝ × ℝ) (az : Az → Az) (OK : Lon → ℝ → Prop) : Prop where
  ret_eq : ∀ k0 k1 k2, ret k0 k1 k2 = Ret.vec [RP.az (az k0), RP.lon .z, RP.tmp k2]
  eval_eq : ∀ k0 k1 k2 a b c d, ∃ w, eval k0 k1 k2 a b c d = keepTau k2 d w ∧ (OK k1 c →
    (xOf (az k0) w.1 w.2.1, yOf (az k0) w.1 w.2.1, w.2.2.1, w.2.2.2)
      = Λ (xOf k0 a b, yOf k0 a b, zOf k0 k1 a b c,
          lorentz_t.eval .xy .z k2 (xOf k0 a b) (yOf k0 a b) (zOf k0 k1 a b c) d))

namespace BoostForm
section
variable {ret : Az → Lon → Tmp → Ret} {eval : Az → Lon → Tmp → ℝ → ℝ → ℝ → ℝ → ℝ × ℝ × ℝ × ℝ}
  {Λ : ℝ × ℝ × ℝ × ℝ → ℝ × ℝ × ℝ × ℝ} {az : Az → Az} {OK : Lon → ℝ → Prop} (F : BoostForm ret eval Λ az OK)
  (k0 : Az) (k1 : Lon) (k2 : Tmp) (a b c d : ℝ)
include F

theorem tau_stored : (eval k0 k1 .tau a b c d).2.2.2 = d := by
  obtain ⟨w, he, -⟩ := F.eval_eq k0 k1 .tau a b c d
  rw [he]; rfl

/-- the result, read through the declared type under either reading `I`, is the Cartesian `keepTau` tuple of `Λ` on the
operand's denotation with the time component `T` the code computes -/
theorem den {I : Ret → ℝ × ℝ × ℝ × ℝ → Option (ℝ × ℝ × ℝ × ℝ)}
    (hI : ∀ k0 k2 d a b z t, I (Ret.vec [RP.az k0, RP.lon .z, RP.tmp k2]) (keepTau k2 d (a, b, z, t))
      = I (Ret.vec [RP.az .xy, RP.lon .z, RP.tmp k2]) (keepTau k2 d (xOf k0 a b, yOf k0 a b, z, t)))
    (h : OK k1 c) {T : ℝ} (hT : lorentz_t.eval .xy .z k2 (xOf k0 a b) (yOf k0 a b) (zOf k0 k1 a b c) d = T) :
    I (ret k0 k1 k2) (eval k0 k1 k2 a b c d)
      = I (Ret.vec [RP.az .xy, RP.lon .z, RP.tmp k2]) (keepTau k2 d (Λ (xOf k0 a b, yOf k0 a b, zOf k0 k1 a b c, T))) := by
  obtain ⟨w, he, hw⟩ := F.eval_eq k0 k1 k2 a b c d
  rw [F.ret_eq, he, ← hT, ← hw h]
  exact hI (az k0) k2 d _ _ _ _

theorem tau_spatial_of (h : OK k1 c) {T : ℝ}
    (hT : lorentz_t.eval .xy .z .tau (xOf k0 a b) (yOf k0 a b) (zOf k0 k1 a b c) d = T) :
    let r := eval k0 k1 .tau a b c d
    let r' := Λ (xOf k0 a b, yOf k0 a b, zOf k0 k1 a b c, T)
    interp3 (ret k0 k1 .tau) (r.1, r.2.1, r.2.2.1) = some (r'.1, r'.2.1, r'.2.2.1) := by
  obtain ⟨w, he, hw⟩ := F.eval_eq k0 k1 .tau a b c d
  simp only [F.ret_eq, he, ← hT, ← hw h]
  rfl

/-! signed τ -/

theorem spec_signed (h : OK k1 c) (hd : CanonTmpS k0 k1 k2 a b c d) (hΛ : IsBoost Λ)
    (h0 : k2 = .tau → 0 ≤ (Λ (cart4S k0 k1 k2 a b c d)).2.2.2) :
    interp4S (ret k0 k1 k2) (eval k0 k1 k2 a b c d) = some (Λ (cart4S k0 k1 k2 a b c d)) :=
  (F.den k0 k1 k2 a b c d interp4S_keepTau_az h (lorentz_t_cart_eq_tOfS k0 k1 k2 a b c d hd)).trans
    (interp4S_keepTau_boost k0 k1 k2 a b c d hd hΛ h0)

theorem tau_abs_signed (h : OK k1 c) (hd : CanonTmpS k0 k1 .tau a b c d) (hΛ : IsBoost Λ) :
    interp4S (ret k0 k1 .tau) (eval k0 k1 .tau a b c d)
      = some (absTime (Λ (cart4S k0 k1 .tau a b c d))) :=
  (F.den k0 k1 .tau a b c d interp4S_keepTau_az h (lorentz_t_cart_eq_tOfS k0 k1 .tau a b c d hd)).trans
    (interp4S_keepTau_abs k0 k1 a b c d hd hΛ)

theorem tau_spatial_signed (h : OK k1 c) (hd : CanonTmpS k0 k1 .tau a b c d) :
    let r := eval k0 k1 .tau a b c d
    let r' := Λ (cart4S k0 k1 .tau a b c d)
    interp3 (ret k0 k1 .tau) (r.1, r.2.1, r.2.2.1) = some (r'.1, r'.2.1, r'.2.2.1) :=
  F.tau_spatial_of k0 k1 a b c d h (lorentz_t_cart_eq_tOfS k0 k1 .tau a b c d hd)

/-! `0 ≤ τ` -/

theorem spec (h : OK k1 c) (hd : CanonTmp k2 d) (hΛ : k2 = .tau → IsBoost Λ) :
    interp4 (ret k0 k1 k2) (eval k0 k1 k2 a b c d) = some (Λ (cart4 k0 k1 k2 a b c d)) :=
  (F.den k0 k1 k2 a b c d interp4_keepTau_az h (lorentz_t_cart_eq_tOf k0 k1 k2 a b c d hd)).trans
    (interp4_keepTau_boost k0 k1 k2 a b c d hd hΛ)

theorem tau_spatial (h : OK k1 c) (hd : 0 ≤ d) :
    let r := eval k0 k1 .tau a b c d
    let r' := Λ (cart4 k0 k1 .tau a b c d)
    interp3 (ret k0 k1 .tau) (r.1, r.2.1, r.2.2.1) = some (r'.1, r'.2.1, r'.2.2.1) :=
  F.tau_spatial_of k0 k1 a b c d h (lorentz_t_cart_eq_tOf k0 k1 .tau a b c d hd)

end
end BoostForm

/-! ### boosts along a coordinate axis

Per module: the form of every key (`_eval_eq`, `_ret_eq`, by unfolding), which makes it a `BoostForm`; the refinement
theorems are instances. -/

/-- admissible longitudinal coordinate of the operand of an axis boost -/
abbrev AxisOK (k1 : Lon) (c : ℝ) : Prop := TanOK k1 c ∧ SinOK k1 c

theorem lorentz_boostX_beta_eval_eq (k0 : Az) (k1 : Lon) (k2 : Tmp) (β a b c d : ℝ) :
    lorentz_boostX_beta.eval k0 k1 k2 β a b c d
      = keepTau k2 d (boostX (P.rpow (1 - β ^ 2) (-0.5)) (β * P.rpow (1 - β ^ 2) (-0.5))
          (xOf k0 a b, yOf k0 a b, spatial_z.eval k0 k1 a b c, lorentz_t.eval k0 k1 k2 a b c d)) := by
  cases k0 <;> cases k1 <;> cases k2 <;> rfl

theorem lorentz_boostX_beta_ret_eq (k0 : Az) (k1 : Lon) (k2 : Tmp) :
    lorentz_boostX_beta.ret k0 k1 k2 = Ret.vec [RP.az .xy, RP.lon .z, RP.tmp k2] := by
  cases k0 <;> cases k1 <;> cases k2 <;> rfl

theorem lorentz_boostX_beta_form (β : ℝ) :
    BoostForm lorentz_boostX_beta.ret (fun k0 k1 k2 => lorentz_boostX_beta.eval k0 k1 k2 β)
      (boostX (P.rpow (1 - β ^ 2) (-0.5)) (β * P.rpow (1 - β ^ 2) (-0.5))) (fun _ => .xy) AxisOK :=
  ⟨lorentz_boostX_beta_ret_eq, fun k0 k1 k2 a b c d =>
    ⟨_, lorentz_boostX_beta_eval_eq k0 k1 k2 β a b c d, fun h => by
      rw [lorentz_t_cart k0 k1 k2 a b c d h.2, ← refine_spatial_z k0 k1 a b c h.1]; rfl⟩⟩

theorem refine_lorentz_boostX_beta_tau_spatial (k0 : Az) (k1 : Lon) (β a b c d : ℝ)
    (h : TanOK k1 c) (hs : SinOK k1 c) (hd : 0 ≤ d) :
    let r := lorentz_boostX_beta.eval k0 k1 .tau β a b c d
    let r' := lorentz_boostX_beta.eval .xy .z .t β (xOf k0 a b) (yOf k0 a b) (zOf k0 k1 a b c) (tOf k0 k1 .tau a b c d)
    interp3 (lorentz_boostX_beta.ret k0 k1 .tau) (r.1, r.2.1, r.2.2.1) = some (r'.1, r'.2.1, r'.2.2.1) :=
  (lorentz_boostX_beta_form β).tau_spatial k0 k1 a b c d ⟨h, hs⟩ hd

/-- C01 + C02 for `boostX_beta`: every key denotes the boost along x of the denotation. -/
theorem refine_lorentz_boostX_beta_spec (k0 : Az) (k1 : Lon) (k2 : Tmp) (β a b c d : ℝ)
    (h : TanOK k1 c) (hs : SinOK k1 c) (hd : CanonTmp k2 d) (hβ : |β| < 1) :
    interp4 (lorentz_boostX_beta.ret k0 k1 k2) (lorentz_boostX_beta.eval k0 k1 k2 β a b c d)
      = some (boostX (P.rpow (1 - β ^ 2) (-0.5)) (β * P.rpow (1 - β ^ 2) (-0.5)) (cart4 k0 k1 k2 a b c d)) :=
  (lorentz_boostX_beta_form β).spec k0 k1 k2 a b c d ⟨h, hs⟩ hd fun _ => boostX_isBoost (L.gam_beta hβ)

theorem lorentz_boostX_gamma_eval_eq (k0 : Az) (k1 : Lon) (k2 : Tmp) (γ a b c d : ℝ) :
    lorentz_boostX_gamma.eval k0 k1 k2 γ a b c d
      = keepTau k2 d (boostX |γ| (P.copysign (sqrt (|γ| ^ 2 - 1)) γ)
          (xOf k0 a b, yOf k0 a b, spatial_z.eval k0 k1 a b c, lorentz_t.eval k0 k1 k2 a b c d)) := by
  cases k0 <;> cases k1 <;> cases k2 <;> rfl

theorem lorentz_boostX_gamma_ret_eq (k0 : Az) (k1 : Lon) (k2 : Tmp) :
    lorentz_boostX_gamma.ret k0 k1 k2 = Ret.vec [RP.az .xy, RP.lon .z, RP.tmp k2] := by
  cases k0 <;> cases k1 <;> cases k2 <;> rfl

theorem lorentz_boostX_gamma_form (γ : ℝ) :
    BoostForm lorentz_boostX_gamma.ret (fun k0 k1 k2 => lorentz_boostX_gamma.eval k0 k1 k2 γ)
      (boostX |γ| (P.copysign (sqrt (|γ| ^ 2 - 1)) γ)) (fun _ => .xy) AxisOK :=
  ⟨lorentz_boostX_gamma_ret_eq, fun k0 k1 k2 a b c d =>
    ⟨_, lorentz_boostX_gamma_eval_eq k0 k1 k2 γ a b c d, fun h => by
      rw [lorentz_t_cart k0 k1 k2 a b c d h.2, ← refine_spatial_z k0 k1 a b c h.1]; rfl⟩⟩

theorem refine_lorentz_boostX_gamma_tau_spatial (k0 : Az) (k1 : Lon) (γ a b c d : ℝ)
    (h : TanOK k1 c) (hs : SinOK k1 c) (hd : 0 ≤ d) :
    let r := lorentz_boostX_gamma.eval k0 k1 .tau γ a b c d
    let r' := lorentz_boostX_gamma.eval .xy .z .t γ (xOf k0 a b) (yOf k0 a b) (zOf k0 k1 a b c) (tOf k0 k1 .tau a b c d)
    interp3 (lorentz_boostX_gamma.ret k0 k1 .tau) (r.1, r.2.1, r.2.2.1) = some (r'.1, r'.2.1, r'.2.2.1) :=
  (lorentz_boostX_gamma_form γ).tau_spatial k0 k1 a b c d ⟨h, hs⟩ hd

/-- C01 + C02 for `boostX_gamma`: every key denotes the boost along x of the denotation. -/
theorem refine_lorentz_boostX_gamma_spec (k0 : Az) (k1 : Lon) (k2 : Tmp) (γ a b c d : ℝ)
    (h : TanOK k1 c) (hs : SinOK k1 c) (hd : CanonTmp k2 d) (hγ : 1 ≤ |γ|) :
    interp4 (lorentz_boostX_gamma.ret k0 k1 k2) (lorentz_boostX_gamma.eval k0 k1 k2 γ a b c d)
      = some (boostX |γ| (P.copysign (sqrt (|γ| ^ 2 - 1)) γ) (cart4 k0 k1 k2 a b c d)) :=
  (lorentz_boostX_gamma_form γ).spec k0 k1 k2 a b c d ⟨h, hs⟩ hd fun _ => boostX_isBoost (L.gam_gamma hγ)

theorem lorentz_boostY_beta_eval_eq (k0 : Az) (k1 : Lon) (k2 : Tmp) (β a b c d : ℝ) :
    lorentz_boostY_beta.eval k0 k1 k2 β a b c d
      = keepTau k2 d (boostY (P.rpow (1 - β ^ 2) (-0.5)) (β * P.rpow (1 - β ^ 2) (-0.5))
          (xOf k0 a b, yOf k0 a b, spatial_z.eval k0 k1 a b c, lorentz_t.eval k0 k1 k2 a b c d)) := by
  cases k0 <;> cases k1 <;> cases k2 <;> rfl

theorem lorentz_boostY_beta_ret_eq (k0 : Az) (k1 : Lon) (k2 : Tmp) :
    lorentz_boostY_beta.ret k0 k1 k2 = Ret.vec [RP.az .xy, RP.lon .z, RP.tmp k2] := by
  cases k0 <;> cases k1 <;> cases k2 <;> rfl

theorem lorentz_boostY_beta_form (β : ℝ) :
    BoostForm lorentz_boostY_beta.ret (fun k0 k1 k2 => lorentz_boostY_beta.eval k0 k1 k2 β)
      (boostY (P.rpow (1 - β ^ 2) (-0.5)) (β * P.rpow (1 - β ^ 2) (-0.5))) (fun _ => .xy) AxisOK :=
  ⟨lorentz_boostY_beta_ret_eq, fun k0 k1 k2 a b c d =>
    ⟨_, lorentz_boostY_beta_eval_eq k0 k1 k2 β a b c d, fun h => by
      rw [lorentz_t_cart k0 k1 k2 a b c d h.2, ← refine_spatial_z k0 k1 a b c h.1]; rfl⟩⟩

theorem refine_lorentz_boostY_beta_tau_spatial (k0 : Az) (k1 : Lon) (β a b c d : ℝ)
    (h : TanOK k1 c) (hs : SinOK k1 c) (hd : 0 ≤ d) :
    let r := lorentz_boostY_beta.eval k0 k1 .tau β a b c d
    let r' := lorentz_boostY_beta.eval .xy .z .t β (xOf k0 a b) (yOf k0 a b) (zOf k0 k1 a b c) (tOf k0 k1 .tau a b c d)
    interp3 (lorentz_boostY_beta.ret k0 k1 .tau) (r.1, r.2.1, r.2.2.1) = some (r'.1, r'.2.1, r'.2.2.1) :=
  (lorentz_boostY_beta_form β).tau_spatial k0 k1 a b c d ⟨h, hs⟩ hd

/-- C01 + C02 for `boostY_beta`: every key denotes the boost along y of the denotation. -/
theorem refine_lorentz_boostY_beta_spec (k0 : Az) (k1 : Lon) (k2 : Tmp) (β a b c d : ℝ)
    (h : TanOK k1 c) (hs : SinOK k1 c) (hd : CanonTmp k2 d) (hβ : |β| < 1) :
    interp4 (lorentz_boostY_beta.ret k0 k1 k2) (lorentz_boostY_beta.eval k0 k1 k2 β a b c d)
      = some (boostY (P.rpow (1 - β ^ 2) (-0.5)) (β * P.rpow (1 - β ^ 2) (-0.5)) (cart4 k0 k1 k2 a b c d)) :=
  (lorentz_boostY_beta_form β).spec k0 k1 k2 a b c d ⟨h, hs⟩ hd fun _ => boostY_isBoost (L.gam_beta hβ)

theorem lorentz_boostY_gamma_eval_eq (k0 : Az) (k1 : Lon) (k2 : Tmp) (γ a b c d : ℝ) :
    lorentz_boostY_gamma.eval k0 k1 k2 γ a b c d
      = keepTau k2 d (boostY |γ| (P.copysign (sqrt (|γ| ^ 2 - 1)) γ)
          (xOf k0 a b, yOf k0 a b, spatial_z.eval k0 k1 a b c, lorentz_t.eval k0 k1 k2 a b c d)) := by
  cases k0 <;> cases k1 <;> cases k2 <;> rfl

theorem lorentz_boostY_gamma_ret_eq (k0 : Az) (k1 : Lon) (k2 : Tmp) :
    lorentz_boostY_gamma.ret k0 k1 k2 = Ret.vec [RP.az .xy, RP.lon .z, RP.tmp k2] := by
  cases k0 <;> cases k1 <;> cases k2 <;> rfl

theorem lorentz_boostY_gamma_form (γ : ℝ) :
    BoostForm lorentz_boostY_gamma.ret (fun k0 k1 k2 => lorentz_boostY_gamma.eval k0 k1 k2 γ)
      (boostY |γ| (P.copysign (sqrt (|γ| ^ 2 - 1)) γ)) (fun _ => .xy) AxisOK :=
  ⟨lorentz_boostY_gamma_ret_eq, fun k0 k1 k2 a b c d =>
    ⟨_, lorentz_boostY_gamma_eval_eq k0 k1 k2 γ a b c d, fun h => by
      rw [lorentz_t_cart k0 k1 k2 a b c d h.2, ← refine_spatial_z k0 k1 a b c h.1]; rfl⟩⟩

theorem refine_lorentz_boostY_gamma_tau_spatial (k0 : Az) (k1 : Lon) (γ a b c d : ℝ)
    (h : TanOK k1 c) (hs : SinOK k1 c) (hd : 0 ≤ d) :
    let r := lorentz_boostY_gamma.eval k0 k1 .tau γ a b c d
    let r' := lorentz_boostY_gamma.eval .xy .z .t γ (xOf k0 a b) (yOf k0 a b) (zOf k0 k1 a b c) (tOf k0 k1 .tau a b c d)
    interp3 (lorentz_boostY_gamma.ret k0 k1 .tau) (r.1, r.2.1, r.2.2.1) = some (r'.1, r'.2.1, r'.2.2.1) :=
  (lorentz_boostY_gamma_form γ).tau_spatial k0 k1 a b c d ⟨h, hs⟩ hd

/-- C01 + C02 for `boostY_gamma`: every key denotes the boost along y of the denotation. -/
theorem refine_lorentz_boostY_gamma_spec (k0 : Az) (k1 : Lon) (k2 : Tmp) (γ a b c d : ℝ)
    (h : TanOK k1 c) (hs : SinOK k1 c) (hd : CanonTmp k2 d) (hγ : 1 ≤ |γ|) :
    interp4 (lorentz_boostY_gamma.ret k0 k1 k2) (lorentz_boostY_gamma.eval k0 k1 k2 γ a b c d)
      = some (boostY |γ| (P.copysign (sqrt (|γ| ^ 2 - 1)) γ) (cart4 k0 k1 k2 a b c d)) :=
  (lorentz_boostY_gamma_form γ).spec k0 k1 k2 a b c d ⟨h, hs⟩ hd fun _ => boostY_isBoost (L.gam_gamma hγ)

theorem lorentz_boostZ_beta_eval_eq (k0 : Az) (k1 : Lon) (k2 : Tmp) (β a b c d : ℝ) :
    lorentz_boostZ_beta.eval k0 k1 k2 β a b c d
      = keepTau k2 d (a, b,
          P.rpow (1 - β ^ 2) (-0.5) * spatial_z.eval k0 k1 a b c
            + β * P.rpow (1 - β ^ 2) (-0.5) * lorentz_t.eval k0 k1 k2 a b c d,
          β * P.rpow (1 - β ^ 2) (-0.5) * spatial_z.eval k0 k1 a b c
            + P.rpow (1 - β ^ 2) (-0.5) * lorentz_t.eval k0 k1 k2 a b c d) := by
  cases k0 <;> cases k1 <;> cases k2 <;> rfl

theorem lorentz_boostZ_beta_ret_eq (k0 : Az) (k1 : Lon) (k2 : Tmp) :
    lorentz_boostZ_beta.ret k0 k1 k2 = Ret.vec [RP.az k0, RP.lon .z, RP.tmp k2] := by
  cases k0 <;> cases k1 <;> cases k2 <;> rfl

theorem lorentz_boostZ_beta_form (β : ℝ) :
    BoostForm lorentz_boostZ_beta.ret (fun k0 k1 k2 => lorentz_boostZ_beta.eval k0 k1 k2 β)
      (boostZ (P.rpow (1 - β ^ 2) (-0.5)) (β * P.rpow (1 - β ^ 2) (-0.5))) id AxisOK :=
  ⟨lorentz_boostZ_beta_ret_eq, fun k0 k1 k2 a b c d =>
    ⟨_, lorentz_boostZ_beta_eval_eq k0 k1 k2 β a b c d, fun h => by
      rw [lorentz_t_cart k0 k1 k2 a b c d h.2, ← refine_spatial_z k0 k1 a b c h.1]; rfl⟩⟩

theorem refine_lorentz_boostZ_beta_tau_spatial (k0 : Az) (k1 : Lon) (β a b c d : ℝ)
    (h : TanOK k1 c) (hs : SinOK k1 c) (hd : 0 ≤ d) :
    let r := lorentz_boostZ_beta.eval k0 k1 .tau β a b c d
    let r' := lorentz_boostZ_beta.eval .xy .z .t β (xOf k0 a b) (yOf k0 a b) (zOf k0 k1 a b c) (tOf k0 k1 .tau a b c d)
    interp3 (lorentz_boostZ_beta.ret k0 k1 .tau) (r.1, r.2.1, r.2.2.1) = some (r'.1, r'.2.1, r'.2.2.1) :=
  (lorentz_boostZ_beta_form β).tau_spatial k0 k1 a b c d ⟨h, hs⟩ hd

/-- C01 + C02 for `boostZ_beta`: every key denotes the boost along z of the denotation. -/
theorem refine_lorentz_boostZ_beta_spec (k0 : Az) (k1 : Lon) (k2 : Tmp) (β a b c d : ℝ)
    (h : TanOK k1 c) (hs : SinOK k1 c) (hd : CanonTmp k2 d) (hβ : |β| < 1) :
    interp4 (lorentz_boostZ_beta.ret k0 k1 k2) (lorentz_boostZ_beta.eval k0 k1 k2 β a b c d)
      = some (boostZ (P.rpow (1 - β ^ 2) (-0.5)) (β * P.rpow (1 - β ^ 2) (-0.5)) (cart4 k0 k1 k2 a b c d)) :=
  (lorentz_boostZ_beta_form β).spec k0 k1 k2 a b c d ⟨h, hs⟩ hd fun _ => boostZ_isBoost (L.gam_beta hβ)

theorem lorentz_boostZ_gamma_eval_eq (k0 : Az) (k1 : Lon) (k2 : Tmp) (γ a b c d : ℝ) :
    lorentz_boostZ_gamma.eval k0 k1 k2 γ a b c d
      = keepTau k2 d (a, b,
          |γ| * spatial_z.eval k0 k1 a b c + P.copysign (sqrt (|γ| ^ 2 - 1)) γ * lorentz_t.eval k0 k1 k2 a b c d,
          P.copysign (sqrt (|γ| ^ 2 - 1)) γ * spatial_z.eval k0 k1 a b c + |γ| * lorentz_t.eval k0 k1 k2 a b c d) := by
  cases k0 <;> cases k1 <;> cases k2 <;> rfl

theorem lorentz_boostZ_gamma_ret_eq (k0 : Az) (k1 : Lon) (k2 : Tmp) :
    lorentz_boostZ_gamma.ret k0 k1 k2 = Ret.vec [RP.az k0, RP.lon .z, RP.tmp k2] := by
  cases k0 <;> cases k1 <;> cases k2 <;> rfl

theorem lorentz_boostZ_gamma_form (γ : ℝ) :
    BoostForm lorentz_boostZ_gamma.ret (fun k0 k1 k2 => lorentz_boostZ_gamma.eval k0 k1 k2 γ)
      (boostZ |γ| (P.copysign (sqrt (|γ| ^ 2 - 1)) γ)) id AxisOK :=
  ⟨lorentz_boostZ_gamma_ret_eq, fun k0 k1 k2 a b c d =>
    ⟨_, lorentz_boostZ_gamma_eval_eq k0 k1 k2 γ a b c d, fun h => by
      rw [lorentz_t_cart k0 k1 k2 a b c d h.2, ← refine_spatial_z k0 k1 a b c h.1]; rfl⟩⟩

theorem refine_lorentz_boostZ_gamma_tau_spatial (k0 : Az) (k1 : Lon) (γ a b c d : ℝ)
    (h : TanOK k1 c) (hs : SinOK k1 c) (hd : 0 ≤ d) :
    let r := lorentz_boostZ_gamma.eval k0 k1 .tau γ a b c d
    let r' := lorentz_boostZ_gamma.eval .xy .z .t γ (xOf k0 a b) (yOf k0 a b) (zOf k0 k1 a b c) (tOf k0 k1 .tau a b c d)
    interp3 (lorentz_boostZ_gamma.ret k0 k1 .tau) (r.1, r.2.1, r.2.2.1) = some (r'.1, r'.2.1, r'.2.2.1) :=
  (lorentz_boostZ_gamma_form γ).tau_spatial k0 k1 a b c d ⟨h, hs⟩ hd

/-- C01 + C02 for `boostZ_gamma`: every key denotes the boost along z of the denotation. -/
theorem refine_lorentz_boostZ_gamma_spec (k0 : Az) (k1 : Lon) (k2 : Tmp) (γ a b c d : ℝ)
    (h : TanOK k1 c) (hs : SinOK k1 c) (hd : CanonTmp k2 d) (hγ : 1 ≤ |γ|) :
    interp4 (lorentz_boostZ_gamma.ret k0 k1 k2) (lorentz_boostZ_gamma.eval k0 k1 k2 γ a b c d)
      = some (boostZ |γ| (P.copysign (sqrt (|γ| ^ 2 - 1)) γ) (cart4 k0 k1 k2 a b c d)) :=
  (lorentz_boostZ_gamma_form γ).spec k0 k1 k2 a b c d ⟨h, hs⟩ hd fun _ => boostZ_isBoost (L.gam_gamma hγ)

example : TanOK .eta 1 ∧ SinOK .eta 1 ∧ CanonTmp .tau 1 ∧ |(1 / 2 : ℝ)| < 1 ∧ (1 : ℝ) ≤ |(-2)| := by
  refine ⟨trivial, trivial, ?_, ?_, ?_⟩
  · show (0 : ℝ) ≤ 1; norm_num
  · rw [abs_of_pos] <;> norm_num
  · rw [abs_of_neg] <;> norm_num

/-! ### transform4D: every key denotes the matrix applied to the Cartesian denotation (C01 + C02) -/

theorem lorentz_transform4D_eval_eq (k0 : Az) (k1 : Lon) (k2 : Tmp)
    (xx xy xz xt yx yy yz yt zx zy zz zt tx ty tz tt a b c d : ℝ) :
    lorentz_transform4D.eval k0 k1 k2 xx xy xz xt yx yy yz yt zx zy zz zt tx ty tz tt a b c d
      = transform4 xx xy xz xt yx yy yz yt zx zy zz zt tx ty tz tt
          (xOf k0 a b, yOf k0 a b, spatial_z.eval k0 k1 a b c, lorentz_t.eval k0 k1 k2 a b c d) := by
  cases k0 <;> cases k1 <;> cases k2 <;> rfl

theorem lorentz_transform4D_ret_eq (k0 : Az) (k1 : Lon) (k2 : Tmp) :
    lorentz_transform4D.ret k0 k1 k2 = Ret.vec [RP.az .xy, RP.lon .z, RP.tmp .t] := by
  cases k0 <;> cases k1 <;> cases k2 <;> rfl

theorem lorentz_transform4D_eval_signed (k0 : Az) (k1 : Lon) (k2 : Tmp)
    (xx xy xz xt yx yy yz yt zx zy zz zt tx ty tz tt a b c d : ℝ)
    (h : TanOK k1 c) (hs : SinOK k1 c) (hd : CanonTmpS k0 k1 k2 a b c d) :
    lorentz_transform4D.eval k0 k1 k2 xx xy xz xt yx yy yz yt zx zy zz zt tx ty tz tt a b c d
      = transform4 xx xy xz xt yx yy yz yt zx zy zz zt tx ty tz tt (cart4S k0 k1 k2 a b c d) := by
  rw [lorentz_transform4D_eval_eq, refine_spatial_z k0 k1 a b c h, lorentz_t_eq_tOfS k0 k1 k2 a b c d hs hd]
  rfl

theorem refine_lorentz_transform4D (k0 : Az) (k1 : Lon) (k2 : Tmp)
    (xx xy xz xt yx yy yz yt zx zy zz zt tx ty tz tt a b c d : ℝ)
    (h : TanOK k1 c) (hs : SinOK k1 c) (hd : CanonTmp k2 d) :
    interp4 (lorentz_transform4D.ret k0 k1 k2)
        (lorentz_transform4D.eval k0 k1 k2 xx xy xz xt yx yy yz yt zx zy zz zt tx ty tz tt a b c d)
      = some (transform4 xx xy xz xt yx yy yz yt zx zy zz zt tx ty tz tt (cart4 k0 k1 k2 a b c d)) := by
  rw [lorentz_transform4D_eval_signed k0 k1 k2 _ _ _ _ _ _ _ _ _ _ _ _ _ _ _ _ a b c d h hs
    (CanonTmpS_of_CanonTmp k0 k1 k2 a b c d hd), cart4S_eq_cart4 k0 k1 k2 a b c d hd, lorentz_transform4D_ret_eq]
  rfl

example : TanOK .theta 1 ∧ SinOK .theta 1 ∧ CanonTmp .tau 2 :=
  ⟨Spec.tanOK_one .theta, Spec.sinOK_one .theta, by show (0 : ℝ) ≤ 2; norm_num⟩

/-! ### boost_beta3 (72 keys) -/

theorem lorentz_boost_beta3_eval_eq (k0 : Az) (k1 : Lon) (k2 : Tmp) (k3 : Az) (k4 : Lon) (a0 a1 a2 a3 a4 a5 a6 : ℝ) :
    lorentz_boost_beta3.eval k0 k1 k2 k3 k4 a0 a1 a2 a3 a4 a5 a6
      = lorentz_boost_beta3.eval .xy .z k2 .xy .z (xOf k0 a0 a1) (yOf k0 a0 a1) (spatial_z.eval k0 k1 a0 a1 a2) a3
          (xOf k3 a4 a5) (yOf k3 a4 a5) (spatial_z.eval k3 k4 a4 a5 a6) := by
  cases k0 <;> cases k1 <;> cases k2 <;> cases k3 <;> cases k4 <;> rfl

theorem lorentz_boost_beta3_ret_eq (k0 : Az) (k1 : Lon) (k2 : Tmp) (k3 : Az) (k4 : Lon) :
    lorentz_boost_beta3.ret k0 k1 k2 k3 k4 = Ret.vec [RP.az .xy, RP.lon .z, RP.tmp k2] := by
  cases k0 <;> cases k1 <;> cases k2 <;> cases k3 <;> cases k4 <;> rfl

theorem lorentz_boost_beta3_cart_eq (k2 : Tmp) (x y z d bx by' bz : ℝ) :
    lorentz_boost_beta3.eval .xy .z k2 .xy .z x y z d bx by' bz
      = keepTau k2 d
          (lorentz_boost_beta3.eval .xy .z .t .xy .z x y z (lorentz_t.eval .xy .z k2 x y z d) bx by' bz) := by
  cases k2 <;> rfl

/-- `boost_beta3` as a function of the boosted operand: `Λ` is the all-Cartesian `t` key with the denoted boost vector -/
theorem lorentz_boost_beta3_form (k3 : Az) (k4 : Lon) (a4 a5 a6 : ℝ) (h2 : TanOK k4 a6) :
    BoostForm (fun k0 k1 k2 => lorentz_boost_beta3.ret k0 k1 k2 k3 k4)
      (fun k0 k1 k2 a b c d => lorentz_boost_beta3.eval k0 k1 k2 k3 k4 a b c d a4 a5 a6)
      (fun v => lorentz_boost_beta3.eval .xy .z .t .xy .z v.1 v.2.1 v.2.2.1 v.2.2.2
        (xOf k3 a4 a5) (yOf k3 a4 a5) (zOf k3 k4 a4 a5 a6)) (fun _ => .xy) TanOK :=
  ⟨fun k0 k1 k2 => lorentz_boost_beta3_ret_eq k0 k1 k2 k3 k4, fun k0 k1 k2 a b c d =>
    ⟨_, (lorentz_boost_beta3_eval_eq k0 k1 k2 k3 k4 a b c d a4 a5 a6).trans (lorentz_boost_beta3_cart_eq ..), fun h => by
      rw [refine_spatial_z k0 k1 a b c h, refine_spatial_z k3 k4 a4 a5 a6 h2]; rfl⟩⟩

/-- the all-Cartesian `t` key is the general boost with `γ = 1/√(1 − |β|²)`, `u = γβ` (C02) -/
theorem refine_lorentz_boost_beta3_cart_t (x y z t bx by' bz : ℝ) :
    lorentz_boost_beta3.eval .xy .z .t .xy .z x y z t bx by' bz
      = boostU (1 / sqrt (1 - (bx ^ 2 + by' ^ 2 + bz ^ 2))) (1 / sqrt (1 - (bx ^ 2 + by' ^ 2 + bz ^ 2)) * bx)
          (1 / sqrt (1 - (bx ^ 2 + by' ^ 2 + bz ^ 2)) * by') (1 / sqrt (1 - (bx ^ 2 + by' ^ 2 + bz ^ 2)) * bz)
          (x, y, z, t) := by
  simp only [d_lorentz_boost_beta3, d_lorentz_transform4D, boostU, Prod.mk.injEq]
  exact ⟨by ring, by ring, by ring, trivial⟩

theorem boostU_isBoost_beta {G bx by' bz : ℝ} (hG : G ^ 2 * (1 - (bx ^ 2 + by' ^ 2 + bz ^ 2)) = 1 ∧ 0 < G) :
    IsBoost (boostU G (G * bx) (G * by') (G * bz)) :=
  boostU_isBoost (by linear_combination hG.1) hG.2

theorem lorentz_boost_beta3_isBoost (k3 : Az) (k4 : Lon) (a4 a5 a6 : ℝ) (hβ : mag2Of k3 k4 a4 a5 a6 < 1) :
    IsBoost fun v => lorentz_boost_beta3.eval .xy .z .t .xy .z v.1 v.2.1 v.2.2.1 v.2.2.2
      (xOf k3 a4 a5) (yOf k3 a4 a5) (zOf k3 k4 a4 a5 a6) := fun v => by
  dsimp only
  rw [refine_lorentz_boost_beta3_cart_t]
  exact boostU_isBoost_beta (L.inv_sqrt_sq (sub_pos.mpr hβ)) v

/-- C01 for `boost_beta3`: every key denotes the all-Cartesian-`t` result on the denotations of the operands. -/
theorem refine_lorentz_boost_beta3_cart (k0 : Az) (k1 : Lon) (k2 : Tmp) (k3 : Az) (k4 : Lon) (a0 a1 a2 a3 a4 a5 a6 : ℝ)
    (h1 : TanOK k1 a2) (h2 : TanOK k4 a6) (hd : CanonTmp k2 a3) (hβ : k2 = .tau → mag2Of k3 k4 a4 a5 a6 < 1) :
    interp4 (lorentz_boost_beta3.ret k0 k1 k2 k3 k4) (lorentz_boost_beta3.eval k0 k1 k2 k3 k4 a0 a1 a2 a3 a4 a5 a6)
      = interp4 (lorentz_boost_beta3.ret .xy .z .t .xy .z)
          (lorentz_boost_beta3.eval .xy .z .t .xy .z (xOf k0 a0 a1) (yOf k0 a0 a1) (zOf k0 k1 a0 a1 a2)
            (tOf k0 k1 k2 a0 a1 a2 a3) (xOf k3 a4 a5) (yOf k3 a4 a5) (zOf k3 k4 a4 a5 a6)) :=
  (lorentz_boost_beta3_form k3 k4 a4 a5 a6 h2).spec k0 k1 k2 a0 a1 a2 a3 h1 hd fun e =>
    lorentz_boost_beta3_isBoost k3 k4 a4 a5 a6 (hβ e)

/-- C01 + C02 for `boost_beta3`: every key denotes the general boost of the denotation. -/
theorem refine_lorentz_boost_beta3_spec (k0 : Az) (k1 : Lon) (k2 : Tmp) (k3 : Az) (k4 : Lon) (a0 a1 a2 a3 a4 a5 a6 : ℝ)
    (h1 : TanOK k1 a2) (h2 : TanOK k4 a6) (hd : CanonTmp k2 a3) (hβ : mag2Of k3 k4 a4 a5 a6 < 1) :
    interp4 (lorentz_boost_beta3.ret k0 k1 k2 k3 k4) (lorentz_boost_beta3.eval k0 k1 k2 k3 k4 a0 a1 a2 a3 a4 a5 a6)
      = some (boostU (1 / sqrt (1 - mag2Of k3 k4 a4 a5 a6)) (1 / sqrt (1 - mag2Of k3 k4 a4 a5 a6) * xOf k3 a4 a5)
          (1 / sqrt (1 - mag2Of k3 k4 a4 a5 a6) * yOf k3 a4 a5) (1 / sqrt (1 - mag2Of k3 k4 a4 a5 a6) * zOf k3 k4 a4 a5 a6)
          (cart4 k0 k1 k2 a0 a1 a2 a3)) :=
  (refine_lorentz_boost_beta3_cart k0 k1 k2 k3 k4 a0 a1 a2 a3 a4 a5 a6 h1 h2 hd fun _ => hβ).trans
    (congrArg some (refine_lorentz_boost_beta3_cart_t ..))

theorem refine_lorentz_boost_beta3_tau_spatial (k0 : Az) (k1 : Lon) (k3 : Az) (k4 : Lon) (a0 a1 a2 a3 a4 a5 a6 : ℝ)
    (h1 : TanOK k1 a2) (h2 : TanOK k4 a6) (hd : 0 ≤ a3) :
    let r := lorentz_boost_beta3.eval k0 k1 .tau k3 k4 a0 a1 a2 a3 a4 a5 a6
    let r' := lorentz_boost_beta3.eval .xy .z .t .xy .z (xOf k0 a0 a1) (yOf k0 a0 a1) (zOf k0 k1 a0 a1 a2)
      (tOf k0 k1 .tau a0 a1 a2 a3) (xOf k3 a4 a5) (yOf k3 a4 a5) (zOf k3 k4 a4 a5 a6)
    interp3 (lorentz_boost_beta3.ret k0 k1 .tau k3 k4) (r.1, r.2.1, r.2.2.1) = some (r'.1, r'.2.1, r'.2.2.1) :=
  (lorentz_boost_beta3_form k3 k4 a4 a5 a6 h2).tau_spatial k0 k1 a0 a1 a2 a3 h1 hd

theorem refine_lorentz_boost_beta3_tau_stored (k0 : Az) (k1 : Lon) (k3 : Az) (k4 : Lon) (a0 a1 a2 a3 a4 a5 a6 : ℝ) :
    (lorentz_boost_beta3.eval k0 k1 .tau k3 k4 a0 a1 a2 a3 a4 a5 a6).2.2.2 = a3 := by
  rw [lorentz_boost_beta3_eval_eq, lorentz_boost_beta3_cart_eq]; rfl

example : mag2Of .xy .z (1 / 2) 0 0 < 1 := by norm_num [mag2Of, xOf, yOf, zOf]

/-! ### boost_p4 (144 keys) -/

/-- `boost_p4` on a Cartesian first operand `(x₁, y₁, z₁, d₁)` of temporal kind `k2` and a boost vector with Cartesian
spatial part `(x₂, y₂, z₂)`, `|p₂|² = m2` and temporal coordinate `d₂` of kind `k5`: the code's
`cartesian_{t,tau}_…_{t,tau}`, which derive energy, mass and mass² of the boost vector from `d₂` and the `|p₂|²` computed
in the boost vector's own system, and call the kernel `ct` (`cartesian_t`) or `ctau` (`cartesian_tau`) of the copy at hand -/
noncomputable def p4Kernel (ct ctau : ℝ → ℝ → ℝ → ℝ → ℝ → ℝ → ℝ → ℝ → ℝ → ℝ → ℝ × ℝ × ℝ × ℝ) (k2 k5 : Tmp)
    (x1 y1 z1 d1 x2 y2 z2 m2 d2 : ℝ) : ℝ × ℝ × ℝ × ℝ :=
  match k2, k5 with
  | .t, .t => ct x1 y1 z1 d1 d2 (sqrt (d2 ^ 2 - m2)) (d2 ^ 2 - m2) x2 y2 z2
  | .t, .tau => ct x1 y1 z1 d1 (sqrt (d2 ^ 2 + m2)) d2 (d2 ^ 2) x2 y2 z2
  | .tau, .t => ctau x1 y1 z1 d1 d2 (sqrt (d2 ^ 2 - m2)) (d2 ^ 2 - m2) x2 y2 z2
  | .tau, .tau => ctau x1 y1 z1 d1 (sqrt (d2 ^ 2 + m2)) d2 (d2 ^ 2) x2 y2 z2

theorem lorentz_boost_p4_eval_eq (k0 : Az) (k1 : Lon) (k2 : Tmp) (k3 : Az) (k4 : Lon) (k5 : Tmp)
    (a0 a1 a2 a3 a4 a5 a6 a7 : ℝ) :
    lorentz_boost_p4.eval k0 k1 k2 k3 k4 k5 a0 a1 a2 a3 a4 a5 a6 a7
      = p4Kernel lorentz_boost_p4.cartesian_t lorentz_boost_p4.cartesian_tau k2 k5
          (xOf k0 a0 a1) (yOf k0 a0 a1) (spatial_z.eval k0 k1 a0 a1 a2) a3
          (xOf k3 a4 a5) (yOf k3 a4 a5) (spatial_z.eval k3 k4 a4 a5 a6) (spatial_mag2.eval k3 k4 a4 a5 a6) a7 := by
  cases k0 <;> cases k1 <;> cases k2 <;> cases k3 <;> cases k4 <;> cases k5 <;> rfl

theorem lorentz_boost_p4_ret_eq (k0 : Az) (k1 : Lon) (k2 : Tmp) (k3 : Az) (k4 : Lon) (k5 : Tmp) :
    lorentz_boost_p4.ret k0 k1 k2 k3 k4 k5 = Ret.vec [RP.az .xy, RP.lon .z, RP.tmp k2] := by
  cases k0 <;> cases k1 <;> cases k2 <;> cases k3 <;> cases k4 <;> cases k5 <;> rfl

theorem p4Kernel_keepTau (k2 k5 : Tmp) (x1 y1 z1 d1 x2 y2 z2 m2 d2 : ℝ) :
    p4Kernel lorentz_boost_p4.cartesian_t lorentz_boost_p4.cartesian_tau k2 k5 x1 y1 z1 d1 x2 y2 z2 m2 d2
      = keepTau k2 d1 (p4Kernel lorentz_boost_p4.cartesian_t lorentz_boost_p4.cartesian_tau .t k5 x1 y1 z1
          (lorentz_t.eval .xy .z k2 x1 y1 z1 d1) x2 y2 z2 m2 d2) := by
  cases k2 <;> cases k5 <;> rfl

/-- `boost_p4` as a function of the boosted operand: `Λ` is the all-Cartesian `t` key with the denoted spatial part of the
boost vector and its stored temporal coordinate -/
theorem lorentz_boost_p4_form (k3 : Az) (k4 : Lon) (k5 : Tmp) (a4 a5 a6 a7 : ℝ) (h2 : TanOK k4 a6) (hs2 : SinOK k4 a6) :
    BoostForm (fun k0 k1 k2 => lorentz_boost_p4.ret k0 k1 k2 k3 k4 k5)
      (fun k0 k1 k2 a b c d => lorentz_boost_p4.eval k0 k1 k2 k3 k4 k5 a b c d a4 a5 a6 a7)
      (fun v => lorentz_boost_p4.eval .xy .z .t .xy .z k5 v.1 v.2.1 v.2.2.1 v.2.2.2
        (xOf k3 a4 a5) (yOf k3 a4 a5) (zOf k3 k4 a4 a5 a6) a7) (fun _ => .xy) TanOK :=
  ⟨fun k0 k1 k2 => lorentz_boost_p4_ret_eq k0 k1 k2 k3 k4 k5, fun k0 k1 k2 a b c d =>
    ⟨_, (lorentz_boost_p4_eval_eq k0 k1 k2 k3 k4 k5 a b c d a4 a5 a6 a7).trans (p4Kernel_keepTau ..), fun h => by
      rw [lorentz_boost_p4_eval_eq .xy .z .t .xy .z k5, refine_spatial_z k0 k1 a b c h, refine_spatial_z k3 k4 a4 a5 a6 h2,
        refine_spatial_mag2 k3 k4 a4 a5 a6 hs2]
      rfl⟩⟩

/-- the boost vector enters through its denoted time component: stored with τ (`τ₂ ≥ 0`) it gives the same raw result as
stored with `t₂ = √(τ₂² + |p₂|²)` -/
theorem refine_lorentz_boost_p4_tau2 (k2 k5 : Tmp) (x1 y1 z1 d x2 y2 z2 d2 : ℝ) (hd2 : CanonTmp k5 d2) :
    lorentz_boost_p4.eval .xy .z k2 .xy .z k5 x1 y1 z1 d x2 y2 z2 d2
      = lorentz_boost_p4.eval .xy .z k2 .xy .z .t x1 y1 z1 d x2 y2 z2 (tOf .xy .z k5 x2 y2 z2 d2) := by
  cases k5
  · rfl
  · have hE : sqrt (d2 ^ 2 + spatial_mag2.xy_z x2 y2 z2) = tOf .xy .z .tau x2 y2 z2 d2 := rfl
    have hm2 : tOf .xy .z .tau x2 y2 z2 d2 ^ 2 - spatial_mag2.xy_z x2 y2 z2 = d2 ^ 2 := by
      rw [← hE, sq_sqrt (by simp only [spatial_mag2.xy_z]; positivity)]; ring
    have hm : sqrt (d2 ^ 2) = d2 := sqrt_sq hd2
    cases k2 <;>
      simp only [lorentz_boost_p4.eval, lorentz_boost_p4.k_xy_z_tau_xy_z_t, lorentz_boost_p4.k_xy_z_tau_xy_z_tau,
        lorentz_boost_p4.cartesian_t_xy_z_t, lorentz_boost_p4.cartesian_t_xy_z_tau, lorentz_boost_p4.cartesian_tau_xy_z_t,
        lorentz_boost_p4.cartesian_tau_xy_z_tau, hE, hm2, hm]

theorem lorentz_boost_p4_cartesian_t_eq (x1 y1 z1 t1 E M x2 y2 z2 : ℝ) :
    lorentz_boost_p4.cartesian_t x1 y1 z1 t1 E M (M ^ 2) x2 y2 z2
      = boostU (E / M) (x2 / M) (y2 / M) (z2 / M) (x1, y1, z1, t1) := by
  simp only [lorentz_boost_p4.cartesian_t, lorentz_transform4D.cartesian_t, boostU, Prod.mk.injEq]
  generalize E / M + 1 = W
  exact ⟨by ring, by ring, by ring, trivial⟩

/-- the all-Cartesian `t`,`t` key is the general boost with four-velocity `p₂ / M`, `M = √(t₂² − |p₂|²)` (C02) -/
theorem refine_lorentz_boost_p4_cart_t (x1 y1 z1 t1 x2 y2 z2 t2 : ℝ) (hM : 0 < t2 ^ 2 - (x2 ^ 2 + y2 ^ 2 + z2 ^ 2)) :
    lorentz_boost_p4.eval .xy .z .t .xy .z .t x1 y1 z1 t1 x2 y2 z2 t2
      = boostU (t2 / sqrt (t2 ^ 2 - (x2 ^ 2 + y2 ^ 2 + z2 ^ 2))) (x2 / sqrt (t2 ^ 2 - (x2 ^ 2 + y2 ^ 2 + z2 ^ 2)))
          (y2 / sqrt (t2 ^ 2 - (x2 ^ 2 + y2 ^ 2 + z2 ^ 2))) (z2 / sqrt (t2 ^ 2 - (x2 ^ 2 + y2 ^ 2 + z2 ^ 2)))
          (x1, y1, z1, t1) := by
  rw [← lorentz_boost_p4_cartesian_t_eq, sq_sqrt hM.le]
  rfl

theorem boostU_isBoost_p4 {E M x y z : ℝ} (hM : M ^ 2 = E ^ 2 - (x ^ 2 + y ^ 2 + z ^ 2)) (hM0 : 0 < M) (hE : 0 < E) :
    IsBoost (boostU (E / M) (x / M) (y / M) (z / M)) :=
  boostU_isBoost (L.four_velocity_p4 hM hM0.ne') (div_pos hE hM0)

/-- for a time-like boost vector (`τ₂ ≥ 0` if τ-stored) `Λ` is the general boost with its four-velocity `p₂ / M` -/
theorem lorentz_boost_p4_cart_boostU (k3 : Az) (k4 : Lon) (k5 : Tmp) (a4 a5 a6 a7 : ℝ) (hd2 : CanonTmp k5 a7)
    (hm : 0 < tOf k3 k4 k5 a4 a5 a6 a7 ^ 2 - mag2Of k3 k4 a4 a5 a6) (v : ℝ × ℝ × ℝ × ℝ) :
    lorentz_boost_p4.eval .xy .z .t .xy .z k5 v.1 v.2.1 v.2.2.1 v.2.2.2 (xOf k3 a4 a5) (yOf k3 a4 a5) (zOf k3 k4 a4 a5 a6) a7
      = boostU (tOf k3 k4 k5 a4 a5 a6 a7 / sqrt (tOf k3 k4 k5 a4 a5 a6 a7 ^ 2 - mag2Of k3 k4 a4 a5 a6))
          (xOf k3 a4 a5 / sqrt (tOf k3 k4 k5 a4 a5 a6 a7 ^ 2 - mag2Of k3 k4 a4 a5 a6))
          (yOf k3 a4 a5 / sqrt (tOf k3 k4 k5 a4 a5 a6 a7 ^ 2 - mag2Of k3 k4 a4 a5 a6))
          (zOf k3 k4 a4 a5 a6 / sqrt (tOf k3 k4 k5 a4 a5 a6 a7 ^ 2 - mag2Of k3 k4 a4 a5 a6)) v := by
  rw [refine_lorentz_boost_p4_tau2 .t k5 _ _ _ _ _ _ _ a7 hd2, tOf_cart, refine_lorentz_boost_p4_cart_t _ _ _ _ _ _ _ _ hm]
  rfl

theorem lorentz_boost_p4_isBoost (k3 : Az) (k4 : Lon) (k5 : Tmp) (a4 a5 a6 a7 : ℝ) (hd2 : CanonTmp k5 a7)
    (hm : 0 < tOf k3 k4 k5 a4 a5 a6 a7 ^ 2 - mag2Of k3 k4 a4 a5 a6) (ht : 0 < tOf k3 k4 k5 a4 a5 a6 a7) :
    IsBoost fun v => lorentz_boost_p4.eval .xy .z .t .xy .z k5 v.1 v.2.1 v.2.2.1 v.2.2.2
      (xOf k3 a4 a5) (yOf k3 a4 a5) (zOf k3 k4 a4 a5 a6) a7 := fun v => by
  dsimp only
  rw [lorentz_boost_p4_cart_boostU k3 k4 k5 a4 a5 a6 a7 hd2 hm]
  exact boostU_isBoost_p4 (sq_sqrt hm.le) (sqrt_pos.mpr hm) ht v

/-- C01 for `boost_p4`: every key denotes the all-Cartesian-`t`,`t` result on the denotations of the operands.
For a τ-stored first operand the boost vector must be a physical momentum (time-like, positive energy). -/
theorem refine_lorentz_boost_p4_cart (k0 : Az) (k1 : Lon) (k2 : Tmp) (k3 : Az) (k4 : Lon) (k5 : Tmp)
    (a0 a1 a2 a3 a4 a5 a6 a7 : ℝ) (h1 : TanOK k1 a2) (h2 : TanOK k4 a6) (hs2 : SinOK k4 a6)
    (hd1 : CanonTmp k2 a3) (hd2 : CanonTmp k5 a7)
    (hp : k2 = .tau → 0 < tOf k3 k4 k5 a4 a5 a6 a7 ^ 2 - mag2Of k3 k4 a4 a5 a6 ∧ 0 < tOf k3 k4 k5 a4 a5 a6 a7) :
    interp4 (lorentz_boost_p4.ret k0 k1 k2 k3 k4 k5) (lorentz_boost_p4.eval k0 k1 k2 k3 k4 k5 a0 a1 a2 a3 a4 a5 a6 a7)
      = interp4 (lorentz_boost_p4.ret .xy .z .t .xy .z .t)
          (lorentz_boost_p4.eval .xy .z .t .xy .z .t (xOf k0 a0 a1) (yOf k0 a0 a1) (zOf k0 k1 a0 a1 a2)
            (tOf k0 k1 k2 a0 a1 a2 a3) (xOf k3 a4 a5) (yOf k3 a4 a5) (zOf k3 k4 a4 a5 a6) (tOf k3 k4 k5 a4 a5 a6 a7)) := by
  rw [← tOf_cart k3 k4 k5, ← refine_lorentz_boost_p4_tau2 .t k5 _ _ _ _ _ _ _ a7 hd2]
  exact (lorentz_boost_p4_form k3 k4 k5 a4 a5 a6 a7 h2 hs2).spec k0 k1 k2 a0 a1 a2 a3 h1 hd1 fun e =>
    lorentz_boost_p4_isBoost k3 k4 k5 a4 a5 a6 a7 hd2 (hp e).1 (hp e).2

/-- C01 + C02 for `boost_p4`: every key denotes the general boost of the first operand with the four-velocity
`p₂ / M` of the second -/
theorem refine_lorentz_boost_p4_spec (k0 : Az) (k1 : Lon) (k2 : Tmp) (k3 : Az) (k4 : Lon) (k5 : Tmp)
    (a0 a1 a2 a3 a4 a5 a6 a7 : ℝ) (h1 : TanOK k1 a2) (h2 : TanOK k4 a6) (hs2 : SinOK k4 a6)
    (hd1 : CanonTmp k2 a3) (hd2 : CanonTmp k5 a7)
    (hm : 0 < tOf k3 k4 k5 a4 a5 a6 a7 ^ 2 - mag2Of k3 k4 a4 a5 a6) (ht : 0 < tOf k3 k4 k5 a4 a5 a6 a7) :
    interp4 (lorentz_boost_p4.ret k0 k1 k2 k3 k4 k5) (lorentz_boost_p4.eval k0 k1 k2 k3 k4 k5 a0 a1 a2 a3 a4 a5 a6 a7)
      = some (boostU (tOf k3 k4 k5 a4 a5 a6 a7 / sqrt (tOf k3 k4 k5 a4 a5 a6 a7 ^ 2 - mag2Of k3 k4 a4 a5 a6))
          (xOf k3 a4 a5 / sqrt (tOf k3 k4 k5 a4 a5 a6 a7 ^ 2 - mag2Of k3 k4 a4 a5 a6))
          (yOf k3 a4 a5 / sqrt (tOf k3 k4 k5 a4 a5 a6 a7 ^ 2 - mag2Of k3 k4 a4 a5 a6))
          (zOf k3 k4 a4 a5 a6 / sqrt (tOf k3 k4 k5 a4 a5 a6 a7 ^ 2 - mag2Of k3 k4 a4 a5 a6))
          (cart4 k0 k1 k2 a0 a1 a2 a3)) :=
  ((lorentz_boost_p4_form k3 k4 k5 a4 a5 a6 a7 h2 hs2).spec k0 k1 k2 a0 a1 a2 a3 h1 hd1 fun _ =>
      lorentz_boost_p4_isBoost k3 k4 k5 a4 a5 a6 a7 hd2 hm ht).trans
    (congrArg some (lorentz_boost_p4_cart_boostU k3 k4 k5 a4 a5 a6 a7 hd2 hm _))

theorem refine_lorentz_boost_p4_tau_spatial (k0 : Az) (k1 : Lon) (k3 : Az) (k4 : Lon) (k5 : Tmp)
    (a0 a1 a2 a3 a4 a5 a6 a7 : ℝ) (h1 : TanOK k1 a2) (h2 : TanOK k4 a6) (hs2 : SinOK k4 a6) (hd : 0 ≤ a3) :
    let r := lorentz_boost_p4.eval k0 k1 .tau k3 k4 k5 a0 a1 a2 a3 a4 a5 a6 a7
    let r' := lorentz_boost_p4.eval .xy .z .t .xy .z k5 (xOf k0 a0 a1) (yOf k0 a0 a1) (zOf k0 k1 a0 a1 a2)
      (tOf k0 k1 .tau a0 a1 a2 a3) (xOf k3 a4 a5) (yOf k3 a4 a5) (zOf k3 k4 a4 a5 a6) a7
    interp3 (lorentz_boost_p4.ret k0 k1 .tau k3 k4 k5) (r.1, r.2.1, r.2.2.1) = some (r'.1, r'.2.1, r'.2.2.1) :=
  (lorentz_boost_p4_form k3 k4 k5 a4 a5 a6 a7 h2 hs2).tau_spatial k0 k1 a0 a1 a2 a3 h1 hd

theorem refine_lorentz_boost_p4_tau_stored (k0 : Az) (k1 : Lon) (k3 : Az) (k4 : Lon) (k5 : Tmp)
    (a0 a1 a2 a3 a4 a5 a6 a7 : ℝ) :
    (lorentz_boost_p4.eval k0 k1 .tau k3 k4 k5 a0 a1 a2 a3 a4 a5 a6 a7).2.2.2 = a3 := by
  rw [lorentz_boost_p4_eval_eq, p4Kernel_keepTau]; rfl

example : 0 < tOf .xy .z .t 0 0 0 1 ^ 2 - mag2Of .xy .z 0 0 0 ∧ 0 < tOf .xy .z .t 0 0 0 1 := by
  norm_num [tOf, mag2Of, xOf, yOf, zOf]

/-! ### dot: the Minkowski product of the denotations, metric (−,−,−,+) (C01 + C02, 144 keys) -/

theorem lorentz_dot_eval_eq (k0 : Az) (k1 : Lon) (k2 : Tmp) (k3 : Az) (k4 : Lon) (k5 : Tmp) (a0 a1 a2 a3 a4 a5 a6 a7 : ℝ) :
    lorentz_dot.eval k0 k1 k2 k3 k4 k5 a0 a1 a2 a3 a4 a5 a6 a7
      = lorentz_t.eval k0 k1 k2 a0 a1 a2 a3 * lorentz_t.eval k3 k4 k5 a4 a5 a6 a7
        - spatial_dot.eval k0 k1 k3 k4 a0 a1 a2 a4 a5 a6 := by
  cases k0 <;> cases k1 <;> cases k2 <;> cases k3 <;> cases k4 <;> cases k5 <;> rfl

theorem refine_lorentz_dot_signed (k0 : Az) (k1 : Lon) (k2 : Tmp) (k3 : Az) (k4 : Lon) (k5 : Tmp)
    (a0 a1 a2 a3 a4 a5 a6 a7 : ℝ) (h1 : TanOK k1 a2) (h2 : TanOK k4 a6) (hs1 : SinOK k1 a2) (hs2 : SinOK k4 a6)
    (hd1 : CanonTmpS k0 k1 k2 a0 a1 a2 a3) (hd2 : CanonTmpS k3 k4 k5 a4 a5 a6 a7) :
    lorentz_dot.eval k0 k1 k2 k3 k4 k5 a0 a1 a2 a3 a4 a5 a6 a7
      = mdot (cart4S k0 k1 k2 a0 a1 a2 a3) (cart4S k3 k4 k5 a4 a5 a6 a7) := by
  rw [lorentz_dot_eval_eq, lorentz_t_eq_tOfS k0 k1 k2 a0 a1 a2 a3 hs1 hd1,
    lorentz_t_eq_tOfS k3 k4 k5 a4 a5 a6 a7 hs2 hd2, refine_spatial_dot k0 k1 k3 k4 a0 a1 a2 a4 a5 a6 h1 h2]
  simp only [mdot, dot3, cart3, cart4S]
  ring

theorem refine_lorentz_dot (k0 : Az) (k1 : Lon) (k2 : Tmp) (k3 : Az) (k4 : Lon) (k5 : Tmp)
    (a0 a1 a2 a3 a4 a5 a6 a7 : ℝ) (h1 : TanOK k1 a2) (h2 : TanOK k4 a6) (hs1 : SinOK k1 a2) (hs2 : SinOK k4 a6)
    (hd1 : CanonTmp k2 a3) (hd2 : CanonTmp k5 a7) :
    lorentz_dot.eval k0 k1 k2 k3 k4 k5 a0 a1 a2 a3 a4 a5 a6 a7
      = mdot (cart4 k0 k1 k2 a0 a1 a2 a3) (cart4 k3 k4 k5 a4 a5 a6 a7) := by
  rw [← cart4S_eq_cart4 k0 k1 k2 a0 a1 a2 a3 hd1, ← cart4S_eq_cart4 k3 k4 k5 a4 a5 a6 a7 hd2]
  exact refine_lorentz_dot_signed k0 k1 k2 k3 k4 k5 a0 a1 a2 a3 a4 a5 a6 a7 h1 h2 hs1 hs2
    (CanonTmpS_of_CanonTmp _ _ _ _ _ _ _ hd1) (CanonTmpS_of_CanonTmp _ _ _ _ _ _ _ hd2)

example : TanOK .theta 1 ∧ SinOK .theta 1 ∧ CanonTmp .tau 2 :=
  ⟨Spec.tanOK_one .theta, Spec.sinOK_one .theta, by show (0 : ℝ) ≤ 2; norm_num⟩

/-! ### scale -/

/-- a 4-vector whose stored spatial part denotes `f·p` and whose stored temporal coordinate is `f·d` denotes `f·(p, t)`;
for τ storage this needs `0 ≤ f` (a τ-stored vector always has `t ≥ 0`) -/
theorem cart4_of_scaled (k0 : Az) (k1 : Lon) (k2 : Tmp) (f a b c d a' b' c' : ℝ)
    (hC : cart3 k0 k1 a' b' c' = smul3 f (cart3 k0 k1 a b c)) (hf : k2 = .tau → 0 ≤ f) :
    cart4 k0 k1 k2 a' b' c' (d * f) = smul4 f (cart4 k0 k1 k2 a b c d) := by
  simp only [cart3, smul3, Prod.mk.injEq] at hC
  obtain ⟨hx, hy, hz⟩ := hC
  cases k2
  · simp only [cart4, smul4, tOf_t, hx, hy, hz, mul_comm d f]
  · have h0 := hf rfl
    have ht : tOf k0 k1 .tau a' b' c' (d * f) = f * tOf k0 k1 .tau a b c d := by
      rw [tOf_tau_eq, tOf_tau_eq, hx, hy, hz, ← sqrt_sq h0, ← sqrt_mul (sq_nonneg f), sqrt_sq h0]
      congr 1; ring
    simp only [cart4, smul4, hx, hy, hz, ht]

/-- a 4-vector whose stored spatial part denotes `f·p` and whose stored temporal coordinate is `f·d` denotes `f·(p, t)`
under the signed reading; for τ storage this needs `0 ≤ f` (τ scales by `f`, its sign is kept) -/
theorem cart4S_of_scaled (k0 : Az) (k1 : Lon) (k2 : Tmp) (f a b c d a' b' c' : ℝ)
    (hC : cart3 k0 k1 a' b' c' = smul3 f (cart3 k0 k1 a b c)) (hf : k2 = .tau → 0 ≤ f) :
    cart4S k0 k1 k2 a' b' c' (d * f) = smul4 f (cart4S k0 k1 k2 a b c d) := by
  simp only [cart3, smul3, Prod.mk.injEq] at hC
  obtain ⟨hx, hy, hz⟩ := hC
  cases k2
  · simp only [cart4S, smul4, tOfS_t, hx, hy, hz, mul_comm d f]
  · have h0 := hf rfl
    have hm : mag2Of k0 k1 a' b' c' = f ^ 2 * mag2Of k0 k1 a b c := by
      unfold mag2Of; rw [hx, hy, hz]; ring
    have ht : tOfS k0 k1 .tau a' b' c' (d * f) = f * tOfS k0 k1 .tau a b c d := by
      rw [tOfS_tau, tOfS_tau, tau2S_mul_of_nonneg d f h0, hm, ← mul_add, sqrt_mul (sq_nonneg f), sqrt_sq h0]
    simp only [cart4S, smul4, hx, hy, hz, ht]

theorem lorentz_scale_ret_eq (k0 : Az) (k1 : Lon) (k2 : Tmp) :
    lorentz_scale.ret k0 k1 k2 = Ret.vec [RP.az k0, RP.lon k1, RP.tmp k2] := by
  cases k0 <;> cases k1 <;> cases k2 <;> rfl

theorem lorentz_scale_eval_eq (k0 : Az) (k1 : Lon) (k2 : Tmp) (f a b c d : ℝ) :
    lorentz_scale.eval k0 k1 k2 f a b c d
      = ((spatial_scale.eval k0 k1 f a b c).1, (spatial_scale.eval k0 k1 f a b c).2.1,
          (spatial_scale.eval k0 k1 f a b c).2.2, d * f) := by
  cases k0 <;> cases k1 <;> cases k2 <;> rfl

/-- `scale` multiplies the denoted 4-vector by the factor; for τ storage only for `0 ≤ f` (see
`refine_lorentz_scale_defect`). `ThetaRange`: the stored θ lies in `[0, π]` (implied by `CanonLon`). -/
theorem refine_lorentz_scale_partial (k0 : Az) (k1 : Lon) (k2 : Tmp) (f a b c d : ℝ) (h : ThetaRange k1 c)
    (hf : k2 = .tau → 0 ≤ f) :
    interp4 (lorentz_scale.ret k0 k1 k2) (lorentz_scale.eval k0 k1 k2 f a b c d)
      = some (smul4 f (cart4 k0 k1 k2 a b c d)) := by
  have hS := refine_spatial_scale k0 k1 f a b c h
  rw [spatial_scale_ret_eq, interp3_same, Option.some.injEq] at hS
  rw [lorentz_scale_ret_eq, interp4_same, lorentz_scale_eval_eq]
  exact congrArg some (cart4_of_scaled k0 k1 k2 f a b c d _ _ _ hS hf)

example : ThetaRange .theta 1 := ⟨by norm_num, by linarith [two_le_pi]⟩

/-! ### add / subtract (144 keys each)

The result system is the one declared by `spatial_add` / `spatial_subtract`; the temporal coordinate of the result is
`t₁ ± t₂`, except for the 36 τ,τ keys, which return `τ' = lorentz_tau(result, t₁ ± t₂)`: both modules are one function
`addForm4` of their callees and of `+` / `−`. `τ'` is signed: under the signed reading of τ the result denotes the exact one
as soon as `0 ≤ t₁ ± t₂`; under `0 ≤ τ` it must moreover be causal. -/

def azOfRet (r : Ret) : Az := (retAz r).getD .xy
def lonOfRet (r : Ret) : Lon := (retLon r).getD .z

/-- what `lorentz_add` (`f = +`) and `lorentz_subtract` (`f = −`) compute from their callees — `sp`, `r3`: the spatial module
and its declared results; `tm`, `tu`: the `t` and `tau` accessors —: the spatial result and `t₁ ± t₂`, for two τ-stored
operands the `tau` of the result, in the result's system -/
noncomputable def addForm4 (sp : Az → Lon → Az → Lon → ℝ → ℝ → ℝ → ℝ → ℝ → ℝ → ℝ × ℝ × ℝ) (r3 : Az → Lon → Az → Lon → Ret)
    (tm tu : Az → Lon → Tmp → ℝ → ℝ → ℝ → ℝ → ℝ) (f : ℝ → ℝ → ℝ) (k0 : Az) (k1 : Lon) (k2 : Tmp) (k3 : Az) (k4 : Lon)
    (k5 : Tmp) (a0 a1 a2 a3 a4 a5 a6 a7 : ℝ) : ℝ × ℝ × ℝ × ℝ :=
  ((sp k0 k1 k3 k4 a0 a1 a2 a4 a5 a6).1, (sp k0 k1 k3 k4 a0 a1 a2 a4 a5 a6).2.1, (sp k0 k1 k3 k4 a0 a1 a2 a4 a5 a6).2.2,
    match k2, k5 with
    | .tau, .tau => tu (azOfRet (r3 k0 k1 k3 k4)) (lonOfRet (r3 k0 k1 k3 k4)) .t
        (sp k0 k1 k3 k4 a0 a1 a2 a4 a5 a6).1 (sp k0 k1 k3 k4 a0 a1 a2 a4 a5 a6).2.1 (sp k0 k1 k3 k4 a0 a1 a2 a4 a5 a6).2.2
        (f (tm k0 k1 k2 a0 a1 a2 a3) (tm k3 k4 k5 a4 a5 a6 a7))
    | _, _ => f (tm k0 k1 k2 a0 a1 a2 a3) (tm k3 k4 k5 a4 a5 a6 a7))

/-! the `τ'` stored for two τ-stored operands: when it is non-negative, and what it denotes -/

theorem lorentz_tau_t_nonneg_iff (az : Az) (lon : Lon) (a b c T : ℝ) (hs : SinOK lon c) :
    0 ≤ lorentz_tau.eval az lon .t a b c T ↔ mag2Of az lon a b c ≤ T ^ 2 := by
  rw [lorentz_tau_t_eq az lon a b c T hs, P.copysign_sqrt_abs_nonneg_iff, sub_nonneg]

theorem cart4S_tau_of_nonneg (az : Az) (lon : Lon) (a b c T : ℝ) (q : ℝ × ℝ × ℝ) (hA : cart3 az lon a b c = q)
    (hs : SinOK lon c) (hT : 0 ≤ T) :
    cart4S az lon .tau a b c (lorentz_tau.eval az lon .t a b c T) = (q.1, q.2.1, q.2.2, T) := by
  subst hA
  have ht : tOfS az lon .tau a b c (lorentz_tau.eval az lon .t a b c T) = T := by
    rw [tOfS_tau, lorentz_tau_t_eq az lon a b c T hs, tau2S_copysign_sqrt_abs, sub_add_cancel, sqrt_sq hT]
  simp only [cart4S, cart3, ht]

section
variable {sp : Az → Lon → Az → Lon → ℝ → ℝ → ℝ → ℝ → ℝ → ℝ → ℝ × ℝ × ℝ} {r3 : Az → Lon → Az → Lon → Ret} {f : ℝ → ℝ → ℝ}
  (k0 : Az) (k1 : Lon) (k2 : Tmp) (k3 : Az) (k4 : Lon) (k5 : Tmp) (a0 a1 a2 a3 a4 a5 a6 a7 : ℝ) {q : ℝ × ℝ × ℝ}
  (hr3 : r3 k0 k1 k3 k4 = Ret.vec [RP.az (azOfRet (r3 k0 k1 k3 k4)), RP.lon (lonOfRet (r3 k0 k1 k3 k4))])
  (hS : interp3 (r3 k0 k1 k3 k4) (sp k0 k1 k3 k4 a0 a1 a2 a4 a5 a6) = some q)
  (hsin : SinOK (lonOfRet (r3 k0 k1 k3 k4)) (sp k0 k1 k3 k4 a0 a1 a2 a4 a5 a6).2.2)
include hr3 hS hsin

theorem addForm4_tau_nonneg_iff :
    0 ≤ (addForm4 sp r3 lorentz_t.eval lorentz_tau.eval f k0 k1 .tau k3 k4 .tau a0 a1 a2 a3 a4 a5 a6 a7).2.2.2
      ↔ q.1 ^ 2 + q.2.1 ^ 2 + q.2.2 ^ 2
          ≤ f (lorentz_t.eval k0 k1 .tau a0 a1 a2 a3) (lorentz_t.eval k3 k4 .tau a4 a5 a6 a7) ^ 2 := by
  rw [hr3, interp3_same, Option.some.injEq] at hS
  rw [← hS]
  exact lorentz_tau_t_nonneg_iff _ _ _ _ _ _ hsin

/-- a spatial result denoting `q` gives, under the signed reading, a result denoting `(q, t₁ ± t₂)`; for two τ-stored
operands, whose result is τ-stored, as soon as `0 ≤ t₁ ± t₂` -/
theorem interp4S_addForm4 (hs1 : SinOK k1 a2) (hs2 : SinOK k4 a6)
    (hd1 : CanonTmpS k0 k1 k2 a0 a1 a2 a3) (hd2 : CanonTmpS k3 k4 k5 a4 a5 a6 a7)
    (hc : k2 = .tau → k5 = .tau → 0 ≤ f (tOfS k0 k1 k2 a0 a1 a2 a3) (tOfS k3 k4 k5 a4 a5 a6 a7)) :
    interp4S (Ret.vec [RP.az (azOfRet (r3 k0 k1 k3 k4)), RP.lon (lonOfRet (r3 k0 k1 k3 k4)),
        RP.tmp (match (generalizing := false) k2, k5 with | .tau, .tau => .tau | _, _ => .t)])
        (addForm4 sp r3 lorentz_t.eval lorentz_tau.eval f k0 k1 k2 k3 k4 k5 a0 a1 a2 a3 a4 a5 a6 a7)
      = some (q.1, q.2.1, q.2.2, f (tOfS k0 k1 k2 a0 a1 a2 a3) (tOfS k3 k4 k5 a4 a5 a6 a7)) := by
  rw [hr3, interp3_same, Option.some.injEq] at hS
  unfold addForm4
  rw [interp4S_same, lorentz_t_eq_tOfS k0 k1 k2 a0 a1 a2 a3 hs1 hd1, lorentz_t_eq_tOfS k3 k4 k5 a4 a5 a6 a7 hs2 hd2]
  cases k2 <;> cases k5
  case tau.tau => exact congrArg some (cart4S_tau_of_nonneg _ _ _ _ _ _ q hS hsin (hc rfl rfl))
  all_goals subst hS; simp only [cart4S, cart3, tOfS_t]

/-- … and under `0 ≤ τ` when moreover, for two τ-stored operands, `(q, t₁ ± t₂)` is causal ("exact result representable
in τ storage"): the stored τ is then non-negative -/
theorem interp4_addForm4 (hs1 : SinOK k1 a2) (hs2 : SinOK k4 a6) (hd1 : CanonTmp k2 a3) (hd2 : CanonTmp k5 a7)
    (hc : k2 = .tau → k5 = .tau → 0 ≤ f (tOf k0 k1 k2 a0 a1 a2 a3) (tOf k3 k4 k5 a4 a5 a6 a7) ∧
      q.1 ^ 2 + q.2.1 ^ 2 + q.2.2 ^ 2 ≤ f (tOf k0 k1 k2 a0 a1 a2 a3) (tOf k3 k4 k5 a4 a5 a6 a7) ^ 2) :
    interp4 (Ret.vec [RP.az (azOfRet (r3 k0 k1 k3 k4)), RP.lon (lonOfRet (r3 k0 k1 k3 k4)),
        RP.tmp (match (generalizing := false) k2, k5 with | .tau, .tau => .tau | _, _ => .t)])
        (addForm4 sp r3 lorentz_t.eval lorentz_tau.eval f k0 k1 k2 k3 k4 k5 a0 a1 a2 a3 a4 a5 a6 a7)
      = some (q.1, q.2.1, q.2.2, f (tOf k0 k1 k2 a0 a1 a2 a3) (tOf k3 k4 k5 a4 a5 a6 a7)) := by
  rw [← tOfS_eq_tOf k0 k1 k2 a0 a1 a2 a3 hd1, ← tOfS_eq_tOf k3 k4 k5 a4 a5 a6 a7 hd2] at hc ⊢
  rw [← interp4S_addForm4 k0 k1 k2 k3 k4 k5 a0 a1 a2 a3 a4 a5 a6 a7 hr3 hS hsin hs1 hs2
    (CanonTmpS_of_CanonTmp _ _ _ _ _ _ _ hd1) (CanonTmpS_of_CanonTmp _ _ _ _ _ _ _ hd2) fun e2 e5 => (hc e2 e5).1]
  refine (interp4S_eq_interp4 _ _ fun e => ?_).symm
  cases k2 <;> cases k5 <;> cases e
  rw [addForm4_tau_nonneg_iff k0 k1 k3 k4 a0 a1 a2 a3 a4 a5 a6 a7 hr3 hS hsin,
    lorentz_t_eq_tOfS k0 k1 .tau a0 a1 a2 a3 hs1 (CanonTmpS_of_CanonTmp _ _ _ _ _ _ _ hd1),
    lorentz_t_eq_tOfS k3 k4 .tau a4 a5 a6 a7 hs2 (CanonTmpS_of_CanonTmp _ _ _ _ _ _ _ hd2)]
  exact (hc rfl rfl).2

end

/-! `spatial_add`, `spatial_subtract` as the spatial callee: `hr3`, `hsin` of the theorems above -/

/-- the declared results through `azOfRet` / `lonOfRet`, as the 4D result types spell them -/
theorem spatial_add_ret_eq (k0 : Az) (k1 : Lon) (k3 : Az) (k4 : Lon) :
    spatial_add.ret k0 k1 k3 k4
      = Ret.vec [RP.az (azOfRet (spatial_add.ret k0 k1 k3 k4)), RP.lon (lonOfRet (spatial_add.ret k0 k1 k3 k4))] := by
  rw [spatial_add_ret_sys]; rfl

theorem spatial_subtract_ret_eq (k0 : Az) (k1 : Lon) (k3 : Az) (k4 : Lon) :
    spatial_subtract.ret k0 k1 k3 k4
      = Ret.vec [RP.az (azOfRet (spatial_subtract.ret k0 k1 k3 k4)), RP.lon (lonOfRet (spatial_subtract.ret k0 k1 k3 k4))] := by
  rw [spatial_subtract_ret_sys]; rfl

theorem spatial_add_sinOK (k0 : Az) (k1 : Lon) (k3 : Az) (k4 : Lon) (a0 a1 a2 a4 a5 a6 : ℝ)
    (hrep : Representable3 (spatial_add.ret k0 k1 k3 k4) (add3 (cart3 k0 k1 a0 a1 a2) (cart3 k3 k4 a4 a5 a6))) :
    SinOK (lonOfRet (spatial_add.ret k0 k1 k3 k4)) (spatial_add.eval k0 k1 k3 k4 a0 a1 a2 a4 a5 a6).2.2 := by
  rw [spatial_add_ret_sys] at hrep ⊢
  rw [spatial_add_eval_eq]
  exact (refine_addForm planar_add_polar k0 k1 k3 k4 a0 a1 a2 a4 a5 a6 hrep).2

theorem spatial_subtract_sinOK (k0 : Az) (k1 : Lon) (k3 : Az) (k4 : Lon) (a0 a1 a2 a4 a5 a6 : ℝ)
    (hrep : Representable3 (spatial_subtract.ret k0 k1 k3 k4) (sub3 (cart3 k0 k1 a0 a1 a2) (cart3 k3 k4 a4 a5 a6))) :
    SinOK (lonOfRet (spatial_subtract.ret k0 k1 k3 k4)) (spatial_subtract.eval k0 k1 k3 k4 a0 a1 a2 a4 a5 a6).2.2 := by
  rw [spatial_subtract_ret_sys] at hrep ⊢
  rw [spatial_subtract_eval_eq]
  exact (refine_addForm planar_subtract_polar k0 k1 k3 k4 a0 a1 a2 a4 a5 a6 hrep).2

theorem lorentz_add_eval_eq (k0 : Az) (k1 : Lon) (k2 : Tmp) (k3 : Az) (k4 : Lon) (k5 : Tmp) (a0 a1 a2 a3 a4 a5 a6 a7 : ℝ) :
    lorentz_add.eval k0 k1 k2 k3 k4 k5 a0 a1 a2 a3 a4 a5 a6 a7
      = addForm4 spatial_add.eval spatial_add.ret lorentz_t.eval lorentz_tau.eval (· + ·)
          k0 k1 k2 k3 k4 k5 a0 a1 a2 a3 a4 a5 a6 a7 := by
  cases k0 <;> cases k1 <;> cases k2 <;> cases k3 <;> cases k4 <;> cases k5 <;> rfl

theorem lorentz_add_ret_eq (k0 : Az) (k1 : Lon) (k2 : Tmp) (k3 : Az) (k4 : Lon) (k5 : Tmp) :
    lorentz_add.ret k0 k1 k2 k3 k4 k5
      = Ret.vec [RP.az (azOfRet (spatial_add.ret k0 k1 k3 k4)), RP.lon (lonOfRet (spatial_add.ret k0 k1 k3 k4)),
          RP.tmp (match k2, k5 with | .tau, .tau => .tau | _, _ => .t)] := by
  cases k0 <;> cases k1 <;> cases k2 <;> cases k3 <;> cases k4 <;> cases k5 <;> rfl

/-- `add` denotes the sum of the denoted 4-vectors, for all 144 keys. `Representable3`: results declared with a θ/η
longitudinal coordinate must be off the z axis. (For the τ,τ keys the exact sum is automatically representable in
τ storage: the sum of two future-directed causal vectors is one.) -/
theorem refine_lorentz_add (k0 : Az) (k1 : Lon) (k2 : Tmp) (k3 : Az) (k4 : Lon) (k5 : Tmp) (a0 a1 a2 a3 a4 a5 a6 a7 : ℝ)
    (h1 : TanOK k1 a2) (h2 : TanOK k4 a6) (hs1 : SinOK k1 a2) (hs2 : SinOK k4 a6)
    (hd1 : CanonTmp k2 a3) (hd2 : CanonTmp k5 a7)
    (hrep : Representable3 (spatial_add.ret k0 k1 k3 k4) (add3 (cart3 k0 k1 a0 a1 a2) (cart3 k3 k4 a4 a5 a6))) :
    interp4 (lorentz_add.ret k0 k1 k2 k3 k4 k5) (lorentz_add.eval k0 k1 k2 k3 k4 k5 a0 a1 a2 a3 a4 a5 a6 a7)
      = some (add4 (cart4 k0 k1 k2 a0 a1 a2 a3) (cart4 k3 k4 k5 a4 a5 a6 a7)) := by
  rw [lorentz_add_eval_eq, lorentz_add_ret_eq]
  refine interp4_addForm4 k0 k1 k2 k3 k4 k5 a0 a1 a2 a3 a4 a5 a6 a7 (spatial_add_ret_eq k0 k1 k3 k4)
    (refine_spatial_add k0 k1 k3 k4 a0 a1 a2 a4 a5 a6 h1 h2 hrep) (spatial_add_sinOK k0 k1 k3 k4 a0 a1 a2 a4 a5 a6 hrep)
    hs1 hs2 hd1 hd2 ?_
  rintro rfl rfl
  rw [tOf_tau_eq, tOf_tau_eq]
  exact L.causal_add _ _ _ (a3 ^ 2) _ _ _ (a7 ^ 2) (sq_nonneg _) (sq_nonneg _)

example : Representable3 (spatial_add.ret .xy .eta .xy .eta) (add3 (cart3 .xy .eta 1 0 1) (cart3 .xy .eta 1 0 1)) :=
  Or.inr (by norm_num [add3, cart3, xOf, yOf])

theorem lorentz_subtract_eval_eq (k0 : Az) (k1 : Lon) (k2 : Tmp) (k3 : Az) (k4 : Lon) (k5 : Tmp)
    (a0 a1 a2 a3 a4 a5 a6 a7 : ℝ) :
    lorentz_subtract.eval k0 k1 k2 k3 k4 k5 a0 a1 a2 a3 a4 a5 a6 a7
      = addForm4 spatial_subtract.eval spatial_subtract.ret lorentz_t.eval lorentz_tau.eval (· - ·)
          k0 k1 k2 k3 k4 k5 a0 a1 a2 a3 a4 a5 a6 a7 := by
  cases k0 <;> cases k1 <;> cases k2 <;> cases k3 <;> cases k4 <;> cases k5 <;> rfl

theorem lorentz_subtract_ret_eq (k0 : Az) (k1 : Lon) (k2 : Tmp) (k3 : Az) (k4 : Lon) (k5 : Tmp) :
    lorentz_subtract.ret k0 k1 k2 k3 k4 k5
      = Ret.vec [RP.az (azOfRet (spatial_subtract.ret k0 k1 k3 k4)), RP.lon (lonOfRet (spatial_subtract.ret k0 k1 k3 k4)),
          RP.tmp (match k2, k5 with | .tau, .tau => .tau | _, _ => .t)] := by
  cases k0 <;> cases k1 <;> cases k2 <;> cases k3 <;> cases k4 <;> cases k5 <;> rfl

/-- `subtract` denotes the difference of the denoted 4-vectors, for all 144 keys. For the 36 τ,τ keys the exact
difference must be representable in τ storage (`hc`: future-directed and causal) — a difference of two time-like
vectors need not be. -/
theorem refine_lorentz_subtract (k0 : Az) (k1 : Lon) (k2 : Tmp) (k3 : Az) (k4 : Lon) (k5 : Tmp)
    (a0 a1 a2 a3 a4 a5 a6 a7 : ℝ)
    (h1 : TanOK k1 a2) (h2 : TanOK k4 a6) (hs1 : SinOK k1 a2) (hs2 : SinOK k4 a6)
    (hd1 : CanonTmp k2 a3) (hd2 : CanonTmp k5 a7)
    (hrep : Representable3 (spatial_subtract.ret k0 k1 k3 k4) (sub3 (cart3 k0 k1 a0 a1 a2) (cart3 k3 k4 a4 a5 a6)))
    (hc : k2 = .tau → k5 = .tau →
      0 ≤ tOf k0 k1 k2 a0 a1 a2 a3 - tOf k3 k4 k5 a4 a5 a6 a7 ∧
      (xOf k0 a0 a1 - xOf k3 a4 a5) ^ 2 + (yOf k0 a0 a1 - yOf k3 a4 a5) ^ 2 + (zOf k0 k1 a0 a1 a2 - zOf k3 k4 a4 a5 a6) ^ 2
        ≤ (tOf k0 k1 k2 a0 a1 a2 a3 - tOf k3 k4 k5 a4 a5 a6 a7) ^ 2) :
    interp4 (lorentz_subtract.ret k0 k1 k2 k3 k4 k5) (lorentz_subtract.eval k0 k1 k2 k3 k4 k5 a0 a1 a2 a3 a4 a5 a6 a7)
      = some (sub4 (cart4 k0 k1 k2 a0 a1 a2 a3) (cart4 k3 k4 k5 a4 a5 a6 a7)) := by
  rw [lorentz_subtract_eval_eq, lorentz_subtract_ret_eq]
  exact interp4_addForm4 k0 k1 k2 k3 k4 k5 a0 a1 a2 a3 a4 a5 a6 a7 (spatial_subtract_ret_eq k0 k1 k3 k4)
    (refine_spatial_subtract k0 k1 k3 k4 a0 a1 a2 a4 a5 a6 h1 h2 hrep)
    (spatial_subtract_sinOK k0 k1 k3 k4 a0 a1 a2 a4 a5 a6 hrep) hs1 hs2 hd1 hd2 hc

example : (0 : ℝ) ≤ tOf .xy .z .tau 0 0 0 2 - tOf .xy .z .tau 0 0 0 1 := by
  simp only [tOf, mag2Of, xOf, yOf, zOf]; norm_num

/-! ### unit: `p / √|t² − |p|²|` (12 keys) -/

/-- the normalisation and the temporal coordinate the code computes -/
noncomputable def unitNorm (k0 : Az) (k1 : Lon) (k2 : Tmp) (a b c d : ℝ) : ℝ :=
  match k2 with | .t => sqrt |lorentz_tau2.eval k0 k1 .t a b c d| | .tau => |d|
noncomputable def unitLast (k0 : Az) (k1 : Lon) (k2 : Tmp) (a b c d : ℝ) : ℝ :=
  match k2 with | .t => d / unitNorm k0 k1 .t a b c d | .tau => P.copysign 1 d

theorem lorentz_unit_ret_eq (k0 : Az) (k1 : Lon) (k2 : Tmp) :
    lorentz_unit.ret k0 k1 k2 = Ret.vec [RP.az k0, RP.lon k1, RP.tmp k2] := by
  cases k0 <;> cases k1 <;> cases k2 <;> rfl

theorem lorentz_unit_eval_eq (k0 : Az) (k1 : Lon) (k2 : Tmp) (a b c d : ℝ) :
    lorentz_unit.eval k0 k1 k2 a b c d
      = ((divLen k0 k1 (unitNorm k0 k1 k2 a b c d) a b c).1, (divLen k0 k1 (unitNorm k0 k1 k2 a b c d) a b c).2.1,
         (divLen k0 k1 (unitNorm k0 k1 k2 a b c d) a b c).2.2, unitLast k0 k1 k2 a b c d) := by
  cases k0 <;> cases k1 <;> cases k2 <;> rfl

/-- `unit` divides the denoted 4-vector by `√|t² − |p|²|` (signed τ), for every key, provided the vector is not
light-like; a space-like τ-stored vector gets `τ' = −1` -/
theorem refine_lorentz_unit_signed (k0 : Az) (k1 : Lon) (k2 : Tmp) (a b c d : ℝ) (hs : SinOK k1 c)
    (hd : CanonTmpS k0 k1 k2 a b c d) (hm : tOfS k0 k1 k2 a b c d ^ 2 - mag2Of k0 k1 a b c ≠ 0) :
    interp4S (lorentz_unit.ret k0 k1 k2) (lorentz_unit.eval k0 k1 k2 a b c d)
      = some (smul4 (1 / sqrt |tOfS k0 k1 k2 a b c d ^ 2 - mag2Of k0 k1 a b c|) (cart4S k0 k1 k2 a b c d)) := by
  have hn : 0 < sqrt |tOfS k0 k1 k2 a b c d ^ 2 - mag2Of k0 k1 a b c| := sqrt_pos.mpr (abs_pos.mpr hm)
  have hnorm : unitNorm k0 k1 k2 a b c d = sqrt |tOfS k0 k1 k2 a b c d ^ 2 - mag2Of k0 k1 a b c| := by
    cases k2
    · simp only [unitNorm, lorentz_tau2_t_eq k0 k1 a b c d hs, tOfS_t]
    · simp only [unitNorm]
      rw [tOfS_sq_sub_mag2 k0 k1 a b c d hd, abs_tau2S, sqrt_sq_eq_abs]
  have hlast : unitLast k0 k1 k2 a b c d = d * (1 / unitNorm k0 k1 k2 a b c d) := by
    cases k2
    · simp only [unitLast]; ring
    · have hd0 : d ≠ 0 := by
        intro e; rw [tOfS_sq_sub_mag2 k0 k1 a b c d hd, e] at hm
        exact hm tau2S_zero
      simp only [unitLast, unitNorm]
      rcases lt_or_gt_of_ne hd0 with hneg | hpos
      · rw [P.copysign_of_neg _ hneg, abs_one, abs_of_neg hneg]
        field_simp
      · rw [P.copysign_of_nonneg _ hpos.le, abs_one, abs_of_pos hpos]
        field_simp
  rw [lorentz_unit_ret_eq, interp4S_same, lorentz_unit_eval_eq, hlast]
  apply congrArg some
  rw [← hnorm] at hn ⊢
  generalize unitNorm k0 k1 k2 a b c d = n at hn ⊢
  exact cart4S_of_scaled k0 k1 k2 (1 / n) a b c d _ _ _ (cart3_divLen k0 k1 a b c n fun _ => Or.inr hn)
    (fun _ => by positivity)

/-- `unit` divides the denoted 4-vector by `√|t² − |p|²|`, for every key, provided the vector is not light-like -/
theorem refine_lorentz_unit (k0 : Az) (k1 : Lon) (k2 : Tmp) (a b c d : ℝ) (hs : SinOK k1 c) (hd : CanonTmp k2 d)
    (hm : tOf k0 k1 k2 a b c d ^ 2 - mag2Of k0 k1 a b c ≠ 0) :
    interp4 (lorentz_unit.ret k0 k1 k2) (lorentz_unit.eval k0 k1 k2 a b c d)
      = some (smul4 (1 / sqrt |tOf k0 k1 k2 a b c d ^ 2 - mag2Of k0 k1 a b c|) (cart4 k0 k1 k2 a b c d)) := by
  rw [← tOfS_eq_tOf k0 k1 k2 a b c d hd] at hm ⊢
  rw [← cart4S_eq_cart4 k0 k1 k2 a b c d hd,
    ← refine_lorentz_unit_signed k0 k1 k2 a b c d hs (CanonTmpS_of_CanonTmp k0 k1 k2 a b c d hd) hm,
    lorentz_unit_ret_eq, lorentz_unit_eval_eq]
  refine (interp4S_eq_interp4 _ _ fun h => ?_).symm
  -- a stored `τ ≥ 0` is returned as `copysign(1, τ) = 1`
  cases Option.some.inj h
  have h0 : (0 : ℝ) ≤ d := hd
  show 0 ≤ P.copysign 1 d
  rw [P.copysign_of_nonneg _ h0]; exact abs_nonneg _

example : tOf .xy .z .t 0 0 0 1 ^ 2 - mag2Of .xy .z 0 0 0 ≠ 0 := by norm_num [tOf, mag2Of, xOf, yOf, zOf]

/-! ### deltaRapidityPhi2 / deltaRapidityPhi (144 keys each): `Δφ² + Δy²` and its square root -/

theorem lorentz_rapidity_eq (k0 : Az) (k1 : Lon) (k2 : Tmp) (a b c d : ℝ)
    (h : TanOK k1 c) (hs : SinOK k1 c) (hd : CanonTmp k2 d) :
    lorentz_rapidity.eval k0 k1 k2 a b c d = rapidityOf (cart4 k0 k1 k2 a b c d) :=
  lorentz_rapidity_eq_tOf k0 k1 k2 a b c d h hs hd

theorem lorentz_deltaRapidityPhi2_eval_eq (k0 : Az) (k1 : Lon) (k2 : Tmp) (k3 : Az) (k4 : Lon) (k5 : Tmp)
    (a0 a1 a2 a3 a4 a5 a6 a7 : ℝ) :
    lorentz_deltaRapidityPhi2.eval k0 k1 k2 k3 k4 k5 a0 a1 a2 a3 a4 a5 a6 a7
      = planar_deltaphi.eval k0 k3 a0 a1 a4 a5 ^ 2
        + (lorentz_rapidity.eval k0 k1 k2 a0 a1 a2 a3 - lorentz_rapidity.eval k3 k4 k5 a4 a5 a6 a7) ^ 2 := by
  cases k0 <;> cases k1 <;> cases k2 <;> cases k3 <;> cases k4 <;> cases k5 <;> rfl

theorem lorentz_deltaRapidityPhi_eval_eq (k0 : Az) (k1 : Lon) (k2 : Tmp) (k3 : Az) (k4 : Lon) (k5 : Tmp)
    (a0 a1 a2 a3 a4 a5 a6 a7 : ℝ) :
    lorentz_deltaRapidityPhi.eval k0 k1 k2 k3 k4 k5 a0 a1 a2 a3 a4 a5 a6 a7
      = sqrt (lorentz_deltaRapidityPhi2.eval k0 k1 k2 k3 k4 k5 a0 a1 a2 a3 a4 a5 a6 a7) := by
  cases k0 <;> cases k1 <;> cases k2 <;> cases k3 <;> cases k4 <;> cases k5 <;> rfl

/-- `deltaRapidityPhi2 = Δφ² + (y₁ − y₂)²` with `Δφ` the planar `deltaphi` of the azimuthal parts (characterised by
`refine_planar_deltaphi`) and `y` the rapidity of the denoted 4-vectors. `|z| < t`: the rapidity is defined. -/
theorem refine_lorentz_deltaRapidityPhi2 (k0 : Az) (k1 : Lon) (k2 : Tmp) (k3 : Az) (k4 : Lon) (k5 : Tmp)
    (a0 a1 a2 a3 a4 a5 a6 a7 : ℝ)
    (h1 : TanOK k1 a2) (h2 : TanOK k4 a6) (hs1 : SinOK k1 a2) (hs2 : SinOK k4 a6)
    (hd1 : CanonTmp k2 a3) (hd2 : CanonTmp k5 a7)
    (_hz1 : |zOf k0 k1 a0 a1 a2| < tOf k0 k1 k2 a0 a1 a2 a3) (_hz2 : |zOf k3 k4 a4 a5 a6| < tOf k3 k4 k5 a4 a5 a6 a7) :
    lorentz_deltaRapidityPhi2.eval k0 k1 k2 k3 k4 k5 a0 a1 a2 a3 a4 a5 a6 a7
      = planar_deltaphi.eval k0 k3 a0 a1 a4 a5 ^ 2
        + (rapidityOf (cart4 k0 k1 k2 a0 a1 a2 a3) - rapidityOf (cart4 k3 k4 k5 a4 a5 a6 a7)) ^ 2 := by
  rw [lorentz_deltaRapidityPhi2_eval_eq, lorentz_rapidity_eq k0 k1 k2 a0 a1 a2 a3 h1 hs1 hd1,
    lorentz_rapidity_eq k3 k4 k5 a4 a5 a6 a7 h2 hs2 hd2]

theorem refine_lorentz_deltaRapidityPhi (k0 : Az) (k1 : Lon) (k2 : Tmp) (k3 : Az) (k4 : Lon) (k5 : Tmp)
    (a0 a1 a2 a3 a4 a5 a6 a7 : ℝ)
    (h1 : TanOK k1 a2) (h2 : TanOK k4 a6) (hs1 : SinOK k1 a2) (hs2 : SinOK k4 a6)
    (hd1 : CanonTmp k2 a3) (hd2 : CanonTmp k5 a7)
    (hz1 : |zOf k0 k1 a0 a1 a2| < tOf k0 k1 k2 a0 a1 a2 a3) (hz2 : |zOf k3 k4 a4 a5 a6| < tOf k3 k4 k5 a4 a5 a6 a7) :
    lorentz_deltaRapidityPhi.eval k0 k1 k2 k3 k4 k5 a0 a1 a2 a3 a4 a5 a6 a7
      = sqrt (planar_deltaphi.eval k0 k3 a0 a1 a4 a5 ^ 2
        + (rapidityOf (cart4 k0 k1 k2 a0 a1 a2 a3) - rapidityOf (cart4 k3 k4 k5 a4 a5 a6 a7)) ^ 2) := by
  rw [lorentz_deltaRapidityPhi_eval_eq,
    refine_lorentz_deltaRapidityPhi2 k0 k1 k2 k3 k4 k5 a0 a1 a2 a3 a4 a5 a6 a7 h1 h2 hs1 hs2 hd1 hd2 hz1 hz2]

example : |zOf .xy .z 0 0 1| < tOf .xy .z .t 0 0 1 2 := by norm_num [zOf, tOf]

end VR
