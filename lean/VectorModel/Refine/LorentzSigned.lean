/-
Refinement theorems for the SCALAR-VALUED Lorentz (4D) compute modules under the signed reading of τ
(`Spec/SignedTau.lean`; theorem suffix `_signed`): a τ-stored vector `(a, b, c, τ)` denotes `t = √(copysign(τ², τ) + |p|²)`
(`tOfS`), `τ < 0` encoding a SPACE-LIKE vector with `t ≥ 0`. The hypothesis is `CanonTmpS` (`0 ≤ copysign(τ², τ) + |p|²`: every
`τ ≥ 0`, and those `τ < 0` with `τ² ≤ |p|²`) where `Refine/LorentzAcc.lean` and `Refine/LorentzBin.lean` state `CanonTmp`
(`0 ≤ τ`). The vector-valued modules are in `Refine/LorentzSigned2.lean`, `equal` in `Refine/Equal.lean`.

(a) `t2`, `t`, `tau2`, `tau`, `Mt2`; (b) `dot` of a τ-stored vector with itself; (c) `is_timelike`, `is_lightlike`, `is_spacelike` on τ keys; (d) `beta`, `gamma`,
`rapidity`; (e) `Et2`, `Et`, `Mt`; (f) `Mt2` depends on the storage for space-like vectors with `t < |z|`; (g) `deltaRapidityPhi2`,
`deltaRapidityPhi`; (h) `not_equal`.

Which way the two readings are proved. The rule: the signed statement is proved and the one under `0 ≤ τ` is its restriction
(`tOfS_eq_tOf`, `CanonTmpS_of_CanonTmp`). For `t2`, `t`, `tau2`, `tau`, `beta`, `rapidity` and `dot` the signed statement therefore
stands in `Refine/LorentzAcc.lean` / `Refine/LorentzBin.lean`, before its restriction, and the theorems here cite it. Exceptions:
`Et2`, `Et` are proved here from the unsigned theorem at the `t` key through the module's `…_eval_eq` (every key is the
`t` key on `lorentz_t` of the operand, and a `t`-stored operand reads the same under both readings); `Mt2` is proved here key by
key, the τ key from `lorentz_Mt2_tau_eq` and the `t` key from the unsigned theorem, and `Mt` is `√Mt2` (`lorentz_Mt_eq_sqrt_Mt2`);
`gamma` is proved in each reading from the `t` and `tau` theorems of that reading.
-/
import VectorModel.Spec.Basic
import VectorModel.Spec.SignedTau
import VectorModel.Spec.LorentzBin
import VectorModel.Refine.SpatialAcc
import VectorModel.Refine.LorentzAcc
import VectorModel.Refine.LorentzBin
import VectorModel.Refine.Equal
import VectorModel.Props.C13
import VectorModel.Gen.Real.lorentz_is_timelike
import VectorModel.Gen.Real.lorentz_is_lightlike
import VectorModel.Gen.Real.lorentz_is_spacelike
import VectorModel.Gen.Real.lorentz_Mt2
import Mathlib.Tactic.NormNum
import Mathlib.Tactic.Positivity

namespace VR
open VK Spec Real
/-! ### (a) accessors `t2`, `t`, `tau2`, `tau` -/

theorem lorentz_tau2_of_tau_signed (k0 : Az) (k1 : Lon) (a b c d : ℝ) :
    lorentz_tau2.eval k0 k1 .tau a b c d = tau2S d :=
  lorentz_tau2_tau_eval_eq k0 k1 a b c d

theorem refine_lorentz_t2_signed (k0 : Az) (k1 : Lon) (k2 : Tmp) (a b c d : ℝ)
    (h : CanonLon k0 k1 a b c) (hd : CanonTmpS k0 k1 k2 a b c d) :
    lorentz_t2.eval k0 k1 k2 a b c d = tOfS k0 k1 k2 a b c d ^ 2 :=
  lorentz_t2_eq_tOfS_sq k0 k1 k2 a b c d (Spec.SinOK_of_canonLon h) hd

theorem refine_lorentz_t_signed (k0 : Az) (k1 : Lon) (k2 : Tmp) (a b c d : ℝ)
    (h : CanonLon k0 k1 a b c) (hd : CanonTmpS k0 k1 k2 a b c d) :
    lorentz_t.eval k0 k1 k2 a b c d = tOfS k0 k1 k2 a b c d :=
  lorentz_t_eq_tOfS k0 k1 k2 a b c d (Spec.SinOK_of_canonLon h) hd

theorem refine_lorentz_tau2_signed (k0 : Az) (k1 : Lon) (k2 : Tmp) (a b c d : ℝ)
    (h : CanonLon k0 k1 a b c) (hd : CanonTmpS k0 k1 k2 a b c d) :
    lorentz_tau2.eval k0 k1 k2 a b c d = tOfS k0 k1 k2 a b c d ^ 2 - mag2Of k0 k1 a b c :=
  lorentz_tau2_eq_signed k0 k1 k2 a b c d (Spec.SinOK_of_canonLon h) hd

theorem refine_lorentz_tau_signed (k0 : Az) (k1 : Lon) (k2 : Tmp) (a b c d : ℝ)
    (h : CanonLon k0 k1 a b c) (hd : CanonTmpS k0 k1 k2 a b c d) :
    lorentz_tau.eval k0 k1 k2 a b c d
      = Real.sign (tOfS k0 k1 k2 a b c d ^ 2 - mag2Of k0 k1 a b c)
        * sqrt |tOfS k0 k1 k2 a b c d ^ 2 - mag2Of k0 k1 a b c| :=
  lorentz_tau_eq_signed k0 k1 k2 a b c d (Spec.SinOK_of_canonLon h) hd

/-- round trip τ → t → τ: recomputing τ from the denoted `(p, t)` of a τ-stored vector returns the stored signed τ -/
theorem refine_lorentz_tau_roundtrip_signed (k0 : Az) (k1 : Lon) (a b c d : ℝ)
    (h : CanonLon k0 k1 a b c) (hd : CanonTmpS k0 k1 .tau a b c d) :
    lorentz_tau.eval k0 k1 .t a b c (lorentz_t.eval k0 k1 .tau a b c d) = d := by
  have hs := Spec.SinOK_of_canonLon h
  rw [lorentz_t_eq_tOfS k0 k1 .tau a b c d hs hd, lorentz_tau_t_eq k0 k1 a b c _ hs,
    tOfS_sq_sub_mag2 k0 k1 a b c d hd, P.copysign_sqrt_abs, sign_mul_sqrt_abs_tau2S]

example : CanonLon .xy .z 3 0 0 ∧ CanonTmpS .xy .z .tau 3 0 0 (-2) := ⟨trivial, canonTmpS_sample⟩

example : lorentz_t.eval .xy .z .tau 3 0 0 (-2) = sqrt 5 ∧ lorentz_tau.eval .xy .z .t 3 0 0 (sqrt 5) = -2 := by
  have ht : lorentz_t.eval .xy .z .tau 3 0 0 (-2) = sqrt 5 := by
    rw [refine_lorentz_t_signed .xy .z .tau 3 0 0 (-2) trivial canonTmpS_sample, tOfS_sample]
  refine ⟨ht, ?_⟩
  rw [← ht]
  exact refine_lorentz_tau_roundtrip_signed .xy .z 3 0 0 (-2) trivial canonTmpS_sample

/-! ### `Mt2` on τ keys: `max(t² − z², 0)` — equal to `t² − z²` only when that is non-negative -/

theorem refine_lorentz_Mt2_tau_signed (k0 : Az) (k1 : Lon) (a b c d : ℝ) (hd : CanonTmpS k0 k1 .tau a b c d) :
    lorentz_Mt2.eval k0 k1 .tau a b c d = max (tOfS k0 k1 .tau a b c d ^ 2 - zOf k0 k1 a b c ^ 2) 0 := by
  rw [lorentz_Mt2_tau_eq, tOfS_tau_sq k0 k1 a b c d hd, Spec.mag2Of_eq]
  congr 1
  unfold tau2S; ring

/-- `Mt2 = t² − z²` for every key when `|z| ≤ t` (signed τ); see `lorentz_Mt2_spacelike_storage_dependent` for `t < |z|` -/
theorem refine_lorentz_Mt2_signed_partial (k0 : Az) (k1 : Lon) (k2 : Tmp) (a b c d : ℝ)
    (htan : TanOK k1 c) (hd : CanonTmpS k0 k1 k2 a b c d)
    (hz : k2 = .tau → 0 ≤ tOfS k0 k1 k2 a b c d ^ 2 - zOf k0 k1 a b c ^ 2) :
    lorentz_Mt2.eval k0 k1 k2 a b c d = tOfS k0 k1 k2 a b c d ^ 2 - zOf k0 k1 a b c ^ 2 := by
  cases k2
  · have := refine_lorentz_Mt2 k0 k1 .t a b c d htan trivial
    rw [this, tOfS_t]
    rfl
  · rw [refine_lorentz_Mt2_tau_signed k0 k1 a b c d hd, max_eq_left (hz rfl)]

/-! ### (b) `dot` of a τ-stored vector with itself: `tau2S τ` (the two-vector statement is `refine_lorentz_dot_signed`, `Refine/LorentzBin.lean`) -/

theorem refine_lorentz_dot_self_tau_signed (k0 : Az) (k1 : Lon) (a0 a1 a2 tau : ℝ)
    (h1 : TanOK k1 a2) (hs1 : SinOK k1 a2) (hd : CanonTmpS k0 k1 .tau a0 a1 a2 tau) :
    lorentz_dot.eval k0 k1 .tau k0 k1 .tau a0 a1 a2 tau a0 a1 a2 tau = tau2S tau := by
  rw [refine_lorentz_dot_signed k0 k1 .tau k0 k1 .tau a0 a1 a2 tau a0 a1 a2 tau h1 h1 hs1 hs1 hd hd,
    ← tOfS_sq_sub_mag2 k0 k1 a0 a1 a2 tau hd]
  simp only [mdot, cart4S, mag2Of]
  ring

example : lorentz_dot.eval .xy .z .tau .xy .z .tau 3 0 0 (-2) 3 0 0 (-2) = -4 := by
  rw [refine_lorentz_dot_self_tau_signed .xy .z 3 0 0 (-2) trivial trivial canonTmpS_sample, tau2S_of_neg (by norm_num)]
  norm_num

/-! ### (c) causal classification of τ-stored vectors by the sign of the stored τ -/

theorem refine_lorentz_is_timelike_tau_signed (k0 : Az) (k1 : Lon) (tol a0 a1 a2 tau : ℝ)
    (h1 : TanOK k1 a2) (hs1 : SinOK k1 a2) (hd : CanonTmpS k0 k1 .tau a0 a1 a2 tau) :
    lorentz_is_timelike.eval k0 k1 .tau tol a0 a1 a2 tau ↔ 0 < tau ∧ tau ^ 2 > |tol| := by
  rw [c13_is_timelike_iff_dot, refine_lorentz_dot_self_tau_signed k0 k1 a0 a1 a2 tau h1 hs1 hd]
  have ht := abs_nonneg tol
  constructor
  · intro h
    have hp : 0 < tau := tau2S_pos_iff.mp (lt_of_le_of_lt ht h)
    rw [tau2S_of_nonneg hp.le] at h
    exact ⟨hp, h⟩
  · rintro ⟨hp, h⟩
    rw [tau2S_of_nonneg hp.le]; exact h

theorem refine_lorentz_is_spacelike_tau_signed (k0 : Az) (k1 : Lon) (tol a0 a1 a2 tau : ℝ)
    (h1 : TanOK k1 a2) (hs1 : SinOK k1 a2) (hd : CanonTmpS k0 k1 .tau a0 a1 a2 tau) :
    lorentz_is_spacelike.eval k0 k1 .tau tol a0 a1 a2 tau ↔ tau < 0 ∧ tau ^ 2 > |tol| := by
  rw [c13_is_spacelike_iff_dot, refine_lorentz_dot_self_tau_signed k0 k1 a0 a1 a2 tau h1 hs1 hd]
  have ht := abs_nonneg tol
  constructor
  · intro h
    have hp : tau < 0 := tau2S_neg_iff.mp (by linarith)
    rw [tau2S_of_neg hp] at h
    exact ⟨hp, by linarith⟩
  · rintro ⟨hp, h⟩
    rw [tau2S_of_neg hp]; linarith

theorem refine_lorentz_is_lightlike_tau_signed (k0 : Az) (k1 : Lon) (tol a0 a1 a2 tau : ℝ)
    (h1 : TanOK k1 a2) (hs1 : SinOK k1 a2) (hd : CanonTmpS k0 k1 .tau a0 a1 a2 tau) :
    lorentz_is_lightlike.eval k0 k1 .tau tol a0 a1 a2 tau ↔ tau ^ 2 < |tol| := by
  rw [c13_is_lightlike_iff_dot, refine_lorentz_dot_self_tau_signed k0 k1 a0 a1 a2 tau h1 hs1 hd, abs_tau2S]

theorem refine_lorentz_causal_classes_tau_signed_tol_zero (k0 : Az) (k1 : Lon) (a0 a1 a2 tau : ℝ)
    (h1 : TanOK k1 a2) (hs1 : SinOK k1 a2) (hd : CanonTmpS k0 k1 .tau a0 a1 a2 tau) :
    (lorentz_is_timelike.eval k0 k1 .tau 0 a0 a1 a2 tau ↔ 0 < tau) ∧
    (lorentz_is_spacelike.eval k0 k1 .tau 0 a0 a1 a2 tau ↔ tau < 0) ∧
    ¬ lorentz_is_lightlike.eval k0 k1 .tau 0 a0 a1 a2 tau := by
  rw [refine_lorentz_is_timelike_tau_signed k0 k1 0 a0 a1 a2 tau h1 hs1 hd,
    refine_lorentz_is_spacelike_tau_signed k0 k1 0 a0 a1 a2 tau h1 hs1 hd,
    refine_lorentz_is_lightlike_tau_signed k0 k1 0 a0 a1 a2 tau h1 hs1 hd, abs_zero]
  refine ⟨⟨fun h => h.1, fun h => ⟨h, by positivity⟩⟩, ⟨fun h => h.1, fun h => ⟨h, sq_pos_of_ne_zero (ne_of_lt h)⟩⟩, ?_⟩
  exact not_lt.mpr (sq_nonneg tau)

example : lorentz_is_spacelike.eval .xy .z .tau 1 3 0 0 (-2) ∧ ¬ lorentz_is_timelike.eval .xy .z .tau 1 3 0 0 (-2) := by
  rw [refine_lorentz_is_spacelike_tau_signed .xy .z 1 3 0 0 (-2) trivial trivial canonTmpS_sample,
    refine_lorentz_is_timelike_tau_signed .xy .z 1 3 0 0 (-2) trivial trivial canonTmpS_sample]
  norm_num

/-! ### (d) beta, gamma, rapidity -/

/-- the hypotheses of `refine_lorentz_beta_signed` (`Refine/LorentzAcc.lean`) at the space-like sample point, where `beta > 1` -/
example : Canon3 .xy .z 3 0 0 ∧ CanonTmpS .xy .z .tau 3 0 0 (-2) ∧ tOfS .xy .z .tau 3 0 0 (-2) ≠ 0 :=
  ⟨⟨trivial, trivial⟩, canonTmpS_sample, by rw [tOfS_sample]; exact sqrt_five_pos.ne'⟩

/-- at the space-like point `(3, 0, 0, τ = −2)`: `beta = 3/√5` -/
example : lorentz_beta.eval .xy .z .tau 3 0 0 (-2) = 3 / sqrt 5 := by
  rw [refine_lorentz_beta_signed .xy .z .tau 3 0 0 (-2) ⟨trivial, trivial⟩ canonTmpS_sample
    (by rw [tOfS_sample]; exact sqrt_five_pos.ne'), tOfS_sample]
  congr 1
  rw [show mag2Of .xy .z 3 0 0 = (3 : ℝ) ^ 2 by norm_num [mag2Of, xOf, yOf, zOf], sqrt_sq (by norm_num)]

/-- τ keys of `beta`, signed τ: the sign of the stored τ classifies the velocity — `beta < 1` for `τ > 0`, `beta = 1` for
`τ = 0`, `beta > 1` for `τ < 0` (and `0 ≤ beta` always) -/
theorem refine_lorentz_beta_tau_range_signed (k0 : Az) (k1 : Lon) (a b c d : ℝ)
    (h : Canon3 k0 k1 a b c) (hd : CanonTmpS k0 k1 .tau a b c d) (ht : tOfS k0 k1 .tau a b c d ≠ 0) :
    0 ≤ lorentz_beta.eval k0 k1 .tau a b c d
    ∧ (0 < d → lorentz_beta.eval k0 k1 .tau a b c d < 1)
    ∧ (d = 0 → lorentz_beta.eval k0 k1 .tau a b c d = 1)
    ∧ (d < 0 → 1 < lorentz_beta.eval k0 k1 .tau a b c d) := by
  rw [refine_lorentz_beta_signed k0 k1 .tau a b c d h hd ht]
  have hT : 0 < tOfS k0 k1 .tau a b c d := lt_of_le_of_ne (tOfS_tau_nonneg k0 k1 a b c d) (Ne.symm ht)
  have hm := mag2Of_nonneg' k0 k1 a b c
  have hc := (canonTmpS_tau k0 k1 a b c d).mp hd
  refine ⟨div_nonneg (sqrt_nonneg _) hT.le, ?_, ?_, ?_⟩
  · intro h0
    rw [div_lt_one hT, tOfS_tau]
    exact sqrt_lt_sqrt hm (by linarith [tau2S_pos_iff.mpr h0])
  · intro h0
    subst h0
    rw [tOfS_tau, tau2S_zero, zero_add] at hT ⊢
    exact div_self hT.ne'
  · intro h0
    rw [one_lt_div hT, tOfS_tau]
    exact sqrt_lt_sqrt hc (by linarith [tau2S_neg_iff.mpr h0])

/-- what `gamma` computes for EVERY key and every non-light-like vector (signed τ): `t / (sign(s)·√|s|)`, `s = t² − |p|²` —
for a space-like vector the NEGATIVE number `−t/√|s|`, consistently for `t` and τ storage -/
theorem lorentz_gamma_eq_signed (k0 : Az) (k1 : Lon) (k2 : Tmp) (a b c d : ℝ)
    (h : CanonLon k0 k1 a b c) (hd : CanonTmpS k0 k1 k2 a b c d)
    (_hs : tOfS k0 k1 k2 a b c d ^ 2 - mag2Of k0 k1 a b c ≠ 0) :
    lorentz_gamma.eval k0 k1 k2 a b c d
      = tOfS k0 k1 k2 a b c d / (Real.sign (tOfS k0 k1 k2 a b c d ^ 2 - mag2Of k0 k1 a b c)
          * sqrt |tOfS k0 k1 k2 a b c d ^ 2 - mag2Of k0 k1 a b c|) := by
  have hs := Spec.SinOK_of_canonLon h
  rw [lorentz_gamma_eval_eq, lorentz_t_eq_tOfS k0 k1 k2 a b c d hs hd, lorentz_tau_eq_signed k0 k1 k2 a b c d hs hd]

theorem refine_lorentz_gamma_signed (k0 : Az) (k1 : Lon) (k2 : Tmp) (a b c d : ℝ)
    (h : CanonLon k0 k1 a b c) (hd : CanonTmpS k0 k1 k2 a b c d)
    (hs : 0 < tOfS k0 k1 k2 a b c d ^ 2 - mag2Of k0 k1 a b c) :
    lorentz_gamma.eval k0 k1 k2 a b c d
      = tOfS k0 k1 k2 a b c d / sqrt (tOfS k0 k1 k2 a b c d ^ 2 - mag2Of k0 k1 a b c) := by
  rw [lorentz_gamma_eq_signed k0 k1 k2 a b c d h hd hs.ne', Real.sign_of_pos hs, abs_of_pos hs, one_mul]

/-- what the τ keys of `gamma` compute (signed τ), for every non-light-like τ-stored vector: `t / τ` with the STORED signed
τ — negative for a space-like vector -/
theorem lorentz_gamma_tau_eq_signed (k0 : Az) (k1 : Lon) (a b c d : ℝ)
    (h : CanonLon k0 k1 a b c) (hd : CanonTmpS k0 k1 .tau a b c d) (_hd0 : d ≠ 0) :
    lorentz_gamma.eval k0 k1 .tau a b c d = tOfS k0 k1 .tau a b c d / d := by
  rw [lorentz_gamma_eval_eq, refine_lorentz_tau_of_tau, lorentz_t_eq_tOfS k0 k1 .tau a b c d (Spec.SinOK_of_canonLon h) hd]

theorem refine_lorentz_gamma_tau_signed (k0 : Az) (k1 : Lon) (a b c d : ℝ)
    (h : CanonLon k0 k1 a b c) (hd0 : 0 < d) :
    lorentz_gamma.eval k0 k1 .tau a b c d = tOfS k0 k1 .tau a b c d / d
      ∧ 1 ≤ lorentz_gamma.eval k0 k1 .tau a b c d := by
  have hd : CanonTmpS k0 k1 .tau a b c d :=
    CanonTmpS_of_CanonTmp k0 k1 .tau a b c d (show (0 : ℝ) ≤ d from hd0.le)
  have e := lorentz_gamma_tau_eq_signed k0 k1 a b c d h hd hd0.ne'
  refine ⟨e, ?_⟩
  rw [e, one_le_div hd0, tOfS_tau, le_sqrt' hd0, tau2S_of_nonneg hd0.le]
  linarith [mag2Of_nonneg' k0 k1 a b c]

/-- at the space-like point `(3, 0, 0, τ = −2)` the code returns the negative number `gamma = √5 / (−2)` (so does the
`t`-stored variant, by `lorentz_gamma_eq_signed`) -/
example : lorentz_gamma.eval .xy .z .tau 3 0 0 (-2) = sqrt 5 / (-2) := by
  rw [lorentz_gamma_tau_eq_signed .xy .z 3 0 0 (-2) trivial canonTmpS_sample (by norm_num), tOfS_sample]

/-- `gamma` needs a time-like vector: the point `(0, 0, 0, τ = 2)` (at rest, `t = 2`) -/
example : CanonLon .xy .z 0 0 0 ∧ CanonTmpS .xy .z .tau 0 0 0 2
    ∧ 0 < tOfS .xy .z .tau 0 0 0 2 ^ 2 - mag2Of .xy .z 0 0 0 := by
  have hc : CanonTmpS .xy .z .tau 0 0 0 2 := CanonTmpS_of_CanonTmp _ _ _ _ _ _ _ (show (0 : ℝ) ≤ 2 by norm_num)
  refine ⟨trivial, hc, ?_⟩
  rw [timelike_iff_tau_pos _ _ _ _ _ _ hc]; norm_num

theorem refine_lorentz_rapidity_signed (k0 : Az) (k1 : Lon) (k2 : Tmp) (a b c d : ℝ)
    (htan : TanOK k1 c) (hs : SinOK k1 c) (hd : CanonTmpS k0 k1 k2 a b c d)
    (_hz : |zOf k0 k1 a b c| < tOfS k0 k1 k2 a b c d) :
    lorentz_rapidity.eval k0 k1 k2 a b c d
      = 1 / 2 * Real.log ((tOfS k0 k1 k2 a b c d + zOf k0 k1 a b c) / (tOfS k0 k1 k2 a b c d - zOf k0 k1 a b c)) :=
  lorentz_rapidity_eq_tOfS k0 k1 k2 a b c d htan hs hd

theorem lorentz_rapidity_eq_signed (k0 : Az) (k1 : Lon) (k2 : Tmp) (a b c d : ℝ)
    (h : TanOK k1 c) (hs : SinOK k1 c) (hd : CanonTmpS k0 k1 k2 a b c d)
    (hz : |zOf k0 k1 a b c| < tOfS k0 k1 k2 a b c d) :
    lorentz_rapidity.eval k0 k1 k2 a b c d = rapidityOf (cart4S k0 k1 k2 a b c d) := by
  rw [refine_lorentz_rapidity_signed k0 k1 k2 a b c d h hs hd hz]
  rfl

/-- the space-like point `(3, 0, 0, τ = −2)` has `z = 0 < t = √5`: rapidity defined (and `= 0`) -/
example : TanOK .z 0 ∧ SinOK .z 0 ∧ CanonTmpS .xy .z .tau 3 0 0 (-2)
    ∧ |zOf .xy .z 3 0 0| < tOfS .xy .z .tau 3 0 0 (-2) := by
  refine ⟨trivial, trivial, canonTmpS_sample, ?_⟩
  rw [tOfS_sample]; simp only [zOf, abs_zero]; exact sqrt_five_pos

/-! ### (e) Et2, Et, Mt -/

theorem refine_lorentz_Et2_signed (k0 : Az) (k1 : Lon) (k2 : Tmp) (a b c d : ℝ)
    (h : CanonLon k0 k1 a b c) (hd : CanonTmpS k0 k1 k2 a b c d) (hm : 0 < mag2Of k0 k1 a b c) :
    lorentz_Et2.eval k0 k1 k2 a b c d
      = tOfS k0 k1 k2 a b c d ^ 2 * rhoOf k0 a b ^ 2 / mag2Of k0 k1 a b c := by
  rw [lorentz_Et2_eval_eq, lorentz_t_eq_tOfS k0 k1 k2 a b c d (Spec.SinOK_of_canonLon h) hd,
    refine_lorentz_Et2 k0 k1 .t a b c _ h trivial hm, tOf_t]

/-- `Et = √Et2 = t ρ / |p|`, for `t ≥ 0` (signed τ; for τ storage `t ≥ 0` always holds) -/
theorem refine_lorentz_Et_signed (k0 : Az) (k1 : Lon) (k2 : Tmp) (a b c d : ℝ)
    (h : Canon3 k0 k1 a b c) (hd : CanonTmpS k0 k1 k2 a b c d) (hm : 0 < mag2Of k0 k1 a b c)
    (ht : k2 = .t → 0 ≤ tOfS k0 k1 k2 a b c d) :
    lorentz_Et.eval k0 k1 k2 a b c d
      = sqrt (tOfS k0 k1 k2 a b c d ^ 2 * rhoOf k0 a b ^ 2 / mag2Of k0 k1 a b c) := by
  have ht' : 0 ≤ tOfS k0 k1 k2 a b c d := by
    cases k2
    · exact ht rfl
    · exact tOfS_tau_nonneg k0 k1 a b c d
  rw [lorentz_Et_eval_eq, lorentz_t_eq_tOfS k0 k1 k2 a b c d (Spec.SinOK_of_canonLon h.2) hd,
    refine_lorentz_Et k0 k1 .t a b c _ h trivial hm (by rw [tOf_t]; exact ht'), tOf_t]

example : Canon3 .xy .z 3 0 0 ∧ CanonTmpS .xy .z .tau 3 0 0 (-2) ∧ 0 < mag2Of .xy .z 3 0 0 :=
  ⟨⟨trivial, trivial⟩, canonTmpS_sample, by norm_num [mag2Of, xOf, yOf, zOf]⟩

/-- what the τ keys of `Mt` compute (signed τ): the CLAMPED `√max(t² − z², 0)` of the denotation -/
theorem refine_lorentz_Mt_tau_signed (k0 : Az) (k1 : Lon) (a b c d : ℝ) (hd : CanonTmpS k0 k1 .tau a b c d) :
    lorentz_Mt.eval k0 k1 .tau a b c d = sqrt (max (tOfS k0 k1 .tau a b c d ^ 2 - zOf k0 k1 a b c ^ 2) 0) := by
  rw [lorentz_Mt_eq_sqrt_Mt2, refine_lorentz_Mt2_tau_signed k0 k1 a b c d hd]

theorem refine_lorentz_Mt_signed (k0 : Az) (k1 : Lon) (k2 : Tmp) (a b c d : ℝ)
    (htan : TanOK k1 c) (hd : CanonTmpS k0 k1 k2 a b c d)
    (hs : 0 ≤ tOfS k0 k1 k2 a b c d ^ 2 - zOf k0 k1 a b c ^ 2) :
    lorentz_Mt.eval k0 k1 k2 a b c d = sqrt (tOfS k0 k1 k2 a b c d ^ 2 - zOf k0 k1 a b c ^ 2) := by
  rw [lorentz_Mt_eq_sqrt_Mt2, refine_lorentz_Mt2_signed_partial k0 k1 k2 a b c d htan hd (fun _ => hs)]

/-- space-like τ-stored vectors with `t < |z|`: the τ keys of `Mt` return `0` -/
theorem refine_lorentz_Mt_tau_signed_clamped (k0 : Az) (k1 : Lon) (a b c d : ℝ) (hd : CanonTmpS k0 k1 .tau a b c d)
    (hs : tOfS k0 k1 .tau a b c d ^ 2 - zOf k0 k1 a b c ^ 2 ≤ 0) :
    lorentz_Mt.eval k0 k1 .tau a b c d = 0 := by
  rw [refine_lorentz_Mt_tau_signed k0 k1 a b c d hd, max_eq_right hs, sqrt_zero]

/-- the space-like point `(3, 0, 0, τ = −2)`: `t² − z² = 5 ≥ 0` -/
example : TanOK .z 0 ∧ CanonTmpS .xy .z .tau 3 0 0 (-2)
    ∧ 0 ≤ tOfS .xy .z .tau 3 0 0 (-2) ^ 2 - zOf .xy .z 3 0 0 ^ 2 := by
  refine ⟨trivial, canonTmpS_sample, ?_⟩
  rw [tOfS_sample, sq_sqrt (by norm_num)]; norm_num [zOf]

/-! ### (f) `Mt2` is storage dependent for space-like vectors with `t < |z|` -/

/-- The same space-like 4-vector `(x, y, z, t) = (0.9, 2.2, −2.6, 2.0)`, stored once with `t = 2` and once with
`τ = −2.9` (`τ²ₛ = t² − |p|² = −8.41`): the `t`-stored `Mt2` returns `t² − z² = −2.76 < 0`, the τ-stored one clamps
`max(τ²ₛ + x² + y², 0) = max(−2.76, 0) = 0`. -/
theorem lorentz_Mt2_spacelike_storage_dependent :
    CanonTmpS .xy .z .tau (9 / 10) (11 / 5) (-13 / 5) (-29 / 10)
    ∧ cart4S .xy .z .tau (9 / 10) (11 / 5) (-13 / 5) (-29 / 10) = cart4S .xy .z .t (9 / 10) (11 / 5) (-13 / 5) 2
    ∧ lorentz_Mt2.eval .xy .z .t (9 / 10) (11 / 5) (-13 / 5) 2 = -69 / 25
    ∧ lorentz_Mt2.eval .xy .z .tau (9 / 10) (11 / 5) (-13 / 5) (-29 / 10) = 0
    ∧ lorentz_Mt2.eval .xy .z .tau (9 / 10) (11 / 5) (-13 / 5) (-29 / 10)
        ≠ lorentz_Mt2.eval .xy .z .t (9 / 10) (11 / 5) (-13 / 5) 2 := by
  have e : tau2S (-29 / 10) + mag2Of .xy .z (9 / 10) (11 / 5) (-13 / 5) = 4 := by
    rw [tau2S_of_neg (by norm_num)]; norm_num [mag2Of, xOf, yOf, zOf]
  have hc : CanonTmpS .xy .z .tau (9 / 10) (11 / 5) (-13 / 5) (-29 / 10) := by
    show 0 ≤ tau2S (-29 / 10) + mag2Of .xy .z (9 / 10) (11 / 5) (-13 / 5)
    rw [e]; norm_num
  have ht : tOfS .xy .z .tau (9 / 10) (11 / 5) (-13 / 5) (-29 / 10) = 2 := by
    rw [tOfS_tau, e, show (4 : ℝ) = 2 ^ 2 by norm_num, sqrt_sq (by norm_num)]
  have e1 : lorentz_Mt2.eval .xy .z .t (9 / 10) (11 / 5) (-13 / 5) 2 = -69 / 25 := by
    simp only [d_lorentz_Mt2]; norm_num
  have e2 : lorentz_Mt2.eval .xy .z .tau (9 / 10) (11 / 5) (-13 / 5) (-29 / 10) = 0 := by
    rw [refine_lorentz_Mt2_tau_signed _ _ _ _ _ _ hc, ht]
    apply max_eq_right
    norm_num [zOf]
  refine ⟨hc, ?_, e1, e2, ?_⟩
  · simp only [cart4S, ht, tOfS_t]
  · rw [e1, e2]; norm_num

/-! ### (g) deltaRapidityPhi2, deltaRapidityPhi -/

theorem refine_lorentz_deltaRapidityPhi2_signed (k0 : Az) (k1 : Lon) (k2 : Tmp) (k3 : Az) (k4 : Lon) (k5 : Tmp)
    (a0 a1 a2 a3 a4 a5 a6 a7 : ℝ)
    (h1 : TanOK k1 a2) (h2 : TanOK k4 a6) (hs1 : SinOK k1 a2) (hs2 : SinOK k4 a6)
    (hd1 : CanonTmpS k0 k1 k2 a0 a1 a2 a3) (hd2 : CanonTmpS k3 k4 k5 a4 a5 a6 a7)
    (hz1 : |zOf k0 k1 a0 a1 a2| < tOfS k0 k1 k2 a0 a1 a2 a3) (hz2 : |zOf k3 k4 a4 a5 a6| < tOfS k3 k4 k5 a4 a5 a6 a7) :
    lorentz_deltaRapidityPhi2.eval k0 k1 k2 k3 k4 k5 a0 a1 a2 a3 a4 a5 a6 a7
      = planar_deltaphi.eval k0 k3 a0 a1 a4 a5 ^ 2
        + (rapidityOf (cart4S k0 k1 k2 a0 a1 a2 a3) - rapidityOf (cart4S k3 k4 k5 a4 a5 a6 a7)) ^ 2 := by
  rw [lorentz_deltaRapidityPhi2_eval_eq, lorentz_rapidity_eq_signed k0 k1 k2 a0 a1 a2 a3 h1 hs1 hd1 hz1,
    lorentz_rapidity_eq_signed k3 k4 k5 a4 a5 a6 a7 h2 hs2 hd2 hz2]

theorem refine_lorentz_deltaRapidityPhi_signed (k0 : Az) (k1 : Lon) (k2 : Tmp) (k3 : Az) (k4 : Lon) (k5 : Tmp)
    (a0 a1 a2 a3 a4 a5 a6 a7 : ℝ)
    (h1 : TanOK k1 a2) (h2 : TanOK k4 a6) (hs1 : SinOK k1 a2) (hs2 : SinOK k4 a6)
    (hd1 : CanonTmpS k0 k1 k2 a0 a1 a2 a3) (hd2 : CanonTmpS k3 k4 k5 a4 a5 a6 a7)
    (hz1 : |zOf k0 k1 a0 a1 a2| < tOfS k0 k1 k2 a0 a1 a2 a3) (hz2 : |zOf k3 k4 a4 a5 a6| < tOfS k3 k4 k5 a4 a5 a6 a7) :
    lorentz_deltaRapidityPhi.eval k0 k1 k2 k3 k4 k5 a0 a1 a2 a3 a4 a5 a6 a7
      = sqrt (planar_deltaphi.eval k0 k3 a0 a1 a4 a5 ^ 2
        + (rapidityOf (cart4S k0 k1 k2 a0 a1 a2 a3) - rapidityOf (cart4S k3 k4 k5 a4 a5 a6 a7)) ^ 2) := by
  rw [lorentz_deltaRapidityPhi_eval_eq,
    refine_lorentz_deltaRapidityPhi2_signed k0 k1 k2 k3 k4 k5 a0 a1 a2 a3 a4 a5 a6 a7 h1 h2 hs1 hs2 hd1 hd2 hz1 hz2]

/-- two space-like τ-stored operands `(3, 0, 0, τ = −2)` and `(0, 3, 1, τ = −2)` (`t = √6 > 1 = |z|`) -/
example : CanonTmpS .xy .z .tau 3 0 0 (-2) ∧ CanonTmpS .xy .z .tau 0 3 1 (-2)
    ∧ |zOf .xy .z 3 0 0| < tOfS .xy .z .tau 3 0 0 (-2) ∧ |zOf .xy .z 0 3 1| < tOfS .xy .z .tau 0 3 1 (-2) := by
  have e : tau2S (-2) + mag2Of .xy .z 0 3 1 = 6 := by
    rw [tau2S_of_neg (by norm_num)]; norm_num [mag2Of, xOf, yOf, zOf]
  have hc : CanonTmpS .xy .z .tau 0 3 1 (-2) := by
    show 0 ≤ tau2S (-2) + mag2Of .xy .z 0 3 1
    rw [e]; norm_num
  refine ⟨canonTmpS_sample, hc, ?_, ?_⟩
  · rw [tOfS_sample]; simp only [zOf, abs_zero]; exact sqrt_five_pos
  · rw [tOfS_tau, e]; simp only [zOf, abs_one]
    rw [lt_sqrt (by norm_num)]; norm_num

/-! ### (h) not_equal: soundness for signed-τ operands (144 keys), from `refine_lorentz_equal_signed` -/

theorem refine_lorentz_not_equal_signed (k0 : Az) (k1 : Lon) (k2 : Tmp) (k3 : Az) (k4 : Lon) (k5 : Tmp)
    (a0 a1 a2 a3 a4 a5 a6 a7 : ℝ)
    (c1 : Canon3 k0 k1 a0 a1 a2) (c2 : Canon3 k3 k4 a4 a5 a6)
    (hd1 : CanonTmpS k0 k1 k2 a0 a1 a2 a3) (hd2 : CanonTmpS k3 k4 k5 a4 a5 a6 a7)
    (t1 : TanOK k1 a2) (t2 : TanOK k4 a6)
    (h : ¬ cart4S k0 k1 k2 a0 a1 a2 a3 = cart4S k3 k4 k5 a4 a5 a6 a7) :
    lorentz_not_equal.eval k0 k1 k2 k3 k4 k5 a0 a1 a2 a3 a4 a5 a6 a7 :=
  (c12_lorentz_ne_iff_not_eq k0 k1 k2 k3 k4 k5 a0 a1 a2 a3 a4 a5 a6 a7).mpr
    fun he => h (refine_lorentz_equal_signed k0 k1 k2 k3 k4 k5 a0 a1 a2 a3 a4 a5 a6 a7 c1 c2 hd1 hd2 t1 t2 he)

/-- under the signed reading the sign of the stored τ matters: `(3, 0, 0, τ = 2)` (time-like, `t = √13`) and
`(3, 0, 0, τ = −2)` (space-like, `t = √5`) denote different vectors, and are reported "not equal" -/
example : lorentz_not_equal.eval .xy .z .tau .xy .z .tau 3 0 0 2 3 0 0 (-2) := by
  have hc : CanonTmpS .xy .z .tau 3 0 0 2 := CanonTmpS_of_CanonTmp _ _ _ _ _ _ _ (show (0 : ℝ) ≤ 2 by norm_num)
  refine refine_lorentz_not_equal_signed .xy .z .tau .xy .z .tau 3 0 0 2 3 0 0 (-2) ⟨trivial, trivial⟩ ⟨trivial, trivial⟩
    hc canonTmpS_sample trivial trivial ?_
  intro h
  have h4 := congrArg (fun v : ℝ × ℝ × ℝ × ℝ => v.2.2.2 ^ 2) h
  simp only [cart4S] at h4
  rw [tOfS_tau_sq _ _ _ _ _ _ hc, tOfS_tau_sq _ _ _ _ _ _ canonTmpS_sample, tau2S_of_nonneg (by norm_num),
    tau2S_of_neg (by norm_num)] at h4
  norm_num at h4

/-- a space-like vector stored once with τ and once with `t` compares equal: `(3, 0, 0, τ = −2)` and `(3, 0, 0, t = √5)` -/
example : lorentz_equal.eval .xy .z .tau .xy .z .t 3 0 0 (-2) 3 0 0 (sqrt 5) := by
  have ht : lorentz_t.eval .xy .z .tau 3 0 0 (-2) = sqrt 5 := by
    rw [lorentz_t_eq_tOfS .xy .z .tau 3 0 0 (-2) trivial canonTmpS_sample, tOfS_sample]
  have : lorentz_equal.eval .xy .z .tau .xy .z .t 3 0 0 (-2) 3 0 0 (sqrt 5)
      ↔ (lorentz_t.eval .xy .z .tau 3 0 0 (-2) = sqrt 5 ∧ spatial_equal.eval .xy .z .xy .z 3 0 0 3 0 0) := Iff.rfl
  rw [this, ht]
  refine ⟨rfl, ?_⟩
  simp [d_spatial_equal, d_planar_equal]

end VR
