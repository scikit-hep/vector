/-
Refinement theorems (C01 + C02) for the spatial rotation / transform modules and
the spatial delta-modules:

* `rotateX`, `rotateY`, `rotate_axis`, `rotate_euler`, `rotate_quaternion`, `transform3D`:
  every key computes the Cartesian variant on the denotations `xOf / yOf / zOf` of the
  stored coordinates, and every declared result is Cartesian `(xy, z)`;
  `rotateX` / `rotateY` on Cartesian input are `Spec.rotX` / `Spec.rotY`.
* `deltaeta`, `deltaR2`, `deltaR`, `deltaangle`: every key computes the Cartesian-key value on
  the denotations.

Every non-Cartesian variant of `rotateX`, `rotateY`, `rotate_axis`, `rotate_euler`, `rotate_quaternion` applies the Cartesian
variant to `planar_x`, `planar_y`, `spatial_z` of its operand (`…_eval_eq`, one `rfl` per key, no hypothesis; also what
`Props/C10.lean` starts from), so each `…_key` theorem is that followed by `refine_spatial_z`; `transform3D` is proved key by key.
The delta modules rest on their callees by key: `refine_spatial_eta_key`, and `refine_spatial_deltaphi_key` (from `phi_mod`:
`phi` of every key is `arctan2 y x` of the denotation up to a multiple of 2π, which `rectify` forgets).
-/
import VectorModel.Spec.Basic
import VectorModel.Lemmas.Real
import VectorModel.Refine.SpatialZ
import VectorModel.Refine.SpatialAcc
import VectorModel.Refine.SpatialBin
import VectorModel.Gen.Real.spatial_rotateX
import VectorModel.Gen.Real.spatial_rotateY
import VectorModel.Gen.Real.spatial_rotate_axis
import VectorModel.Gen.Real.spatial_rotate_euler
import VectorModel.Gen.Real.spatial_rotate_quaternion
import VectorModel.Gen.Real.spatial_transform3D
import VectorModel.Gen.Real.spatial_deltaeta
import VectorModel.Gen.Real.spatial_deltaR2
import VectorModel.Gen.Real.spatial_deltaR
import VectorModel.Gen.Real.spatial_deltaangle

namespace VR
open VK Spec Real

/-! ### rotateX -/

theorem refine_spatial_rotateX_ret (k0 : Az) (k1 : Lon) :
    spatial_rotateX.ret k0 k1 = Ret.vec [.az .xy, .lon .z] := by
  cases k0 <;> cases k1 <;> rfl

theorem spatial_rotateX_eval_eq (k0 : Az) (k1 : Lon) (ang a b c : ℝ) :
    spatial_rotateX.eval k0 k1 ang a b c
      = spatial_rotateX.eval .xy .z ang (xOf k0 a b) (yOf k0 a b) (spatial_z.eval k0 k1 a b c) := by
  cases k0 <;> cases k1 <;> rfl

/-- C01: every key of `rotateX` is the Cartesian key on the denotations -/
theorem refine_spatial_rotateX_key (k0 : Az) (k1 : Lon) (ang a b c : ℝ) (h : TanOK k1 c) :
    spatial_rotateX.eval k0 k1 ang a b c
      = spatial_rotateX.eval .xy .z ang (xOf k0 a b) (yOf k0 a b) (zOf k0 k1 a b c) := by
  rw [spatial_rotateX_eval_eq, refine_spatial_z k0 k1 a b c h]

/-- C02: the Cartesian key of `rotateX` is the active right-handed rotation about the x axis -/
theorem refine_spatial_rotateX_cart (ang x y z : ℝ) :
    spatial_rotateX.eval .xy .z ang x y z = rotX ang (x, y, z) :=
  Prod.ext rfl (Prod.ext (by simp only [d_spatial_rotateX, rotX]; ring) (by simp only [d_spatial_rotateX, rotX]; ring))

/-- C01 + C02 combined, through the declared result type -/
theorem refine_spatial_rotateX (k0 : Az) (k1 : Lon) (ang a b c : ℝ) (h : TanOK k1 c) :
    interp3 (spatial_rotateX.ret k0 k1) (spatial_rotateX.eval k0 k1 ang a b c)
      = some (rotX ang (cart3 k0 k1 a b c)) := by
  rw [refine_spatial_rotateX_ret, refine_spatial_rotateX_key k0 k1 ang a b c h, refine_spatial_rotateX_cart]
  rfl

example : TanOK .theta 1 ∧ TanOK .eta 0 ∧ TanOK .z 0 :=
  ⟨Spec.tanOK_one .theta, trivial, trivial⟩

/-! ### rotateY -/

theorem refine_spatial_rotateY_ret (k0 : Az) (k1 : Lon) :
    spatial_rotateY.ret k0 k1 = Ret.vec [.az .xy, .lon .z] := by
  cases k0 <;> cases k1 <;> rfl

theorem spatial_rotateY_eval_eq (k0 : Az) (k1 : Lon) (ang a b c : ℝ) :
    spatial_rotateY.eval k0 k1 ang a b c
      = spatial_rotateY.eval .xy .z ang (xOf k0 a b) (yOf k0 a b) (spatial_z.eval k0 k1 a b c) := by
  cases k0 <;> cases k1 <;> rfl

/-- C01: every key of `rotateY` is the Cartesian key on the denotations -/
theorem refine_spatial_rotateY_key (k0 : Az) (k1 : Lon) (ang a b c : ℝ) (h : TanOK k1 c) :
    spatial_rotateY.eval k0 k1 ang a b c
      = spatial_rotateY.eval .xy .z ang (xOf k0 a b) (yOf k0 a b) (zOf k0 k1 a b c) := by
  rw [spatial_rotateY_eval_eq, refine_spatial_z k0 k1 a b c h]

/-- C02: the Cartesian key of `rotateY` is the active right-handed rotation about the y axis -/
theorem refine_spatial_rotateY_cart (ang x y z : ℝ) :
    spatial_rotateY.eval .xy .z ang x y z = rotY ang (x, y, z) :=
  Prod.ext (by simp only [d_spatial_rotateY, rotY]; ring) (Prod.ext rfl (by simp only [d_spatial_rotateY, rotY]; ring))

theorem refine_spatial_rotateY (k0 : Az) (k1 : Lon) (ang a b c : ℝ) (h : TanOK k1 c) :
    interp3 (spatial_rotateY.ret k0 k1) (spatial_rotateY.eval k0 k1 ang a b c)
      = some (rotY ang (cart3 k0 k1 a b c)) := by
  rw [refine_spatial_rotateY_ret, refine_spatial_rotateY_key k0 k1 ang a b c h, refine_spatial_rotateY_cart]
  rfl

/-! ### rotate_quaternion, transform3D (C01: all keys reduce to the Cartesian key) -/

theorem refine_spatial_rotate_quaternion_ret (k0 : Az) (k1 : Lon) :
    spatial_rotate_quaternion.ret k0 k1 = Ret.vec [.az .xy, .lon .z] := by
  cases k0 <;> cases k1 <;> rfl

theorem spatial_rotate_quaternion_eval_eq (k0 : Az) (k1 : Lon) (u i j k a b c : ℝ) :
    spatial_rotate_quaternion.eval k0 k1 u i j k a b c
      = spatial_rotate_quaternion.eval .xy .z u i j k (xOf k0 a b) (yOf k0 a b) (spatial_z.eval k0 k1 a b c) := by
  cases k0 <;> cases k1 <;> rfl

theorem refine_spatial_rotate_quaternion (k0 : Az) (k1 : Lon) (u i j k a b c : ℝ) (h : TanOK k1 c) :
    spatial_rotate_quaternion.eval k0 k1 u i j k a b c
      = spatial_rotate_quaternion.eval .xy .z u i j k (xOf k0 a b) (yOf k0 a b) (zOf k0 k1 a b c) := by
  rw [spatial_rotate_quaternion_eval_eq, refine_spatial_z k0 k1 a b c h]

theorem refine_spatial_transform3D_ret (k0 : Az) (k1 : Lon) :
    spatial_transform3D.ret k0 k1 = Ret.vec [.az .xy, .lon .z] := by
  cases k0 <;> cases k1 <;> rfl

theorem refine_spatial_transform3D (k0 : Az) (k1 : Lon) (xx xy xz yx yy yz zx zy zz a b c : ℝ)
    (h : TanOK k1 c) :
    spatial_transform3D.eval k0 k1 xx xy xz yx yy yz zx zy zz a b c
      = spatial_transform3D.eval .xy .z xx xy xz yx yy yz zx zy zz
          (xOf k0 a b) (yOf k0 a b) (zOf k0 k1 a b c) := by
  rw [← refine_spatial_z k0 k1 a b c h]
  cases k0 <;> cases k1 <;> rfl

theorem refine_spatial_transform3D_interp (k0 : Az) (k1 : Lon) (xx xy xz yx yy yz zx zy zz a b c : ℝ)
    (h : TanOK k1 c) :
    interp3 (spatial_transform3D.ret k0 k1) (spatial_transform3D.eval k0 k1 xx xy xz yx yy yz zx zy zz a b c)
      = some (xx * xOf k0 a b + xy * yOf k0 a b + xz * zOf k0 k1 a b c,
              yx * xOf k0 a b + yy * yOf k0 a b + yz * zOf k0 k1 a b c,
              zx * xOf k0 a b + zy * yOf k0 a b + zz * zOf k0 k1 a b c) := by
  rw [refine_spatial_transform3D_ret, refine_spatial_transform3D _ _ _ _ _ _ _ _ _ _ _ _ _ _ h]
  rfl

/-! ### rotate_euler (72 keys) -/

theorem refine_spatial_rotate_euler_ret (k0 : Az) (k1 : Lon) (o : Ord) :
    spatial_rotate_euler.ret k0 k1 o = Ret.vec [.az .xy, .lon .z] := by
  cases k0 <;> cases k1 <;> cases o <;> rfl

theorem spatial_rotate_euler_eval_eq (k0 : Az) (k1 : Lon) (o : Ord) (phi theta psi a b c : ℝ) :
    spatial_rotate_euler.eval k0 k1 o phi theta psi a b c
      = spatial_rotate_euler.eval .xy .z o phi theta psi (xOf k0 a b) (yOf k0 a b) (spatial_z.eval k0 k1 a b c) := by
  cases k0 <;> cases k1 <;> cases o <;> rfl

theorem refine_spatial_rotate_euler (k0 : Az) (k1 : Lon) (o : Ord) (phi theta psi a b c : ℝ)
    (h : TanOK k1 c) :
    spatial_rotate_euler.eval k0 k1 o phi theta psi a b c
      = spatial_rotate_euler.eval .xy .z o phi theta psi (xOf k0 a b) (yOf k0 a b) (zOf k0 k1 a b c) := by
  rw [spatial_rotate_euler_eval_eq, refine_spatial_z k0 k1 a b c h]

/-! ### rotate_axis (36 keys: axis × vector) -/

theorem refine_spatial_rotate_axis_ret (k0 : Az) (k1 : Lon) (k2 : Az) (k3 : Lon) :
    spatial_rotate_axis.ret k0 k1 k2 k3 = Ret.vec [.az .xy, .lon .z] := by
  cases k0 <;> cases k1 <;> cases k2 <;> cases k3 <;> rfl

theorem spatial_rotate_axis_eval_eq (k0 : Az) (k1 : Lon) (k2 : Az) (k3 : Lon) (ang a b c d e f : ℝ) :
    spatial_rotate_axis.eval k0 k1 k2 k3 ang a b c d e f
      = spatial_rotate_axis.eval .xy .z .xy .z ang (xOf k0 a b) (yOf k0 a b) (spatial_z.eval k0 k1 a b c)
          (xOf k2 d e) (yOf k2 d e) (spatial_z.eval k2 k3 d e f) := by
  cases k0 <;> cases k1 <;> cases k2 <;> cases k3 <;> rfl

theorem refine_spatial_rotate_axis (k0 : Az) (k1 : Lon) (k2 : Az) (k3 : Lon) (ang a b c d e f : ℝ)
    (h1 : TanOK k1 c) (h2 : TanOK k3 f) :
    spatial_rotate_axis.eval k0 k1 k2 k3 ang a b c d e f
      = spatial_rotate_axis.eval .xy .z .xy .z ang (xOf k0 a b) (yOf k0 a b) (zOf k0 k1 a b c)
          (xOf k2 d e) (yOf k2 d e) (zOf k2 k3 d e f) := by
  rw [spatial_rotate_axis_eval_eq, refine_spatial_z k0 k1 a b c h1, refine_spatial_z k2 k3 d e f h2]

/-! ### the callees of the delta modules by key: `eta`, `deltaphi` -/

/-- C01 for `eta`: every key is the Cartesian key on the denotations -/
theorem refine_spatial_eta_key (k0 : Az) (k1 : Lon) (a b c : ℝ) (hr : 0 < rhoOf k0 a b)
    (h : CanonLon k0 k1 a b c) :
    spatial_eta.eval k0 k1 a b c
      = spatial_eta.eval .xy .z (xOf k0 a b) (yOf k0 a b) (zOf k0 k1 a b c) := by
  rw [refine_spatial_eta k0 k1 a b c hr h, spatial_eta_eval_rho, Spec.rhoOf_xy_cart hr.le]

/-- `phi` of any key is `arctan2 y x` of the denotations, up to a multiple of 2π (`0 < ρ`, any stored φ) -/
private theorem phi_mod (k : Az) (a b : ℝ) (hr : 0 < rhoOf k a b) :
    ∃ n : ℤ, planar_phi.eval k a b = P.arctan2 (yOf k a b) (xOf k a b) + n * (2 * π) := by
  cases k
  · exact ⟨0, by rw [Int.cast_zero, zero_mul, add_zero]; rfl⟩
  · obtain ⟨n, hn⟩ := L.arctan2_polar_mod (r := a) hr b
    exact ⟨n, eq_add_of_sub_eq hn.symm⟩

/-- C01 for `deltaphi`: every key is the Cartesian key on the denotations (`0 < ρ` for both operands;
the stored φ need not be canonical because `rectify` is 2π-periodic) -/
theorem refine_spatial_deltaphi_key (k0 k2 : Az) (a b d e : ℝ) (hr1 : 0 < rhoOf k0 a b)
    (hr2 : 0 < rhoOf k2 d e) :
    planar_deltaphi.eval k0 k2 a b d e
      = planar_deltaphi.eval .xy .xy (xOf k0 a b) (yOf k0 a b) (xOf k2 d e) (yOf k2 d e) := by
  have split : ∀ (k0 k2 : Az) (a b d e : ℝ), planar_deltaphi.eval k0 k2 a b d e
      = P.mod (planar_phi.eval k0 a b - planar_phi.eval k2 d e + π) (2 * π) - π := by
    intro k0 k2 a b d e; cases k0 <;> cases k2 <;> rfl
  obtain ⟨n1, h1⟩ := phi_mod k0 a b hr1
  obtain ⟨n2, h2⟩ := phi_mod k2 d e hr2
  rw [split, split, h1, h2]
  have e1 : P.arctan2 (yOf k0 a b) (xOf k0 a b) + n1 * (2 * π) - (P.arctan2 (yOf k2 d e) (xOf k2 d e) + n2 * (2 * π))
      = (P.arctan2 (yOf k0 a b) (xOf k0 a b) - P.arctan2 (yOf k2 d e) (xOf k2 d e)) - ((n2 - n1 : ℤ) : ℝ) * (2 * π) := by
    push_cast; ring
  rw [e1, L.rectify_sub_int]
  rfl

/-! ### deltaeta -/

private theorem deltaeta_split (k0 : Az) (k1 : Lon) (k2 : Az) (k3 : Lon) (a b c d e f : ℝ) :
    spatial_deltaeta.eval k0 k1 k2 k3 a b c d e f
      = spatial_eta.eval k0 k1 a b c - spatial_eta.eval k2 k3 d e f := by
  cases k0 <;> cases k1 <;> cases k2 <;> cases k3 <;> rfl

/-- C02: `deltaeta` is the difference of the pseudorapidities `arsinh (z / ρ)` of the denotations -/
theorem refine_spatial_deltaeta (k0 : Az) (k1 : Lon) (k2 : Az) (k3 : Lon) (a b c d e f : ℝ)
    (hr1 : 0 < rhoOf k0 a b) (hr2 : 0 < rhoOf k2 d e)
    (h1 : CanonLon k0 k1 a b c) (h2 : CanonLon k2 k3 d e f) :
    spatial_deltaeta.eval k0 k1 k2 k3 a b c d e f
      = arsinh (zOf k0 k1 a b c / rhoOf k0 a b) - arsinh (zOf k2 k3 d e f / rhoOf k2 d e) := by
  rw [deltaeta_split, refine_spatial_eta k0 k1 a b c hr1 h1, refine_spatial_eta k2 k3 d e f hr2 h2]

/-- C01: every key of `deltaeta` is the Cartesian key on the denotations -/
theorem refine_spatial_deltaeta_key (k0 : Az) (k1 : Lon) (k2 : Az) (k3 : Lon) (a b c d e f : ℝ)
    (hr1 : 0 < rhoOf k0 a b) (hr2 : 0 < rhoOf k2 d e)
    (h1 : CanonLon k0 k1 a b c) (h2 : CanonLon k2 k3 d e f) :
    spatial_deltaeta.eval k0 k1 k2 k3 a b c d e f
      = spatial_deltaeta.eval .xy .z .xy .z (xOf k0 a b) (yOf k0 a b) (zOf k0 k1 a b c)
          (xOf k2 d e) (yOf k2 d e) (zOf k2 k3 d e f) := by
  rw [deltaeta_split, deltaeta_split, refine_spatial_eta_key k0 k1 a b c hr1 h1, refine_spatial_eta_key k2 k3 d e f hr2 h2]

/-! ### deltaR2, deltaR -/

theorem spatial_deltaR2_eval_eq (k0 : Az) (k1 : Lon) (k2 : Az) (k3 : Lon) (a b c d e f : ℝ) :
    spatial_deltaR2.eval k0 k1 k2 k3 a b c d e f
      = planar_deltaphi.eval k0 k2 a b d e ^ 2 + spatial_deltaeta.eval k0 k1 k2 k3 a b c d e f ^ 2 := by
  cases k0 <;> cases k1 <;> cases k2 <;> cases k3 <;> rfl

/-- C01: every key of `deltaR2` is the Cartesian key on the denotations -/
theorem refine_spatial_deltaR2_key (k0 : Az) (k1 : Lon) (k2 : Az) (k3 : Lon) (a b c d e f : ℝ)
    (hr1 : 0 < rhoOf k0 a b) (hr2 : 0 < rhoOf k2 d e)
    (h1 : CanonLon k0 k1 a b c) (h2 : CanonLon k2 k3 d e f) :
    spatial_deltaR2.eval k0 k1 k2 k3 a b c d e f
      = spatial_deltaR2.eval .xy .z .xy .z (xOf k0 a b) (yOf k0 a b) (zOf k0 k1 a b c)
          (xOf k2 d e) (yOf k2 d e) (zOf k2 k3 d e f) := by
  rw [spatial_deltaR2_eval_eq, spatial_deltaR2_eval_eq, refine_spatial_deltaphi_key k0 k2 a b d e hr1 hr2,
    refine_spatial_deltaeta_key k0 k1 k2 k3 a b c d e f hr1 hr2 h1 h2]

/-- C02: `deltaR2 = Δφ² + Δη²` with `Δφ` the rectified difference of `arctan2 y x` and `Δη` the difference
of `arsinh (z / ρ)` of the denotations -/
theorem refine_spatial_deltaR2 (k0 : Az) (k1 : Lon) (k2 : Az) (k3 : Lon) (a b c d e f : ℝ)
    (hr1 : 0 < rhoOf k0 a b) (hr2 : 0 < rhoOf k2 d e)
    (h1 : CanonLon k0 k1 a b c) (h2 : CanonLon k2 k3 d e f) :
    spatial_deltaR2.eval k0 k1 k2 k3 a b c d e f
      = (P.mod (P.arctan2 (yOf k0 a b) (xOf k0 a b) - P.arctan2 (yOf k2 d e) (xOf k2 d e) + π) (2 * π) - π) ^ 2
        + (arsinh (zOf k0 k1 a b c / rhoOf k0 a b) - arsinh (zOf k2 k3 d e f / rhoOf k2 d e)) ^ 2 := by
  rw [spatial_deltaR2_eval_eq, refine_spatial_deltaphi_key k0 k2 a b d e hr1 hr2,
    refine_spatial_deltaeta k0 k1 k2 k3 a b c d e f hr1 hr2 h1 h2]
  rfl

/-- C02: `deltaR = √(deltaR2)` for every key -/
theorem refine_spatial_deltaR (k0 : Az) (k1 : Lon) (k2 : Az) (k3 : Lon) (a b c d e f : ℝ) :
    spatial_deltaR.eval k0 k1 k2 k3 a b c d e f = sqrt (spatial_deltaR2.eval k0 k1 k2 k3 a b c d e f) := by
  cases k0 <;> cases k1 <;> cases k2 <;> cases k3 <;> rfl

/-- C01: every key of `deltaR` is the Cartesian key on the denotations -/
theorem refine_spatial_deltaR_key (k0 : Az) (k1 : Lon) (k2 : Az) (k3 : Lon) (a b c d e f : ℝ)
    (hr1 : 0 < rhoOf k0 a b) (hr2 : 0 < rhoOf k2 d e)
    (h1 : CanonLon k0 k1 a b c) (h2 : CanonLon k2 k3 d e f) :
    spatial_deltaR.eval k0 k1 k2 k3 a b c d e f
      = spatial_deltaR.eval .xy .z .xy .z (xOf k0 a b) (yOf k0 a b) (zOf k0 k1 a b c)
          (xOf k2 d e) (yOf k2 d e) (zOf k2 k3 d e f) := by
  rw [refine_spatial_deltaR, refine_spatial_deltaR, refine_spatial_deltaR2_key k0 k1 k2 k3 a b c d e f hr1 hr2 h1 h2]

/-- the hypotheses of the delta theorems are satisfiable (one θ operand, one η operand) -/
example : 0 < rhoOf .xy 3 4 ∧ 0 < rhoOf .rhophi 2 7 ∧ CanonLon .xy .theta 3 4 1 ∧ CanonLon .rhophi .eta 2 7 (-1) := by
  have h : 0 < rhoOf .xy 3 4 := L.sqrt_sumsq_pos (Or.inl three_ne_zero)
  have h' : 0 < rhoOf .rhophi 2 7 := two_pos
  exact ⟨h, h', ⟨h, one_pos, L.one_lt_pi⟩, h'⟩

/-! ### deltaangle = arccos (clamp (dot / |p₁| / |p₂|)) -/

private theorem deltaangle_split (k0 : Az) (k1 : Lon) (k2 : Az) (k3 : Lon) (a b c d e f : ℝ) :
    spatial_deltaangle.eval k0 k1 k2 k3 a b c d e f
      = arccos (max (-1) (min 1 (spatial_dot.eval k0 k1 k2 k3 a b c d e f
          / spatial_mag.eval k0 k1 a b c / spatial_mag.eval k2 k3 d e f))) := by
  cases k0 <;> cases k1 <;> cases k2 <;> cases k3 <;> rfl

/-- C02: `deltaangle` of every key is `arccos` of the clamped normalised dot product of the denotations.
Hypotheses: `0 ≤ ρ` for polar storage, `cos θ ≠ 0` and `sin θ ≠ 0` for θ storage. -/
theorem refine_spatial_deltaangle (k0 : Az) (k1 : Lon) (k2 : Az) (k3 : Lon) (a b c d e f : ℝ)
    (hc1 : Canon2 k0 a b) (hc2 : Canon2 k2 d e) (ht1 : TanOK k1 c) (ht2 : TanOK k3 f)
    (hs1 : k1 = .theta → sin c ≠ 0) (hs2 : k3 = .theta → sin f ≠ 0) :
    spatial_deltaangle.eval k0 k1 k2 k3 a b c d e f
      = arccos (max (-1) (min 1 (dot3 (cart3 k0 k1 a b c) (cart3 k2 k3 d e f)
          / sqrt (mag2Of k0 k1 a b c) / sqrt (mag2Of k2 k3 d e f)))) := by
  rw [deltaangle_split, refine_spatial_dot k0 k1 k2 k3 a b c d e f ht1 ht2,
    refine_spatial_mag k0 k1 a b c hc1 (Spec.sinOK_iff.mpr hs1), refine_spatial_mag k2 k3 d e f hc2 (Spec.sinOK_iff.mpr hs2)]

/-- C01: every key of `deltaangle` is the Cartesian key on the denotations -/
theorem refine_spatial_deltaangle_key (k0 : Az) (k1 : Lon) (k2 : Az) (k3 : Lon) (a b c d e f : ℝ)
    (hc1 : Canon2 k0 a b) (hc2 : Canon2 k2 d e) (ht1 : TanOK k1 c) (ht2 : TanOK k3 f)
    (hs1 : k1 = .theta → sin c ≠ 0) (hs2 : k3 = .theta → sin f ≠ 0) :
    spatial_deltaangle.eval k0 k1 k2 k3 a b c d e f
      = spatial_deltaangle.eval .xy .z .xy .z (xOf k0 a b) (yOf k0 a b) (zOf k0 k1 a b c)
          (xOf k2 d e) (yOf k2 d e) (zOf k2 k3 d e f) := by
  rw [refine_spatial_deltaangle k0 k1 k2 k3 a b c d e f hc1 hc2 ht1 ht2 hs1 hs2]
  rfl

/-- the same under the representable-domain hypotheses `Canon3` (which give `0 < sin θ`, and `0 < ρ` for θ/η storage) -/
theorem refine_spatial_deltaangle_canon (k0 : Az) (k1 : Lon) (k2 : Az) (k3 : Lon) (a b c d e f : ℝ)
    (hc1 : Canon3 k0 k1 a b c) (hc2 : Canon3 k2 k3 d e f) (ht1 : TanOK k1 c) (ht2 : TanOK k3 f) :
    spatial_deltaangle.eval k0 k1 k2 k3 a b c d e f
      = spatial_deltaangle.eval .xy .z .xy .z (xOf k0 a b) (yOf k0 a b) (zOf k0 k1 a b c)
          (xOf k2 d e) (yOf k2 d e) (zOf k2 k3 d e f) := by
  refine refine_spatial_deltaangle_key k0 k1 k2 k3 a b c d e f hc1.1 hc2.1 ht1 ht2 ?_ ?_
  · rintro rfl; exact (Spec.sin_pos_of_canonLon hc1.2).ne'
  · rintro rfl; exact (Spec.sin_pos_of_canonLon hc2.2).ne'

/-- the hypotheses of `refine_spatial_deltaangle` are satisfiable (one θ operand, one polar operand on the z axis) -/
example : Canon2 .rhophi 0 7 ∧ Canon2 .xy 3 4 ∧ TanOK .theta 1 ∧ TanOK .z 5 ∧ ((Lon.theta = .theta) → sin (1 : ℝ) ≠ 0) :=
  ⟨le_refl (0 : ℝ), trivial, Spec.tanOK_one .theta, trivial, fun _ => Spec.sinOK_one .theta⟩

end VR
