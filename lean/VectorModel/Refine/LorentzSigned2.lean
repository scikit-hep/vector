/-
Refinement theorems for the VECTOR-VALUED Lorentz (4D) compute modules under the signed reading of τ
(`Spec/SignedTau.lean`; theorem suffix `_signed`; hypothesis `CanonTmpS`, see `Refine/LorentzSigned.lean`, which has the
scalar-valued modules).

(a) `add`, `subtract`, `scale`, `unit`; (b) `boost_beta3`, `boost_p4` with a τ-stored first operand; (c) the six boosts along an
axis; (d) `transform4D`; (e) `to_beta3`.

`add`, `subtract`, `transform4D` and the boosts cite the signed statements about `addForm4`, `lorentz_transform4D_eval_signed`
and `BoostForm` in `Refine/LorentzBin.lean`, of which the theorems under `0 ≤ τ` there are the restrictions. The signed statement
of `unit`, `refine_lorentz_unit_signed`, stands in `Refine/LorentzBin.lean` itself; here are the stored τ of its τ keys and a point
that meets its hypotheses. `scale` is proved here from `cart4S_of_scaled`, the twin of the `cart4_of_scaled` under the unsigned theorem (both in
`Refine/LorentzBin.lean`): the unsigned theorem asks nothing of a stored τ, so it is no restriction of the signed one. `to_beta3`
comes from the unsigned theorem at the `t` key through `lorentz_to_beta3_eval_eq`.
-/
import VectorModel.Spec.Basic
import VectorModel.Spec.SignedTau
import VectorModel.Spec.LorentzBin
import VectorModel.Lemmas.Real
import VectorModel.Refine.SpatialAcc
import VectorModel.Refine.SpatialBin
import VectorModel.Refine.LorentzAcc
import VectorModel.Refine.LorentzBin
import Mathlib.Tactic.NormNum
import Mathlib.Tactic.Positivity

namespace VR
open VK Spec Real
/-! ### (a) add / subtract (144 keys each), scale, unit — signed τ

For the 36 τ,τ keys `add` / `subtract` return `τ' = lorentz_tau(result, t₁ ± t₂)`, which is SIGNED: under the signed
reading the result denotes the exact sum whenever `0 ≤ t₁ ± t₂` — for `add` always (τ-stored operands have `t ≥ 0`),
with no causality requirement on the sum (`interp4S_addForm4`, `Refine/LorentzBin.lean`). -/

theorem canonTmpS_tau_of_t (az : Az) (lon : Lon) (a b c T : ℝ) (hs : SinOK lon c) :
    CanonTmpS az lon .tau a b c (lorentz_tau.eval az lon .t a b c T) := by
  rw [canonTmpS_tau, lorentz_tau_t_eq az lon a b c T hs, tau2S_copysign_sqrt_abs, sub_add_cancel]
  positivity

theorem refine_lorentz_add_signed (k0 : Az) (k1 : Lon) (k2 : Tmp) (k3 : Az) (k4 : Lon) (k5 : Tmp)
    (a0 a1 a2 a3 a4 a5 a6 a7 : ℝ)
    (h1 : TanOK k1 a2) (h2 : TanOK k4 a6) (hs1 : SinOK k1 a2) (hs2 : SinOK k4 a6)
    (hd1 : CanonTmpS k0 k1 k2 a0 a1 a2 a3) (hd2 : CanonTmpS k3 k4 k5 a4 a5 a6 a7)
    (hrep : Representable3 (spatial_add.ret k0 k1 k3 k4) (add3 (cart3 k0 k1 a0 a1 a2) (cart3 k3 k4 a4 a5 a6))) :
    interp4S (lorentz_add.ret k0 k1 k2 k3 k4 k5) (lorentz_add.eval k0 k1 k2 k3 k4 k5 a0 a1 a2 a3 a4 a5 a6 a7)
      = some (add4 (cart4S k0 k1 k2 a0 a1 a2 a3) (cart4S k3 k4 k5 a4 a5 a6 a7)) := by
  rw [lorentz_add_eval_eq, lorentz_add_ret_eq]
  exact interp4S_addForm4 k0 k1 k2 k3 k4 k5 a0 a1 a2 a3 a4 a5 a6 a7 (spatial_add_ret_eq k0 k1 k3 k4)
    (refine_spatial_add k0 k1 k3 k4 a0 a1 a2 a4 a5 a6 h1 h2 hrep) (spatial_add_sinOK k0 k1 k3 k4 a0 a1 a2 a4 a5 a6 hrep)
    hs1 hs2 hd1 hd2 fun e2 e5 => by
      subst e2 e5; exact add_nonneg (tOfS_tau_nonneg k0 k1 a0 a1 a2 a3) (tOfS_tau_nonneg k3 k4 a4 a5 a6 a7)

/-- `subtract` denotes the difference of the denoted 4-vectors (signed τ), for all 144 keys. For the 36 τ,τ keys the
result is τ-stored, hence needs `t₁ − t₂ ≥ 0` — but, unlike the unsigned reading, NOT a causal difference. -/
theorem refine_lorentz_subtract_signed (k0 : Az) (k1 : Lon) (k2 : Tmp) (k3 : Az) (k4 : Lon) (k5 : Tmp)
    (a0 a1 a2 a3 a4 a5 a6 a7 : ℝ)
    (h1 : TanOK k1 a2) (h2 : TanOK k4 a6) (hs1 : SinOK k1 a2) (hs2 : SinOK k4 a6)
    (hd1 : CanonTmpS k0 k1 k2 a0 a1 a2 a3) (hd2 : CanonTmpS k3 k4 k5 a4 a5 a6 a7)
    (hrep : Representable3 (spatial_subtract.ret k0 k1 k3 k4) (sub3 (cart3 k0 k1 a0 a1 a2) (cart3 k3 k4 a4 a5 a6)))
    (hc : k2 = .tau → k5 = .tau → 0 ≤ tOfS k0 k1 k2 a0 a1 a2 a3 - tOfS k3 k4 k5 a4 a5 a6 a7) :
    interp4S (lorentz_subtract.ret k0 k1 k2 k3 k4 k5) (lorentz_subtract.eval k0 k1 k2 k3 k4 k5 a0 a1 a2 a3 a4 a5 a6 a7)
      = some (sub4 (cart4S k0 k1 k2 a0 a1 a2 a3) (cart4S k3 k4 k5 a4 a5 a6 a7)) := by
  rw [lorentz_subtract_eval_eq, lorentz_subtract_ret_eq]
  exact interp4S_addForm4 k0 k1 k2 k3 k4 k5 a0 a1 a2 a3 a4 a5 a6 a7 (spatial_subtract_ret_eq k0 k1 k3 k4)
    (refine_spatial_subtract k0 k1 k3 k4 a0 a1 a2 a4 a5 a6 h1 h2 hrep)
    (spatial_subtract_sinOK k0 k1 k3 k4 a0 a1 a2 a4 a5 a6 hrep) hs1 hs2 hd1 hd2 hc

/-- two space-like τ-stored operands `(3,0,0,τ=−2)`, `(0,3,0,τ=−2)`: hypotheses of `add` hold -/
example : Representable3 (spatial_add.ret .xy .z .xy .z) (add3 (cart3 .xy .z 3 0 0) (cart3 .xy .z 0 3 0))
    ∧ CanonTmpS .xy .z .tau 3 0 0 (-2) ∧ CanonTmpS .xy .z .tau 0 3 0 (-2) := by
  refine ⟨Or.inl rfl, canonTmpS_sample, ?_⟩
  show 0 ≤ tau2S (-2) + mag2Of .xy .z 0 3 0
  rw [tau2S_of_neg (by norm_num)]; norm_num [mag2Of, xOf, yOf, zOf]

theorem refine_lorentz_scale_signed (k0 : Az) (k1 : Lon) (k2 : Tmp) (f a b c d : ℝ) (h : ThetaRange k1 c)
    (_hd : CanonTmpS k0 k1 k2 a b c d) (hf : k2 = .tau → 0 ≤ f) :
    interp4S (lorentz_scale.ret k0 k1 k2) (lorentz_scale.eval k0 k1 k2 f a b c d)
      = some (smul4 f (cart4S k0 k1 k2 a b c d)) := by
  have hS := refine_spatial_scale k0 k1 f a b c h
  rw [spatial_scale_ret_eq, interp3_same, Option.some.injEq] at hS
  rw [lorentz_scale_ret_eq, interp4S_same, lorentz_scale_eval_eq]
  exact congrArg some (cart4S_of_scaled k0 k1 k2 f a b c d _ _ _ hS hf)

theorem refine_lorentz_scale_tau_stored_signed (k0 : Az) (k1 : Lon) (f a b c d : ℝ) (h : ThetaRange k1 c)
    (hd : CanonTmpS k0 k1 .tau a b c d) (hf : 0 ≤ f) :
    let r := lorentz_scale.eval k0 k1 .tau f a b c d
    r.2.2.2 = d * f ∧ CanonTmpS k0 k1 .tau r.1 r.2.1 r.2.2.1 r.2.2.2 := by
  have hS := refine_spatial_scale k0 k1 f a b c h
  rw [spatial_scale_ret_eq, interp3_same, Option.some.injEq] at hS
  simp only [cart3, smul3, Prod.mk.injEq] at hS
  obtain ⟨hx, hy, hz⟩ := hS
  rw [lorentz_scale_eval_eq]
  refine ⟨rfl, ?_⟩
  simp only []
  rw [canonTmpS_tau, tau2S_mul_of_nonneg d f hf]
  have hm : mag2Of k0 k1 (spatial_scale.eval k0 k1 f a b c).1 (spatial_scale.eval k0 k1 f a b c).2.1
      (spatial_scale.eval k0 k1 f a b c).2.2 = f ^ 2 * mag2Of k0 k1 a b c := by
    unfold mag2Of; rw [hx, hy, hz]; ring
  rw [hm, ← mul_add]
  exact mul_nonneg (sq_nonneg f) ((canonTmpS_tau k0 k1 a b c d).mp hd)

example : ThetaRange .z 0 ∧ CanonTmpS .xy .z .tau 3 0 0 (-2) ∧ (0 : ℝ) ≤ 2 := ⟨trivial, canonTmpS_sample, by norm_num⟩

theorem refine_lorentz_unit_tau_stored_signed (k0 : Az) (k1 : Lon) (a b c d : ℝ) :
    (lorentz_unit.eval k0 k1 .tau a b c d).2.2.2 = P.copysign 1 d := by
  cases k0 <;> cases k1 <;> rfl

example : SinOK .z 0 ∧ CanonTmpS .xy .z .tau 3 0 0 (-2)
    ∧ tOfS .xy .z .tau 3 0 0 (-2) ^ 2 - mag2Of .xy .z 3 0 0 ≠ 0 := by
  refine ⟨trivial, canonTmpS_sample, ?_⟩
  rw [tOfS_sq_sub_mag2 _ _ _ _ _ _ canonTmpS_sample, tau2S_of_neg (by norm_num)]; norm_num

/-! ### (b) general boosts of a τ-stored first operand with signed τ

The τ-variants compute the spatial part from `(x, y, z, lorentz_t(…))` and return the STORED τ unchanged (`keepTau`).
Under the signed reading this denotes the boosted 4-vector whenever the boosted time component is `≥ 0` (a boost can
make the time component of a SPACE-LIKE vector negative, which τ storage cannot represent): the invariant `t² − |p|²`
is preserved, so `√(τ²ₛ + |p'|²) = |t'|` (`interp4S_keepTau_abs`). The statements are instances of those about
`BoostForm` (`Refine/LorentzBin.lean`). -/

/-! #### boost_beta3 (τ-stored first operand: 36 keys) -/

theorem refine_lorentz_boost_beta3_tau_spatial_signed (k0 : Az) (k1 : Lon) (k3 : Az) (k4 : Lon)
    (a0 a1 a2 a3 a4 a5 a6 : ℝ) (h1 : TanOK k1 a2) (h2 : TanOK k4 a6) (hd : CanonTmpS k0 k1 .tau a0 a1 a2 a3) :
    let r := lorentz_boost_beta3.eval k0 k1 .tau k3 k4 a0 a1 a2 a3 a4 a5 a6
    let r' := lorentz_boost_beta3.eval .xy .z .t .xy .z (xOf k0 a0 a1) (yOf k0 a0 a1) (zOf k0 k1 a0 a1 a2)
      (tOfS k0 k1 .tau a0 a1 a2 a3) (xOf k3 a4 a5) (yOf k3 a4 a5) (zOf k3 k4 a4 a5 a6)
    interp3 (lorentz_boost_beta3.ret k0 k1 .tau k3 k4) (r.1, r.2.1, r.2.2.1) = some (r'.1, r'.2.1, r'.2.2.1) :=
  (lorentz_boost_beta3_form k3 k4 a4 a5 a6 h2).tau_spatial_signed k0 k1 a0 a1 a2 a3 h1 hd

theorem refine_lorentz_boost_beta3_tau_stored_signed (k0 : Az) (k1 : Lon) (k3 : Az) (k4 : Lon) (a0 a1 a2 a3 a4 a5 a6 : ℝ) :
    (lorentz_boost_beta3.eval k0 k1 .tau k3 k4 a0 a1 a2 a3 a4 a5 a6).2.2.2 = a3 :=
  refine_lorentz_boost_beta3_tau_stored k0 k1 k3 k4 a0 a1 a2 a3 a4 a5 a6

/-- C01 + C02 for `boost_beta3`, signed τ: every key denotes the general boost of the denotation; for a τ-stored first
operand provided the boosted time component is `≥ 0` -/
theorem refine_lorentz_boost_beta3_spec_signed (k0 : Az) (k1 : Lon) (k2 : Tmp) (k3 : Az) (k4 : Lon)
    (a0 a1 a2 a3 a4 a5 a6 : ℝ) (h1 : TanOK k1 a2) (h2 : TanOK k4 a6) (hd : CanonTmpS k0 k1 k2 a0 a1 a2 a3)
    (hβ : mag2Of k3 k4 a4 a5 a6 < 1)
    (h0 : k2 = .tau → 0 ≤ (boostU (1 / sqrt (1 - mag2Of k3 k4 a4 a5 a6)) (1 / sqrt (1 - mag2Of k3 k4 a4 a5 a6) * xOf k3 a4 a5)
          (1 / sqrt (1 - mag2Of k3 k4 a4 a5 a6) * yOf k3 a4 a5) (1 / sqrt (1 - mag2Of k3 k4 a4 a5 a6) * zOf k3 k4 a4 a5 a6)
          (cart4S k0 k1 k2 a0 a1 a2 a3)).2.2.2) :
    interp4S (lorentz_boost_beta3.ret k0 k1 k2 k3 k4) (lorentz_boost_beta3.eval k0 k1 k2 k3 k4 a0 a1 a2 a3 a4 a5 a6)
      = some (boostU (1 / sqrt (1 - mag2Of k3 k4 a4 a5 a6)) (1 / sqrt (1 - mag2Of k3 k4 a4 a5 a6) * xOf k3 a4 a5)
          (1 / sqrt (1 - mag2Of k3 k4 a4 a5 a6) * yOf k3 a4 a5) (1 / sqrt (1 - mag2Of k3 k4 a4 a5 a6) * zOf k3 k4 a4 a5 a6)
          (cart4S k0 k1 k2 a0 a1 a2 a3)) :=
  ((lorentz_boost_beta3_form k3 k4 a4 a5 a6 h2).spec_signed k0 k1 k2 a0 a1 a2 a3 h1 hd
      (lorentz_boost_beta3_isBoost k3 k4 a4 a5 a6 hβ) fun e => (refine_lorentz_boost_beta3_cart_t ..) ▸ h0 e).trans
    (congrArg some (refine_lorentz_boost_beta3_cart_t ..))

/-- the space-like τ-stored point `(3, 0, 0, τ = −2)` (`t = √5`) boosted with `β = (1/2, 0, 0)`:
`t' = γ(t + β x) ≥ 0` -/
example : mag2Of .xy .z (1 / 2) 0 0 < 1 ∧ CanonTmpS .xy .z .tau 3 0 0 (-2) ∧
    0 ≤ (boostU (1 / sqrt (1 - mag2Of .xy .z (1 / 2) 0 0)) (1 / sqrt (1 - mag2Of .xy .z (1 / 2) 0 0) * xOf .xy (1 / 2) 0)
          (1 / sqrt (1 - mag2Of .xy .z (1 / 2) 0 0) * yOf .xy (1 / 2) 0) (1 / sqrt (1 - mag2Of .xy .z (1 / 2) 0 0) * zOf .xy .z (1 / 2) 0 0)
          (cart4S .xy .z .tau 3 0 0 (-2))).2.2.2 := by
  refine ⟨by norm_num [mag2Of, xOf, yOf, zOf], canonTmpS_sample, ?_⟩
  have := tOfS_tau_nonneg .xy .z 3 0 0 (-2)
  simp only [boostU, cart4S, xOf, yOf, zOf]
  positivity

/-- the hypothesis "boosted time `≥ 0`" is needed: the space-like τ-stored point `(3, 0, 0, τ = −2)` (`t = √5`) boosted
with `β = (−9/10, 0, 0)` has `t' = γ(√5 − 2.7) < 0`; the τ-stored result denotes `|t'|`, not `t'`. -/
theorem lorentz_boost_beta3_spacelike_negative_time :
    CanonTmpS .xy .z .tau 3 0 0 (-2) ∧ mag2Of .xy .z (-9 / 10) 0 0 < 1 ∧
    interp4S (lorentz_boost_beta3.ret .xy .z .tau .xy .z) (lorentz_boost_beta3.eval .xy .z .tau .xy .z 3 0 0 (-2) (-9 / 10) 0 0)
      ≠ some (boostU (1 / sqrt (1 - mag2Of .xy .z (-9 / 10) 0 0)) (1 / sqrt (1 - mag2Of .xy .z (-9 / 10) 0 0) * xOf .xy (-9 / 10) 0)
          (1 / sqrt (1 - mag2Of .xy .z (-9 / 10) 0 0) * yOf .xy (-9 / 10) 0)
          (1 / sqrt (1 - mag2Of .xy .z (-9 / 10) 0 0) * zOf .xy .z (-9 / 10) 0 0) (cart4S .xy .z .tau 3 0 0 (-2))) := by
  have hc := canonTmpS_sample
  have hβ : mag2Of .xy .z (-9 / 10) 0 0 < 1 := by norm_num [mag2Of, xOf, yOf, zOf]
  have hG := L.inv_sqrt_sq (sub_pos.mpr hβ)
  refine ⟨hc, hβ, ?_⟩
  -- the τ-stored result denotes `|t'|`; `t' = G (√5 − 27/10) < 0`
  rw [lorentz_boost_beta3_ret_eq, lorentz_boost_beta3_cart_eq, lorentz_t_eq_tOfS .xy .z .tau 3 0 0 (-2) trivial hc,
    refine_lorentz_boost_beta3_cart_t]
  intro h
  have h4 := congrArg (fun v : ℝ × ℝ × ℝ × ℝ => v.2.2.2)
    (Option.some.inj ((interp4S_keepTau_abs .xy .z 3 0 0 (-2) hc (boostU_isBoost_beta hG)).symm.trans h))
  have h5 : sqrt 5 < 27 / 10 := by
    rw [sqrt_lt' (by norm_num)]; norm_num
  simp only [absTime, boostU, cart4S, xOf, yOf, zOf, tOfS_sample] at h4
  generalize 1 / sqrt (1 - mag2Of .xy .z (-9 / 10) 0 0) = G at hG h4
  have hneg : G * (-9 / 10) * 3 + G * 0 * 0 + G * 0 * 0 + G * sqrt 5 < 0 := by
    have : G * (-9 / 10) * 3 + G * 0 * 0 + G * 0 * 0 + G * sqrt 5 = G * (sqrt 5 - 27 / 10) := by ring
    rw [this]; exact mul_neg_of_pos_of_neg hG.2 (by linarith)
  rw [abs_of_neg hneg] at h4
  linarith

/-! #### boost_p4 (τ-stored first operand: 72 keys) -/

/-- C01 + C02 for `boost_p4`, signed τ on both operands: every key denotes the general boost of the first operand with
the four-velocity `p₂ / M` of the second (a physical momentum: time-like — hence `τ₂ > 0` if τ-stored — with positive
energy); for a τ-stored first operand provided the boosted time component is `≥ 0` -/
theorem refine_lorentz_boost_p4_spec_signed (k0 : Az) (k1 : Lon) (k2 : Tmp) (k3 : Az) (k4 : Lon) (k5 : Tmp)
    (a0 a1 a2 a3 a4 a5 a6 a7 : ℝ) (h1 : TanOK k1 a2) (h2 : TanOK k4 a6) (hs2 : SinOK k4 a6)
    (hd1 : CanonTmpS k0 k1 k2 a0 a1 a2 a3) (hd2 : CanonTmpS k3 k4 k5 a4 a5 a6 a7)
    (hm : 0 < tOfS k3 k4 k5 a4 a5 a6 a7 ^ 2 - mag2Of k3 k4 a4 a5 a6) (ht : 0 < tOfS k3 k4 k5 a4 a5 a6 a7)
    (h0 : k2 = .tau → 0 ≤ (boostU (tOfS k3 k4 k5 a4 a5 a6 a7 / sqrt (tOfS k3 k4 k5 a4 a5 a6 a7 ^ 2 - mag2Of k3 k4 a4 a5 a6))
          (xOf k3 a4 a5 / sqrt (tOfS k3 k4 k5 a4 a5 a6 a7 ^ 2 - mag2Of k3 k4 a4 a5 a6))
          (yOf k3 a4 a5 / sqrt (tOfS k3 k4 k5 a4 a5 a6 a7 ^ 2 - mag2Of k3 k4 a4 a5 a6))
          (zOf k3 k4 a4 a5 a6 / sqrt (tOfS k3 k4 k5 a4 a5 a6 a7 ^ 2 - mag2Of k3 k4 a4 a5 a6))
          (cart4S k0 k1 k2 a0 a1 a2 a3)).2.2.2) :
    interp4S (lorentz_boost_p4.ret k0 k1 k2 k3 k4 k5) (lorentz_boost_p4.eval k0 k1 k2 k3 k4 k5 a0 a1 a2 a3 a4 a5 a6 a7)
      = some (boostU (tOfS k3 k4 k5 a4 a5 a6 a7 / sqrt (tOfS k3 k4 k5 a4 a5 a6 a7 ^ 2 - mag2Of k3 k4 a4 a5 a6))
          (xOf k3 a4 a5 / sqrt (tOfS k3 k4 k5 a4 a5 a6 a7 ^ 2 - mag2Of k3 k4 a4 a5 a6))
          (yOf k3 a4 a5 / sqrt (tOfS k3 k4 k5 a4 a5 a6 a7 ^ 2 - mag2Of k3 k4 a4 a5 a6))
          (zOf k3 k4 a4 a5 a6 / sqrt (tOfS k3 k4 k5 a4 a5 a6 a7 ^ 2 - mag2Of k3 k4 a4 a5 a6))
          (cart4S k0 k1 k2 a0 a1 a2 a3)) := by
  -- a time-like τ-stored boost vector has `τ₂ > 0`: the unsigned reading applies to the second operand
  have hd2' : CanonTmp k5 a7 := by
    cases k5
    · trivial
    · exact ((timelike_iff_tau_pos k3 k4 a4 a5 a6 a7 hd2).mp hm).le
  rw [tOfS_eq_tOf k3 k4 k5 a4 a5 a6 a7 hd2'] at hm ht h0 ⊢
  exact ((lorentz_boost_p4_form k3 k4 k5 a4 a5 a6 a7 h2 hs2).spec_signed k0 k1 k2 a0 a1 a2 a3 h1 hd1
      (lorentz_boost_p4_isBoost k3 k4 k5 a4 a5 a6 a7 hd2' hm ht) fun e =>
        (lorentz_boost_p4_cart_boostU k3 k4 k5 a4 a5 a6 a7 hd2' hm _) ▸ h0 e).trans
    (congrArg some (lorentz_boost_p4_cart_boostU k3 k4 k5 a4 a5 a6 a7 hd2' hm _))

theorem refine_lorentz_boost_p4_tau_spatial_signed (k0 : Az) (k1 : Lon) (k3 : Az) (k4 : Lon)
    (a0 a1 a2 a3 a4 a5 a6 a7 : ℝ) (h1 : TanOK k1 a2) (h2 : TanOK k4 a6) (hs2 : SinOK k4 a6)
    (hd : CanonTmpS k0 k1 .tau a0 a1 a2 a3) :
    let r := lorentz_boost_p4.eval k0 k1 .tau k3 k4 .t a0 a1 a2 a3 a4 a5 a6 a7
    let r' := lorentz_boost_p4.eval .xy .z .t .xy .z .t (xOf k0 a0 a1) (yOf k0 a0 a1) (zOf k0 k1 a0 a1 a2)
      (tOfS k0 k1 .tau a0 a1 a2 a3) (xOf k3 a4 a5) (yOf k3 a4 a5) (zOf k3 k4 a4 a5 a6) a7
    interp3 (lorentz_boost_p4.ret k0 k1 .tau k3 k4 .t) (r.1, r.2.1, r.2.2.1) = some (r'.1, r'.2.1, r'.2.2.1) :=
  (lorentz_boost_p4_form k3 k4 .t a4 a5 a6 a7 h2 hs2).tau_spatial_signed k0 k1 a0 a1 a2 a3 h1 hd

theorem refine_lorentz_boost_p4_tau_stored_signed (k0 : Az) (k1 : Lon) (k3 : Az) (k4 : Lon) (k5 : Tmp)
    (a0 a1 a2 a3 a4 a5 a6 a7 : ℝ) :
    (lorentz_boost_p4.eval k0 k1 .tau k3 k4 k5 a0 a1 a2 a3 a4 a5 a6 a7).2.2.2 = a3 :=
  refine_lorentz_boost_p4_tau_stored k0 k1 k3 k4 k5 a0 a1 a2 a3 a4 a5 a6 a7

/-- the space-like τ-stored point `(3, 0, 0, τ = −2)` boosted by the momentum `(1, 0, 0, t = 2)`: `t' ≥ 0` -/
example : CanonTmpS .xy .z .tau 3 0 0 (-2) ∧ CanonTmpS .xy .z .t 1 0 0 2
    ∧ 0 < tOfS .xy .z .t 1 0 0 2 ^ 2 - mag2Of .xy .z 1 0 0 ∧ 0 < tOfS .xy .z .t 1 0 0 2
    ∧ 0 ≤ (boostU (tOfS .xy .z .t 1 0 0 2 / sqrt (tOfS .xy .z .t 1 0 0 2 ^ 2 - mag2Of .xy .z 1 0 0))
          (xOf .xy 1 0 / sqrt (tOfS .xy .z .t 1 0 0 2 ^ 2 - mag2Of .xy .z 1 0 0))
          (yOf .xy 1 0 / sqrt (tOfS .xy .z .t 1 0 0 2 ^ 2 - mag2Of .xy .z 1 0 0))
          (zOf .xy .z 1 0 0 / sqrt (tOfS .xy .z .t 1 0 0 2 ^ 2 - mag2Of .xy .z 1 0 0))
          (cart4S .xy .z .tau 3 0 0 (-2))).2.2.2 := by
  refine ⟨canonTmpS_sample, trivial, by norm_num [tOfS, mag2Of, xOf, yOf, zOf], by norm_num [tOfS], ?_⟩
  have := tOfS_tau_nonneg .xy .z 3 0 0 (-2)
  simp only [boostU, cart4S, xOf, yOf, zOf, tOfS_t]
  positivity

/-! ### (c) boosts along a coordinate axis of a signed-τ operand

The τ variants compute the boosted coordinate from `lorentz_t(…)` and pass the STORED τ through; what the result denotes
under the signed reading is as in (b), and the statements are again instances of those about `BoostForm`. -/

theorem absTime_of_nonneg {p : ℝ × ℝ × ℝ × ℝ} (h : 0 ≤ p.2.2.2) : absTime p = p := by
  obtain ⟨x, y, z, t⟩ := p
  simp only [absTime, abs_of_nonneg h]

theorem refine_lorentz_boostX_beta_tau_spatial_signed (k0 : Az) (k1 : Lon) (β a b c d : ℝ)
    (h : TanOK k1 c) (hs : SinOK k1 c) (hd : CanonTmpS k0 k1 .tau a b c d) :
    let r := lorentz_boostX_beta.eval k0 k1 .tau β a b c d
    let r' := boostX (P.rpow (1 - β ^ 2) (-0.5)) (β * P.rpow (1 - β ^ 2) (-0.5)) (cart4S k0 k1 .tau a b c d)
    interp3 (lorentz_boostX_beta.ret k0 k1 .tau) (r.1, r.2.1, r.2.2.1) = some (r'.1, r'.2.1, r'.2.2.1) :=
  (lorentz_boostX_beta_form β).tau_spatial_signed k0 k1 a b c d ⟨h, hs⟩ hd

theorem refine_lorentz_boostX_beta_tau_stored_signed (k0 : Az) (k1 : Lon) (β a b c d : ℝ) :
    (lorentz_boostX_beta.eval k0 k1 .tau β a b c d).2.2.2 = d :=
  (lorentz_boostX_beta_form β).tau_stored k0 k1 a b c d

theorem refine_lorentz_boostX_beta_tau_abs_signed (k0 : Az) (k1 : Lon) (β a b c d : ℝ)
    (h : TanOK k1 c) (hs : SinOK k1 c) (hd : CanonTmpS k0 k1 .tau a b c d) (hβ : |β| < 1) :
    interp4S (lorentz_boostX_beta.ret k0 k1 .tau) (lorentz_boostX_beta.eval k0 k1 .tau β a b c d)
      = some (absTime (boostX (P.rpow (1 - β ^ 2) (-0.5)) (β * P.rpow (1 - β ^ 2) (-0.5)) (cart4S k0 k1 .tau a b c d))) :=
  (lorentz_boostX_beta_form β).tau_abs_signed k0 k1 a b c d ⟨h, hs⟩ hd (boostX_isBoost (L.gam_beta hβ))

/-- C01 + C02 for `boostX_beta`, signed τ: every key denotes the boost along x of the denotation; for a τ-stored
operand provided the boosted time component is `≥ 0` -/
theorem refine_lorentz_boostX_beta_spec_signed (k0 : Az) (k1 : Lon) (k2 : Tmp) (β a b c d : ℝ)
    (h : TanOK k1 c) (hs : SinOK k1 c) (hd : CanonTmpS k0 k1 k2 a b c d) (hβ : |β| < 1)
    (h0 : k2 = .tau → 0 ≤ (boostX (P.rpow (1 - β ^ 2) (-0.5)) (β * P.rpow (1 - β ^ 2) (-0.5)) (cart4S k0 k1 k2 a b c d)).2.2.2) :
    interp4S (lorentz_boostX_beta.ret k0 k1 k2) (lorentz_boostX_beta.eval k0 k1 k2 β a b c d)
      = some (boostX (P.rpow (1 - β ^ 2) (-0.5)) (β * P.rpow (1 - β ^ 2) (-0.5)) (cart4S k0 k1 k2 a b c d)) :=
  (lorentz_boostX_beta_form β).spec_signed k0 k1 k2 a b c d ⟨h, hs⟩ hd (boostX_isBoost (L.gam_beta hβ)) h0

theorem refine_lorentz_boostX_gamma_tau_spatial_signed (k0 : Az) (k1 : Lon) (γ a b c d : ℝ)
    (h : TanOK k1 c) (hs : SinOK k1 c) (hd : CanonTmpS k0 k1 .tau a b c d) :
    let r := lorentz_boostX_gamma.eval k0 k1 .tau γ a b c d
    let r' := boostX |γ| (P.copysign (sqrt (|γ| ^ 2 - 1)) γ) (cart4S k0 k1 .tau a b c d)
    interp3 (lorentz_boostX_gamma.ret k0 k1 .tau) (r.1, r.2.1, r.2.2.1) = some (r'.1, r'.2.1, r'.2.2.1) :=
  (lorentz_boostX_gamma_form γ).tau_spatial_signed k0 k1 a b c d ⟨h, hs⟩ hd

theorem refine_lorentz_boostX_gamma_tau_stored_signed (k0 : Az) (k1 : Lon) (γ a b c d : ℝ) :
    (lorentz_boostX_gamma.eval k0 k1 .tau γ a b c d).2.2.2 = d :=
  (lorentz_boostX_gamma_form γ).tau_stored k0 k1 a b c d

theorem refine_lorentz_boostX_gamma_tau_abs_signed (k0 : Az) (k1 : Lon) (γ a b c d : ℝ)
    (h : TanOK k1 c) (hs : SinOK k1 c) (hd : CanonTmpS k0 k1 .tau a b c d) (hγ : 1 ≤ |γ|) :
    interp4S (lorentz_boostX_gamma.ret k0 k1 .tau) (lorentz_boostX_gamma.eval k0 k1 .tau γ a b c d)
      = some (absTime (boostX |γ| (P.copysign (sqrt (|γ| ^ 2 - 1)) γ) (cart4S k0 k1 .tau a b c d))) :=
  (lorentz_boostX_gamma_form γ).tau_abs_signed k0 k1 a b c d ⟨h, hs⟩ hd (boostX_isBoost (L.gam_gamma hγ))

/-- C01 + C02 for `boostX_gamma`, signed τ: every key denotes the boost along x of the denotation; for a τ-stored
operand provided the boosted time component is `≥ 0` -/
theorem refine_lorentz_boostX_gamma_spec_signed (k0 : Az) (k1 : Lon) (k2 : Tmp) (γ a b c d : ℝ)
    (h : TanOK k1 c) (hs : SinOK k1 c) (hd : CanonTmpS k0 k1 k2 a b c d) (hγ : 1 ≤ |γ|)
    (h0 : k2 = .tau → 0 ≤ (boostX |γ| (P.copysign (sqrt (|γ| ^ 2 - 1)) γ) (cart4S k0 k1 k2 a b c d)).2.2.2) :
    interp4S (lorentz_boostX_gamma.ret k0 k1 k2) (lorentz_boostX_gamma.eval k0 k1 k2 γ a b c d)
      = some (boostX |γ| (P.copysign (sqrt (|γ| ^ 2 - 1)) γ) (cart4S k0 k1 k2 a b c d)) :=
  (lorentz_boostX_gamma_form γ).spec_signed k0 k1 k2 a b c d ⟨h, hs⟩ hd (boostX_isBoost (L.gam_gamma hγ)) h0

theorem refine_lorentz_boostY_beta_tau_spatial_signed (k0 : Az) (k1 : Lon) (β a b c d : ℝ)
    (h : TanOK k1 c) (hs : SinOK k1 c) (hd : CanonTmpS k0 k1 .tau a b c d) :
    let r := lorentz_boostY_beta.eval k0 k1 .tau β a b c d
    let r' := boostY (P.rpow (1 - β ^ 2) (-0.5)) (β * P.rpow (1 - β ^ 2) (-0.5)) (cart4S k0 k1 .tau a b c d)
    interp3 (lorentz_boostY_beta.ret k0 k1 .tau) (r.1, r.2.1, r.2.2.1) = some (r'.1, r'.2.1, r'.2.2.1) :=
  (lorentz_boostY_beta_form β).tau_spatial_signed k0 k1 a b c d ⟨h, hs⟩ hd

theorem refine_lorentz_boostY_beta_tau_stored_signed (k0 : Az) (k1 : Lon) (β a b c d : ℝ) :
    (lorentz_boostY_beta.eval k0 k1 .tau β a b c d).2.2.2 = d :=
  (lorentz_boostY_beta_form β).tau_stored k0 k1 a b c d

theorem refine_lorentz_boostY_beta_tau_abs_signed (k0 : Az) (k1 : Lon) (β a b c d : ℝ)
    (h : TanOK k1 c) (hs : SinOK k1 c) (hd : CanonTmpS k0 k1 .tau a b c d) (hβ : |β| < 1) :
    interp4S (lorentz_boostY_beta.ret k0 k1 .tau) (lorentz_boostY_beta.eval k0 k1 .tau β a b c d)
      = some (absTime (boostY (P.rpow (1 - β ^ 2) (-0.5)) (β * P.rpow (1 - β ^ 2) (-0.5)) (cart4S k0 k1 .tau a b c d))) :=
  (lorentz_boostY_beta_form β).tau_abs_signed k0 k1 a b c d ⟨h, hs⟩ hd (boostY_isBoost (L.gam_beta hβ))

/-- C01 + C02 for `boostY_beta`, signed τ: every key denotes the boost along y of the denotation; for a τ-stored
operand provided the boosted time component is `≥ 0` -/
theorem refine_lorentz_boostY_beta_spec_signed (k0 : Az) (k1 : Lon) (k2 : Tmp) (β a b c d : ℝ)
    (h : TanOK k1 c) (hs : SinOK k1 c) (hd : CanonTmpS k0 k1 k2 a b c d) (hβ : |β| < 1)
    (h0 : k2 = .tau → 0 ≤ (boostY (P.rpow (1 - β ^ 2) (-0.5)) (β * P.rpow (1 - β ^ 2) (-0.5)) (cart4S k0 k1 k2 a b c d)).2.2.2) :
    interp4S (lorentz_boostY_beta.ret k0 k1 k2) (lorentz_boostY_beta.eval k0 k1 k2 β a b c d)
      = some (boostY (P.rpow (1 - β ^ 2) (-0.5)) (β * P.rpow (1 - β ^ 2) (-0.5)) (cart4S k0 k1 k2 a b c d)) :=
  (lorentz_boostY_beta_form β).spec_signed k0 k1 k2 a b c d ⟨h, hs⟩ hd (boostY_isBoost (L.gam_beta hβ)) h0

theorem refine_lorentz_boostY_gamma_tau_spatial_signed (k0 : Az) (k1 : Lon) (γ a b c d : ℝ)
    (h : TanOK k1 c) (hs : SinOK k1 c) (hd : CanonTmpS k0 k1 .tau a b c d) :
    let r := lorentz_boostY_gamma.eval k0 k1 .tau γ a b c d
    let r' := boostY |γ| (P.copysign (sqrt (|γ| ^ 2 - 1)) γ) (cart4S k0 k1 .tau a b c d)
    interp3 (lorentz_boostY_gamma.ret k0 k1 .tau) (r.1, r.2.1, r.2.2.1) = some (r'.1, r'.2.1, r'.2.2.1) :=
  (lorentz_boostY_gamma_form γ).tau_spatial_signed k0 k1 a b c d ⟨h, hs⟩ hd

theorem refine_lorentz_boostY_gamma_tau_stored_signed (k0 : Az) (k1 : Lon) (γ a b c d : ℝ) :
    (lorentz_boostY_gamma.eval k0 k1 .tau γ a b c d).2.2.2 = d :=
  (lorentz_boostY_gamma_form γ).tau_stored k0 k1 a b c d

theorem refine_lorentz_boostY_gamma_tau_abs_signed (k0 : Az) (k1 : Lon) (γ a b c d : ℝ)
    (h : TanOK k1 c) (hs : SinOK k1 c) (hd : CanonTmpS k0 k1 .tau a b c d) (hγ : 1 ≤ |γ|) :
    interp4S (lorentz_boostY_gamma.ret k0 k1 .tau) (lorentz_boostY_gamma.eval k0 k1 .tau γ a b c d)
      = some (absTime (boostY |γ| (P.copysign (sqrt (|γ| ^ 2 - 1)) γ) (cart4S k0 k1 .tau a b c d))) :=
  (lorentz_boostY_gamma_form γ).tau_abs_signed k0 k1 a b c d ⟨h, hs⟩ hd (boostY_isBoost (L.gam_gamma hγ))

/-- C01 + C02 for `boostY_gamma`, signed τ: every key denotes the boost along y of the denotation; for a τ-stored
operand provided the boosted time component is `≥ 0` -/
theorem refine_lorentz_boostY_gamma_spec_signed (k0 : Az) (k1 : Lon) (k2 : Tmp) (γ a b c d : ℝ)
    (h : TanOK k1 c) (hs : SinOK k1 c) (hd : CanonTmpS k0 k1 k2 a b c d) (hγ : 1 ≤ |γ|)
    (h0 : k2 = .tau → 0 ≤ (boostY |γ| (P.copysign (sqrt (|γ| ^ 2 - 1)) γ) (cart4S k0 k1 k2 a b c d)).2.2.2) :
    interp4S (lorentz_boostY_gamma.ret k0 k1 k2) (lorentz_boostY_gamma.eval k0 k1 k2 γ a b c d)
      = some (boostY |γ| (P.copysign (sqrt (|γ| ^ 2 - 1)) γ) (cart4S k0 k1 k2 a b c d)) :=
  (lorentz_boostY_gamma_form γ).spec_signed k0 k1 k2 a b c d ⟨h, hs⟩ hd (boostY_isBoost (L.gam_gamma hγ)) h0

theorem refine_lorentz_boostZ_beta_tau_spatial_signed (k0 : Az) (k1 : Lon) (β a b c d : ℝ)
    (h : TanOK k1 c) (hs : SinOK k1 c) (hd : CanonTmpS k0 k1 .tau a b c d) :
    let r := lorentz_boostZ_beta.eval k0 k1 .tau β a b c d
    let r' := boostZ (P.rpow (1 - β ^ 2) (-0.5)) (β * P.rpow (1 - β ^ 2) (-0.5)) (cart4S k0 k1 .tau a b c d)
    interp3 (lorentz_boostZ_beta.ret k0 k1 .tau) (r.1, r.2.1, r.2.2.1) = some (r'.1, r'.2.1, r'.2.2.1) :=
  (lorentz_boostZ_beta_form β).tau_spatial_signed k0 k1 a b c d ⟨h, hs⟩ hd

theorem refine_lorentz_boostZ_beta_tau_stored_signed (k0 : Az) (k1 : Lon) (β a b c d : ℝ) :
    (lorentz_boostZ_beta.eval k0 k1 .tau β a b c d).2.2.2 = d :=
  (lorentz_boostZ_beta_form β).tau_stored k0 k1 a b c d

theorem refine_lorentz_boostZ_beta_tau_abs_signed (k0 : Az) (k1 : Lon) (β a b c d : ℝ)
    (h : TanOK k1 c) (hs : SinOK k1 c) (hd : CanonTmpS k0 k1 .tau a b c d) (hβ : |β| < 1) :
    interp4S (lorentz_boostZ_beta.ret k0 k1 .tau) (lorentz_boostZ_beta.eval k0 k1 .tau β a b c d)
      = some (absTime (boostZ (P.rpow (1 - β ^ 2) (-0.5)) (β * P.rpow (1 - β ^ 2) (-0.5)) (cart4S k0 k1 .tau a b c d))) :=
  (lorentz_boostZ_beta_form β).tau_abs_signed k0 k1 a b c d ⟨h, hs⟩ hd (boostZ_isBoost (L.gam_beta hβ))

/-- C01 + C02 for `boostZ_beta`, signed τ: every key denotes the boost along z of the denotation; for a τ-stored
operand provided the boosted time component is `≥ 0` -/
theorem refine_lorentz_boostZ_beta_spec_signed (k0 : Az) (k1 : Lon) (k2 : Tmp) (β a b c d : ℝ)
    (h : TanOK k1 c) (hs : SinOK k1 c) (hd : CanonTmpS k0 k1 k2 a b c d) (hβ : |β| < 1)
    (h0 : k2 = .tau → 0 ≤ (boostZ (P.rpow (1 - β ^ 2) (-0.5)) (β * P.rpow (1 - β ^ 2) (-0.5)) (cart4S k0 k1 k2 a b c d)).2.2.2) :
    interp4S (lorentz_boostZ_beta.ret k0 k1 k2) (lorentz_boostZ_beta.eval k0 k1 k2 β a b c d)
      = some (boostZ (P.rpow (1 - β ^ 2) (-0.5)) (β * P.rpow (1 - β ^ 2) (-0.5)) (cart4S k0 k1 k2 a b c d)) :=
  (lorentz_boostZ_beta_form β).spec_signed k0 k1 k2 a b c d ⟨h, hs⟩ hd (boostZ_isBoost (L.gam_beta hβ)) h0

theorem refine_lorentz_boostZ_gamma_tau_spatial_signed (k0 : Az) (k1 : Lon) (γ a b c d : ℝ)
    (h : TanOK k1 c) (hs : SinOK k1 c) (hd : CanonTmpS k0 k1 .tau a b c d) :
    let r := lorentz_boostZ_gamma.eval k0 k1 .tau γ a b c d
    let r' := boostZ |γ| (P.copysign (sqrt (|γ| ^ 2 - 1)) γ) (cart4S k0 k1 .tau a b c d)
    interp3 (lorentz_boostZ_gamma.ret k0 k1 .tau) (r.1, r.2.1, r.2.2.1) = some (r'.1, r'.2.1, r'.2.2.1) :=
  (lorentz_boostZ_gamma_form γ).tau_spatial_signed k0 k1 a b c d ⟨h, hs⟩ hd

theorem refine_lorentz_boostZ_gamma_tau_stored_signed (k0 : Az) (k1 : Lon) (γ a b c d : ℝ) :
    (lorentz_boostZ_gamma.eval k0 k1 .tau γ a b c d).2.2.2 = d :=
  (lorentz_boostZ_gamma_form γ).tau_stored k0 k1 a b c d

theorem refine_lorentz_boostZ_gamma_tau_abs_signed (k0 : Az) (k1 : Lon) (γ a b c d : ℝ)
    (h : TanOK k1 c) (hs : SinOK k1 c) (hd : CanonTmpS k0 k1 .tau a b c d) (hγ : 1 ≤ |γ|) :
    interp4S (lorentz_boostZ_gamma.ret k0 k1 .tau) (lorentz_boostZ_gamma.eval k0 k1 .tau γ a b c d)
      = some (absTime (boostZ |γ| (P.copysign (sqrt (|γ| ^ 2 - 1)) γ) (cart4S k0 k1 .tau a b c d))) :=
  (lorentz_boostZ_gamma_form γ).tau_abs_signed k0 k1 a b c d ⟨h, hs⟩ hd (boostZ_isBoost (L.gam_gamma hγ))

/-- C01 + C02 for `boostZ_gamma`, signed τ: every key denotes the boost along z of the denotation; for a τ-stored
operand provided the boosted time component is `≥ 0` -/
theorem refine_lorentz_boostZ_gamma_spec_signed (k0 : Az) (k1 : Lon) (k2 : Tmp) (γ a b c d : ℝ)
    (h : TanOK k1 c) (hs : SinOK k1 c) (hd : CanonTmpS k0 k1 k2 a b c d) (hγ : 1 ≤ |γ|)
    (h0 : k2 = .tau → 0 ≤ (boostZ |γ| (P.copysign (sqrt (|γ| ^ 2 - 1)) γ) (cart4S k0 k1 k2 a b c d)).2.2.2) :
    interp4S (lorentz_boostZ_gamma.ret k0 k1 k2) (lorentz_boostZ_gamma.eval k0 k1 k2 γ a b c d)
      = some (boostZ |γ| (P.copysign (sqrt (|γ| ^ 2 - 1)) γ) (cart4S k0 k1 k2 a b c d)) :=
  (lorentz_boostZ_gamma_form γ).spec_signed k0 k1 k2 a b c d ⟨h, hs⟩ hd (boostZ_isBoost (L.gam_gamma hγ)) h0

/-! #### the hypotheses are satisfiable; the sign hypothesis is needed -/

private theorem sqrt5_pos : (0 : ℝ) < sqrt 5 := sqrt_five_pos

private theorem gb_pos {β : ℝ} (h : |β| < 1) : 0 < P.rpow (1 - β ^ 2) (-0.5) :=
  L.rpow_neg_half_pos (L.one_sub_sq_pos h)

/-- the space-like τ-stored point `(3, 0, 0, τ = −2)` (`t = √5`) boosted along x, y, z with `β = 1/2`: `t' ≥ 0` -/
example : TanOK .z 0 ∧ SinOK .z 0 ∧ CanonTmpS .xy .z .tau 3 0 0 (-2) ∧ |(1 / 2 : ℝ)| < 1
    ∧ 0 ≤ (boostX (P.rpow (1 - (1 / 2 : ℝ) ^ 2) (-0.5)) ((1 / 2 : ℝ) * P.rpow (1 - (1 / 2 : ℝ) ^ 2) (-0.5))
        (cart4S .xy .z .tau 3 0 0 (-2))).2.2.2
    ∧ 0 ≤ (boostY (P.rpow (1 - (1 / 2 : ℝ) ^ 2) (-0.5)) ((1 / 2 : ℝ) * P.rpow (1 - (1 / 2 : ℝ) ^ 2) (-0.5))
        (cart4S .xy .z .tau 3 0 0 (-2))).2.2.2
    ∧ 0 ≤ (boostZ (P.rpow (1 - (1 / 2 : ℝ) ^ 2) (-0.5)) ((1 / 2 : ℝ) * P.rpow (1 - (1 / 2 : ℝ) ^ 2) (-0.5))
        (cart4S .xy .z .tau 3 0 0 (-2))).2.2.2 := by
  have hb : |(1 / 2 : ℝ)| < 1 := by rw [abs_of_pos] <;> norm_num
  have hg := gb_pos hb
  have ht := sqrt5_pos
  refine ⟨trivial, trivial, canonTmpS_sample, hb, ?_, ?_, ?_⟩ <;>
    simp only [boostX, boostY, boostZ, cart4S, xOf, yOf, zOf, tOfS_sample] <;> positivity

/-- … and with `γ = −5/4` (a boost in the negative direction, `βγ = −3/4`): `t' = (5√5 − 9)/4 ≥ 0` along x -/
example : (1 : ℝ) ≤ |(-5 / 4)| ∧ 0 ≤ (boostX |(-5 / 4 : ℝ)| (P.copysign (sqrt (|(-5 / 4 : ℝ)| ^ 2 - 1)) (-5 / 4))
        (cart4S .xy .z .tau 3 0 0 (-2))).2.2.2 := by
  have h2 : |(-5 / 4 : ℝ)| = 5 / 4 := by rw [abs_of_neg] <;> norm_num
  refine ⟨by rw [h2]; norm_num, ?_⟩
  have hs : sqrt ((5 / 4 : ℝ) ^ 2 - 1) = 3 / 4 := by
    rw [show (5 / 4 : ℝ) ^ 2 - 1 = (3 / 4) ^ 2 by norm_num, sqrt_sq (by norm_num)]
  have hc : P.copysign (sqrt (|(-5 / 4 : ℝ)| ^ 2 - 1)) (-5 / 4) = -(3 / 4) := by
    rw [P.copysign_of_neg _ (by norm_num), h2, hs, abs_of_pos (by norm_num)]
  rw [hc, h2]
  simp only [boostX, cart4S, xOf, tOfS_sample]
  have p5 : (2 : ℝ) ≤ sqrt 5 := (le_sqrt' (by norm_num)).mpr (by norm_num)
  linarith

/-- the hypothesis "boosted time `≥ 0`" is needed: the space-like τ-stored point `(3, 0, 0, τ = −2)` (`t = √5`) boosted along
x with `β = −9/10` has `t' = γ(√5 − 2.7) < 0`; the τ-stored result `(x', 0, 0, τ = −2)` denotes `|t'|`, not `t'`. -/
theorem lorentz_boostX_beta_spacelike_negative_time :
    CanonTmpS .xy .z .tau 3 0 0 (-2) ∧ |(-9 / 10 : ℝ)| < 1 ∧
    interp4S (lorentz_boostX_beta.ret .xy .z .tau) (lorentz_boostX_beta.eval .xy .z .tau (-9 / 10) 3 0 0 (-2))
      ≠ some (boostX (P.rpow (1 - (-9 / 10 : ℝ) ^ 2) (-0.5)) ((-9 / 10 : ℝ) * P.rpow (1 - (-9 / 10 : ℝ) ^ 2) (-0.5))
          (cart4S .xy .z .tau 3 0 0 (-2))) := by
  have hb : |(-9 / 10 : ℝ)| < 1 := by rw [abs_of_neg] <;> norm_num
  refine ⟨canonTmpS_sample, hb, ?_⟩
  rw [refine_lorentz_boostX_beta_tau_abs_signed .xy .z (-9 / 10) 3 0 0 (-2) trivial trivial canonTmpS_sample hb]
  intro h
  have h4 := congrArg (fun v : ℝ × ℝ × ℝ × ℝ => v.2.2.2) (Option.some.inj h)
  simp only [absTime, boostX, cart4S, xOf, tOfS_sample] at h4
  have hg := gb_pos hb
  have h5 : sqrt 5 < 27 / 10 := by
    rw [sqrt_lt' (by norm_num)]; norm_num
  generalize P.rpow (1 - (-9 / 10 : ℝ) ^ 2) (-0.5) = g at h4 hg
  have hneg : -9 / 10 * g * 3 + g * sqrt 5 < 0 := by
    have : -9 / 10 * g * 3 + g * sqrt 5 = g * (sqrt 5 - 27 / 10) := by ring
    rw [this]; exact mul_neg_of_pos_of_neg hg (by linarith)
  have := abs_nonneg (-9 / 10 * g * 3 + g * sqrt 5)
  linarith

/-! ### (d) transform4D

Every key — also the τ keys — computes ALL FOUR components of the matrix product from `(x, y, z, lorentz_t(…))` and
declares a Cartesian-`t` result (the generated dispatcher does not use the `cartesian_tau` helper that would pass τ
through). So under the signed reading the result denotes the transformed denotation with no hypothesis on the matrix and
no sign condition. -/

/-- C01 + C02 for `transform4D`, signed τ: every key denotes the matrix applied to the signed-τ denotation -/
theorem refine_lorentz_transform4D_signed (k0 : Az) (k1 : Lon) (k2 : Tmp)
    (xx xy xz xt yx yy yz yt zx zy zz zt tx ty tz tt a b c d : ℝ)
    (h : TanOK k1 c) (hs : SinOK k1 c) (hd : CanonTmpS k0 k1 k2 a b c d) :
    interp4S (lorentz_transform4D.ret k0 k1 k2)
        (lorentz_transform4D.eval k0 k1 k2 xx xy xz xt yx yy yz yt zx zy zz zt tx ty tz tt a b c d)
      = some (transform4 xx xy xz xt yx yy yz yt zx zy zz zt tx ty tz tt (cart4S k0 k1 k2 a b c d)) := by
  rw [lorentz_transform4D_eval_signed k0 k1 k2 _ _ _ _ _ _ _ _ _ _ _ _ _ _ _ _ a b c d h hs hd,
    lorentz_transform4D_ret_eq, interp4S_same]
  rfl

/-- the same through the unsigned `interp4` (the declared result is `t`-stored, for which both readings agree) -/
theorem refine_lorentz_transform4D_signed' (k0 : Az) (k1 : Lon) (k2 : Tmp)
    (xx xy xz xt yx yy yz yt zx zy zz zt tx ty tz tt a b c d : ℝ)
    (h : TanOK k1 c) (hs : SinOK k1 c) (hd : CanonTmpS k0 k1 k2 a b c d) :
    interp4 (lorentz_transform4D.ret k0 k1 k2)
        (lorentz_transform4D.eval k0 k1 k2 xx xy xz xt yx yy yz yt zx zy zz zt tx ty tz tt a b c d)
      = some (transform4 xx xy xz xt yx yy yz yt zx zy zz zt tx ty tz tt (cart4S k0 k1 k2 a b c d)) := by
  rw [lorentz_transform4D_eval_signed k0 k1 k2 _ _ _ _ _ _ _ _ _ _ _ _ _ _ _ _ a b c d h hs hd,
    lorentz_transform4D_ret_eq, interp4_same]
  rfl

example : TanOK .z 0 ∧ SinOK .z 0 ∧ CanonTmpS .xy .z .tau 3 0 0 (-2) := ⟨trivial, trivial, canonTmpS_sample⟩

/-- in particular the boost matrix `γ = 5/3, βγ = −4/3` applied through `transform4D` to the space-like τ-stored point
`(3, 0, 0, τ = −2)` yields the NEGATIVE boosted time `t' = (5√5 − 12)/3` that the τ-passing `boostX_beta` cannot represent
(compare `lorentz_boostX_beta_spacelike_negative_time`) -/
example : (lorentz_transform4D.eval .xy .z .tau (5 / 3) 0 0 (-4 / 3) 0 1 0 0 0 0 1 0 (-4 / 3) 0 0 (5 / 3) 3 0 0 (-2)).2.2.2
      = (5 * sqrt 5 - 12) / 3
    ∧ (5 * sqrt 5 - 12) / 3 < 0 := by
  rw [lorentz_transform4D_eval_signed .xy .z .tau _ _ _ _ _ _ _ _ _ _ _ _ _ _ _ _ 3 0 0 (-2) trivial trivial canonTmpS_sample]
  simp only [transform4, cart4S, xOf, yOf, zOf, tOfS_sample]
  have h5 : sqrt 5 < 12 / 5 := by
    rw [sqrt_lt' (by norm_num)]; norm_num
  constructor
  · ring
  · linarith

/-! ### (e) to_beta3 -/

/-- `to_beta3` is `p / t` of the signed-τ denotation for every key when `t ≠ 0`, EXCEPT that the variants storing
`(x, y, θ)` or `(x, y, η)` need `0 < t` (as in `refine_lorentz_to_beta3_ne_zero`) -/
theorem refine_lorentz_to_beta3_ne_zero_signed (k0 : Az) (k1 : Lon) (k2 : Tmp) (a b c d : ℝ)
    (h : CanonLon k0 k1 a b c) (hd : CanonTmpS k0 k1 k2 a b c d) (ht : tOfS k0 k1 k2 a b c d ≠ 0)
    (hpos : k0 = .xy → k1 = .z ∨ 0 < tOfS k0 k1 k2 a b c d) :
    interp3 (lorentz_to_beta3.ret k0 k1 k2) (lorentz_to_beta3.eval k0 k1 k2 a b c d)
      = some (xOf k0 a b / tOfS k0 k1 k2 a b c d, yOf k0 a b / tOfS k0 k1 k2 a b c d,
          zOf k0 k1 a b c / tOfS k0 k1 k2 a b c d) := by
  rw [lorentz_to_beta3_eval_eq, lorentz_to_beta3_ret_eq, lorentz_t_eq_tOfS k0 k1 k2 a b c d (Spec.SinOK_of_canonLon h) hd]
  have := refine_lorentz_to_beta3_ne_zero k0 k1 .t a b c (tOfS k0 k1 k2 a b c d) h trivial
    (by rw [tOf_t]; exact ht) (by rw [tOf_t]; exact hpos)
  rw [tOf_t] at this
  exact this

theorem refine_lorentz_to_beta3_signed_partial (k0 : Az) (k1 : Lon) (k2 : Tmp) (a b c d : ℝ)
    (h : CanonLon k0 k1 a b c) (hd : CanonTmpS k0 k1 k2 a b c d) (ht : 0 < tOfS k0 k1 k2 a b c d) :
    interp3 (lorentz_to_beta3.ret k0 k1 k2) (lorentz_to_beta3.eval k0 k1 k2 a b c d)
      = some (xOf k0 a b / tOfS k0 k1 k2 a b c d, yOf k0 a b / tOfS k0 k1 k2 a b c d,
          zOf k0 k1 a b c / tOfS k0 k1 k2 a b c d) :=
  refine_lorentz_to_beta3_ne_zero_signed k0 k1 k2 a b c d h hd (ne_of_gt ht) (fun _ => Or.inr ht)

/-- τ keys of `to_beta3`: a τ-stored vector has `t ≥ 0`, so `t ≠ 0` is enough for every spatial key (signed τ) -/
theorem refine_lorentz_to_beta3_tau_signed (k0 : Az) (k1 : Lon) (a b c d : ℝ)
    (h : CanonLon k0 k1 a b c) (hd : CanonTmpS k0 k1 .tau a b c d) (ht : tOfS k0 k1 .tau a b c d ≠ 0) :
    interp3 (lorentz_to_beta3.ret k0 k1 .tau) (lorentz_to_beta3.eval k0 k1 .tau a b c d)
      = some (xOf k0 a b / tOfS k0 k1 .tau a b c d, yOf k0 a b / tOfS k0 k1 .tau a b c d,
          zOf k0 k1 a b c / tOfS k0 k1 .tau a b c d) :=
  refine_lorentz_to_beta3_signed_partial k0 k1 .tau a b c d h hd
    (lt_of_le_of_ne (tOfS_tau_nonneg k0 k1 a b c d) (Ne.symm ht))

/-- the space-like point `(3, 0, 0, τ = −2)`: `t = √5 ≠ 0`, `to_beta3 = (3/√5, 0, 0)` (superluminal) -/
example : CanonLon .xy .z 3 0 0 ∧ CanonTmpS .xy .z .tau 3 0 0 (-2) ∧ tOfS .xy .z .tau 3 0 0 (-2) ≠ 0 :=
  ⟨trivial, canonTmpS_sample, by rw [tOfS_sample]; exact sqrt5_pos.ne'⟩

end VR
