/-
Refinement theorems for the binary / vector-valued spatial (3D) compute modules `dot`, `cross`, `add`, `subtract`, `scale`,
`unit`: for EVERY coordinate-system key the value the generated model of the variant under that key computes — read through
the declared result type where it is a vector — is the documented one of the denotations of its operands (C01 / C02):
`Spec.dot3`, `cross3`, `add3`, `sub3`, `smul3` of the denotations (`unit`: `smul3` by `1 / |p|`).
-/
import VectorModel.Spec.Basic
import VectorModel.Lemmas.Real
import VectorModel.Refine.Planar
import VectorModel.Refine.SpatialZ
import VectorModel.Refine.SpatialAcc
import VectorModel.Gen.Real.spatial_dot
import VectorModel.Gen.Real.spatial_cross
import VectorModel.Gen.Real.spatial_add
import VectorModel.Gen.Real.spatial_subtract
import VectorModel.Gen.Real.spatial_scale
import VectorModel.Gen.Real.spatial_unit

namespace VR
open VK Spec Real

/-! ### dot -/

/-- polar–polar keys: the planar polar–polar formula plus `z₁ z₂`; the θθ and ηη keys use `cot θ` resp. `sinh η`
directly, mixed θ/η keys convert η to θ first -/
private theorem dot_polar (k1 k3 : Lon) (r1 p1 c1 r2 p2 c2 : ℝ) (h1 : TanOK k1 c1) (h2 : TanOK k3 c2) :
    spatial_dot.eval .rhophi k1 .rhophi k3 r1 p1 c1 r2 p2 c2
      = planar_dot.eval .rhophi .rhophi r1 p1 r2 p2 + zOf .rhophi k1 r1 p1 c1 * zOf .rhophi k3 r2 p2 c2 := by
  have cot_cot : ∀ t1 t2 : ℝ, r1 * r2 * (cos (p1 - p2) + 1 / (tan t1 * tan t2))
      = r1 * r2 * cos (p1 - p2) + r1 * (cos t1 / sin t1) * (r2 * (cos t2 / sin t2)) := by
    intro t1 t2; rw [L.inv_tan_mul]; ring
  have theta_eta : ∀ r p η : ℝ, spatial_theta.rhophi_eta r p η = 2 * arctan (exp (-η)) :=
    spatial_theta_eval_rho .rhophi .eta
  cases k1 <;> cases k3
  case z.theta => exact congrArg (fun z => r1 * r2 * cos (p1 - p2) + c1 * z) (conv_z_rhophi_theta r2 p2 c2 h2)
  case theta.z => exact congrArg (fun z => r1 * r2 * cos (p1 - p2) + z * c2) (conv_z_rhophi_theta r1 p1 c1 h1)
  case theta.theta => exact cot_cot c1 c2
  case theta.eta => exact (cot_cot c1 _).trans (by rw [theta_eta, L.cot_two_arctan_exp_neg]; rfl)
  case eta.theta => exact (cot_cot _ c2).trans (by rw [theta_eta, L.cot_two_arctan_exp_neg]; rfl)
  case eta.eta =>
    show r1 * r2 * (cos (p1 - p2) + 0.5 * (1 - exp (-c1) ^ 2) / exp (-c1) * (0.5 * (1 - exp (-c2) ^ 2) / exp (-c2))) = _
    rw [L.invtan_eta, L.invtan_eta]
    exact (mul_add _ _ _).trans (congrArg _ (mul_mul_mul_comm _ _ _ _))
  all_goals rfl

theorem spatial_dot_eval_z (k0 : Az) (k1 : Lon) (k2 : Az) (k3 : Lon) (a0 a1 a2 a3 a4 a5 : ℝ)
    (h1 : TanOK k1 a2) (h2 : TanOK k3 a5) :
    spatial_dot.eval k0 k1 k2 k3 a0 a1 a2 a3 a4 a5
      = planar_dot.eval k0 k2 a0 a1 a3 a4 + zOf k0 k1 a0 a1 a2 * zOf k2 k3 a3 a4 a5 := by
  cases k0 <;> cases k2
  case rhophi.rhophi => exact dot_polar k1 k3 a0 a1 a2 a3 a4 a5 h1 h2
  -- the other keys convert both operands with `planar_x`, `planar_y`, `spatial_z`
  all_goals
    rw [← refine_spatial_z _ k1 a0 a1 a2 h1, ← refine_spatial_z _ k3 a3 a4 a5 h2]
    cases k1 <;> cases k3 <;> rfl

theorem refine_spatial_dot (k0 : Az) (k1 : Lon) (k2 : Az) (k3 : Lon) (a0 a1 a2 a3 a4 a5 : ℝ)
    (h1 : TanOK k1 a2) (h2 : TanOK k3 a5) :
    spatial_dot.eval k0 k1 k2 k3 a0 a1 a2 a3 a4 a5 = dot3 (cart3 k0 k1 a0 a1 a2) (cart3 k2 k3 a3 a4 a5) := by
  rw [spatial_dot_eval_z k0 k1 k2 k3 a0 a1 a2 a3 a4 a5 h1 h2, refine_planar_dot]
  rfl

example : TanOK .theta 1 := Spec.tanOK_one .theta

/-! ### cross (declared result `[az xy, lon z, none]`) -/

theorem refine_spatial_cross_ret (k0 : Az) (k1 : Lon) (k2 : Az) (k3 : Lon) :
    spatial_cross.ret k0 k1 k2 k3 = Ret.vec [.az .xy, .lon .z, .none] := by
  cases k0 <;> cases k1 <;> cases k2 <;> cases k3 <;> rfl

theorem refine_spatial_cross_key (k0 : Az) (k1 : Lon) (k2 : Az) (k3 : Lon) (a0 a1 a2 a3 a4 a5 : ℝ)
    (h1 : TanOK k1 a2) (h2 : TanOK k3 a5) :
    spatial_cross.eval k0 k1 k2 k3 a0 a1 a2 a3 a4 a5
      = spatial_cross.eval .xy .z .xy .z (xOf k0 a0 a1) (yOf k0 a0 a1) (zOf k0 k1 a0 a1 a2)
          (xOf k2 a3 a4) (yOf k2 a3 a4) (zOf k2 k3 a3 a4 a5) := by
  rw [← refine_spatial_z k0 k1 a0 a1 a2 h1, ← refine_spatial_z k2 k3 a3 a4 a5 h2]
  cases k0 <;> cases k1 <;> cases k2 <;> cases k3 <;> rfl

theorem refine_spatial_cross (k0 : Az) (k1 : Lon) (k2 : Az) (k3 : Lon) (a0 a1 a2 a3 a4 a5 : ℝ)
    (h1 : TanOK k1 a2) (h2 : TanOK k3 a5) :
    interp3 (spatial_cross.ret k0 k1 k2 k3) (spatial_cross.eval k0 k1 k2 k3 a0 a1 a2 a3 a4 a5)
      = some (cross3 (cart3 k0 k1 a0 a1 a2) (cart3 k2 k3 a3 a4 a5)) := by
  rw [refine_spatial_cross_ret, refine_spatial_cross_key k0 k1 k2 k3 a0 a1 a2 a3 a4 a5 h1 h2]
  rfl

/-! ### scale -/

/-- the stored polar angle lies in `[0, π]` (implied by `CanonLon`): the code flips θ to `|θ − π|` for negative factors -/
def ThetaRange : Lon → ℝ → Prop
  | .theta, c => 0 ≤ c ∧ c ≤ π
  | _, _ => True

/-- `scale` is the planar `scale` on the azimuthal part; the longitudinal coordinate is scaled (`z`), reflected (`θ`) or
given the sign of the factor (`η`) -/
theorem spatial_scale_eval (k0 : Az) (k1 : Lon) (f a b c : ℝ) :
    spatial_scale.eval k0 k1 f a b c = ((planar_scale.eval k0 f a b).1, (planar_scale.eval k0 f a b).2,
      match k1 with
      | .z => c * f
      | .theta => |c + 0.5 * (P.sign f - 1) * π|
      | .eta => c * P.sign f) := by
  cases k0 <;> cases k1 <;> rfl

theorem spatial_scale_ret_eq (k0 : Az) (k1 : Lon) : spatial_scale.ret k0 k1 = Ret.vec [.az k0, .lon k1] := by
  cases k0 <;> cases k1 <;> rfl

theorem refine_spatial_scale (k0 : Az) (k1 : Lon) (f a b c : ℝ) (h : ThetaRange k1 c) :
    interp3 (spatial_scale.ret k0 k1) (spatial_scale.eval k0 k1 f a b c) = some (smul3 f (cart3 k0 k1 a b c)) := by
  have hxy := refine_planar_scale_cart k0 f a b
  have hρ := refine_planar_scale_rho k0 f a b
  rw [spatial_scale_eval, spatial_scale_ret_eq]
  generalize planar_scale.eval k0 f a b = v at hxy hρ
  have hx : xOf k0 v.1 v.2 = f * xOf k0 a b := congrArg Prod.fst hxy
  have hy : yOf k0 v.1 v.2 = f * yOf k0 a b := congrArg Prod.snd hxy
  refine congrArg some (Prod.ext hx (Prod.ext hy ?_))
  cases k1
  · exact mul_comm c f
  · show rhoOf k0 v.1 v.2 * (cos |c + 0.5 * (P.sign f - 1) * π| / sin |c + 0.5 * (P.sign f - 1) * π|)
      = f * (rhoOf k0 a b * (cos c / sin c))
    rw [hρ]; linear_combination rhoOf k0 a b * L.scale_flip f c h.1 h.2
  · show rhoOf k0 v.1 v.2 * sinh (c * P.sign f) = f * (rhoOf k0 a b * sinh c)
    rw [hρ]; linear_combination rhoOf k0 a b * L.scale_eta f c

theorem ThetaRange_of_canonLon {k0 : Az} {k1 : Lon} {a b c : ℝ} (h : CanonLon k0 k1 a b c) : ThetaRange k1 c := by
  cases k1
  · trivial
  · exact ⟨h.2.1.le, h.2.2.le⟩
  · trivial

example : ThetaRange .theta 1 := ⟨zero_le_one, L.one_lt_pi.le⟩

/-! ### add / subtract

Both modules are one function `addForm` of the planar polar–polar variant and of `+` / `−` (`spatial_add_eval_eq`,
`spatial_subtract_eval_eq`: the only case split over the 36 keys); what is proved about them is proved about `addForm`. -/

/-- the exact Cartesian result `p` is representable in the DECLARED result system `r`: results declared with a
θ/η longitudinal coordinate must be off the z axis (C01's "exact result representable") -/
def Representable3 (r : Ret) (p : ℝ × ℝ × ℝ) : Prop := retLon r = some .z ∨ 0 < p.1 ^ 2 + p.2.1 ^ 2

/-- the system the result of `add` / `subtract` is declared in: the operands' common system, Cartesian if they differ -/
def commonSys (k0 : Az) (k1 : Lon) (k2 : Az) (k3 : Lon) : Az × Lon := if k0 = k2 ∧ k1 = k3 then (k0, k1) else (.xy, .z)

theorem commonSys_polar {k0 : Az} {k1 : Lon} {k2 : Az} {k3 : Lon} (h : (commonSys k0 k1 k2 k3).1 = .rhophi) :
    k0 = .rhophi ∧ k2 = .rhophi := by
  unfold commonSys at h
  split_ifs at h with e
  exact ⟨h, e.1 ▸ h⟩

/-- the longitudinal coordinate of kind `lon` computed back from the azimuthal coordinates `(u, v)` and `z` -/
noncomputable def lonEnc (az : Az) (lon : Lon) (u v z : ℝ) : ℝ :=
  match lon with
  | .z => z
  | .theta => spatial_theta.eval az .z u v z
  | .eta => spatial_eta.eval az .z u v z

theorem cart3_lonEnc {az : Az} {lon : Lon} {u v X Y : ℝ} (z : ℝ) (h2 : Canon2 az u v) (hx : xOf az u v = X)
    (hy : yOf az u v = Y) (hrep : Representable3 (Ret.vec [.az az, .lon lon]) (X, Y, z)) :
    cart3 az lon u v (lonEnc az lon u v z) = (X, Y, z) ∧ SinOK lon (lonEnc az lon u v z) := by
  subst hx hy
  have hr : lon ≠ .z → 0 < rhoOf az u v := fun hl => by
    have h := hrep.resolve_left fun e => hl (Option.some.inj e)
    rw [Spec.sq_xOf_add_sq_yOf] at h
    exact (Spec.rhoOf_nonneg h2).lt_of_ne' (sq_pos_iff.mp h)
  cases lon
  · exact ⟨rfl, trivial⟩
  · have hm := refine_spatial_theta_mem az .z u v z (hr nofun) trivial
    exact ⟨congrArg (fun t => (_, _, t)) (refine_spatial_theta_zOf az .z u v z (hr nofun)),
      (sin_pos_of_pos_of_lt_pi hm.1 hm.2).ne'⟩
  · exact ⟨congrArg (fun t => (_, _, t)) (refine_spatial_eta_zOf az .z u v z (hr nofun) trivial), trivial⟩

/-- what `add` (`f = +`) and `subtract` (`f = −`) compute under every key: the azimuthal part in the result's system — by
the planar polar–polar variant `pp` in a common polar system, componentwise on the converted operands otherwise —, `z` on
the converted operands, and the longitudinal coordinate computed back from it -/
noncomputable def addForm (pp : ℝ → ℝ → ℝ → ℝ → ℝ × ℝ) (f : ℝ → ℝ → ℝ) (k0 : Az) (k1 : Lon) (k2 : Az) (k3 : Lon)
    (a0 a1 a2 a3 a4 a5 : ℝ) : ℝ × ℝ × ℝ :=
  let uv := match (commonSys k0 k1 k2 k3).1 with
    | .xy => (f (xOf k0 a0 a1) (xOf k2 a3 a4), f (yOf k0 a0 a1) (yOf k2 a3 a4))
    | .rhophi => pp a0 a1 a3 a4
  (uv.1, uv.2, lonEnc (commonSys k0 k1 k2 k3).1 (commonSys k0 k1 k2 k3).2 uv.1 uv.2
    (f (spatial_z.eval k0 k1 a0 a1 a2) (spatial_z.eval k2 k3 a3 a4 a5)))

/-- … which denotes `f` applied componentwise to the denotations when `pp` does so for polar operands, with `0 ≤ ρ`
(`planar_add_polar`, `planar_subtract_polar`); a θ result has `sin θ ≠ 0` -/
theorem refine_addForm {pp : ℝ → ℝ → ℝ → ℝ → ℝ × ℝ} {f : ℝ → ℝ → ℝ}
    (hpp : ∀ r1 p1 r2 p2, 0 ≤ (pp r1 p1 r2 p2).1 ∧ (-π ≤ (pp r1 p1 r2 p2).2 ∧ (pp r1 p1 r2 p2).2 < π) ∧
      (pp r1 p1 r2 p2).1 * cos (pp r1 p1 r2 p2).2 = f (r1 * cos p1) (r2 * cos p2) ∧
      (pp r1 p1 r2 p2).1 * sin (pp r1 p1 r2 p2).2 = f (r1 * sin p1) (r2 * sin p2))
    (k0 : Az) (k1 : Lon) (k2 : Az) (k3 : Lon) (a0 a1 a2 a3 a4 a5 : ℝ)
    (hrep : Representable3 (Ret.vec [.az (commonSys k0 k1 k2 k3).1, .lon (commonSys k0 k1 k2 k3).2])
      (f (xOf k0 a0 a1) (xOf k2 a3 a4), f (yOf k0 a0 a1) (yOf k2 a3 a4), f (zOf k0 k1 a0 a1 a2) (zOf k2 k3 a3 a4 a5))) :
    cart3 (commonSys k0 k1 k2 k3).1 (commonSys k0 k1 k2 k3).2 (addForm pp f k0 k1 k2 k3 a0 a1 a2 a3 a4 a5).1
        (addForm pp f k0 k1 k2 k3 a0 a1 a2 a3 a4 a5).2.1 (addForm pp f k0 k1 k2 k3 a0 a1 a2 a3 a4 a5).2.2
      = (f (xOf k0 a0 a1) (xOf k2 a3 a4), f (yOf k0 a0 a1) (yOf k2 a3 a4),
          f (spatial_z.eval k0 k1 a0 a1 a2) (spatial_z.eval k2 k3 a3 a4 a5))
    ∧ SinOK (commonSys k0 k1 k2 k3).2 (addForm pp f k0 k1 k2 k3 a0 a1 a2 a3 a4 a5).2.2 := by
  unfold addForm
  have hp := @commonSys_polar k0 k1 k2 k3
  generalize commonSys k0 k1 k2 k3 = s at hp hrep ⊢
  obtain ⟨az, lon⟩ := s
  cases az
  · exact cart3_lonEnc _ trivial rfl rfl hrep
  · obtain ⟨rfl, rfl⟩ := hp rfl
    obtain ⟨h0, _, hx, hy⟩ := hpp a0 a1 a3 a4
    exact cart3_lonEnc _ h0 hx hy hrep

theorem spatial_add_eval_eq (k0 : Az) (k1 : Lon) (k2 : Az) (k3 : Lon) (a0 a1 a2 a3 a4 a5 : ℝ) :
    spatial_add.eval k0 k1 k2 k3 a0 a1 a2 a3 a4 a5
      = addForm planar_add.rhophi_rhophi (· + ·) k0 k1 k2 k3 a0 a1 a2 a3 a4 a5 := by
  cases k0 <;> cases k1 <;> cases k2 <;> cases k3 <;> rfl

theorem spatial_add_ret_sys (k0 : Az) (k1 : Lon) (k2 : Az) (k3 : Lon) :
    spatial_add.ret k0 k1 k2 k3 = Ret.vec [.az (commonSys k0 k1 k2 k3).1, .lon (commonSys k0 k1 k2 k3).2] := by
  cases k0 <;> cases k1 <;> cases k2 <;> cases k3 <;> rfl

theorem spatial_subtract_eval_eq (k0 : Az) (k1 : Lon) (k2 : Az) (k3 : Lon) (a0 a1 a2 a3 a4 a5 : ℝ) :
    spatial_subtract.eval k0 k1 k2 k3 a0 a1 a2 a3 a4 a5
      = addForm planar_subtract.rhophi_rhophi (· - ·) k0 k1 k2 k3 a0 a1 a2 a3 a4 a5 := by
  cases k0 <;> cases k1 <;> cases k2 <;> cases k3 <;> rfl

theorem spatial_subtract_ret_sys (k0 : Az) (k1 : Lon) (k2 : Az) (k3 : Lon) :
    spatial_subtract.ret k0 k1 k2 k3 = Ret.vec [.az (commonSys k0 k1 k2 k3).1, .lon (commonSys k0 k1 k2 k3).2] := by
  cases k0 <;> cases k1 <;> cases k2 <;> cases k3 <;> rfl

theorem refine_spatial_add (k0 : Az) (k1 : Lon) (k2 : Az) (k3 : Lon) (a0 a1 a2 a3 a4 a5 : ℝ)
    (h1 : TanOK k1 a2) (h2 : TanOK k3 a5)
    (hrep : Representable3 (spatial_add.ret k0 k1 k2 k3) (add3 (cart3 k0 k1 a0 a1 a2) (cart3 k2 k3 a3 a4 a5))) :
    interp3 (spatial_add.ret k0 k1 k2 k3) (spatial_add.eval k0 k1 k2 k3 a0 a1 a2 a3 a4 a5)
      = some (add3 (cart3 k0 k1 a0 a1 a2) (cart3 k2 k3 a3 a4 a5)) := by
  rw [spatial_add_ret_sys] at hrep ⊢
  rw [spatial_add_eval_eq, cart3, cart3, ← refine_spatial_z k0 k1 a0 a1 a2 h1, ← refine_spatial_z k2 k3 a3 a4 a5 h2]
  exact congrArg some (refine_addForm planar_add_polar k0 k1 k2 k3 a0 a1 a2 a3 a4 a5 hrep).1

theorem refine_spatial_subtract (k0 : Az) (k1 : Lon) (k2 : Az) (k3 : Lon) (a0 a1 a2 a3 a4 a5 : ℝ)
    (h1 : TanOK k1 a2) (h2 : TanOK k3 a5)
    (hrep : Representable3 (spatial_subtract.ret k0 k1 k2 k3) (sub3 (cart3 k0 k1 a0 a1 a2) (cart3 k2 k3 a3 a4 a5))) :
    interp3 (spatial_subtract.ret k0 k1 k2 k3) (spatial_subtract.eval k0 k1 k2 k3 a0 a1 a2 a3 a4 a5)
      = some (sub3 (cart3 k0 k1 a0 a1 a2) (cart3 k2 k3 a3 a4 a5)) := by
  rw [spatial_subtract_ret_sys] at hrep ⊢
  rw [spatial_subtract_eval_eq, cart3, cart3, ← refine_spatial_z k0 k1 a0 a1 a2 h1,
    ← refine_spatial_z k2 k3 a3 a4 a5 h2]
  exact congrArg some (refine_addForm planar_subtract_polar k0 k1 k2 k3 a0 a1 a2 a3 a4 a5 hrep).1

example : TanOK .theta 1 ∧ Representable3 (spatial_add.ret .xy .theta .xy .theta)
    (add3 (cart3 .xy .theta 1 0 1) (cart3 .xy .theta 1 0 1)) :=
  ⟨Spec.tanOK_one .theta, Or.inr (add_pos_of_pos_of_nonneg (pow_pos (add_pos one_pos one_pos) 2) (sq_nonneg _))⟩

/-! ### unit -/

/-- the stored coordinates with the length-like ones (`x`, `y`, `ρ`, `z`) divided by `n`, the angles kept: what `unit` and
`to_beta3` return -/
noncomputable def divLen (k0 : Az) (k1 : Lon) (n a b c : ℝ) : ℝ × ℝ × ℝ :=
  (a / n, (match k0 with | .xy => b / n | .rhophi => b), (match k1 with | .z => c / n | _ => c))

/-- … which divides the denoted vector by `n`; a Cartesian azimuth with an angular longitudinal coordinate needs `0 < n`
(`ρ = √((x/n)² + (y/n)²)` is computed from the divided components) -/
theorem cart3_divLen (k0 : Az) (k1 : Lon) (a b c n : ℝ) (hpos : k0 = .xy → k1 = .z ∨ 0 < n) :
    cart3 k0 k1 (divLen k0 k1 n a b c).1 (divLen k0 k1 n a b c).2.1 (divLen k0 k1 n a b c).2.2
      = smul3 (1 / n) (cart3 k0 k1 a b c) := by
  cases k0
  · cases k1
    · simp only [divLen, cart3, smul3, xOf, yOf, zOf, one_div_mul_eq_div]
    all_goals
      have hn : 0 < n := (hpos rfl).resolve_left nofun
      simp only [divLen, cart3, smul3, xOf, yOf, zOf, rhoOf, L.sqrt_sumsq_div _ _ hn, div_mul_eq_mul_div, one_mul]
  · cases k1 <;> simp only [divLen, cart3, smul3, xOf, yOf, zOf, rhoOf, div_mul_eq_mul_div, one_mul]

theorem spatial_unit_eval_eq (k0 : Az) (k1 : Lon) (a b c : ℝ) :
    spatial_unit.eval k0 k1 a b c = divLen k0 k1 (spatial_mag.eval k0 k1 a b c) a b c := by
  cases k0 <;> cases k1 <;> rfl

theorem refine_spatial_unit (k0 : Az) (k1 : Lon) (a b c : ℝ) (h : Canon3 k0 k1 a b c) (hm : 0 < mag2Of k0 k1 a b c) :
    interp3 (spatial_unit.ret k0 k1) (spatial_unit.eval k0 k1 a b c)
      = some (smul3 (1 / sqrt (mag2Of k0 k1 a b c)) (cart3 k0 k1 a b c)) := by
  have hr : spatial_unit.ret k0 k1 = Ret.vec [.az k0, .lon k1] := by cases k0 <;> cases k1 <;> rfl
  rw [hr, spatial_unit_eval_eq, refine_spatial_mag_canon k0 k1 a b c h]
  exact congrArg some (cart3_divLen k0 k1 a b c _ fun _ => Or.inr (Real.sqrt_pos.mpr hm))

example : Canon3 .rhophi .eta 1 0 0 ∧ 0 < mag2Of .rhophi .eta 1 0 0 :=
  have h : 0 < rhoOf .rhophi 1 0 := one_pos
  ⟨⟨zero_le_one, h⟩, Spec.mag2Of_pos h⟩

end VR
