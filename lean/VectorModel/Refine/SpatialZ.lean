/-
The `z` accessor for all six keys (`refine_spatial_z`; the θ keys divide by `tan θ`: hypothesis `TanOK`), from the statement
that each generated converter `planar_x.<key>`, `planar_y.<key>`, `spatial_z.<key>` is `Spec.xOf / yOf / zOf` at that key.
-/
import VectorModel.Refine.Planar
import VectorModel.Gen.Real.spatial_z

namespace VR
open VK Spec Real

/-- `x`/`y` converters by key (the functions the closure-generated variants capture) -/
theorem conv_x_xy (a b : ℝ) : planar_x.xy a b = xOf .xy a b := rfl
theorem conv_x_rhophi (a b : ℝ) : planar_x.rhophi a b = xOf .rhophi a b := rfl
theorem conv_y_xy (a b : ℝ) : planar_y.xy a b = yOf .xy a b := rfl
theorem conv_y_rhophi (a b : ℝ) : planar_y.rhophi a b = yOf .rhophi a b := rfl

theorem conv_z_xy_z (a b c : ℝ) : spatial_z.xy_z a b c = zOf .xy .z a b c := rfl
theorem conv_z_rhophi_z (a b c : ℝ) : spatial_z.rhophi_z a b c = zOf .rhophi .z a b c := rfl
theorem conv_z_xy_eta (a b c : ℝ) : spatial_z.xy_eta a b c = zOf .xy .eta a b c := rfl
theorem conv_z_rhophi_eta (a b c : ℝ) : spatial_z.rhophi_eta a b c = zOf .rhophi .eta a b c := rfl
/-- the code computes `ρ / tan θ`; equal to `ρ cos θ / sin θ` wherever `cos θ ≠ 0` (the hypothesis is kept in the
statement although Lean's totalised division happens to return the continuous extension at `cos θ = 0`; DESIGN.md 3.4) -/
theorem conv_z_xy_theta (a b c : ℝ) (_h : cos c ≠ 0) : spatial_z.xy_theta a b c = zOf .xy .theta a b c :=
  L.div_tan (rhoOf .xy a b) c
theorem conv_z_rhophi_theta (a b c : ℝ) (_h : cos c ≠ 0) : spatial_z.rhophi_theta a b c = zOf .rhophi .theta a b c :=
  L.div_tan a c

theorem refine_spatial_z (k0 : Az) (k1 : Lon) (a b c : ℝ) (h : TanOK k1 c) :
    spatial_z.eval k0 k1 a b c = zOf k0 k1 a b c := by
  cases k0 <;> cases k1 <;> first
    | rfl
    | exact conv_z_xy_theta a b c h
    | exact conv_z_rhophi_theta a b c h

example : TanOK .theta 1 := by
  show cos 1 ≠ 0
  exact ne_of_gt cos_one_pos

/-- `TanOK` admits `θ = 0`, where the code divides by `tan θ = 0` (the point used by the regularity counterexamples) -/
theorem Spec.TanOK_theta_zero : TanOK .theta 0 := by
  show cos 0 ≠ 0
  rw [cos_zero]; exact one_ne_zero

end VR
