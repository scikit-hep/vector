/-
Refinement theorems for the planar (2D) compute modules: for EVERY coordinate-system key, the value the generated model of the
variant under that key computes is the documented quantity of the denotations `xOf`, `yOf` of its operands (C01: independence of
the stored system; C02: documented definition) — `Spec.dot2`, `add2`, `rotZ2`, … where `Spec/Basic.lean` names it, else written out
in the statement (`transform2D`, `unit`) or characterised (`deltaphi`: in `[-π, π)`, congruent to `φ₁ − φ₂`).
-/
import VectorModel.Spec.Basic
import VectorModel.Lemmas.Real
import VectorModel.Gen.Real.planar_x
import VectorModel.Gen.Real.planar_y
import VectorModel.Gen.Real.planar_rho
import VectorModel.Gen.Real.planar_rho2
import VectorModel.Gen.Real.planar_phi
import VectorModel.Gen.Real.planar_dot
import VectorModel.Gen.Real.planar_add
import VectorModel.Gen.Real.planar_subtract
import VectorModel.Gen.Real.planar_scale
import VectorModel.Gen.Real.planar_unit
import VectorModel.Gen.Real.planar_rotateZ
import VectorModel.Gen.Real.planar_transform2D
import VectorModel.Gen.Real.planar_deltaphi

namespace VR
open VK Spec Real

/-! ### accessors -/

theorem refine_planar_x (k : Az) (a b : ℝ) : planar_x.eval k a b = xOf k a b := by
  cases k <;> rfl

theorem refine_planar_y (k : Az) (a b : ℝ) : planar_y.eval k a b = yOf k a b := by
  cases k <;> rfl

theorem refine_planar_rho (k : Az) (a b : ℝ) : planar_rho.eval k a b = rhoOf k a b := by
  cases k <;> rfl

theorem refine_planar_rho2 (k : Az) (a b : ℝ) : planar_rho2.eval k a b = xOf k a b ^ 2 + yOf k a b ^ 2 := by
  cases k
  · rfl
  · simp only [d_planar_rho2, xOf, yOf]
    linear_combination (-(a ^ 2)) * (cos_sq_add_sin_sq b)

/-- `phi` is the argument of `x + i y`; for polar storage this needs `0 < ρ` and the stored φ in `(-π, π]`. -/
theorem refine_planar_phi (k : Az) (a b : ℝ) (h : 0 < rhoOf k a b) (hp : CanonPhi k a b) :
    planar_phi.eval k a b = P.arctan2 (yOf k a b) (xOf k a b) := by
  cases k
  · rfl
  · simp only [d_planar_phi, xOf, yOf]
    exact (L.arctan2_polar h hp.1 hp.2).symm

/-! ### dot -/

theorem refine_planar_dot (k0 k1 : Az) (a0 a1 a2 a3 : ℝ) :
    planar_dot.eval k0 k1 a0 a1 a2 a3 = dot2 (cart2 k0 a0 a1) (cart2 k1 a2 a3) := by
  cases k0 <;> cases k1 <;> simp only [d_planar_dot, d_planar_x, d_planar_y, dot2, cart2, xOf, yOf]
  · rw [cos_sub]; ring

/-! ### add / subtract (the polar–polar variants are specialised formulas) -/

/-- what `add` / `subtract` of two polar vectors compute: `(r₁, p₁) + (r₂, p₁ + d)`, re-encoded in polar form -/
noncomputable def polarSum (r1 p1 r2 d : ℝ) : ℝ × ℝ :=
  (sqrt ((r1 + r2 * cos d) ^ 2 + (r2 * sin d) ^ 2),
    P.mod (p1 + P.arctan2 (r2 * sin d) (r1 + r2 * cos d) + π) (2 * π) - π)

theorem planar_add_polar_eq (r1 p1 r2 p2 : ℝ) :
    planar_add.rhophi_rhophi r1 p1 r2 p2 = polarSum r1 p1 r2 (p2 - p1) := rfl
theorem planar_subtract_polar_eq (r1 p1 r2 p2 : ℝ) :
    planar_subtract.rhophi_rhophi r1 p1 r2 p2 = polarSum r1 p1 r2 (p2 - p1 + π) := rfl

theorem polarSum_spec (r1 p1 r2 d : ℝ) :
    0 ≤ (polarSum r1 p1 r2 d).1 ∧ (-π ≤ (polarSum r1 p1 r2 d).2 ∧ (polarSum r1 p1 r2 d).2 < π) ∧
    (polarSum r1 p1 r2 d).1 * cos (polarSum r1 p1 r2 d).2 = r1 * cos p1 + r2 * cos (p1 + d) ∧
    (polarSum r1 p1 r2 d).1 * sin (polarSum r1 p1 r2 d).2 = r1 * sin p1 + r2 * sin (p1 + d) := by
  have hc := L.sqrt_mul_cos_arctan2 (r1 + r2 * cos d) (r2 * sin d)
  have hs := L.sqrt_mul_sin_arctan2 (r1 + r2 * cos d) (r2 * sin d)
  refine ⟨sqrt_nonneg _, L.rectify_mem _, ?_, ?_⟩
  · show sqrt _ * cos (P.mod _ _ - π) = _
    rw [L.cos_rectify, cos_add, cos_add]
    linear_combination (cos p1) * hc - (sin p1) * hs
  · show sqrt _ * sin (P.mod _ _ - π) = _
    rw [L.sin_rectify, sin_add, sin_add]
    linear_combination (sin p1) * hc + (cos p1) * hs

theorem polar_pos {r p X Y : ℝ} (h0 : 0 ≤ r) (hx : r * cos p = X) (hy : r * sin p = Y) (h : 0 < X ^ 2 + Y ^ 2) : 0 < r := by
  refine h0.lt_of_ne fun e => ?_
  rw [← hx, ← hy, ← e, zero_mul, zero_mul, zero_pow two_ne_zero, add_zero] at h
  exact lt_irrefl 0 h

theorem planar_add_polar (r1 p1 r2 p2 : ℝ) :
    0 ≤ (planar_add.rhophi_rhophi r1 p1 r2 p2).1 ∧
    (-π ≤ (planar_add.rhophi_rhophi r1 p1 r2 p2).2 ∧ (planar_add.rhophi_rhophi r1 p1 r2 p2).2 < π) ∧
    (planar_add.rhophi_rhophi r1 p1 r2 p2).1 * cos (planar_add.rhophi_rhophi r1 p1 r2 p2).2 = r1 * cos p1 + r2 * cos p2 ∧
    (planar_add.rhophi_rhophi r1 p1 r2 p2).1 * sin (planar_add.rhophi_rhophi r1 p1 r2 p2).2 = r1 * sin p1 + r2 * sin p2 := by
  have h := polarSum_spec r1 p1 r2 (p2 - p1)
  rwa [add_sub_cancel, ← planar_add_polar_eq] at h

theorem planar_subtract_polar (r1 p1 r2 p2 : ℝ) :
    0 ≤ (planar_subtract.rhophi_rhophi r1 p1 r2 p2).1 ∧
    (-π ≤ (planar_subtract.rhophi_rhophi r1 p1 r2 p2).2 ∧ (planar_subtract.rhophi_rhophi r1 p1 r2 p2).2 < π) ∧
    (planar_subtract.rhophi_rhophi r1 p1 r2 p2).1 * cos (planar_subtract.rhophi_rhophi r1 p1 r2 p2).2
      = r1 * cos p1 - r2 * cos p2 ∧
    (planar_subtract.rhophi_rhophi r1 p1 r2 p2).1 * sin (planar_subtract.rhophi_rhophi r1 p1 r2 p2).2
      = r1 * sin p1 - r2 * sin p2 := by
  have h := polarSum_spec r1 p1 r2 (p2 - p1 + π)
  rwa [← add_assoc, add_sub_cancel, cos_add_pi, sin_add_pi, mul_neg, mul_neg, ← sub_eq_add_neg, ← sub_eq_add_neg,
    ← planar_subtract_polar_eq] at h

theorem planar_add_rho_pos (r1 p1 r2 p2 : ℝ)
    (h : 0 < (r1 * cos p1 + r2 * cos p2) ^ 2 + (r1 * sin p1 + r2 * sin p2) ^ 2) :
    0 < (planar_add.rhophi_rhophi r1 p1 r2 p2).1 :=
  have hp := planar_add_polar r1 p1 r2 p2
  polar_pos hp.1 hp.2.2.1 hp.2.2.2 h

theorem planar_subtract_rho_pos (r1 p1 r2 p2 : ℝ)
    (h : 0 < (r1 * cos p1 - r2 * cos p2) ^ 2 + (r1 * sin p1 - r2 * sin p2) ^ 2) :
    0 < (planar_subtract.rhophi_rhophi r1 p1 r2 p2).1 :=
  have hp := planar_subtract_polar r1 p1 r2 p2
  polar_pos hp.1 hp.2.2.1 hp.2.2.2 h

theorem refine_planar_add (k0 k1 : Az) (a0 a1 a2 a3 : ℝ) :
    interp2 (planar_add.ret k0 k1) (planar_add.eval k0 k1 a0 a1 a2 a3)
      = some (add2 (cart2 k0 a0 a1) (cart2 k1 a2 a3)) := by
  cases k0 <;> cases k1 <;>
    simp only [d_planar_add, d_planar_x, d_planar_y, interp2, retAz, Option.map, add2, cart2, xOf, yOf]
  · exact congrArg some (Prod.ext (planar_add_polar a0 a1 a2 a3).2.2.1 (planar_add_polar a0 a1 a2 a3).2.2.2)

theorem refine_planar_subtract (k0 k1 : Az) (a0 a1 a2 a3 : ℝ) :
    interp2 (planar_subtract.ret k0 k1) (planar_subtract.eval k0 k1 a0 a1 a2 a3)
      = some (sub2 (cart2 k0 a0 a1) (cart2 k1 a2 a3)) := by
  cases k0 <;> cases k1 <;>
    simp only [d_planar_subtract, d_planar_x, d_planar_y, interp2, retAz, Option.map, sub2, cart2, xOf, yOf]
  · exact congrArg some (Prod.ext (planar_subtract_polar a0 a1 a2 a3).2.2.1 (planar_subtract_polar a0 a1 a2 a3).2.2.2)

/-! ### scale, rotateZ, transform2D, unit -/

theorem refine_planar_scale_cart (k : Az) (f a b : ℝ) :
    cart2 k (planar_scale.eval k f a b).1 (planar_scale.eval k f a b).2 = smul2 f (cart2 k a b) := by
  cases k
  · exact Prod.ext (mul_comm a f) (mul_comm b f)
  · obtain ⟨hc, hs⟩ := L.scale_turn f b
    refine Prod.ext ?_ ?_
    · show a * |f| * cos (P.mod (b + -0.5 * (P.sign f - 1) * π + π) (2 * π) - π) = f * (a * cos b)
      rw [L.cos_rectify]; linear_combination a * hc
    · show a * |f| * sin (P.mod (b + -0.5 * (P.sign f - 1) * π + π) (2 * π) - π) = f * (a * sin b)
      rw [L.sin_rectify]; linear_combination a * hs

theorem refine_planar_scale_rho (k : Az) (f a b : ℝ) :
    rhoOf k (planar_scale.eval k f a b).1 (planar_scale.eval k f a b).2 = rhoOf k a b * |f| := by
  cases k
  · exact L.sqrt_sumsq_mul f a b
  · rfl

theorem refine_planar_scale (k : Az) (f a b : ℝ) :
    interp2 (planar_scale.ret k) (planar_scale.eval k f a b) = some (smul2 f (cart2 k a b)) := by
  rw [← refine_planar_scale_cart]
  cases k <;> rfl

theorem refine_planar_rotateZ (k : Az) (ang a b : ℝ) :
    interp2 (planar_rotateZ.ret k) (planar_rotateZ.eval k ang a b) = some (rotZ2 ang (cart2 k a b)) := by
  cases k <;> simp only [d_planar_rotateZ, interp2, retAz, Option.map, rotZ2, cart2, xOf, yOf]
  · simp only [Option.some.injEq, Prod.mk.injEq]; constructor <;> ring
  · rw [L.cos_rectify, L.sin_rectify, cos_add, sin_add]
    simp only [Option.some.injEq, Prod.mk.injEq]; constructor <;> ring

theorem refine_planar_transform2D_ret (k : Az) : planar_transform2D.ret k = Ret.vec [RP.az .xy] := by
  cases k <;> rfl

theorem refine_planar_transform2D (k : Az) (xx xy yx yy a b : ℝ) :
    interp2 (planar_transform2D.ret k) (planar_transform2D.eval k xx xy yx yy a b)
      = some (xx * xOf k a b + xy * yOf k a b, yx * xOf k a b + yy * yOf k a b) := by
  cases k <;> simp only [d_planar_transform2D, d_planar_x, d_planar_y, interp2, retAz, Option.map, cart2, xOf, yOf]

theorem refine_planar_unit (k : Az) (a b : ℝ) (h : 0 < rhoOf k a b) :
    interp2 (planar_unit.ret k) (planar_unit.eval k a b)
      = some (xOf k a b / rhoOf k a b, yOf k a b / rhoOf k a b) := by
  cases k
  · rfl
  · have ha : a ≠ 0 := h.ne'
    exact congrArg some (Prod.ext ((mul_div_cancel_left₀ _ ha).trans (one_mul _).symm).symm
      ((mul_div_cancel_left₀ _ ha).trans (one_mul _).symm).symm)

/-! ### deltaphi: in `[-π, π)` and congruent to `φ₁ − φ₂` modulo 2π -/

theorem refine_planar_deltaphi (k0 k1 : Az) (a0 a1 a2 a3 : ℝ) :
    let d := planar_deltaphi.eval k0 k1 a0 a1 a2 a3
    (-π ≤ d ∧ d < π) ∧ ∃ n : ℤ, d = planar_phi.eval k0 a0 a1 - planar_phi.eval k1 a2 a3 - n * (2 * π) := by
  intro d
  have key : ∀ p : ℝ, (-π ≤ P.mod (p + π) (2 * π) - π ∧ P.mod (p + π) (2 * π) - π < π) ∧
      ∃ n : ℤ, P.mod (p + π) (2 * π) - π = p - n * (2 * π) :=
    fun p => ⟨L.rectify_mem p, ⟨_, L.rectify_eq p⟩⟩
  cases k0 <;> cases k1 <;> exact key _

/-! non-vacuity of the hypotheses used above -/
example : 0 < rhoOf .rhophi 2 1 ∧ CanonPhi .rhophi 2 1 :=
  ⟨two_pos, (neg_neg_of_pos pi_pos).trans one_pos, one_le_two.trans two_le_pi⟩

end VR
