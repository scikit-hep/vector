/-
Soundness of the cross-coordinate-system comparisons `equal` / `not_equal` (2D, 3D, 4D):
for EVERY pair of coordinate-system keys, if the generated model of the variant found under that key answers
"equal", then the two operands denote the same Cartesian vector (`Spec.cart2/3/4`); dually, operands denoting
different vectors are reported "not equal".  (A wrong converter in ONE variant of `equal` would break these.)

Hypotheses: both operands representable (`Canon2`: `0 ≤ ρ`; `CanonLon`: off the z axis and `0 < θ < π` for θ/η storage;
`CanonTmp`: `0 ≤ τ`) and `TanOK` (the code divides by `tan θ`).  Why they are needed:
* `Canon2`: the variants that compare a polar with a Cartesian azimuth compare `x`,`y` only and then the stored θ/η;
  `(ρ, φ, θ)` with `ρ < 0` and `(x, y, θ)` with `x = ρ cos φ, y = ρ sin φ` pass that test but denote opposite `z`.
* `CanonLon` for a θ operand compared with an η operand: the code converts θ ↦ η = −log tan(θ/2), which is the
  pseudorapidity of the denoted vector only for `0 < θ < π`.
* `CanonTmp`/`CanonLon` for a `t` operand compared with a `τ` operand: the code compares `lorentz_t`, which is the
  denoted time only for `0 ≤ τ` (and `sin θ ≠ 0`) — or, under the signed reading of τ (`Spec/SignedTau.lean`), for
  `CanonTmpS`; two τ-stored operands are compared on the stored τ. The 4D statement is proved for the signed reading
  (`refine_lorentz_equal_signed`), of which the one under `0 ≤ τ` is the restriction.
The converse (same denotation ⇒ `equal`) is false by design (`φ` and `φ + 2π` denote the same vector) and not claimed.
-/
import VectorModel.Spec.Basic
import VectorModel.Lemmas.Real
import VectorModel.Refine.SpatialZ
import VectorModel.Refine.SpatialAcc
import VectorModel.Refine.LorentzBin
import VectorModel.Props.C12

namespace VR
open VK Spec Real

/-! ### planar -/

theorem refine_planar_equal (k0 k1 : Az) (a0 a1 a2 a3 : ℝ)
    (h : planar_equal.eval k0 k1 a0 a1 a2 a3) : cart2 k0 a0 a1 = cart2 k1 a2 a3 := by
  cases k0 <;> cases k1 <;> obtain ⟨h1, h2⟩ := h
  · exact Prod.ext h1 h2
  · exact Prod.ext h1 h2
  · exact Prod.ext h1 h2
  · subst h1; subst h2; rfl

theorem refine_planar_not_equal (k0 k1 : Az) (a0 a1 a2 a3 : ℝ)
    (h : ¬ cart2 k0 a0 a1 = cart2 k1 a2 a3) : planar_not_equal.eval k0 k1 a0 a1 a2 a3 :=
  (c12_planar_ne_iff_not_eq k0 k1 a0 a1 a2 a3).mpr fun he => h (refine_planar_equal k0 k1 a0 a1 a2 a3 he)

theorem refine_planar_equal_not_equal_excl (k0 k1 : Az) (a0 a1 a2 a3 : ℝ) :
    ¬ (planar_equal.eval k0 k1 a0 a1 a2 a3 ∧ planar_not_equal.eval k0 k1 a0 a1 a2 a3) :=
  fun ⟨he, hn⟩ => (c12_planar_ne_iff_not_eq k0 k1 a0 a1 a2 a3).mp hn he

/-! ### spatial -/

private theorem spatial_equal_az (k0 : Az) (k1 : Lon) (k2 : Az) (k3 : Lon) (a0 a1 a2 a3 a4 a5 : ℝ)
    (h : spatial_equal.eval k0 k1 k2 k3 a0 a1 a2 a3 a4 a5) :
    xOf k0 a0 a1 = xOf k2 a3 a4 ∧ yOf k0 a0 a1 = yOf k2 a3 a4 := by
  cases k0 <;> cases k2
  case rhophi.rhophi =>
    -- both polar: the variant compares `ρ`, `φ`
    cases k1 <;> cases k3 <;> exact ⟨by rw [h.1.1, h.1.2], by rw [h.1.1, h.1.2]⟩
  -- a Cartesian azimuth on either side: the variant compares `x`, `y`
  all_goals cases k1 <;> cases k3 <;> exact h.1

/-- the longitudinal comparison made by the variant under key `(k0,k1,k2,k3)`: same kind → stored coordinates;
`z` against θ/η → the other side converted to `z`; θ against η → the θ side converted to η -/
private def LonEq (k0 : Az) (k1 : Lon) (k2 : Az) (k3 : Lon) (a0 a1 a2 a3 a4 a5 : ℝ) : Prop :=
  match k1, k3 with
  | .z, .z => a2 = a5
  | .theta, .theta => a2 = a5
  | .eta, .eta => a2 = a5
  | .z, .theta => a2 = spatial_z.eval k2 .theta a3 a4 a5
  | .z, .eta => a2 = spatial_z.eval k2 .eta a3 a4 a5
  | .theta, .z => spatial_z.eval k0 .theta a0 a1 a2 = a5
  | .eta, .z => spatial_z.eval k0 .eta a0 a1 a2 = a5
  | .theta, .eta => spatial_eta.eval k0 .theta a0 a1 a2 = a5
  | .eta, .theta => a2 = spatial_eta.eval k2 .theta a3 a4 a5

private theorem spatial_equal_lon (k0 : Az) (k1 : Lon) (k2 : Az) (k3 : Lon) (a0 a1 a2 a3 a4 a5 : ℝ)
    (h : spatial_equal.eval k0 k1 k2 k3 a0 a1 a2 a3 a4 a5) : LonEq k0 k1 k2 k3 a0 a1 a2 a3 a4 a5 := by
  cases k0 <;> cases k2 <;> cases k1 <;> cases k3 <;> exact h.2

private theorem rho_eq_of_xy_eq {k0 k2 : Az} {a0 a1 a3 a4 : ℝ} (c0 : Canon2 k0 a0 a1) (c2 : Canon2 k2 a3 a4)
    (hx : xOf k0 a0 a1 = xOf k2 a3 a4) (hy : yOf k0 a0 a1 = yOf k2 a3 a4) : rhoOf k0 a0 a1 = rhoOf k2 a3 a4 := by
  have e0 := Spec.sq_xOf_add_sq_yOf k0 a0 a1
  have e2 := Spec.sq_xOf_add_sq_yOf k2 a3 a4
  rw [hx, hy] at e0
  have n0 := Spec.rhoOf_nonneg c0
  have n2 := Spec.rhoOf_nonneg c2
  have : rhoOf k0 a0 a1 ^ 2 = rhoOf k2 a3 a4 ^ 2 := by rw [← e0, ← e2]
  exact (sq_eq_sq₀ n0 n2).mp this

theorem refine_spatial_equal (k0 : Az) (k1 : Lon) (k2 : Az) (k3 : Lon) (a0 a1 a2 a3 a4 a5 : ℝ)
    (c1 : Canon3 k0 k1 a0 a1 a2) (c2 : Canon3 k2 k3 a3 a4 a5) (t1 : TanOK k1 a2) (t2 : TanOK k3 a5)
    (h : spatial_equal.eval k0 k1 k2 k3 a0 a1 a2 a3 a4 a5) :
    cart3 k0 k1 a0 a1 a2 = cart3 k2 k3 a3 a4 a5 := by
  obtain ⟨hx, hy⟩ := spatial_equal_az k0 k1 k2 k3 a0 a1 a2 a3 a4 a5 h
  have hl := spatial_equal_lon k0 k1 k2 k3 a0 a1 a2 a3 a4 a5 h
  have hr := rho_eq_of_xy_eq c1.1 c2.1 hx hy
  have hz : zOf k0 k1 a0 a1 a2 = zOf k2 k3 a3 a4 a5 := by
    cases k1 <;> cases k3 <;> simp only [LonEq] at hl
    case z.z => exact hl
    case z.theta => rw [hl, refine_spatial_z k2 .theta a3 a4 a5 t2]; rfl
    case z.eta => rw [hl, refine_spatial_z k2 .eta a3 a4 a5 trivial]; rfl
    case theta.z => rw [← hl, refine_spatial_z k0 .theta a0 a1 a2 t1]; rfl
    case theta.theta =>
      show rhoOf k0 a0 a1 * (cos a2 / sin a2) = rhoOf k2 a3 a4 * (cos a5 / sin a5)
      rw [hr, hl]
    case theta.eta =>
      rw [← refine_spatial_eta_zOf k0 .theta a0 a1 a2 c1.2.1 c1.2, hl]
      show rhoOf k0 a0 a1 * sinh a5 = rhoOf k2 a3 a4 * sinh a5
      rw [hr]
    case eta.z => rw [← hl, refine_spatial_z k0 .eta a0 a1 a2 trivial]; rfl
    case eta.theta =>
      rw [← refine_spatial_eta_zOf k2 .theta a3 a4 a5 c2.2.1 c2.2, ← hl]
      show rhoOf k0 a0 a1 * sinh a2 = rhoOf k2 a3 a4 * sinh a2
      rw [hr]
    case eta.eta =>
      show rhoOf k0 a0 a1 * sinh a2 = rhoOf k2 a3 a4 * sinh a5
      rw [hr, hl]
  simp only [cart3, hx, hy, hz]

theorem refine_spatial_not_equal (k0 : Az) (k1 : Lon) (k2 : Az) (k3 : Lon) (a0 a1 a2 a3 a4 a5 : ℝ)
    (c1 : Canon3 k0 k1 a0 a1 a2) (c2 : Canon3 k2 k3 a3 a4 a5) (t1 : TanOK k1 a2) (t2 : TanOK k3 a5)
    (h : ¬ cart3 k0 k1 a0 a1 a2 = cart3 k2 k3 a3 a4 a5) :
    spatial_not_equal.eval k0 k1 k2 k3 a0 a1 a2 a3 a4 a5 :=
  (c12_spatial_ne_iff_not_eq k0 k1 k2 k3 a0 a1 a2 a3 a4 a5).mpr
    fun he => h (refine_spatial_equal k0 k1 k2 k3 a0 a1 a2 a3 a4 a5 c1 c2 t1 t2 he)

/-- `Canon2` cannot be dropped: a polar operand with `ρ < 0` compares "equal" to a Cartesian-azimuth operand that
denotes the opposite `z` -/
theorem refine_spatial_equal_needs_canon2 :
    TanOK .theta 1 ∧ spatial_equal.eval .rhophi .theta .xy .theta (-1) 0 1 (-1) 0 1
      ∧ cart3 .rhophi .theta (-1) 0 1 ≠ cart3 .xy .theta (-1) 0 1 := by
  refine ⟨Spec.tanOK_one .theta, ?_, ?_⟩
  · simp [d_spatial_equal, d_planar_x, d_planar_y]
  · have hs : 0 < sin (1 : ℝ) := L.sin_one_pos
    have hc : 0 < cos (1 : ℝ) := cos_one_pos
    have hq : 0 < cos (1 : ℝ) / sin 1 := div_pos hc hs
    intro e
    simp only [cart3, xOf, yOf, zOf, rhoOf, Prod.mk.injEq] at e
    have e3 := e.2.2
    norm_num at e3
    linarith

example : Canon3 .rhophi .theta 2 1 1 ∧ Canon3 .xy .eta 3 4 0 ∧ TanOK .theta 1 ∧ TanOK .eta 0 := by
  have h : 0 < rhoOf .xy 3 4 := L.sqrt_sumsq_pos (Or.inl (by norm_num))
  refine ⟨⟨by norm_num [Canon2], ⟨by norm_num [rhoOf], one_pos, L.one_lt_pi⟩⟩, ⟨trivial, h⟩,
    Spec.tanOK_one .theta, trivial⟩

/-! ### lorentz -/

theorem refine_lorentz_equal_signed (k0 : Az) (k1 : Lon) (k2 : Tmp) (k3 : Az) (k4 : Lon) (k5 : Tmp)
    (a0 a1 a2 a3 a4 a5 a6 a7 : ℝ)
    (c1 : Canon3 k0 k1 a0 a1 a2) (c2 : Canon3 k3 k4 a4 a5 a6)
    (hd1 : CanonTmpS k0 k1 k2 a0 a1 a2 a3) (hd2 : CanonTmpS k3 k4 k5 a4 a5 a6 a7)
    (t1 : TanOK k1 a2) (t2 : TanOK k4 a6)
    (h : lorentz_equal.eval k0 k1 k2 k3 k4 k5 a0 a1 a2 a3 a4 a5 a6 a7) :
    cart4S k0 k1 k2 a0 a1 a2 a3 = cart4S k3 k4 k5 a4 a5 a6 a7 := by
  rw [lorentz_equal_eval_eq] at h
  obtain ⟨ht, hsp⟩ := h
  have h3 := refine_spatial_equal k0 k1 k3 k4 a0 a1 a2 a4 a5 a6 c1 c2 t1 t2 hsp
  have hxyz := h3
  simp only [cart3, Prod.mk.injEq] at hxyz
  obtain ⟨hx, hy, hz⟩ := hxyz
  have s1 := Spec.SinOK_of_canonLon c1.2
  have s2 := Spec.SinOK_of_canonLon c2.2
  have e1 := lorentz_t_eq_tOfS k0 k1 k2 a0 a1 a2 a3 s1 hd1
  have e2 := lorentz_t_eq_tOfS k3 k4 k5 a4 a5 a6 a7 s2 hd2
  have hT : tOfS k0 k1 k2 a0 a1 a2 a3 = tOfS k3 k4 k5 a4 a5 a6 a7 := by
    cases k2 <;> cases k5 <;> simp only [tCmp] at ht
    · rw [tOfS_t, tOfS_t, ht]
    · rw [← e1, ← e2, ht]
    · rw [← e1, ← e2, ht]
    · rw [tOfS_tau, tOfS_tau, ht]
      simp only [mag2Of, hx, hy, hz]
  simp only [cart4S, hx, hy, hz, hT]

theorem refine_lorentz_equal (k0 : Az) (k1 : Lon) (k2 : Tmp) (k3 : Az) (k4 : Lon) (k5 : Tmp)
    (a0 a1 a2 a3 a4 a5 a6 a7 : ℝ)
    (c1 : Canon4 k0 k1 k2 a0 a1 a2 a3) (c2 : Canon4 k3 k4 k5 a4 a5 a6 a7) (t1 : TanOK k1 a2) (t2 : TanOK k4 a6)
    (h : lorentz_equal.eval k0 k1 k2 k3 k4 k5 a0 a1 a2 a3 a4 a5 a6 a7) :
    cart4 k0 k1 k2 a0 a1 a2 a3 = cart4 k3 k4 k5 a4 a5 a6 a7 := by
  rw [← cart4S_eq_cart4 k0 k1 k2 a0 a1 a2 a3 c1.2, ← cart4S_eq_cart4 k3 k4 k5 a4 a5 a6 a7 c2.2]
  exact refine_lorentz_equal_signed k0 k1 k2 k3 k4 k5 a0 a1 a2 a3 a4 a5 a6 a7 c1.1 c2.1
    (CanonTmpS_of_CanonTmp _ _ _ _ _ _ _ c1.2) (CanonTmpS_of_CanonTmp _ _ _ _ _ _ _ c2.2) t1 t2 h

theorem refine_lorentz_not_equal (k0 : Az) (k1 : Lon) (k2 : Tmp) (k3 : Az) (k4 : Lon) (k5 : Tmp)
    (a0 a1 a2 a3 a4 a5 a6 a7 : ℝ)
    (c1 : Canon4 k0 k1 k2 a0 a1 a2 a3) (c2 : Canon4 k3 k4 k5 a4 a5 a6 a7) (t1 : TanOK k1 a2) (t2 : TanOK k4 a6)
    (h : ¬ cart4 k0 k1 k2 a0 a1 a2 a3 = cart4 k3 k4 k5 a4 a5 a6 a7) :
    lorentz_not_equal.eval k0 k1 k2 k3 k4 k5 a0 a1 a2 a3 a4 a5 a6 a7 :=
  (c12_lorentz_ne_iff_not_eq k0 k1 k2 k3 k4 k5 a0 a1 a2 a3 a4 a5 a6 a7).mpr
    fun he => h (refine_lorentz_equal k0 k1 k2 k3 k4 k5 a0 a1 a2 a3 a4 a5 a6 a7 c1 c2 t1 t2 he)

example : Canon4 .rhophi .eta .tau 1 0 0 2 ∧ TanOK .eta 0 := by
  refine ⟨⟨⟨by norm_num [Canon2], by norm_num [CanonLon, rhoOf]⟩, ?_⟩, trivial⟩
  show (0 : ℝ) ≤ 2; norm_num

end VR
