/-
Refinement theorems for the Lorentz (4D) accessor modules
`t, t2, tau, tau2, beta, gamma, rapidity, Et, Et2, Mt, Mt2` and `to_beta3`:
for EVERY coordinate-system key the generated model computes the documented
quantity of the denotation `Spec.cart4` of the stored coordinates.

Each module is first brought to a form in its callees that holds by unfolding at every key (`…_eval_eq`): ONE form for all
keys for `beta`, `gamma`, `rapidity`, `Et2`, `Et`, `Mt` (`lorentz_Mt_eq_sqrt_Mt2`) and `to_beta3`, whose keys differ only in
which spatial accessor they call and in reading the time component through `lorentz_t`; one form per temporal key for
`t2`, `t`, `tau2`, `tau` and `Mt2` (`…_t_eval_eq`, `…_tau_eval_eq`; the `t` keys of `t2`, `t` return the stored `t`, by `rfl`
inside the proofs; the τ key of `tau` is `refine_lorentz_tau_of_tau`; `lorentz_Mt2_tau_eq` also rewrites `x² + y²` to `ρ²`, by
`simp only`). The refinement theorems then follow from those of the spatial accessors (`Refine/SpatialAcc.lean`). The forms of
`Et2` and `Et` lead to their own `t` key, which has no form common to the keys: `Et2_core` and `Et_sqrt_Et2` treat it key by key.

`t2`, `t`, `tau2`, `tau`, `beta`, `rapidity` are proved for the signed reading of τ (`Spec/SignedTau.lean`: `tOfS`,
`CanonTmpS`), which covers space-like τ-stored vectors; the statements about `tOf` under `CanonTmp` (`0 ≤ τ`) are its
restriction (`tOfS_eq_tOf`, `CanonTmpS_of_CanonTmp`).

Names, for a module `M`. `lorentz_M_eval_eq`, `lorentz_M_t_eval_eq`, `lorentz_M_tau_eval_eq`: the form of `M.eval` in its callees
at all keys, the `t` keys, the τ keys, with no hypothesis; cite it to take `M.eval` apart. `lorentz_M_t_eq`, `lorentz_M_tau_eq`:
that form with the spatial accessors replaced by `mag2Of`, `rhoOf` (under `SinOK` where `|p|²` is read); steps towards the next.
`lorentz_M_eq_tOfS…`, `lorentz_M_eq_signed`: the value at every key in terms of `tOfS`, under `SinOK` (`rapidity`: and `TanOK`)
and `CanonTmpS`; `lorentz_M_eq_tOf…`: its restriction to `CanonTmp`, in terms of `tOf`. `lorentz_t_cart_eq_tOfS`,
`lorentz_t_cart_eq_tOf`: the same for the Cartesian key applied to the converted coordinates `(xOf, yOf, zOf)`, which is how the
forms of the boosts (`Refine/LorentzBin.lean`) read the time; `lorentz_t_cart`: that call equals the module's own key, with
nothing asked of τ. `refine_lorentz_M`, and for `tOfS` `refine_lorentz_M_signed` (in `Refine/LorentzSigned.lean`; that of `beta`
here): the same statement with `CanonLon`, which gives `SinOK`, in its place; cite it where the operand is canonical, and the
`lorentz_M_eq_…` form where only `SinOK` is at hand (the binary modules).

A hypothesis named `_h…` (`_ht : t ≠ 0` of `beta` and `to_beta3`, `_hz : |z| < t` of `rapidity`, `_hs : 0 ≤ t² − z²` of `Mt`; likewise
in `Refine/LorentzBin.lean`, `Refine/LorentzSigned.lean`, `Refine/LorentzSigned2.lean`, `Refine/SpatialAcc.lean`) is one the proof
does not use: the equation holds without it, through Lean's totalised arithmetic on both sides (`x / 0 = 0`, `log` and `sqrt` of a
negative number), but outside it the documented quantity is not defined and the code is singular; it stands in the statement so
that the statement speaks of the domain of the code, and `Props/Regular.lean` pairs it with the regularity theorem `dom_M`
(`Dom/LorentzAcc.lean`), whose proof does use that hypothesis.

The `example`s after the theorems of a module give a point at which the hypotheses of those theorems hold together: the statements
are not vacuous.
-/
import VectorModel.Spec.Basic
import VectorModel.Spec.SignedTau
import VectorModel.Lemmas.Real
import VectorModel.Lemmas.Prim
import VectorModel.Refine.SpatialZ
import VectorModel.Refine.SpatialAcc
import VectorModel.Refine.SpatialBin
import VectorModel.Gen.Real.spatial_mag2
import VectorModel.Gen.Real.spatial_mag
import VectorModel.Gen.Real.lorentz_t
import VectorModel.Gen.Real.lorentz_t2
import VectorModel.Gen.Real.lorentz_tau
import VectorModel.Gen.Real.lorentz_tau2
import VectorModel.Gen.Real.lorentz_beta
import VectorModel.Gen.Real.lorentz_gamma
import VectorModel.Gen.Real.lorentz_rapidity
import VectorModel.Gen.Real.lorentz_Et
import VectorModel.Gen.Real.lorentz_Et2
import VectorModel.Gen.Real.lorentz_Mt
import VectorModel.Gen.Real.lorentz_Mt2
import VectorModel.Gen.Real.lorentz_to_beta3
import Mathlib.Tactic.NormNum
import Mathlib.Tactic.Positivity

namespace VR
open VK Spec Real

/-! ### t2, t: hypotheses `SinOK` (the code divides by `sin² θ` for `|p|²`) and `CanonTmpS` / `CanonTmp` only -/

theorem tOf_t (k0 : Az) (k1 : Lon) (a b c d : ℝ) : tOf k0 k1 .t a b c d = d := rfl

theorem tOf_tau_eq (k0 : Az) (k1 : Lon) (a b c d : ℝ) :
    tOf k0 k1 .tau a b c d = sqrt (d ^ 2 + (xOf k0 a b ^ 2 + yOf k0 a b ^ 2 + zOf k0 k1 a b c ^ 2)) := rfl

theorem tOf_cart (k0 : Az) (k1 : Lon) (k2 : Tmp) (a b c d : ℝ) :
    tOf .xy .z k2 (xOf k0 a b) (yOf k0 a b) (zOf k0 k1 a b c) d = tOf k0 k1 k2 a b c d := by
  cases k2 <;> cases k0 <;> cases k1 <;> rfl

theorem tOf_tau_sq (k0 : Az) (k1 : Lon) (a b c d : ℝ) :
    tOf k0 k1 .tau a b c d ^ 2 = d ^ 2 + mag2Of k0 k1 a b c := by
  rw [tOf_tau_eq, sq_sqrt (by positivity)]; rfl

theorem lorentz_t2_tau_eval_eq (k0 : Az) (k1 : Lon) (a b c d : ℝ) :
    lorentz_t2.eval k0 k1 .tau a b c d = max (P.copysign (d ^ 2) d + spatial_mag2.eval k0 k1 a b c) 0 := by
  cases k0 <;> cases k1 <;> rfl

theorem lorentz_t_tau_eval_eq (k0 : Az) (k1 : Lon) (a b c d : ℝ) :
    lorentz_t.eval k0 k1 .tau a b c d = sqrt (lorentz_t2.eval k0 k1 .tau a b c d) := by
  cases k0 <;> cases k1 <;> rfl

theorem lorentz_t2_tau_eq (k0 : Az) (k1 : Lon) (a b c d : ℝ) (hs : SinOK k1 c) :
    lorentz_t2.eval k0 k1 .tau a b c d = max (tau2S d + mag2Of k0 k1 a b c) 0 := by
  rw [lorentz_t2_tau_eval_eq, refine_spatial_mag2 k0 k1 a b c hs]; rfl

theorem lorentz_t_tau_eq (k0 : Az) (k1 : Lon) (a b c d : ℝ) (hs : SinOK k1 c) :
    lorentz_t.eval k0 k1 .tau a b c d = sqrt (max (P.copysign (d ^ 2) d + mag2Of k0 k1 a b c) 0) := by
  rw [lorentz_t_tau_eval_eq, lorentz_t2_tau_eval_eq, refine_spatial_mag2 k0 k1 a b c hs]

theorem lorentz_t2_eq_tOfS_sq (k0 : Az) (k1 : Lon) (k2 : Tmp) (a b c d : ℝ)
    (hs : SinOK k1 c) (hd : CanonTmpS k0 k1 k2 a b c d) :
    lorentz_t2.eval k0 k1 k2 a b c d = tOfS k0 k1 k2 a b c d ^ 2 := by
  cases k2
  · cases k0 <;> cases k1 <;> rfl
  · rw [lorentz_t2_tau_eq k0 k1 a b c d hs, tOfS_tau_sq k0 k1 a b c d hd,
      max_eq_left ((canonTmpS_tau k0 k1 a b c d).mp hd)]

theorem lorentz_t_eq_tOfS (k0 : Az) (k1 : Lon) (k2 : Tmp) (a b c d : ℝ)
    (hs : SinOK k1 c) (hd : CanonTmpS k0 k1 k2 a b c d) :
    lorentz_t.eval k0 k1 k2 a b c d = tOfS k0 k1 k2 a b c d := by
  cases k2
  · cases k0 <;> cases k1 <;> rfl
  · rw [lorentz_t_tau_eval_eq, lorentz_t2_eq_tOfS_sq k0 k1 .tau a b c d hs hd, sqrt_sq (tOfS_tau_nonneg k0 k1 a b c d)]

theorem lorentz_t2_eq_tOf_sq (k0 : Az) (k1 : Lon) (k2 : Tmp) (a b c d : ℝ) (hs : SinOK k1 c) (hd : CanonTmp k2 d) :
    lorentz_t2.eval k0 k1 k2 a b c d = tOf k0 k1 k2 a b c d ^ 2 :=
  tOfS_eq_tOf k0 k1 k2 a b c d hd ▸ lorentz_t2_eq_tOfS_sq k0 k1 k2 a b c d hs (CanonTmpS_of_CanonTmp k0 k1 k2 a b c d hd)

theorem lorentz_t_eq_tOf (k0 : Az) (k1 : Lon) (k2 : Tmp) (a b c d : ℝ) (hs : SinOK k1 c) (hd : CanonTmp k2 d) :
    lorentz_t.eval k0 k1 k2 a b c d = tOf k0 k1 k2 a b c d :=
  tOfS_eq_tOf k0 k1 k2 a b c d hd ▸ lorentz_t_eq_tOfS k0 k1 k2 a b c d hs (CanonTmpS_of_CanonTmp k0 k1 k2 a b c d hd)

theorem tOfS_cart (k0 : Az) (k1 : Lon) (k2 : Tmp) (a b c d : ℝ) :
    tOfS .xy .z k2 (xOf k0 a b) (yOf k0 a b) (zOf k0 k1 a b c) d = tOfS k0 k1 k2 a b c d := by
  cases k2 <;> cases k0 <;> cases k1 <;> rfl

theorem canonTmpS_cart (k0 : Az) (k1 : Lon) (k2 : Tmp) (a b c d : ℝ) :
    CanonTmpS .xy .z k2 (xOf k0 a b) (yOf k0 a b) (zOf k0 k1 a b c) d ↔ CanonTmpS k0 k1 k2 a b c d := by
  cases k2 <;> cases k0 <;> cases k1 <;> exact Iff.rfl

theorem lorentz_t_cart_eq_tOfS (k0 : Az) (k1 : Lon) (k2 : Tmp) (a b c d : ℝ) (hd : CanonTmpS k0 k1 k2 a b c d) :
    lorentz_t.eval .xy .z k2 (xOf k0 a b) (yOf k0 a b) (zOf k0 k1 a b c) d = tOfS k0 k1 k2 a b c d := by
  rw [lorentz_t_eq_tOfS .xy .z k2 _ _ _ d trivial ((canonTmpS_cart k0 k1 k2 a b c d).mpr hd), tOfS_cart]

theorem lorentz_t_cart_eq_tOf (k0 : Az) (k1 : Lon) (k2 : Tmp) (a b c d : ℝ) (hd : CanonTmp k2 d) :
    lorentz_t.eval .xy .z k2 (xOf k0 a b) (yOf k0 a b) (zOf k0 k1 a b c) d = tOf k0 k1 k2 a b c d :=
  tOfS_eq_tOf k0 k1 k2 a b c d hd ▸ lorentz_t_cart_eq_tOfS k0 k1 k2 a b c d (CanonTmpS_of_CanonTmp k0 k1 k2 a b c d hd)

theorem lorentz_t_cart (k0 : Az) (k1 : Lon) (k2 : Tmp) (a b c d : ℝ) (hs : SinOK k1 c) :
    lorentz_t.eval .xy .z k2 (xOf k0 a b) (yOf k0 a b) (zOf k0 k1 a b c) d = lorentz_t.eval k0 k1 k2 a b c d := by
  cases k2
  · cases k0 <;> cases k1 <;> rfl
  · rw [lorentz_t_tau_eq .xy .z _ _ _ d trivial, lorentz_t_tau_eq k0 k1 a b c d hs]; rfl

theorem refine_lorentz_t2 (k0 : Az) (k1 : Lon) (k2 : Tmp) (a b c d : ℝ)
    (h : CanonLon k0 k1 a b c) (hd : CanonTmp k2 d) :
    lorentz_t2.eval k0 k1 k2 a b c d = tOf k0 k1 k2 a b c d ^ 2 :=
  lorentz_t2_eq_tOf_sq k0 k1 k2 a b c d (Spec.SinOK_of_canonLon h) hd

theorem refine_lorentz_t (k0 : Az) (k1 : Lon) (k2 : Tmp) (a b c d : ℝ)
    (h : CanonLon k0 k1 a b c) (hd : CanonTmp k2 d) :
    lorentz_t.eval k0 k1 k2 a b c d = tOf k0 k1 k2 a b c d :=
  lorentz_t_eq_tOf k0 k1 k2 a b c d (Spec.SinOK_of_canonLon h) hd

/-! ### tau2, tau -/

theorem lorentz_tau2_t_eval_eq (k0 : Az) (k1 : Lon) (a b c t : ℝ) :
    lorentz_tau2.eval k0 k1 .t a b c t = t ^ 2 - spatial_mag2.eval k0 k1 a b c := by
  cases k0 <;> cases k1 <;> rfl

theorem lorentz_tau2_tau_eval_eq (k0 : Az) (k1 : Lon) (a b c d : ℝ) :
    lorentz_tau2.eval k0 k1 .tau a b c d = P.copysign (d ^ 2) d := by
  cases k0 <;> cases k1 <;> rfl

theorem lorentz_tau_t_eval_eq (k0 : Az) (k1 : Lon) (a b c t : ℝ) :
    lorentz_tau.eval k0 k1 .t a b c t
      = P.copysign (sqrt |lorentz_tau2.eval k0 k1 .t a b c t|) (lorentz_tau2.eval k0 k1 .t a b c t) := by
  cases k0 <;> cases k1 <;> rfl

theorem refine_lorentz_tau_of_tau (k0 : Az) (k1 : Lon) (a b c d : ℝ) :
    lorentz_tau.eval k0 k1 .tau a b c d = d := by
  cases k0 <;> cases k1 <;> rfl

theorem lorentz_tau2_t_eq (k0 : Az) (k1 : Lon) (a b c t : ℝ) (hs : SinOK k1 c) :
    lorentz_tau2.eval k0 k1 .t a b c t = t ^ 2 - mag2Of k0 k1 a b c := by
  rw [lorentz_tau2_t_eval_eq, refine_spatial_mag2 k0 k1 a b c hs]

theorem lorentz_tau_t_eq (k0 : Az) (k1 : Lon) (a b c t : ℝ) (hs : SinOK k1 c) :
    lorentz_tau.eval k0 k1 .t a b c t
      = P.copysign (sqrt |t ^ 2 - mag2Of k0 k1 a b c|) (t ^ 2 - mag2Of k0 k1 a b c) := by
  rw [lorentz_tau_t_eval_eq, lorentz_tau2_t_eq k0 k1 a b c t hs]

theorem lorentz_tau2_eq_signed (k0 : Az) (k1 : Lon) (k2 : Tmp) (a b c d : ℝ)
    (hs : SinOK k1 c) (hd : CanonTmpS k0 k1 k2 a b c d) :
    lorentz_tau2.eval k0 k1 k2 a b c d = tOfS k0 k1 k2 a b c d ^ 2 - mag2Of k0 k1 a b c := by
  cases k2
  · rw [lorentz_tau2_t_eq k0 k1 a b c d hs, tOfS_t]
  · rw [tOfS_sq_sub_mag2 k0 k1 a b c d hd]
    exact lorentz_tau2_tau_eval_eq k0 k1 a b c d

/-- `tau = sign(s)·√|s|`, `s = t² − |p|²` (signed τ; from `SinOK`): reading τ back from a τ-stored vector returns the
stored SIGNED value -/
theorem lorentz_tau_eq_signed (k0 : Az) (k1 : Lon) (k2 : Tmp) (a b c d : ℝ)
    (hs : SinOK k1 c) (hd : CanonTmpS k0 k1 k2 a b c d) :
    lorentz_tau.eval k0 k1 k2 a b c d
      = Real.sign (tOfS k0 k1 k2 a b c d ^ 2 - mag2Of k0 k1 a b c)
        * sqrt |tOfS k0 k1 k2 a b c d ^ 2 - mag2Of k0 k1 a b c| := by
  cases k2
  · rw [lorentz_tau_t_eq k0 k1 a b c d hs, tOfS_t, P.copysign_sqrt_abs]
  · rw [refine_lorentz_tau_of_tau, tOfS_sq_sub_mag2 k0 k1 a b c d hd, sign_mul_sqrt_abs_tau2S]

theorem refine_lorentz_tau2 (k0 : Az) (k1 : Lon) (k2 : Tmp) (a b c d : ℝ)
    (h : CanonLon k0 k1 a b c) (hd : CanonTmp k2 d) :
    lorentz_tau2.eval k0 k1 k2 a b c d = tOf k0 k1 k2 a b c d ^ 2 - mag2Of k0 k1 a b c :=
  tOfS_eq_tOf k0 k1 k2 a b c d hd ▸
    lorentz_tau2_eq_signed k0 k1 k2 a b c d (Spec.SinOK_of_canonLon h) (CanonTmpS_of_CanonTmp k0 k1 k2 a b c d hd)

theorem refine_lorentz_tau (k0 : Az) (k1 : Lon) (k2 : Tmp) (a b c d : ℝ)
    (h : CanonLon k0 k1 a b c) (hd : CanonTmp k2 d) :
    lorentz_tau.eval k0 k1 k2 a b c d
      = Real.sign (tOf k0 k1 k2 a b c d ^ 2 - mag2Of k0 k1 a b c)
        * sqrt |tOf k0 k1 k2 a b c d ^ 2 - mag2Of k0 k1 a b c| :=
  tOfS_eq_tOf k0 k1 k2 a b c d hd ▸
    lorentz_tau_eq_signed k0 k1 k2 a b c d (Spec.SinOK_of_canonLon h) (CanonTmpS_of_CanonTmp k0 k1 k2 a b c d hd)

theorem refine_lorentz_tau_pos (k0 : Az) (k1 : Lon) (k2 : Tmp) (a b c d : ℝ)
    (h : CanonLon k0 k1 a b c) (hd : CanonTmp k2 d)
    (hs : 0 < tOf k0 k1 k2 a b c d ^ 2 - mag2Of k0 k1 a b c) :
    lorentz_tau.eval k0 k1 k2 a b c d = sqrt (tOf k0 k1 k2 a b c d ^ 2 - mag2Of k0 k1 a b c) := by
  rw [refine_lorentz_tau k0 k1 k2 a b c d h hd, Real.sign_of_pos hs, abs_of_pos hs, one_mul]

example : CanonLon .xy .theta 1 0 1 ∧ CanonTmp .tau 2 := by
  refine ⟨⟨?_, by norm_num, ?_⟩, ?_⟩
  · show 0 < sqrt ((1 : ℝ) ^ 2 + 0 ^ 2); norm_num
  · linarith [Real.one_le_pi_div_two]
  · show (0 : ℝ) ≤ 2; norm_num

/-! ### beta, gamma, rapidity -/

theorem lorentz_beta_eval_eq (k0 : Az) (k1 : Lon) (k2 : Tmp) (a b c d : ℝ) :
    lorentz_beta.eval k0 k1 k2 a b c d = spatial_mag.eval k0 k1 a b c / lorentz_t.eval k0 k1 k2 a b c d := by
  cases k0 <;> cases k1 <;> cases k2 <;> rfl

theorem lorentz_gamma_eval_eq (k0 : Az) (k1 : Lon) (k2 : Tmp) (a b c d : ℝ) :
    lorentz_gamma.eval k0 k1 k2 a b c d = lorentz_t.eval k0 k1 k2 a b c d / lorentz_tau.eval k0 k1 k2 a b c d := by
  cases k0 <;> cases k1 <;> cases k2 <;> rfl

theorem lorentz_rapidity_eval_eq (k0 : Az) (k1 : Lon) (k2 : Tmp) (a b c d : ℝ) :
    lorentz_rapidity.eval k0 k1 k2 a b c d
      = 0.5 * Real.log ((lorentz_t.eval k0 k1 k2 a b c d + spatial_z.eval k0 k1 a b c)
          / (lorentz_t.eval k0 k1 k2 a b c d - spatial_z.eval k0 k1 a b c)) := by
  cases k0 <;> cases k1 <;> cases k2 <;> rfl

theorem refine_lorentz_beta_signed (k0 : Az) (k1 : Lon) (k2 : Tmp) (a b c d : ℝ)
    (h : Canon3 k0 k1 a b c) (hd : CanonTmpS k0 k1 k2 a b c d) (_ht : tOfS k0 k1 k2 a b c d ≠ 0) :
    lorentz_beta.eval k0 k1 k2 a b c d = sqrt (mag2Of k0 k1 a b c) / tOfS k0 k1 k2 a b c d := by
  rw [lorentz_beta_eval_eq, refine_spatial_mag_canon k0 k1 a b c h,
    lorentz_t_eq_tOfS k0 k1 k2 a b c d (Spec.SinOK_of_canonLon h.2) hd]

theorem refine_lorentz_beta (k0 : Az) (k1 : Lon) (k2 : Tmp) (a b c d : ℝ)
    (h : Canon3 k0 k1 a b c) (hd : CanonTmp k2 d) (ht : tOf k0 k1 k2 a b c d ≠ 0) :
    lorentz_beta.eval k0 k1 k2 a b c d = sqrt (mag2Of k0 k1 a b c) / tOf k0 k1 k2 a b c d := by
  rw [← tOfS_eq_tOf k0 k1 k2 a b c d hd] at ht ⊢
  exact refine_lorentz_beta_signed k0 k1 k2 a b c d h (CanonTmpS_of_CanonTmp k0 k1 k2 a b c d hd) ht

theorem refine_lorentz_gamma (k0 : Az) (k1 : Lon) (k2 : Tmp) (a b c d : ℝ)
    (h : CanonLon k0 k1 a b c) (hd : CanonTmp k2 d)
    (hs : 0 < tOf k0 k1 k2 a b c d ^ 2 - mag2Of k0 k1 a b c) :
    lorentz_gamma.eval k0 k1 k2 a b c d
      = tOf k0 k1 k2 a b c d / sqrt (tOf k0 k1 k2 a b c d ^ 2 - mag2Of k0 k1 a b c) := by
  rw [lorentz_gamma_eval_eq, refine_lorentz_t k0 k1 k2 a b c d h hd, refine_lorentz_tau_pos k0 k1 k2 a b c d h hd hs]

theorem lorentz_rapidity_eq_tOfS (k0 : Az) (k1 : Lon) (k2 : Tmp) (a b c d : ℝ)
    (htan : TanOK k1 c) (hs : SinOK k1 c) (hd : CanonTmpS k0 k1 k2 a b c d) :
    lorentz_rapidity.eval k0 k1 k2 a b c d
      = 1 / 2 * Real.log ((tOfS k0 k1 k2 a b c d + zOf k0 k1 a b c) / (tOfS k0 k1 k2 a b c d - zOf k0 k1 a b c)) := by
  rw [lorentz_rapidity_eval_eq, lorentz_t_eq_tOfS k0 k1 k2 a b c d hs hd, refine_spatial_z k0 k1 a b c htan]
  norm_num

theorem lorentz_rapidity_eq_tOf (k0 : Az) (k1 : Lon) (k2 : Tmp) (a b c d : ℝ)
    (htan : TanOK k1 c) (hs : SinOK k1 c) (hd : CanonTmp k2 d) :
    lorentz_rapidity.eval k0 k1 k2 a b c d
      = 1 / 2 * Real.log ((tOf k0 k1 k2 a b c d + zOf k0 k1 a b c) / (tOf k0 k1 k2 a b c d - zOf k0 k1 a b c)) :=
  tOfS_eq_tOf k0 k1 k2 a b c d hd ▸
    lorentz_rapidity_eq_tOfS k0 k1 k2 a b c d htan hs (CanonTmpS_of_CanonTmp k0 k1 k2 a b c d hd)

theorem refine_lorentz_rapidity (k0 : Az) (k1 : Lon) (k2 : Tmp) (a b c d : ℝ)
    (h : CanonLon k0 k1 a b c) (htan : TanOK k1 c) (hd : CanonTmp k2 d)
    (_hz : |zOf k0 k1 a b c| < tOf k0 k1 k2 a b c d) :
    lorentz_rapidity.eval k0 k1 k2 a b c d
      = 1 / 2 * Real.log ((tOf k0 k1 k2 a b c d + zOf k0 k1 a b c) / (tOf k0 k1 k2 a b c d - zOf k0 k1 a b c)) :=
  lorentz_rapidity_eq_tOf k0 k1 k2 a b c d htan (Spec.SinOK_of_canonLon h) hd

example : Canon3 .rhophi .eta 1 0 0 ∧ CanonTmp .t 2 ∧ tOf .rhophi .eta .t 1 0 0 2 ≠ 0
    ∧ 0 < tOf .rhophi .eta .t 1 0 0 2 ^ 2 - mag2Of .rhophi .eta 1 0 0
    ∧ |zOf .rhophi .eta 1 0 0| < tOf .rhophi .eta .t 1 0 0 2 := by
  simp [Canon3, Canon2, CanonLon, CanonTmp, tOf, mag2Of, xOf, yOf, zOf, rhoOf]

/-! ### Et2, Et -/

theorem lorentz_Et2_eval_eq (k0 : Az) (k1 : Lon) (k2 : Tmp) (a b c d : ℝ) :
    lorentz_Et2.eval k0 k1 k2 a b c d = lorentz_Et2.eval k0 k1 .t a b c (lorentz_t.eval k0 k1 k2 a b c d) := by
  cases k0 <;> cases k1 <;> cases k2 <;> rfl

theorem lorentz_Et_eval_eq (k0 : Az) (k1 : Lon) (k2 : Tmp) (a b c d : ℝ) :
    lorentz_Et.eval k0 k1 k2 a b c d = lorentz_Et.eval k0 k1 .t a b c (lorentz_t.eval k0 k1 k2 a b c d) := by
  cases k0 <;> cases k1 <;> cases k2 <;> rfl

private theorem sech_eq (c : ℝ) : 2 / (exp (-c) + 1 / exp (-c)) = 1 / cosh c := by
  rw [cosh_eq, exp_neg]
  have : exp c ≠ 0 := exp_ne_zero c
  have : 0 < exp c + (exp c)⁻¹ := by positivity
  field_simp
  ring

private theorem Et2_theta_id (r c t : ℝ) (hr : 0 < r) (hs : sin c ≠ 0) :
    (t * sin c) ^ 2 = t ^ 2 * r ^ 2 / (r ^ 2 + (r * (cos c / sin c)) ^ 2) := by
  rw [← L.sq_div_sin_sq r hs]
  have := ne_of_gt hr
  field_simp

private theorem Et2_eta_id (r c t : ℝ) (hr : 0 < r) :
    (t * (1 / cosh c)) ^ 2 = t ^ 2 * r ^ 2 / (r ^ 2 + (r * sinh c) ^ 2) := by
  rw [← L.sq_mul_cosh_sq r c]
  have := ne_of_gt hr
  have := ne_of_gt (cosh_pos c)
  field_simp

private theorem Et2_core (k0 : Az) (k1 : Lon) (a b c t : ℝ)
    (h : CanonLon k0 k1 a b c) (hm : 0 < mag2Of k0 k1 a b c) :
    lorentz_Et2.eval k0 k1 .t a b c t = t ^ 2 * rhoOf k0 a b ^ 2 / mag2Of k0 k1 a b c := by
  rw [Spec.mag2Of_eq] at hm ⊢
  cases k0 <;> cases k1 <;>
    simp only [d_lorentz_Et2, zOf, rhoOf, sech_eq, L.sq_sqrt_sumsq] at hm ⊢
  case xy.theta =>
    have e := Et2_theta_id (sqrt (a ^ 2 + b ^ 2)) c t h.1 (Spec.sin_pos_of_canonLon h).ne'
    rw [L.sq_sqrt_sumsq] at e; exact e
  case xy.eta =>
    have e := Et2_eta_id (sqrt (a ^ 2 + b ^ 2)) c t h
    rw [L.sq_sqrt_sumsq] at e; exact e
  case rhophi.theta => exact Et2_theta_id _ c t h.1 (Spec.sin_pos_of_canonLon h).ne'
  case rhophi.eta => exact Et2_eta_id _ c t h

theorem refine_lorentz_Et2 (k0 : Az) (k1 : Lon) (k2 : Tmp) (a b c d : ℝ)
    (h : CanonLon k0 k1 a b c) (hd : CanonTmp k2 d) (hm : 0 < mag2Of k0 k1 a b c) :
    lorentz_Et2.eval k0 k1 k2 a b c d
      = tOf k0 k1 k2 a b c d ^ 2 * rhoOf k0 a b ^ 2 / mag2Of k0 k1 a b c := by
  rw [lorentz_Et2_eval_eq, refine_lorentz_t k0 k1 k2 a b c d h hd, Et2_core k0 k1 a b c _ h hm]

private theorem Et_sqrt_Et2 (k0 : Az) (k1 : Lon) (a b c t : ℝ)
    (h : Canon3 k0 k1 a b c) (ht : 0 ≤ t) :
    lorentz_Et.eval k0 k1 .t a b c t = sqrt (lorentz_Et2.eval k0 k1 .t a b c t) := by
  have hr := Spec.rhoOf_nonneg h.1
  have h2 := h.2
  cases k0 <;> cases k1 <;>
    simp only [d_lorentz_Et, d_lorentz_Et2, sech_eq, rhoOf] at hr h2 ⊢
  case xy.theta => exact (sqrt_sq (mul_nonneg ht (Spec.sin_pos_of_canonLon h2).le)).symm
  case xy.eta => exact (sqrt_sq (mul_nonneg ht (by have := cosh_pos c; positivity))).symm
  case rhophi.z => rw [sqrt_div' _ (by positivity), show t ^ 2 * a ^ 2 = (t * a) ^ 2 by ring, sqrt_sq (mul_nonneg ht hr)]
  case rhophi.theta => exact (sqrt_sq (mul_nonneg ht (Spec.sin_pos_of_canonLon h2).le)).symm
  case rhophi.eta => exact (sqrt_sq (mul_nonneg ht (by have := cosh_pos c; positivity))).symm

/-- `Et = √Et2 = t ρ / |p|`, for `t ≥ 0` (for `t < 0` the variants disagree with each other, see
`lorentz_Et_neg_t_key_dependent`) -/
theorem refine_lorentz_Et (k0 : Az) (k1 : Lon) (k2 : Tmp) (a b c d : ℝ)
    (h : Canon3 k0 k1 a b c) (hd : CanonTmp k2 d) (hm : 0 < mag2Of k0 k1 a b c)
    (ht : 0 ≤ tOf k0 k1 k2 a b c d) :
    lorentz_Et.eval k0 k1 k2 a b c d
      = sqrt (tOf k0 k1 k2 a b c d ^ 2 * rhoOf k0 a b ^ 2 / mag2Of k0 k1 a b c) := by
  rw [lorentz_Et_eval_eq, refine_lorentz_t k0 k1 k2 a b c d h.2 hd, Et_sqrt_Et2 k0 k1 a b c _ h ht,
    Et2_core k0 k1 a b c _ h.2 hm]

example : Canon3 .rhophi .z 1 0 0 ∧ CanonTmp .t 2 ∧ 0 < mag2Of .rhophi .z 1 0 0
    ∧ 0 ≤ tOf .rhophi .z .t 1 0 0 2 := by
  simp [Canon3, Canon2, CanonLon, CanonTmp, tOf, mag2Of, xOf, yOf, zOf]

/-! ### Mt2, Mt -/

theorem lorentz_Mt2_t_eval_eq (k0 : Az) (k1 : Lon) (a b c t : ℝ) :
    lorentz_Mt2.eval k0 k1 .t a b c t = t ^ 2 - spatial_z.eval k0 k1 a b c ^ 2 := by
  cases k0 <;> cases k1 <;> rfl

theorem lorentz_Mt2_tau_eq (k0 : Az) (k1 : Lon) (a b c d : ℝ) :
    lorentz_Mt2.eval k0 k1 .tau a b c d = max (P.copysign (d ^ 2) d + rhoOf k0 a b ^ 2) 0 := by
  cases k0 <;> cases k1 <;>
    simp only [d_lorentz_Mt2, d_lorentz_tau2, rhoOf, L.sq_sqrt_sumsq, add_assoc]

theorem lorentz_Mt_eq_sqrt_Mt2 (k0 : Az) (k1 : Lon) (k2 : Tmp) (a b c d : ℝ) :
    lorentz_Mt.eval k0 k1 k2 a b c d = sqrt (lorentz_Mt2.eval k0 k1 k2 a b c d) := by
  cases k0 <;> cases k1 <;> cases k2 <;> rfl

theorem refine_lorentz_Mt2 (k0 : Az) (k1 : Lon) (k2 : Tmp) (a b c d : ℝ)
    (htan : TanOK k1 c) (hd : CanonTmp k2 d) :
    lorentz_Mt2.eval k0 k1 k2 a b c d = tOf k0 k1 k2 a b c d ^ 2 - zOf k0 k1 a b c ^ 2 := by
  cases k2
  · rw [lorentz_Mt2_t_eval_eq, refine_spatial_z k0 k1 a b c htan, tOf_t]
  · rw [lorentz_Mt2_tau_eq, P.copysign_sq hd, max_eq_left (by positivity), tOf_tau_sq, Spec.mag2Of_eq]
    ring

theorem refine_lorentz_Mt (k0 : Az) (k1 : Lon) (k2 : Tmp) (a b c d : ℝ)
    (htan : TanOK k1 c) (hd : CanonTmp k2 d)
    (_hs : 0 ≤ tOf k0 k1 k2 a b c d ^ 2 - zOf k0 k1 a b c ^ 2) :
    lorentz_Mt.eval k0 k1 k2 a b c d = sqrt (tOf k0 k1 k2 a b c d ^ 2 - zOf k0 k1 a b c ^ 2) := by
  rw [lorentz_Mt_eq_sqrt_Mt2, refine_lorentz_Mt2 k0 k1 k2 a b c d htan hd]

example : TanOK .theta 1 ∧ CanonTmp .tau 1
    ∧ 0 ≤ tOf .xy .z .tau 1 0 0 1 ^ 2 - zOf .xy .z 1 0 0 ^ 2 := by
  refine ⟨Spec.tanOK_one .theta, by show (0 : ℝ) ≤ 1; norm_num, ?_⟩
  rw [tOf_tau_sq]; simp [mag2Of, xOf, yOf, zOf]

/-! ### to_beta3 -/

theorem lorentz_to_beta3_eval_eq (k0 : Az) (k1 : Lon) (k2 : Tmp) (a b c d : ℝ) :
    lorentz_to_beta3.eval k0 k1 k2 a b c d
      = lorentz_to_beta3.eval k0 k1 .t a b c (lorentz_t.eval k0 k1 k2 a b c d) := by
  cases k0 <;> cases k1 <;> cases k2 <;> rfl

theorem lorentz_to_beta3_ret_eq (k0 : Az) (k1 : Lon) (k2 : Tmp) :
    lorentz_to_beta3.ret k0 k1 k2 = lorentz_to_beta3.ret k0 k1 .t := by
  cases k0 <;> cases k1 <;> cases k2 <;> rfl

private theorem to_beta3_core (k0 : Az) (k1 : Lon) (a b c t : ℝ)
    (hpos : k0 = .xy → k1 = .z ∨ 0 < t) :
    interp3 (lorentz_to_beta3.ret k0 k1 .t) (lorentz_to_beta3.eval k0 k1 .t a b c t)
      = some (xOf k0 a b / t, yOf k0 a b / t, zOf k0 k1 a b c / t) := by
  have hr : lorentz_to_beta3.ret k0 k1 .t = Ret.vec [.az k0, .lon k1, .none] := by cases k0 <;> cases k1 <;> rfl
  have he : lorentz_to_beta3.eval k0 k1 .t a b c t = divLen k0 k1 t a b c := by cases k0 <;> cases k1 <;> rfl
  rw [hr, he]
  refine congrArg some ((cart3_divLen k0 k1 a b c t hpos).trans ?_)
  simp only [smul3, cart3, one_div_mul_eq_div]

/-- `to_beta3` is `p / t` for every key when `t ≠ 0`, EXCEPT that the variants storing `(x, y, θ)` or `(x, y, η)`
need `0 < t`: they divide `x, y` by `t` but keep θ/η (see `lorentz_to_beta3_neg_t_fails`). -/
theorem refine_lorentz_to_beta3_ne_zero (k0 : Az) (k1 : Lon) (k2 : Tmp) (a b c d : ℝ)
    (h : CanonLon k0 k1 a b c) (hd : CanonTmp k2 d) (_ht : tOf k0 k1 k2 a b c d ≠ 0)
    (hpos : k0 = .xy → k1 = .z ∨ 0 < tOf k0 k1 k2 a b c d) :
    interp3 (lorentz_to_beta3.ret k0 k1 k2) (lorentz_to_beta3.eval k0 k1 k2 a b c d)
      = some (xOf k0 a b / tOf k0 k1 k2 a b c d, yOf k0 a b / tOf k0 k1 k2 a b c d,
          zOf k0 k1 a b c / tOf k0 k1 k2 a b c d) := by
  rw [lorentz_to_beta3_eval_eq, lorentz_to_beta3_ret_eq, refine_lorentz_t k0 k1 k2 a b c d h hd]
  exact to_beta3_core k0 k1 a b c _ hpos

/-- `to_beta3` is `p / t` for every key when `0 < t` (the property text grants only `t ≠ 0`). -/
theorem refine_lorentz_to_beta3_partial (k0 : Az) (k1 : Lon) (k2 : Tmp) (a b c d : ℝ)
    (h : CanonLon k0 k1 a b c) (hd : CanonTmp k2 d) (ht : 0 < tOf k0 k1 k2 a b c d) :
    interp3 (lorentz_to_beta3.ret k0 k1 k2) (lorentz_to_beta3.eval k0 k1 k2 a b c d)
      = some (xOf k0 a b / tOf k0 k1 k2 a b c d, yOf k0 a b / tOf k0 k1 k2 a b c d,
          zOf k0 k1 a b c / tOf k0 k1 k2 a b c d) :=
  refine_lorentz_to_beta3_ne_zero k0 k1 k2 a b c d h hd (ne_of_gt ht) (fun _ => Or.inr ht)

example : CanonLon .xy .eta 1 0 1 ∧ CanonTmp .t 2 ∧ 0 < tOf .xy .eta .t 1 0 1 2 := by
  simp [CanonLon, CanonTmp, rhoOf, tOf]

end VR
