/-
Refinement of the 3D accessors `mag2`, `mag`, `costheta`, `cottheta`, `theta`, `eta`
(all six keys `(Az, Lon)` each) against the specification layer, and the "round-trip"
lemmas (`zOf` of a converted longitudinal coordinate) other refinement proofs rewrite with.
-/
import VectorModel.Refine.SpatialZ
import VectorModel.Gen.Real.spatial_mag2
import VectorModel.Gen.Real.spatial_mag
import VectorModel.Gen.Real.spatial_costheta__spatial_theta
import VectorModel.Gen.Real.spatial_cottheta
import VectorModel.Gen.Real.spatial_eta

namespace VR
open VK Spec Real

/-! ### `ρ² = x² + y²` for both azimuthal storages -/

theorem Spec.sq_xOf_add_sq_yOf (k : Az) (a b : ℝ) : xOf k a b ^ 2 + yOf k a b ^ 2 = rhoOf k a b ^ 2 := by
  cases k
  · exact (L.sq_sqrt_sumsq a b).symm
  · simp only [xOf, yOf, rhoOf]
    linear_combination (a ^ 2) * (cos_sq_add_sin_sq b)

theorem Spec.rhoOf_xy_cart {k : Az} {a b : ℝ} (h : 0 ≤ rhoOf k a b) : rhoOf .xy (xOf k a b) (yOf k a b) = rhoOf k a b := by
  show sqrt (xOf k a b ^ 2 + yOf k a b ^ 2) = rhoOf k a b
  rw [Spec.sq_xOf_add_sq_yOf, sqrt_sq h]

theorem Spec.mag2Of_eq (k0 : Az) (k1 : Lon) (a b c : ℝ) :
    mag2Of k0 k1 a b c = rhoOf k0 a b ^ 2 + zOf k0 k1 a b c ^ 2 := by
  unfold mag2Of; rw [Spec.sq_xOf_add_sq_yOf]

theorem Spec.mag2Of_pos {k0 : Az} {k1 : Lon} {a b c : ℝ} (hr : 0 < rhoOf k0 a b) : 0 < mag2Of k0 k1 a b c := by
  rw [Spec.mag2Of_eq]; exact add_pos_of_pos_of_nonneg (pow_pos hr 2) (sq_nonneg _)

/-! ### how the hypotheses on stored coordinates imply one another -/

theorem Spec.rhoOf_nonneg {k : Az} {a b : ℝ} (h : Canon2 k a b) : 0 ≤ rhoOf k a b := by
  cases k
  · exact Real.sqrt_nonneg _
  · exact h

/-- `Spec.rhoOf_xy_cart` as a rewrite rule for `ρ` -/
theorem Spec.rhoOf_eq_sqrt {k : Az} {a b : ℝ} (h : Canon2 k a b) : rhoOf k a b = sqrt (xOf k a b ^ 2 + yOf k a b ^ 2) :=
  (Spec.rhoOf_xy_cart (Spec.rhoOf_nonneg h)).symm

theorem Spec.canon2_of_rho_pos {k : Az} {a b : ℝ} (h : 0 < rhoOf k a b) : Canon2 k a b := by
  cases k
  · trivial
  · exact h.le

theorem Spec.sin_pos_of_canonLon {k : Az} {a b c : ℝ} (h : CanonLon k .theta a b c) : 0 < sin c :=
  sin_pos_of_pos_of_lt_pi h.2.1 h.2.2

/-- the hypothesis under which `ρ²/sin²θ` is the squared length: `sin θ ≠ 0` for θ storage (implied by `CanonLon`) -/
def Spec.SinOK : Lon → ℝ → Prop
  | .theta, c => sin c ≠ 0
  | _, _ => True

theorem Spec.sinOK_iff {k1 : Lon} {c : ℝ} : SinOK k1 c ↔ (k1 = .theta → sin c ≠ 0) := by
  cases k1
  · exact ⟨nofun, fun _ => trivial⟩
  · exact ⟨fun h _ => h, fun h => h rfl⟩
  · exact ⟨nofun, fun _ => trivial⟩

theorem Spec.SinOK_of_canonLon {k0 : Az} {k1 : Lon} {a b c : ℝ} (h : CanonLon k0 k1 a b c) : SinOK k1 c := by
  cases k1
  · trivial
  · exact (Spec.sin_pos_of_canonLon h).ne'
  · trivial

theorem Spec.sin_ne_zero_of_canonLon {k0 : Az} {k1 : Lon} {a b c : ℝ} (h : CanonLon k0 k1 a b c) :
    k1 = .theta → sin c ≠ 0 :=
  Spec.sinOK_iff.mp (Spec.SinOK_of_canonLon h)

/-- `k = θ → sin c ≠ 0 ∧ cos c ≠ 0`, the form of the hypothesis in the C13 theorems, gives `SinOK` and `TanOK` -/
theorem Spec.sinOK_tanOK_of_theta {k1 : Lon} {c : ℝ} (hθ : k1 = .theta → sin c ≠ 0 ∧ cos c ≠ 0) :
    SinOK k1 c ∧ TanOK k1 c := by
  cases k1
  · exact ⟨trivial, trivial⟩
  · exact hθ rfl
  · exact ⟨trivial, trivial⟩

/-- the sample angle `θ = 1` of the non-vacuity examples satisfies both, for every key -/
theorem Spec.tanOK_one (k1 : Lon) : TanOK k1 1 := by
  cases k1
  · trivial
  · exact cos_one_pos.ne'
  · trivial

theorem Spec.sinOK_one (k1 : Lon) : SinOK k1 1 := by
  cases k1
  · trivial
  · exact L.sin_one_pos.ne'
  · trivial

/-! ### mag2 -/

theorem spatial_mag2_eval_rho (k0 : Az) (k1 : Lon) (a b c : ℝ) :
    spatial_mag2.eval k0 k1 a b c =
      match k1 with
      | .z => rhoOf k0 a b ^ 2 + c ^ 2
      | .theta => rhoOf k0 a b ^ 2 / sin c ^ 2
      | .eta => rhoOf k0 a b ^ 2 * cosh c ^ 2 := by
  cases k0 <;> cases k1 <;>
    simp only [d_spatial_mag2, rhoOf, L.sq_sqrt_sumsq, L.invsin_eta]

theorem refine_spatial_mag2 (k0 : Az) (k1 : Lon) (a b c : ℝ) (h : SinOK k1 c) :
    spatial_mag2.eval k0 k1 a b c = mag2Of k0 k1 a b c := by
  rw [spatial_mag2_eval_rho, Spec.mag2Of_eq]
  cases k1
  · rfl
  · exact L.sq_div_sin_sq _ h
  · exact L.sq_mul_cosh_sq _ c

example : SinOK .theta 1 := Spec.sinOK_one .theta

/-! ### the other accessors in terms of `ρ` (one formula per longitudinal key; no hypotheses) -/

theorem spatial_mag_eval_rho (k0 : Az) (k1 : Lon) (a b c : ℝ) :
    spatial_mag.eval k0 k1 a b c =
      match k1 with
      | .z => sqrt (rhoOf k0 a b ^ 2 + c ^ 2)
      | .theta => rhoOf k0 a b / |sin c|
      | .eta => rhoOf k0 a b * cosh c := by
  cases k0 <;> cases k1 <;>
    simp only [d_spatial_mag, d_spatial_mag2, rhoOf, L.sq_sqrt_sumsq, L.invsin_eta]

theorem spatial_costheta_eval_rho (k0 : Az) (k1 : Lon) (a b c : ℝ) :
    spatial_costheta.eval k0 k1 a b c =
      match k1 with
      | .z => c / sqrt (rhoOf k0 a b ^ 2 + c ^ 2)
      | .theta => cos c
      | .eta => cos (2 * arctan (exp (-c))) := by
  cases k0 <;> cases k1 <;>
    simp only [d_spatial_costheta, d_spatial_theta, d_spatial_mag, d_spatial_mag2, P.nanToNum_eq, rhoOf,
      L.sq_sqrt_sumsq, L.two_pt_zero]

theorem spatial_theta_eval_rho (k0 : Az) (k1 : Lon) (a b c : ℝ) :
    spatial_theta.eval k0 k1 a b c =
      match k1 with
      | .z => arccos (c / sqrt (rhoOf k0 a b ^ 2 + c ^ 2))
      | .theta => c
      | .eta => 2 * arctan (exp (-c)) := by
  cases k0 <;> cases k1 <;>
    simp only [d_spatial_costheta, d_spatial_theta, d_spatial_mag, d_spatial_mag2, P.nanToNum_eq, rhoOf,
      L.sq_sqrt_sumsq, L.two_pt_zero]

theorem spatial_cottheta_eval_rho (k0 : Az) (k1 : Lon) (a b c : ℝ) :
    spatial_cottheta.eval k0 k1 a b c =
      match k1 with
      | .z => c / rhoOf k0 a b
      | .theta => 1 / tan c
      | .eta => 1 / tan (2 * arctan (exp (-c))) := by
  cases k0 <;> cases k1 <;>
    simp only [d_spatial_cottheta, d_spatial_theta, d_planar_rho, d_planar_rho2, P.nanToNum_eq, rhoOf, L.two_pt_zero]

theorem spatial_eta_eval_rho (k0 : Az) (k1 : Lon) (a b c : ℝ) :
    spatial_eta.eval k0 k1 a b c =
      match k1 with
      | .z => arsinh (c / rhoOf k0 a b)
      | .theta => -log (tan (0.5 * c))
      | .eta => c := by
  cases k0 <;> cases k1 <;>
    simp only [d_spatial_eta, P.nanToNum_eq, rhoOf]

/-! ### round trips: `zOf` of a converted longitudinal coordinate -/

theorem refine_spatial_theta_zOf (k0 : Az) (k1 : Lon) (a b c : ℝ) (hr : 0 < rhoOf k0 a b) :
    zOf k0 .theta a b (spatial_theta.eval k0 k1 a b c) = zOf k0 k1 a b c := by
  rw [spatial_theta_eval_rho]
  cases k1
  · exact L.cot_arccos_ratio hr
  · rfl
  · exact congrArg (rhoOf k0 a b * ·) (L.cot_two_arctan_exp_neg c)

theorem refine_spatial_eta_zOf (k0 : Az) (k1 : Lon) (a b c : ℝ) (hr : 0 < rhoOf k0 a b)
    (h : CanonLon k0 k1 a b c) :
    zOf k0 .eta a b (spatial_eta.eval k0 k1 a b c) = zOf k0 k1 a b c := by
  rw [spatial_eta_eval_rho]
  cases k1
  · show rhoOf k0 a b * sinh (arsinh (c / rhoOf k0 a b)) = c
    rw [sinh_arsinh, mul_div_cancel₀ _ hr.ne']
  · exact congrArg (rhoOf k0 a b * ·) (L.sinh_neg_log_tan_half h.2.1 h.2.2)
  · rfl

theorem refine_spatial_theta_mem (k0 : Az) (k1 : Lon) (a b c : ℝ) (hr : 0 < rhoOf k0 a b)
    (h : CanonLon k0 k1 a b c) :
    0 < spatial_theta.eval k0 k1 a b c ∧ spatial_theta.eval k0 k1 a b c < π := by
  rw [spatial_theta_eval_rho]
  cases k1
  · exact L.arccos_ratio_mem hr
  · exact h.2
  · exact ⟨L.two_arctan_exp_neg_pos c, L.two_arctan_exp_neg_lt_pi c⟩

theorem spatial_theta_xy_eta_zOf (a b e : ℝ) (hr : 0 < rhoOf .xy a b) :
    zOf .xy .theta a b (spatial_theta.xy_eta a b e) = zOf .xy .eta a b e := refine_spatial_theta_zOf .xy .eta a b e hr
theorem spatial_theta_rhophi_eta_zOf (a b e : ℝ) (hr : 0 < rhoOf .rhophi a b) :
    zOf .rhophi .theta a b (spatial_theta.rhophi_eta a b e) = zOf .rhophi .eta a b e :=
  refine_spatial_theta_zOf .rhophi .eta a b e hr
theorem spatial_eta_xy_theta_zOf (a b th : ℝ) (hr : 0 < rhoOf .xy a b) (h0 : 0 < th) (h1 : th < π) :
    zOf .xy .eta a b (spatial_eta.xy_theta a b th) = zOf .xy .theta a b th :=
  refine_spatial_eta_zOf .xy .theta a b th hr ⟨hr, h0, h1⟩
theorem spatial_eta_rhophi_theta_zOf (a b th : ℝ) (hr : 0 < rhoOf .rhophi a b) (h0 : 0 < th) (h1 : th < π) :
    zOf .rhophi .eta a b (spatial_eta.rhophi_theta a b th) = zOf .rhophi .theta a b th :=
  refine_spatial_eta_zOf .rhophi .theta a b th hr ⟨hr, h0, h1⟩

example : 0 < rhoOf .xy 3 4 ∧ CanonLon .xy .theta 3 4 1 := by
  have h : 0 < rhoOf .xy 3 4 := L.sqrt_sumsq_pos (Or.inl three_ne_zero)
  exact ⟨h, h, one_pos, L.one_lt_pi⟩

/-! ### mag, costheta, cottheta, theta, eta against the specification -/

theorem refine_spatial_mag (k0 : Az) (k1 : Lon) (a b c : ℝ) (h2 : Canon2 k0 a b) (h : SinOK k1 c) :
    spatial_mag.eval k0 k1 a b c = sqrt (mag2Of k0 k1 a b c) := by
  have hr := Spec.rhoOf_nonneg h2
  rw [← refine_spatial_mag2 k0 k1 a b c h, spatial_mag2_eval_rho, spatial_mag_eval_rho]
  cases k1
  · rfl
  · show rhoOf k0 a b / |sin c| = sqrt (rhoOf k0 a b ^ 2 / sin c ^ 2)
    have e : rhoOf k0 a b ^ 2 / sin c ^ 2 = (rhoOf k0 a b / |sin c|) ^ 2 := by rw [div_pow, sq_abs]
    rw [e, Real.sqrt_sq (div_nonneg hr (abs_nonneg _))]
  · show rhoOf k0 a b * cosh c = sqrt (rhoOf k0 a b ^ 2 * cosh c ^ 2)
    rw [← mul_pow, Real.sqrt_sq (mul_nonneg hr (cosh_pos c).le)]

theorem refine_spatial_mag_canon (k0 : Az) (k1 : Lon) (a b c : ℝ) (h : Canon3 k0 k1 a b c) :
    spatial_mag.eval k0 k1 a b c = sqrt (mag2Of k0 k1 a b c) :=
  refine_spatial_mag k0 k1 a b c h.1 (Spec.SinOK_of_canonLon h.2)

theorem refine_spatial_costheta (k0 : Az) (k1 : Lon) (a b c : ℝ) (h : Canon3 k0 k1 a b c)
    (_hm : 0 < mag2Of k0 k1 a b c) :
    spatial_costheta.eval k0 k1 a b c = zOf k0 k1 a b c / sqrt (mag2Of k0 k1 a b c) := by
  rw [← refine_spatial_mag_canon k0 k1 a b c h, spatial_mag_eval_rho, spatial_costheta_eval_rho]
  cases k1
  · rfl
  · have hr : 0 < rhoOf k0 a b := h.2.1
    have hs : 0 < sin c := Spec.sin_pos_of_canonLon h.2
    show cos c = rhoOf k0 a b * (cos c / sin c) / (rhoOf k0 a b / |sin c|)
    rw [abs_of_pos hs, div_div_eq_mul_div, mul_assoc, div_mul_cancel₀ _ hs.ne', mul_div_cancel_left₀ _ hr.ne']
  · have hr : 0 < rhoOf k0 a b := h.2
    show cos (2 * arctan (exp (-c))) = rhoOf k0 a b * sinh c / (rhoOf k0 a b * cosh c)
    rw [L.cos_two_arctan_exp_neg, mul_div_mul_left _ _ hr.ne']

theorem refine_spatial_cottheta (k0 : Az) (k1 : Lon) (a b c : ℝ) (hr : 0 < rhoOf k0 a b) (_ht : TanOK k1 c) :
    spatial_cottheta.eval k0 k1 a b c = zOf k0 k1 a b c / rhoOf k0 a b := by
  rw [spatial_cottheta_eval_rho]
  cases k1
  · rfl
  · show 1 / tan c = rhoOf k0 a b * (cos c / sin c) / rhoOf k0 a b
    rw [mul_div_cancel_left₀ _ hr.ne', tan_eq_sin_div_cos, one_div_div]
  · show 1 / tan (2 * arctan (exp (-c))) = rhoOf k0 a b * sinh c / rhoOf k0 a b
    rw [mul_div_cancel_left₀ _ hr.ne', tan_eq_sin_div_cos, one_div_div, L.cot_two_arctan_exp_neg]

theorem refine_spatial_theta (k0 : Az) (k1 : Lon) (a b c : ℝ) (h : Canon3 k0 k1 a b c)
    (hm : 0 < mag2Of k0 k1 a b c) :
    spatial_theta.eval k0 k1 a b c = arccos (zOf k0 k1 a b c / sqrt (mag2Of k0 k1 a b c)) := by
  rw [← refine_spatial_costheta k0 k1 a b c h hm, spatial_costheta_eval_rho, spatial_theta_eval_rho]
  cases k1
  · rfl
  · exact (arccos_cos h.2.2.1.le h.2.2.2.le).symm
  · exact (arccos_cos (L.two_arctan_exp_neg_pos c).le (L.two_arctan_exp_neg_lt_pi c).le).symm

theorem refine_spatial_eta (k0 : Az) (k1 : Lon) (a b c : ℝ) (hr : 0 < rhoOf k0 a b)
    (h : CanonLon k0 k1 a b c) :
    spatial_eta.eval k0 k1 a b c = arsinh (zOf k0 k1 a b c / rhoOf k0 a b) := by
  have e := refine_spatial_eta_zOf k0 k1 a b c hr h
  change rhoOf k0 a b * sinh (spatial_eta.eval k0 k1 a b c) = _ at e
  rw [← e, mul_div_cancel_left₀ _ hr.ne', arsinh_sinh]

theorem refine_spatial_cos_theta (k0 : Az) (k1 : Lon) (a b c : ℝ) (h2 : Canon2 k0 a b) (hr : 0 < rhoOf k0 a b)
    (h : CanonLon k0 k1 a b c) :
    cos (spatial_theta.eval k0 k1 a b c) = zOf k0 k1 a b c / sqrt (mag2Of k0 k1 a b c) := by
  rw [refine_spatial_theta k0 k1 a b c ⟨h2, h⟩ (Spec.mag2Of_pos hr), Spec.mag2Of_eq]
  exact L.cos_arccos_ratio _ _

theorem refine_spatial_sin_theta (k0 : Az) (k1 : Lon) (a b c : ℝ) (h2 : Canon2 k0 a b) (hr : 0 < rhoOf k0 a b)
    (h : CanonLon k0 k1 a b c) :
    sin (spatial_theta.eval k0 k1 a b c) = rhoOf k0 a b / sqrt (mag2Of k0 k1 a b c) := by
  rw [refine_spatial_theta k0 k1 a b c ⟨h2, h⟩ (Spec.mag2Of_pos hr), Spec.mag2Of_eq]
  exact L.sin_arccos_ratio hr

/-- the hypotheses are satisfiable for every key at a concrete point -/
example (k1 : Lon) : Canon3 .xy k1 3 4 1 ∧ 0 < mag2Of .xy k1 3 4 1 ∧ 0 < rhoOf .xy 3 4 ∧ TanOK k1 1 := by
  have hr : 0 < rhoOf .xy 3 4 := L.sqrt_sumsq_pos (Or.inl three_ne_zero)
  have hm : 0 < mag2Of .xy k1 3 4 1 := Spec.mag2Of_pos hr
  refine ⟨⟨trivial, ?_⟩, hm, hr, ?_⟩
  · cases k1
    · trivial
    · exact ⟨hr, one_pos, L.one_lt_pi⟩
    · exact hr
  · cases k1
    · trivial
    · exact Spec.tanOK_one .theta
    · trivial

end VR
