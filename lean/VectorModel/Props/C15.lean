/-
Property C15 — "In-place updates of object vectors match their functional equivalents".

Statements about the hand-written glue model (`Glue/Methods.lean`): the object vector as a state machine
(`setC`, `replaceData`, `stepE`, `step`, `run`, `runFinal`), for ALL scalar types `S`, truth types `B`, compute
layers `ev`, constants `K` and arithmetic `A`.  Facts needed about the compute layer (the nine identity accessors)
are the explicit hypothesis `IdLaws ev`, proved for the generated executable copy `Compute.eval` at every `[Scalar S]` in
`Props/C15Exec.lean`.
-/
import VectorModel.Lemmas.Glue

set_option linter.unusedVariables false
set_option linter.constructorNameAsVariable false
namespace VG
open VK

/-! ### well-formedness, coordinate groups -/

/-- the types of the library's 2D / 3D / 4D classes: no temporal coordinate without a longitudinal one -/
def WF (ty : VT) : Prop := ty.tmp.isSome → ty.lon.isSome

def WFV {S : Type} (v : Vec S) : Prop := WF v.ty ∧ v.c.length = v.ty.dim

inductive Grp | az | lon | tmp
  deriving DecidableEq, Repr

def CName.grp : CName → Grp
  | .x | .y | .rho | .phi => .az
  | .z | .theta | .eta => .lon
  | .t | .tau => .tmp

def CName.pos : CName → Nat
  | .x | .rho => 0
  | .y | .phi => 1
  | .z | .theta | .eta => 2
  | .t | .tau => 3

def CName.partner : CName → Option CName
  | .x => some .y | .y => some .x | .rho => some .phi | .phi => some .rho | _ => none

def CName.hasGroup (c : CName) (ty : VT) : Prop :=
  match c.grp with
  | .az => True
  | .lon => ty.lon.isSome
  | .tmp => ty.tmp.isSome

/-- the documented coordinate system after `v.<c> = a` -/
def CName.newTy (c : CName) (ty : VT) : VT :=
  match c with
  | .x | .y => { ty with az := .xy }
  | .rho | .phi => { ty with az := .rhophi }
  | .z => { ty with lon := some .z }
  | .theta => { ty with lon := some .theta }
  | .eta => { ty with lon := some .eta }
  | .t => { ty with tmp := some .t }
  | .tau => { ty with tmp := some .tau }

/-- names of the stored coordinates of a type, in storage order -/
def coordNames (ty : VT) : List CName :=
  azCNames ty.az ++ (ty.lon.toList.map lonCName) ++ (ty.tmp.toList.map tmpCName)

section
variable {S B : Type}

/-! ### shape of well-formed vectors -/

theorem c15_wfv_cases {v : Vec S} (hv : WFV v) :
    (∃ be mom az a b, v = ⟨⟨be, mom, az, none, none⟩, [a, b]⟩) ∨
    (∃ be mom az l a b c, v = ⟨⟨be, mom, az, some l, none⟩, [a, b, c]⟩) ∨
    (∃ be mom az l t a b c d, v = ⟨⟨be, mom, az, some l, some t⟩, [a, b, c, d]⟩) :=
  Vec.wf_cases hv.1 hv.2

theorem VT.lon_isSome_iff {ty : VT} (hw : WF ty) : ty.lon.isSome ↔ 2 < ty.dim := by
  obtain ⟨be, mom, az, lon, tmp⟩ := ty
  cases lon <;> cases tmp <;> simp [WF, VT.dim] at hw ⊢

theorem VT.tmp_isSome_iff {ty : VT} (hw : WF ty) : ty.tmp.isSome ↔ 3 < ty.dim := by
  obtain ⟨be, mom, az, lon, tmp⟩ := ty
  cases lon <;> cases tmp <;> simp [WF, VT.dim] at hw ⊢

/-! ### coordinate names: group, position, partner, stored names -/

theorem CName.grp_eq (c : CName) : c.grp = if c.pos < 2 then .az else if c.pos = 2 then .lon else .tmp := by
  cases c <;> rfl

theorem CName.pos_ne {n c : CName} (h : n.grp ≠ c.grp) : c.pos ≠ n.pos :=
  fun hp => h (by rw [n.grp_eq, c.grp_eq, hp])

theorem CName.pos_spec (c : CName) :
    (c.grp ≠ .az → 2 ≤ c.pos) ∧ (c.grp ≠ .lon → c.pos ≠ 2) ∧ (c.grp ≠ .tmp → c.pos ≠ 3) := by
  cases c <;> decide

theorem CName.partner_spec {c p : CName} (h : c.partner = some p) : c.grp = .az ∧ p.grp = .az ∧ c.pos ≠ p.pos := by
  cases c <;> cases h <;> exact ⟨rfl, rfl, by decide⟩

theorem CName.partner_none {c : CName} (h : c.partner = none) : c.grp ≠ .az := by
  cases c <;> simp [CName.partner, CName.grp] at h ⊢

theorem CName.hasGroup_az {c : CName} (h : c.grp = .az) (ty : VT) : c.hasGroup ty := by
  unfold CName.hasGroup
  rw [h]
  trivial

theorem CName.hasGroup_iff {c : CName} {ty : VT} (hw : WF ty) : c.hasGroup ty ↔ c.pos < ty.dim := by
  cases c
  case z | theta | eta => exact VT.lon_isSome_iff hw
  case t | tau => exact VT.tmp_isSome_iff hw
  all_goals exact ⟨fun _ => by simp [CName.pos, VT.dim]; omega, fun _ => trivial⟩

theorem CName.newTy_spec (c : CName) (ty : VT) :
    (c.newTy ty).be = ty.be ∧ (c.newTy ty).mom = ty.mom ∧ (c.grp ≠ .az → (c.newTy ty).az = ty.az) ∧
    (c.grp ≠ .lon → (c.newTy ty).lon = ty.lon) ∧ (c.grp ≠ .tmp → (c.newTy ty).tmp = ty.tmp) := by
  cases c <;> simp [CName.newTy, CName.grp]

theorem CName.newTy_wf {c : CName} {ty : VT} (hw : WF ty) (hg : c.hasGroup ty) :
    (c.newTy ty).dim = ty.dim ∧ WF (c.newTy ty) := by
  cases c
  case z | theta | eta => exact ⟨by unfold VT.dim; rw [show ty.lon.isSome = true from hg]; rfl, fun _ => rfl⟩
  case t | tau => exact ⟨by unfold VT.dim; rw [show ty.tmp.isSome = true from hg]; rfl, fun _ => hw hg⟩
  all_goals exact ⟨rfl, hw⟩

theorem mem_azCNames_grp {n : CName} {az : Az} (h : n ∈ azCNames az) : n.grp = .az := by
  cases az <;> simp only [azCNames, List.mem_cons, List.not_mem_nil, or_false] at h <;> rcases h with rfl | rfl <;> rfl

theorem lonCName_grp (l : Lon) : (lonCName l).grp = .lon := by cases l <;> rfl

theorem lonCName_pos (l : Lon) : (lonCName l).pos = 2 := by cases l <;> rfl

theorem tmpCName_grp (t : Tmp) : (tmpCName t).grp = .tmp := by cases t <;> rfl

theorem tmpCName_pos (t : Tmp) : (tmpCName t).pos = 3 := by cases t <;> rfl

theorem mem_coordNames {n : CName} {ty : VT} :
    n ∈ coordNames ty ↔
      n ∈ azCNames ty.az ∨ (∃ l, ty.lon = some l ∧ n = lonCName l) ∨ (∃ t, ty.tmp = some t ∧ n = tmpCName t) := by
  simp [coordNames, eq_comm]

theorem c15_coordNames_length (ty : VT) : (coordNames ty).length = ty.dim := by
  obtain ⟨be, mom, az, lon, tmp⟩ := ty
  cases az <;> cases lon <;> cases tmp <;> rfl

theorem hasGroup_of_mem_coordNames {n : CName} {ty : VT} (h : n ∈ coordNames ty) : n.hasGroup ty := by
  rcases mem_coordNames.1 h with h | ⟨l, hl, rfl⟩ | ⟨t, ht, rfl⟩
  · exact CName.hasGroup_az (mem_azCNames_grp h) ty
  all_goals unfold CName.hasGroup
  · rw [lonCName_grp]; simp [hl]
  · rw [tmpCName_grp]; simp [ht]

/-! ### coordinate assignment -/

private theorem map_ok_iff {α β : Type} {x : Except Err α} {f : α → β} {r : β} :
    f <$> x = .ok r ↔ ∃ y, x = .ok y ∧ f y = r := by
  cases x <;> simp [Functor.map, Except.map]

/-- assignment on a class that has the group, in closed form: the partner of an azimuthal name is read through its
accessor and written at its position, `a` is written at the position of `c`, the type becomes `c.newTy` -/
theorem c15_setC_eq_set {ev : Ev S B} {c : CName} {a : S} {v : Vec S} (hv : WFV v) (hg : c.hasGroup v.ty) :
    setC ev c a v = (fun w => ⟨c.newTy v.ty, w.set c.pos a⟩) <$>
      (match c.partner with
       | none => .ok v.c
       | some p => (v.c.set p.pos) <$> getS ev p.acc v) := by
  rcases c15_wfv_cases hv with ⟨be, mom, az, p, q, rfl⟩ | ⟨be, mom, az, l, p, q, r, rfl⟩ |
      ⟨be, mom, az, l, t, p, q, r, s, rfl⟩
  all_goals
    cases c
    case x | y | rho | phi => simp only [setC, CName.partner, CName.acc]; cases getS ev _ _ <;> rfl
    all_goals first | rfl | exact Bool.noConfusion hg

theorem c15_setC_ok {ev : Ev S B} {c : CName} {a : S} {v v' : Vec S} (hv : WFV v) (hg : c.hasGroup v.ty)
    (h : setC ev c a v = .ok v') :
    ∃ w, v' = ⟨c.newTy v.ty, w.set c.pos a⟩ ∧
      ((c.grp ≠ .az ∧ w = v.c) ∨ ∃ p b, c.partner = some p ∧ getS ev p.acc v = .ok b ∧ w = v.c.set p.pos b) := by
  rw [c15_setC_eq_set hv hg, map_ok_iff] at h
  obtain ⟨w, hw, rfl⟩ := h
  refine ⟨w, rfl, ?_⟩
  split at hw
  next hp => cases hw; exact .inl ⟨CName.partner_none hp, rfl⟩
  next p hp =>
    obtain ⟨b, hb, rfl⟩ := map_ok_iff.1 hw
    exact .inr ⟨p, b, hp, hb, rfl⟩

private theorem take_drop_set (l : List S) (a : S) {i j : Nat} (h : i ≠ j) :
    ((l.set i a).drop j).take 1 = (l.drop j).take 1 := by
  rw [List.drop_set]
  split
  · rfl
  · exact List.take_set_of_le (by omega)

private theorem el_set (c : CName) {ty ty' : VT} (l : List S) (a : S) :
    (c.grp ≠ .az → Vec.azEl ⟨ty', l.set c.pos a⟩ = Vec.azEl ⟨ty, l⟩) ∧
    (c.grp ≠ .lon → ty'.lon = ty.lon → Vec.lonEl ⟨ty', l.set c.pos a⟩ = Vec.lonEl ⟨ty, l⟩) ∧
    (c.grp ≠ .tmp → ty'.tmp = ty.tmp → Vec.tmpEl ⟨ty', l.set c.pos a⟩ = Vec.tmpEl ⟨ty, l⟩) := by
  obtain ⟨p1, p2, p3⟩ := c.pos_spec
  refine ⟨fun h => List.take_set_of_le (p1 h), fun h e => ?_, fun h e => ?_⟩
  · simp only [Vec.lonEl, e, take_drop_set l a (p2 h)]
  · simp only [Vec.tmpEl, e, take_drop_set l a (p3 h)]

theorem c15_setC_spec {ev : Ev S B} {c : CName} {a : S} {v v' : Vec S}
    (hv : WFV v) (hg : c.hasGroup v.ty) (h : setC ev c a v = .ok v') :
    v'.ty = c.newTy v.ty ∧ v'.c[c.pos]? = some a ∧ v'.c.length = v.c.length ∧
    (c.grp ≠ .az → v'.azEl = v.azEl) ∧ (c.grp ≠ .lon → v'.lonEl = v.lonEl) ∧
    (c.grp ≠ .tmp → v'.tmpEl = v.tmpEl) := by
  obtain ⟨w, rfl, hw⟩ := c15_setC_ok hv hg h
  obtain ⟨-, -, -, hlon, htmp⟩ := c.newTy_spec v.ty
  have hpos : c.pos < v.c.length := hv.2 ▸ (CName.hasGroup_iff hv.1).1 hg
  obtain ⟨h1, h2, h3⟩ := el_set c (ty := v.ty) (ty' := c.newTy v.ty) w a
  rcases hw with ⟨-, rfl⟩ | ⟨p, b, hp, -, rfl⟩
  · exact ⟨rfl, List.getElem?_set_self hpos, List.length_set, h1, fun hl => h2 hl (hlon hl),
      fun ht => h3 ht (htmp ht)⟩
  · -- the partner's position is azimuthal too
    obtain ⟨hc, hpg, -⟩ := CName.partner_spec hp
    obtain ⟨-, k2, k3⟩ := el_set p (ty := v.ty) (ty' := v.ty) v.c b
    rw [hpg] at k2 k3
    exact ⟨rfl, List.getElem?_set_self (by rwa [List.length_set]), by rw [List.length_set, List.length_set],
      fun hne => absurd hc hne, fun hl => (h2 hl (hlon hl)).trans (k2 nofun rfl),
      fun ht => (h3 ht (htmp ht)).trans (k3 nofun rfl)⟩

/-- a coordinate name of a group the (well-formed) vector does not have is a plain attribute: no effect -/
theorem c15_setC_noGroup {ev : Ev S B} {c : CName} {a : S} {v : Vec S}
    (hv : WFV v) (hg : ¬ c.hasGroup v.ty) : setC ev c a v = .ok v := by
  have hd : v.ty.dim ≤ c.pos := Nat.le_of_not_lt fun h => hg ((CName.hasGroup_iff hv.1).2 h)
  cases c
  case x | y | rho | phi => exact absurd trivial hg
  all_goals exact if_pos (Nat.lt_succ_of_le hd)

theorem c15_setC_inv {ev : Ev S B} {c : CName} {a : S} {v v' : Vec S}
    (hv : WFV v) (h : setC ev c a v = .ok v') :
    v'.ty.be = v.ty.be ∧ v'.ty.mom = v.ty.mom ∧ v'.ty.dim = v.ty.dim ∧ WFV v' := by
  by_cases hg : c.hasGroup v.ty
  · obtain ⟨hty, -, hlen, -⟩ := c15_setC_spec hv hg h
    obtain ⟨hbe, hmom, -⟩ := c.newTy_spec v.ty
    obtain ⟨hdim, hwf⟩ := CName.newTy_wf hv.1 hg
    rw [← hty] at hbe hmom hdim hwf
    exact ⟨hbe, hmom, hdim, hwf, by rw [hlen, hv.2, hdim]⟩
  · rw [c15_setC_noGroup hv hg] at h
    cases h
    exact ⟨rfl, rfl, rfl, hv⟩

theorem c15_setC_other_pos {ev : Ev S B} {c n : CName} {a : S} {v v' : Vec S}
    (hv : WFV v) (hg : c.hasGroup v.ty) (h : setC ev c a v = .ok v') (hn : n.grp ≠ c.grp) :
    v'.c[n.pos]? = v.c[n.pos]? := by
  obtain ⟨w, rfl, hw⟩ := c15_setC_ok hv hg h
  rw [List.getElem?_set_ne (CName.pos_ne hn)]
  rcases hw with ⟨-, rfl⟩ | ⟨p, b, hp, -, rfl⟩
  · rfl
  · obtain ⟨hc, hpg, -⟩ := CName.partner_spec hp
    exact List.getElem?_set_ne (CName.pos_ne (hpg ▸ hc ▸ hn))

theorem c15_setC_partner_stored {ev : Ev S B} {c p : CName} {a : S} {v v' : Vec S}
    (hv : WFV v) (h : setC ev c a v = .ok v') (hp : c.partner = some p) :
    ∃ b, getS ev p.acc v = .ok b ∧ v'.c[p.pos]? = some b := by
  obtain ⟨hc, hpg, hne⟩ := CName.partner_spec hp
  have hpos : p.pos < v.c.length := hv.2 ▸ (CName.hasGroup_iff hv.1).1 (CName.hasGroup_az hpg _)
  obtain ⟨w, rfl, ⟨hc', -⟩ | ⟨p', b, hp', hb, rfl⟩⟩ := c15_setC_ok hv (CName.hasGroup_az hc _) h
  · exact absurd hc hc'
  · cases hp.symm.trans hp'
    exact ⟨b, hb, by rw [List.getElem?_set_ne hne, List.getElem?_set_self hpos]⟩

/-! ### `_replace_data` -/

private theorem mapM_optName {α : Type} (o : Option α) (g : α → CName) (f : CName → Except Err S) :
    (o.toList.map g).mapM f = match o with
      | some l => (do let s ← f (g l); pure [s])
      | none => pure [] := by
  cases o
  · rfl
  · simp [List.mapM_cons, List.mapM_nil]

/-- `_replace_data` by definition: same type, every stored coordinate (in the object's OWN system) is the accessor of
that name on the result -/
theorem c15_replaceData_eq (ev : Ev S B) (v r : Vec S) :
    replaceData ev v r =
      ((coordNames v.ty).mapM (fun n => getS ev n.acc r)).map (fun c => (⟨v.ty, c⟩ : Vec S)) := by
  simp only [replaceData, coordNames, List.mapM_append, mapM_optName]
  show _ = _ <$> _
  simp only [map_bind, bind_assoc, map_pure, pure_bind]
  cases v.ty.lon <;> cases v.ty.tmp <;> simp only [bind_assoc, pure_bind]

private theorem bind_ok_iff {α β : Type} {x : Except Err α} {f : α → Except Err β} {r : β} :
    (x >>= f) = .ok r ↔ ∃ y, x = .ok y ∧ f y = .ok r := by
  cases x <;> simp [bind, Except.bind]

private theorem mapM_ok_spec {α β : Type} {f : α → Except Err β} :
    ∀ {l : List α} {r : List β}, l.mapM f = .ok r →
      r.length = l.length ∧ ∀ (i : Nat) (x : α), l[i]? = some x → ∃ y, r[i]? = some y ∧ f x = .ok y
  | [], r, h => by
    simp [List.mapM_nil, pure, Except.pure] at h
    subst h; simp
  | a :: l, r, h => by
    simp only [List.mapM_cons, bind_ok_iff, pure, Except.pure] at h
    obtain ⟨y, hy, ys, hys, h⟩ := h
    cases h
    obtain ⟨hl, hi⟩ := mapM_ok_spec hys
    refine ⟨by simp [hl], ?_⟩
    intro i x hx
    cases i with
    | zero => simp at hx; subst hx; exact ⟨y, by simp, hy⟩
    | succ i => simpa using hi i x (by simpa using hx)

theorem c15_replaceData_spec {ev : Ev S B} {v r v' : Vec S} (h : replaceData ev v r = .ok v') :
    v'.ty = v.ty ∧ v'.c.length = v.ty.dim ∧
    ∀ (i : Nat) (n : CName), (coordNames v.ty)[i]? = some n → ∃ s, v'.c[i]? = some s ∧ getS ev n.acc r = .ok s := by
  rw [c15_replaceData_eq] at h
  cases hm : (coordNames v.ty).mapM (fun n => getS ev n.acc r) with
  | error e => simp [hm, Except.map] at h
  | ok c =>
    simp [hm, Except.map] at h
    subst h
    obtain ⟨hl, hi⟩ := mapM_ok_spec hm
    exact ⟨rfl, by simp [hl, c15_coordNames_length], hi⟩

theorem c15_replaceData_wfv {ev : Ev S B} {v r v' : Vec S} (hv : WF v.ty) (h : replaceData ev v r = .ok v') :
    WFV v' := by
  obtain ⟨ht, hl, -⟩ := c15_replaceData_spec h
  exact ⟨ht ▸ hv, by rw [hl, ht]⟩

/-! ### one step -/

def Step.isIop : Step S → Bool
  | .iopV _ _ | .iopS _ _ => true
  | _ => false

/-- functional equivalence (true by definition of the model): an in-place operator whose functional counterpart
returns the vector `r` is `_replace_data` of `r` into the object -/
theorem c15_stepE_functional {ev : Ev S B} {K : Consts S} {A : Arith S} {v r : Vec S} {st : Step S}
    (h : iopResult ev K A v st = .ok (.vec r)) : stepE ev K A v st = replaceData ev v r := by
  cases st with
  | set c a => simp [iopResult] at h
  | setReadOnly => simp [iopResult] at h
  | setOther => simp [iopResult] at h
  | iopV op o => simp only [stepE, h]
  | iopS op f => simp only [stepE, h]

theorem c15_stepE_functional_spec {ev : Ev S B} {K : Consts S} {A : Arith S} {v r v' : Vec S} {st : Step S}
    (h : iopResult ev K A v st = .ok (.vec r)) (h' : stepE ev K A v st = .ok v') :
    v'.ty = v.ty ∧ v'.c.length = v.ty.dim ∧
    ∀ (i : Nat) (n : CName), (coordNames v.ty)[i]? = some n → ∃ s, v'.c[i]? = some s ∧ getS ev n.acc r = .ok s :=
  c15_replaceData_spec (c15_stepE_functional h ▸ h')

/-- the in-place operators are exactly `+=`/`-=` with a vector (add/subtract) and `*=`/`/=` with a scalar (scale) -/
theorem c15_iopResult_eq (ev : Ev S B) (K : Consts S) (A : Arith S) (v o : Vec S) (f : S) :
    iopResult ev K A v (.iopV .add o) = binary ev K .add v o [] ∧
    iopResult ev K A v (.iopV .sub o) = binary ev K .subtract v o [] ∧
    iopResult ev K A v (.iopS .mul f) = scaleN ev v.ty.dim f v ∧
    iopResult ev K A v (.iopS .div f) = scaleN ev v.ty.dim (A.inv f) v ∧
    iopResult ev K A v (.iopV .mul o) = .error .typeError ∧
    iopResult ev K A v (.iopV .div o) = .error .typeError ∧
    iopResult ev K A v (.iopS .add f) = .error .typeError ∧
    iopResult ev K A v (.iopS .sub f) = .error .typeError :=
  ⟨rfl, rfl, rfl, rfl, rfl, rfl, rfl, rfl⟩

theorem c15_stepE_iop_ty {ev : Ev S B} {K : Consts S} {A : Arith S} {v v' : Vec S} {st : Step S}
    (hst : st.isIop) (h : stepE ev K A v st = .ok v') : v'.ty = v.ty ∧ v'.c.length = v.ty.dim := by
  cases st <;> simp [Step.isIop] at hst <;>
    · simp only [stepE] at h
      split at h
      · exact ⟨(c15_replaceData_spec h).1, (c15_replaceData_spec h).2.1⟩
      · cases h
      · cases h

theorem c15_stepE_inv {ev : Ev S B} {K : Consts S} {A : Arith S} {v v' : Vec S} {st : Step S}
    (hv : WFV v) (h : stepE ev K A v st = .ok v') :
    v'.ty.be = v.ty.be ∧ v'.ty.mom = v.ty.mom ∧ v'.ty.dim = v.ty.dim ∧ WFV v' := by
  cases st with
  | set c a => exact c15_setC_inv hv h
  | setReadOnly => simp [stepE] at h
  | setOther => simp [stepE] at h; subst h; exact ⟨rfl, rfl, rfl, hv⟩
  | iopV op o =>
    obtain ⟨ht, hl⟩ := c15_stepE_iop_ty (st := .iopV op o) rfl h
    exact ⟨by rw [ht], by rw [ht], by rw [ht], ht ▸ hv.1, by rw [hl, ht]⟩
  | iopS op f =>
    obtain ⟨ht, hl⟩ := c15_stepE_iop_ty (st := .iopS op f) rfl h
    exact ⟨by rw [ht], by rw [ht], by rw [ht], ht ▸ hv.1, by rw [hl, ht]⟩

theorem c15_step_ok {ev : Ev S B} {K : Consts S} {A : Arith S} {v v' : Vec S} {st : Step S}
    (h : stepE ev K A v st = .ok v') : step ev K A v st = (v', none) := by
  simp [step, h]

theorem c15_step_error {ev : Ev S B} {K : Consts S} {A : Arith S} {v : Vec S} {st : Step S} {e : Err}
    (h : stepE ev K A v st = .error e) : step ev K A v st = (v, some e) := by
  simp [step, h]

theorem c15_step_raise_unchanged {ev : Ev S B} {K : Consts S} {A : Arith S} {v : Vec S} {st : Step S} {e : Err}
    (h : (step ev K A v st).2 = some e) : (step ev K A v st).1 = v ∧ stepE ev K A v st = .error e := by
  cases hs : stepE ev K A v st with
  | ok v' => simp [step, hs] at h
  | error e' => simp [step, hs] at h ⊢; exact h

theorem c15_step_noraise {ev : Ev S B} {K : Consts S} {A : Arith S} {v : Vec S} {st : Step S}
    (h : (step ev K A v st).2 = none) : stepE ev K A v st = .ok (step ev K A v st).1 := by
  cases hs : stepE ev K A v st with
  | ok v' => simp [step, hs]
  | error e' => simp [step, hs] at h

theorem c15_step_inv {ev : Ev S B} {K : Consts S} {A : Arith S} {v : Vec S} (hv : WFV v) (st : Step S) :
    (step ev K A v st).1.ty.be = v.ty.be ∧ (step ev K A v st).1.ty.mom = v.ty.mom ∧
    (step ev K A v st).1.ty.dim = v.ty.dim ∧ WF (step ev K A v st).1.ty ∧
    (step ev K A v st).1.c.length = v.c.length := by
  cases hs : stepE ev K A v st with
  | ok v' =>
    obtain ⟨h1, h2, h3, h4⟩ := c15_stepE_inv hv hs
    rw [c15_step_ok hs]
    exact ⟨h1, h2, h3, h4.1, by rw [h4.2, h3, hv.2]⟩
  | error e => rw [c15_step_error hs]; exact ⟨rfl, rfl, rfl, hv.1, rfl⟩

theorem c15_step_wfv {ev : Ev S B} {K : Consts S} {A : Arith S} {v : Vec S} (hv : WFV v) (st : Step S) :
    WFV (step ev K A v st).1 := by
  obtain ⟨-, -, h3, h4, h5⟩ := c15_step_inv (ev := ev) (K := K) (A := A) hv st
  exact ⟨h4, by rw [h5, h3, hv.2]⟩

theorem c15_step_iop_ty {ev : Ev S B} {K : Consts S} {A : Arith S} {v : Vec S} {st : Step S} (hst : st.isIop) :
    (step ev K A v st).1.ty = v.ty := by
  cases hs : stepE ev K A v st with
  | ok v' => rw [c15_step_ok hs]; exact (c15_stepE_iop_ty hst hs).1
  | error e => rw [c15_step_error hs]

/-- assignment to a read-only property raises `AttributeError`; to a name that is no property it sets a plain instance attribute.
(`stepOfSet` also classifies the slot names `azimuthal`, `longitudinal`, `temporal` as `setOther`, although assigning to them
does change the object: C15 quantifies over coordinate names only.) -/
theorem c15_step_setReadOnly (ev : Ev S B) (K : Consts S) (A : Arith S) (v : Vec S) :
    step ev K A v .setReadOnly = (v, some .attributeError) := rfl

theorem c15_step_setOther (ev : Ev S B) (K : Consts S) (A : Arith S) (v : Vec S) :
    step ev K A v .setOther = (v, none) := rfl

/-! ### all histories -/

theorem c15_run_invariant {ev : Ev S B} {K : Consts S} {A : Arith S} (Q : Step S → Prop) (P : Vec S → Prop)
    (hstep : ∀ v st, Q st → P v → P (step ev K A v st).1) :
    ∀ (steps : List (Step S)) (v : Vec S), (∀ st ∈ steps, Q st) → P v →
      (∀ r ∈ run ev K A v steps, P r.1) ∧ P (runFinal ev K A v steps) := by
  intro steps
  induction steps with
  | nil => exact fun v _ hv => ⟨fun _ hr => absurd hr List.not_mem_nil, hv⟩
  | cons st rest ih =>
    intro v hq hv
    have h1 := hstep v st (hq st List.mem_cons_self) hv
    obtain ⟨g1, g2⟩ := ih _ (fun s hs => hq s (List.mem_cons_of_mem _ hs)) h1
    refine ⟨fun r hr => ?_, g2⟩
    rcases List.mem_cons.1 hr with rfl | hr
    · exact h1
    · exact g1 r hr

private theorem run_runFinal_inv {ev : Ev S B} {K : Consts S} {A : Arith S} (steps : List (Step S)) {v : Vec S} (hv : WFV v) :
    let P := fun w : Vec S => w.ty.be = v.ty.be ∧ w.ty.mom = v.ty.mom ∧ w.ty.dim = v.ty.dim ∧ WFV w
    (∀ r ∈ run ev K A v steps, P r.1) ∧ P (runFinal ev K A v steps) := by
  intro P
  refine c15_run_invariant (fun _ => True) P (fun w st _ g => ?_) steps v (fun _ _ => trivial) ⟨rfl, rfl, rfl, hv⟩
  obtain ⟨h1, h2, h3, -, -⟩ := c15_step_inv (ev := ev) (K := K) (A := A) g.2.2.2 st
  exact ⟨h1.trans g.1, h2.trans g.2.1, h3.trans g.2.2.1, c15_step_wfv g.2.2.2 st⟩

/-- **C15, invariants**: every state of every history from a well-formed vector has its backend, flavour and dimension, and
is well-formed -/
theorem c15_run_inv {ev : Ev S B} {K : Consts S} {A : Arith S} :
    ∀ (steps : List (Step S)) {v : Vec S}, WFV v →
      ∀ r ∈ run ev K A v steps, r.1.ty.be = v.ty.be ∧ r.1.ty.mom = v.ty.mom ∧ r.1.ty.dim = v.ty.dim ∧ WFV r.1 :=
  fun steps _ hv => (run_runFinal_inv steps hv).1

theorem c15_runFinal_inv {ev : Ev S B} {K : Consts S} {A : Arith S} :
    ∀ (steps : List (Step S)) {v : Vec S}, WFV v →
      (runFinal ev K A v steps).ty.be = v.ty.be ∧ (runFinal ev K A v steps).ty.mom = v.ty.mom ∧
      (runFinal ev K A v steps).ty.dim = v.ty.dim ∧ WFV (runFinal ev K A v steps) :=
  fun steps _ hv => (run_runFinal_inv steps hv).2

theorem c15_run_length {ev : Ev S B} {K : Consts S} {A : Arith S} :
    ∀ (steps : List (Step S)) (v : Vec S), (run ev K A v steps).length = steps.length
  | [], v => rfl
  | st :: rest, v => by simp [run, c15_run_length rest]

theorem c15_runFinal_eq_last {ev : Ev S B} {K : Consts S} {A : Arith S} :
    ∀ (steps : List (Step S)) (v : Vec S),
      runFinal ev K A v steps = ((run ev K A v steps).getLast?.map (·.1)).getD v
  | [], v => rfl
  | [st], v => by simp [run, runFinal]
  | st :: st' :: rest, v => by
    have h := c15_runFinal_eq_last (ev := ev) (K := K) (A := A) (st' :: rest) (step ev K A v st).1
    rw [runFinal, h]
    simp [run, List.getLast?_cons]

/-- a history of in-place operators only never changes the type (class and coordinate system); no well-formedness
needed -/
theorem c15_run_iop_ty {ev : Ev S B} {K : Consts S} {A : Arith S} :
    ∀ (steps : List (Step S)) (v : Vec S), (∀ st ∈ steps, st.isIop) →
      (∀ r ∈ run ev K A v steps, r.1.ty = v.ty) ∧ (runFinal ev K A v steps).ty = v.ty :=
  fun steps v h => c15_run_invariant (fun st => st.isIop) (fun w => w.ty = v.ty)
    (fun w st hq hw => (c15_step_iop_ty hq).trans hw) steps v h rfl

theorem c15_run_raise_skip {ev : Ev S B} {K : Consts S} {A : Arith S} {v : Vec S} {st : Step S} {e : Err}
    (rest : List (Step S)) (h : stepE ev K A v st = .error e) :
    run ev K A v (st :: rest) = (v, some e) :: run ev K A v rest ∧
    runFinal ev K A v (st :: rest) = runFinal ev K A v rest := by
  simp [run, runFinal, c15_step_error h]

/-! ### read-back -/

/-- the nine identity accessors of the compute layer: the accessor named like a stored coordinate returns it -/
structure IdLaws (ev : Ev S B) : Prop where
  x : ∀ a b, ev .planar_x [.az .xy] [a, b] = some (.vals [a], .float)
  y : ∀ a b, ev .planar_y [.az .xy] [a, b] = some (.vals [b], .float)
  rho : ∀ a b, ev .planar_rho [.az .rhophi] [a, b] = some (.vals [a], .float)
  phi : ∀ a b, ev .planar_phi [.az .rhophi] [a, b] = some (.vals [b], .float)
  z : ∀ az a b c, ev .spatial_z [.az az, .lon .z] [a, b, c] = some (.vals [c], .float)
  theta : ∀ az a b c, ev .spatial_theta [.az az, .lon .theta] [a, b, c] = some (.vals [c], .float)
  eta : ∀ az a b c, ev .spatial_eta [.az az, .lon .eta] [a, b, c] = some (.vals [c], .float)
  t : ∀ az lon a b c d, ev .lorentz_t [.az az, .lon lon, .tmp .t] [a, b, c, d] = some (.vals [d], .float)
  tau : ∀ az lon a b c d, ev .lorentz_tau [.az az, .lon lon, .tmp .tau] [a, b, c, d] = some (.vals [d], .float)

theorem c15_dispatch_self (ev : Ev S B) (m : ModuleId) (sc : List S) (v : Vec S) {k : Nat}
    (hk : operandSlots m.info.shape = [k]) :
    dispatch ev m sc none [v] [v] =
      match operandKey v k with
      | none => .error .attributeError
      | some (key, args) =>
        match ev m key (sc ++ args) with
        | none => .error .typeError
        | some (out, ret) => wrapResult v v.ty.be v.ty.mom out ret := by
  cases h : operandKey v k <;> simp [dispatch_eq, dispatchArgs, hk, h, handlerOf_single] <;> rfl

theorem c15_getS_of_ev {ev : Ev S B} {a : Acc} {v : Vec S} {k : Nat} {key : List KA} {args : List S} {s : S}
    (hk : operandSlots a.mod.info.shape = [k]) (hkey : operandKey v k = some (key, args))
    (hneed : a.need ≤ v.ty.dim) (hmom : a.momOnly = false)
    (hev : ev a.mod key args = some (.vals [s], .float)) : getS ev a v = .ok s := by
  simp [getS, getAcc, c15_dispatch_self ev _ _ v hk, hkey, hev, hmom, Nat.not_lt.2 hneed, wrapResult]

theorem c15_getS_az {ev : Ev S B} (hid : IdLaws ev) {ty : VT} {n : CName} (hn : n ∈ azCNames ty.az) {a b s : S}
    {r : List S} (hs : (a :: b :: r)[n.pos]? = some s) : getS ev n.acc ⟨ty, a :: b :: r⟩ = .ok s := by
  have hd : 2 ≤ ty.dim := by unfold VT.dim; omega
  obtain ⟨be, mom, az, lon, tmp⟩ := ty
  cases az <;> simp only [azCNames, List.mem_cons, List.not_mem_nil, or_false] at hn <;> rcases hn with rfl | rfl <;>
    cases hs
  · exact c15_getS_of_ev (k := 1) rfl rfl hd rfl (hid.x _ _)
  · exact c15_getS_of_ev (k := 1) rfl rfl hd rfl (hid.y _ _)
  · exact c15_getS_of_ev (k := 1) rfl rfl hd rfl (hid.rho _ _)
  · exact c15_getS_of_ev (k := 1) rfl rfl hd rfl (hid.phi _ _)

theorem c15_mapM_getS_az {ev : Ev S B} (hid : IdLaws ev) (ty : VT) (a b : S) (r : List S) :
    (azCNames ty.az).mapM (fun n => getS ev n.acc ⟨ty, a :: b :: r⟩) = .ok [a, b] := by
  have h : ∀ n ∈ azCNames ty.az, ∀ s, (a :: b :: r)[n.pos]? = some s → _ := fun n hn s => c15_getS_az hid hn
  obtain ⟨be, mom, az, lon, tmp⟩ := ty
  cases az <;> simp only [azCNames, List.mapM_cons, List.mapM_nil] <;>
    rw [h _ (.head _) a rfl, h _ (.tail _ (.head _)) b rfl] <;> rfl

theorem c15_getS_lon {ev : Ev S B} (hid : IdLaws ev) (be mom az l tmp) (a b c : S) (r : List S) :
    getS ev (lonCName l).acc ⟨⟨be, mom, az, some l, tmp⟩, a :: b :: c :: r⟩ = .ok c := by
  have hd : 3 ≤ (⟨be, mom, az, some l, tmp⟩ : VT).dim := by simp [VT.dim]
  cases l
  · exact c15_getS_of_ev (k := 2) rfl rfl hd rfl (hid.z _ _ _ _)
  · exact c15_getS_of_ev (k := 2) rfl rfl hd rfl (hid.theta _ _ _ _)
  · exact c15_getS_of_ev (k := 2) rfl rfl hd rfl (hid.eta _ _ _ _)

theorem c15_getS_tmp {ev : Ev S B} (hid : IdLaws ev) (be mom az l t) (a b c d : S) (r : List S) :
    getS ev (tmpCName t).acc ⟨⟨be, mom, az, some l, some t⟩, a :: b :: c :: d :: r⟩ = .ok d := by
  cases t
  · exact c15_getS_of_ev (k := 3) rfl rfl (Nat.le_refl 4) rfl (hid.t _ _ _ _ _ _)
  · exact c15_getS_of_ev (k := 3) rfl rfl (Nat.le_refl 4) rfl (hid.tau _ _ _ _ _ _)

/-- on a well-formed vector, the accessor of every STORED coordinate returns exactly the stored value -/
theorem c15_get_stored {ev : Ev S B} (hid : IdLaws ev) {v : Vec S} (hv : WFV v) {n : CName}
    (hn : n ∈ coordNames v.ty) {s : S} (hs : v.c[n.pos]? = some s) : getS ev n.acc v = .ok s := by
  rcases c15_wfv_cases hv with ⟨be, mom, az, p, q, rfl⟩ | ⟨be, mom, az, l, p, q, r, rfl⟩ |
      ⟨be, mom, az, l, t, p, q, r, s', rfl⟩ <;>
    rcases mem_coordNames.1 hn with h | ⟨_, ⟨⟩, rfl⟩ | ⟨_, ⟨⟩, rfl⟩
  · exact c15_getS_az hid h hs
  · exact c15_getS_az hid h hs
  · rw [lonCName_pos] at hs
    cases hs
    exact c15_getS_lon hid ..
  · exact c15_getS_az hid h hs
  · rw [lonCName_pos] at hs
    cases hs
    exact c15_getS_lon hid ..
  · rw [tmpCName_pos] at hs
    cases hs
    exact c15_getS_tmp hid ..

private theorem mem_coordNames_newTy (c : CName) (ty : VT) : c ∈ coordNames (c.newTy ty) := by
  cases c
  case x | rho => exact mem_coordNames.2 (.inl (.head _))
  case y | phi => exact mem_coordNames.2 (.inl (.tail _ (.head _)))
  case z | theta | eta => exact mem_coordNames.2 (.inr (.inl ⟨_, rfl, rfl⟩))
  case t | tau => exact mem_coordNames.2 (.inr (.inr ⟨_, rfl, rfl⟩))

private theorem partner_mem_coordNames_newTy {c p : CName} (hp : c.partner = some p) (ty : VT) :
    p ∈ coordNames (c.newTy ty) := by
  cases c <;> cases hp
  case x | rho => exact mem_coordNames.2 (.inl (.tail _ (.head _)))
  case y | phi => exact mem_coordNames.2 (.inl (.head _))

private theorem other_mem_coordNames_newTy {c n : CName} (hn : n.grp ≠ c.grp) {ty : VT} (h : n ∈ coordNames ty) :
    n ∈ coordNames (c.newTy ty) := by
  obtain ⟨-, -, haz, hlon, htmp⟩ := c.newTy_spec ty
  rw [mem_coordNames] at h ⊢
  rcases h with h | ⟨l, hl, rfl⟩ | ⟨t, ht, rfl⟩
  · exact .inl (by rwa [haz (mem_azCNames_grp h ▸ hn.symm)])
  · exact .inr (.inl ⟨l, by rwa [hlon (lonCName_grp l ▸ hn.symm)], rfl⟩)
  · exact .inr (.inr ⟨t, by rwa [htmp (tmpCName_grp t ▸ hn.symm)], rfl⟩)

theorem c15_stored_pos {v : Vec S} (hv : WFV v) {n : CName} (hn : n ∈ coordNames v.ty) :
    ∃ s, v.c[n.pos]? = some s :=
  have h : n.pos < v.c.length := hv.2 ▸ (CName.hasGroup_iff hv.1).1 (hasGroup_of_mem_coordNames hn)
  ⟨_, List.getElem?_eq_getElem h⟩

/-- **C15, read-back**: the coordinate just assigned reads back exactly -/
theorem c15_readback {ev : Ev S B} (hid : IdLaws ev) {c : CName} {a : S} {v v' : Vec S}
    (hv : WFV v) (hg : c.hasGroup v.ty) (h : setC ev c a v = .ok v') : getS ev c.acc v' = .ok a := by
  obtain ⟨hty, hpos, -⟩ := c15_setC_spec hv hg h
  exact c15_get_stored hid (c15_setC_inv hv h).2.2.2 (hty ▸ mem_coordNames_newTy c v.ty) hpos

/-- the partner coordinate reads (after the assignment) as the value that was stored for it, which is the value it
read as BEFORE the assignment -/
theorem c15_readback_partner {ev : Ev S B} (hid : IdLaws ev) {c p : CName} {a : S} {v v' : Vec S}
    (hv : WFV v) (h : setC ev c a v = .ok v') (hp : c.partner = some p) :
    ∃ b, getS ev p.acc v = .ok b ∧ v'.c[p.pos]? = some b ∧ getS ev p.acc v' = .ok b := by
  have hg : c.hasGroup v.ty := CName.hasGroup_az (CName.partner_spec hp).1 _
  obtain ⟨hty, -⟩ := c15_setC_spec hv hg h
  obtain ⟨b, hb, hpos⟩ := c15_setC_partner_stored hv h hp
  exact ⟨b, hb, hpos,
    c15_get_stored hid (c15_setC_inv hv h).2.2.2 (hty ▸ partner_mem_coordNames_newTy hp v.ty) hpos⟩

/-- the stored coordinates of the other groups read the same before and after the assignment -/
theorem c15_readback_other {ev : Ev S B} (hid : IdLaws ev) {c n : CName} {a : S} {v v' : Vec S}
    (hv : WFV v) (hg : c.hasGroup v.ty) (h : setC ev c a v = .ok v') (hn : n ∈ coordNames v.ty)
    (hgrp : n.grp ≠ c.grp) : getS ev n.acc v' = getS ev n.acc v := by
  obtain ⟨hty, -⟩ := c15_setC_spec hv hg h
  obtain ⟨s, hs⟩ := c15_stored_pos hv hn
  rw [c15_get_stored hid hv hn hs]
  exact c15_get_stored hid (c15_setC_inv hv h).2.2.2 (hty ▸ other_mem_coordNames_newTy hgrp hn)
    ((c15_setC_other_pos hv hg h hgrp).trans hs)

theorem c15_read_all_stored {ev : Ev S B} (hid : IdLaws ev) {r : Vec S} (hr : WFV r) :
    (coordNames r.ty).mapM (fun n => getS ev n.acc r) = .ok r.c := by
  rcases c15_wfv_cases hr with ⟨be, mom, az, p, q, rfl⟩ | ⟨be, mom, az, l, p, q, r', rfl⟩ |
      ⟨be, mom, az, l, t, p, q, r', s', rfl⟩ <;>
    simp only [coordNames, List.mapM_append, mapM_optName, c15_mapM_getS_az hid, c15_getS_lon hid, c15_getS_tmp hid] <;>
    rfl

/-- functional equivalence, concrete form: when the functional result `r` is well-formed and stored in the SAME
coordinate system as the object, `_replace_data` copies its coordinates verbatim (class and flavour stay the object's) -/
theorem c15_replaceData_same_system {ev : Ev S B} (hid : IdLaws ev) {v r : Vec S} (hr : WFV r)
    (haz : r.ty.az = v.ty.az) (hlon : r.ty.lon = v.ty.lon) (htmp : r.ty.tmp = v.ty.tmp) :
    replaceData ev v r = .ok ⟨v.ty, r.c⟩ := by
  have hc : coordNames v.ty = coordNames r.ty := by simp [coordNames, haz, hlon, htmp]
  rw [c15_replaceData_eq, hc, c15_read_all_stored hid hr]
  rfl

end

/-! ### link to the string layer: an assignment is classified as a setter step only when the class has the group -/

theorem c15_stepOfSet_hasGroup {S : Type} {ty : VT} (hw : WF ty) {name : String} {a a' : S} {c : CName}
    (h : stepOfSet ty name a = .set c a') : c.hasGroup ty ∧ a' = a := by
  have h2 : 2 ≤ ty.dim := by unfold VT.dim; omega
  unfold stepOfSet at h
  split at h
  next c' _ =>
    split at h
    · split at h <;> cases h
    · split at h
      · split at h <;> cases h
      · cases h
        rename_i h3 h4
        refine ⟨(CName.hasGroup_iff hw).2 ?_, rfl⟩
        cases c <;> simp [CName.pos] at h3 h4 ⊢ <;> omega
  next => split at h <;> cases h

end VG
