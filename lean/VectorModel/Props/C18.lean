/-
Property C18 — "Awkward arrays keep structure and extra fields through vector operations".

Statements about the hand-written model `Glue/Awkward.lean`, for ALL scalar types `S`, truth types `B` and ALL
operations `f` of the method layer (`f : Vec S → Except Err (Res S B)`, resp. two operands):

1. layouts: `map` (an operation on one array) and `zipWith` (two broadcast arrays) preserve list structure, nesting and
   missing-value positions (`shape`), `map` is a functor, selection commutes with `map`;
2. the DOCUMENTED field rule (`carry`, `unaryOp`, `binaryOp`, `arrayUnary`, `arrayBinary`);
3. the REAL `_wrap_result` branches with their literal exclusion tuples (`Branch`, `realWrap`): every tuple
   excludes `px`, `py` (`c18_real_px_py_excluded`), the longest one is exactly the coordinate spellings
   (`c18_real_exclAll_eq_coords`); HYPOTHESIS-FREE, for every field list: the three full branches carry exactly the
   documented fields (`c18_real_carried_eq_carry`), the two pass-through branches the documented fields plus stored
   longitudinal/temporal spellings only (`c18_real_carried_az`, `c18_real_carried_azLon`, `c18_real_carried_no_az`),
   the class is the class of `self` (`c18_real_dim_passthrough`); full agreement with the documented rule on records
   as `vector.Array`/`vector.zip` build them (`c18_real_agrees`); concrete witnesses on raw records, replayed on the
   real code (`c18_real_raw_*`), and the one remaining deviation, field ORDER (`c18_real_deviation_order`).
-/
import VectorModel.Glue.Awkward
import VectorModel.Lemmas.Glue

set_option linter.unusedVariables false
set_option linter.constructorNameAsVariable false
namespace VG
open VK

/-! ## 1. layouts -/

section
variable {α β γ ε : Type}

/-! A list of layouts is mapped, flattened and zipped element by element (`Layout.mapL_eq`, `leavesL_eq`, `zipWithL_eq`), and
a statement about layouts may be proved for a list assuming it of every element (`Layout.ind`): the list cases below are
facts about `List.map`, `List.flatMap` and `List.zipWith`. -/

theorem Layout.mapL_eq (f : α → β) : ∀ xs : List (Layout α), Layout.mapL f xs = xs.map (Layout.map f)
  | [] => rfl
  | x :: xs => by rw [Layout.mapL, Layout.mapL_eq f xs, List.map_cons]

theorem Layout.leavesL_eq : ∀ xs : List (Layout α), Layout.leavesL xs = xs.flatMap Layout.leaves
  | [] => rfl
  | x :: xs => by rw [Layout.leavesL, Layout.leavesL_eq xs, List.flatMap_cons]

theorem Layout.zipWithL_eq (f : α → β → γ) : ∀ (xs : List (Layout α)) (ys : List (Layout β)),
    Layout.zipWithL f xs ys = List.zipWith (Layout.zipWith f) xs ys
  | [], _ => by simp [Layout.zipWithL]
  | _ :: _, [] => by simp [Layout.zipWithL]
  | x :: xs, y :: ys => by simp [Layout.zipWithL, Layout.zipWithL_eq f xs ys]

mutual
/-- induction over layouts: for a list, the statement may be assumed of every element -/
theorem Layout.ind {P : Layout α → Prop} (leaf : ∀ a, P (.leaf a)) (none : P .none)
    (list : ∀ xs, (∀ x ∈ xs, P x) → P (.list xs)) : ∀ l, P l
  | .leaf a => leaf a
  | .none => none
  | .list xs => list xs (Layout.indL leaf none list xs)
theorem Layout.indL {P : Layout α → Prop} (leaf : ∀ a, P (.leaf a)) (none : P .none)
    (list : ∀ xs, (∀ x ∈ xs, P x) → P (.list xs)) : ∀ xs : List (Layout α), ∀ x ∈ xs, P x
  | [], _, h => absurd h List.not_mem_nil
  | x :: xs, y, h =>
    (List.mem_cons.1 h).elim (fun e => e ▸ Layout.ind leaf none list x) (Layout.indL leaf none list xs y)
end

theorem zipWith_congr_left {α' β' γ' : Type} {f g : α' → β' → γ'} :
    ∀ {xs : List α'} {ys : List β'}, (∀ x ∈ xs, ∀ y, f x y = g x y) → List.zipWith f xs ys = List.zipWith g xs ys
  | [], _, _ => by rw [List.zipWith_nil_left, List.zipWith_nil_left]
  | _ :: _, [], _ => by rw [List.zipWith_nil_right, List.zipWith_nil_right]
  | x :: xs, y :: ys, h => by
    rw [List.zipWith_cons_cons, List.zipWith_cons_cons, h x List.mem_cons_self,
      zipWith_congr_left fun z hz => h z (List.mem_cons_of_mem _ hz)]

private theorem mem_zipWith {α' β' γ' : Type} {f : α' → β' → γ'} {c : γ'} :
    ∀ {xs : List α'} {ys : List β'}, c ∈ List.zipWith f xs ys → ∃ x ∈ xs, ∃ y ∈ ys, c = f x y
  | [], _, h => by simp at h
  | _ :: _, [], h => by simp at h
  | x :: xs, y :: ys, h => by
    rcases List.mem_cons.1 h with rfl | h
    · exact ⟨x, List.mem_cons_self, y, List.mem_cons_self, rfl⟩
    · obtain ⟨a, ha, b, hb, e⟩ := mem_zipWith h
      exact ⟨a, List.mem_cons_of_mem _ ha, b, List.mem_cons_of_mem _ hb, e⟩

private theorem flatMap_congr {α' β' : Type} {l : List α'} {f g : α' → List β'} (h : ∀ x ∈ l, f x = g x) :
    l.flatMap f = l.flatMap g := by
  rw [List.flatMap_def, List.flatMap_def, List.map_congr_left h]

theorem c18_map_map (f : α → β) (g : β → γ) : ∀ l : Layout α, (l.map f).map g = l.map (g ∘ f) := by
  intro l
  induction l using Layout.ind with
  | leaf a => rfl
  | none => rfl
  | list xs ih => simp only [Layout.map, Layout.mapL_eq, List.map_map]; exact congrArg _ (List.map_congr_left ih)

theorem c18_map_id : ∀ l : Layout α, l.map id = l := by
  intro l
  induction l using Layout.ind with
  | leaf a => rfl
  | none => rfl
  | list xs ih =>
    simp only [Layout.map, Layout.mapL_eq]
    exact congrArg _ ((List.map_congr_left ih).trans (List.map_id xs))

theorem c18_mapL_id : ∀ xs : List (Layout α), Layout.mapL id xs = xs := by
  intro xs
  rw [Layout.mapL_eq]
  exact (List.map_congr_left fun x _ => c18_map_id x).trans (List.map_id xs)

/-- an operation on ONE array returns an array with the same list structure, nesting and missing-value positions -/
theorem c18_map_shape (f : α → β) (l : Layout α) : (l.map f).shape = l.shape := by
  simp only [Layout.shape, c18_map_map]

/-- a single record (or an object vector) broadcasts against any array: it is a `map` -/
theorem c18_zipWith_leaf_left (f : α → β → γ) (a : α) (l : Layout β) :
    Layout.zipWith f (.leaf a) l = l.map (f a) := by
  cases l <;> simp [Layout.zipWith, Layout.map]

theorem c18_zipWith_leaf_right (f : α → β → γ) (l : Layout α) (b : β) :
    Layout.zipWith f l (.leaf b) = l.map (fun a => f a b) := by
  cases l <;> simp [Layout.zipWith, Layout.map]

/-- the structure of the result of an operation on two broadcast arrays depends on the operands' structures only: it is
their broadcast, the same `zipWith` at `Unit` (which `Props/C18Layout` names `Layout.bcast`) -/
theorem c18_zipWith_shape_bcast (f : α → β → γ) :
    ∀ (a : Layout α) (b : Layout β), (Layout.zipWith f a b).shape = Layout.zipWith (fun _ _ => ()) a.shape b.shape := by
  intro a
  induction a using Layout.ind with
  | none => intro b; cases b <;> rfl
  | leaf a =>
    intro b
    rw [c18_zipWith_leaf_left, c18_map_shape]
    show b.shape = Layout.zipWith (fun _ _ => ()) (.leaf ()) b.shape
    rw [c18_zipWith_leaf_left]
    exact (c18_map_shape (fun _ => ()) b).symm
  | list xs ih =>
    intro b
    cases b with
    | none => rfl
    | leaf b =>
      rw [c18_zipWith_leaf_right, c18_map_shape]
      show (Layout.list xs).shape = Layout.zipWith (fun _ _ => ()) (Layout.list xs).shape (.leaf ())
      rw [c18_zipWith_leaf_right]
      exact (c18_map_shape (fun _ => ()) (.list xs)).symm
    | list ys =>
      simp only [Layout.zipWith, Layout.shape, Layout.map, Layout.mapL_eq, Layout.zipWithL_eq, List.map_zipWith,
        List.zipWith_map]
      exact congrArg _ (zipWith_congr_left fun x hx y => ih x hx y)

theorem c18_bcast_self : ∀ s : Layout Unit, Layout.zipWith (fun _ _ => ()) s s = s := by
  intro s
  induction s using Layout.ind with
  | leaf u => rfl
  | none => rfl
  | list xs ih =>
    simp only [Layout.zipWith, Layout.zipWithL_eq, List.zipWith_self]
    exact congrArg _ ((List.map_congr_left ih).trans (List.map_id xs))

/-- an operation on TWO arrays of equal structure returns that structure -/
theorem c18_zipWith_shape (f : α → β → γ) :
    ∀ (a : Layout α) (b : Layout β), a.shape = b.shape → (Layout.zipWith f a b).shape = a.shape := by
  intro a b h
  rw [c18_zipWith_shape_bcast, ← h, c18_bcast_self]

theorem c18_zipWithL_shape (f : α → β → γ) :
    ∀ (xs : List (Layout α)) (ys : List (Layout β)),
      Layout.mapL (fun _ => ()) xs = Layout.mapL (fun _ => ()) ys →
      Layout.mapL (fun _ => ()) (Layout.zipWithL f xs ys) = Layout.mapL (fun _ => ()) xs := by
  intro xs ys h
  exact Layout.list.inj (c18_zipWith_shape f (.list xs) (.list ys) (congrArg Layout.list h))

theorem c18_zipWith_shape_right (f : α → β → γ) (a : Layout α) (b : Layout β) (h : a.shape = b.shape) :
    (Layout.zipWith f a b).shape = b.shape := (c18_zipWith_shape f a b h).trans h

/-- record (or object) ⊗ array: the array's structure -/
theorem c18_zipWith_leaf_shape (f : α → β → γ) (a : α) (l : Layout β) :
    (Layout.zipWith f (.leaf a) l).shape = l.shape := by
  rw [c18_zipWith_leaf_left, c18_map_shape]

/-- the records of the result are the images of the records, in order -/
theorem c18_map_leaves (f : α → β) : ∀ l : Layout α, (l.map f).leaves = l.leaves.map f := by
  intro l
  induction l using Layout.ind with
  | leaf a => rfl
  | none => rfl
  | list xs ih =>
    simp only [Layout.map, Layout.leaves, Layout.mapL_eq, Layout.leavesL_eq, List.flatMap_map, List.map_flatMap]
    exact flatMap_congr ih

theorem c18_mapL_leavesL (f : α → β) :
    ∀ xs : List (Layout α), Layout.leavesL (Layout.mapL f xs) = (Layout.leavesL xs).map f := by
  intro xs
  simp only [Layout.mapL_eq, Layout.leavesL_eq, List.flatMap_map, List.map_flatMap]
  exact flatMap_congr fun x _ => c18_map_leaves f x

/-- every record of a broadcast result is the operation applied to a record of each operand -/
theorem c18_zipWith_leaves (f : α → β → γ) : ∀ (a : Layout α) (b : Layout β),
    ∀ c ∈ (Layout.zipWith f a b).leaves, ∃ x ∈ a.leaves, ∃ y ∈ b.leaves, c = f x y := by
  intro a
  induction a using Layout.ind with
  | none => intro b c h; cases b <;> cases h
  | leaf a =>
    intro b c h
    rw [c18_zipWith_leaf_left, c18_map_leaves] at h
    obtain ⟨y, hy, rfl⟩ := List.mem_map.1 h
    exact ⟨a, List.mem_singleton_self a, y, hy, rfl⟩
  | list xs ih =>
    intro b c h
    cases b with
    | none => cases h
    | leaf b =>
      rw [c18_zipWith_leaf_right, c18_map_leaves] at h
      obtain ⟨x, hx, rfl⟩ := List.mem_map.1 h
      exact ⟨x, hx, b, List.mem_singleton_self b, rfl⟩
    | list ys =>
      simp only [Layout.zipWith, Layout.leaves, Layout.zipWithL_eq, Layout.leavesL_eq, List.mem_flatMap] at h ⊢
      obtain ⟨l, hl, hc⟩ := h
      obtain ⟨x', hx', y', hy', rfl⟩ := mem_zipWith hl
      obtain ⟨x, hx, y, hy, e⟩ := ih x' hx' y' c hc
      exact ⟨x, ⟨x', hx', hx⟩, y, ⟨y', hy', hy⟩, e⟩

/-- `(op arr)[i] = op (arr[i])` -/
theorem c18_map_item (f : α → β) (l : Layout α) (i : Nat) :
    (l.map f).item i = (l.item i).map (Layout.map f) := by
  cases l <;> simp [Layout.map, Layout.item, Layout.mapL_eq]

/-- `(op arr)[i₀][i₁]… = op (arr[i₀][i₁]…)` -/
theorem c18_map_path (f : α → β) (l : Layout α) (p : List Nat) :
    (l.map f).path p = (l.path p).map (Layout.map f) := by
  induction p generalizing l with
  | nil => simp [Layout.path]
  | cons i p ih =>
    simp only [Layout.path, c18_map_item]
    cases l.item i with
    | none => simp
    | some l' => simp [ih]

theorem c18_map_record (f : α → β) (l : Layout α) : (l.map f).record? = l.record?.map f := by
  cases l <;> simp [Layout.map, Layout.record?]

/-- selecting a record commutes with the operation: record `p` of `op arr` is `op` of record `p` of `arr` -/
theorem c18_select_commutes (f : α → β) (l : Layout α) (p : List Nat) (r : α) (h : l.path p = some (.leaf r)) :
    (l.map f).path p = some (.leaf (f r)) := by
  simp [c18_map_path, h, Layout.map]

private theorem map_eq_leaf {f : α → β} {x : Layout α} {b : β} (h : x.map f = .leaf b) :
    ∃ a, x = .leaf a ∧ f a = b := by
  cases x with
  | leaf a => simp [Layout.map] at h; exact ⟨a, rfl, h⟩
  | none => simp [Layout.map] at h
  | list xs => simp [Layout.map] at h

private theorem sequenceL_ok_of : ∀ {xs : List (Layout (Except ε α))},
    (∀ x ∈ xs, ∀ r, x.sequence = .ok r → x = r.map .ok) →
    ∀ ys, Layout.sequenceL xs = .ok ys → xs = Layout.mapL .ok ys
  | [], _, ys, h => by
    simp only [Layout.sequenceL, Except.ok.injEq] at h; subst h; rfl
  | x :: xs, ih, ys, h => by
    simp only [Layout.sequenceL] at h
    split at h
    · cases h
    · rename_i y hy
      split at h
      · cases h
      · rename_i ys' hys
        cases h
        rw [Layout.mapL, ← ih x List.mem_cons_self y hy,
          ← sequenceL_ok_of (fun z hz => ih z (List.mem_cons_of_mem _ hz)) ys' hys]

/-- a successful array-level operation succeeded on every record, position by position -/
theorem c18_sequence_ok : ∀ (l : Layout (Except ε α)) (r : Layout α), l.sequence = .ok r → l = r.map .ok := by
  intro l
  induction l using Layout.ind with
  | leaf a =>
    intro r h
    cases a <;> simp only [Layout.sequence, Except.ok.injEq, reduceCtorEq] at h
    subst h; rfl
  | none =>
    intro r h
    simp only [Layout.sequence, Except.ok.injEq] at h; subst h; rfl
  | list xs ih =>
    intro r h
    simp only [Layout.sequence] at h
    split at h
    · rename_i ys hys
      cases h
      rw [Layout.map, ← sequenceL_ok_of ih ys hys]
    · cases h

theorem c18_sequenceL_ok :
    ∀ (xs : List (Layout (Except ε α))) (ys : List (Layout α)), Layout.sequenceL xs = .ok ys →
      xs = Layout.mapL .ok ys :=
  fun xs => sequenceL_ok_of fun x _ => c18_sequence_ok x

private theorem sequenceL_error_of : ∀ {xs : List (Layout (Except ε α))},
    (∀ x ∈ xs, ∀ e, x.sequence = .error e → .error e ∈ x.leaves) →
    ∀ e, Layout.sequenceL xs = .error e → .error e ∈ Layout.leavesL xs
  | [], _, e, h => by simp [Layout.sequenceL] at h
  | x :: xs, ih, e, h => by
    simp only [Layout.sequenceL] at h
    rw [Layout.leavesL, List.mem_append]
    split at h
    · rename_i e' he
      cases h
      exact .inl (ih x List.mem_cons_self e he)
    · split at h
      · rename_i e' he
        cases h
        exact .inr (sequenceL_error_of (fun z hz => ih z (List.mem_cons_of_mem _ hz)) e he)
      · cases h

/-- an array-level operation raises only what some record raised -/
theorem c18_sequence_error : ∀ (l : Layout (Except ε α)) (e : ε), l.sequence = .error e → .error e ∈ l.leaves := by
  intro l
  induction l using Layout.ind with
  | leaf a =>
    intro e h
    cases a <;> simp only [Layout.sequence, Except.error.injEq, reduceCtorEq] at h
    subst h; exact List.mem_singleton_self _
  | none => intro e h; simp [Layout.sequence] at h
  | list xs ih =>
    intro e h
    simp only [Layout.sequence] at h
    split at h
    · cases h
    · rename_i e' he
      cases h
      exact sequenceL_error_of ih e he

theorem c18_sequenceL_error :
    ∀ (xs : List (Layout (Except ε α))) (e : ε), Layout.sequenceL xs = .error e → .error e ∈ Layout.leavesL xs :=
  fun xs => sequenceL_error_of fun x _ => c18_sequence_error x

theorem c18_sequence_shape (l : Layout (Except ε α)) (r : Layout α) (h : l.sequence = .ok r) :
    r.shape = l.shape := by
  rw [c18_sequence_ok l r h, c18_map_shape]

end

/-! ## 2. the documented rule for fields -/

section
variable {S B : Type}

/-- `carry` keeps fields in their original order (it is a filter) -/
theorem c18_carry_sublist (fs : List (String × S)) : (carry fs).Sublist fs := List.filter_sublist

theorem c18_carry_idem (fs : List (String × S)) : carry (carry fs) = carry fs := by
  simp [carry, List.filter_filter]

/-- a carried field is a field of the operand that is NOT a coordinate name … -/
theorem c18_carry_mem_iff (fs : List (String × S)) (f : String × S) :
    f ∈ carry fs ↔ f ∈ fs ∧ f.1 ∉ coordFieldNames := by
  simp [carry, List.mem_filter]

/-- … so no coordinate name (generic or momentum spelling) is ever carried … -/
theorem c18_carry_no_coord (fs : List (String × S)) : ∀ f ∈ carry fs, f.1 ∉ coordFieldNames :=
  fun f hf => ((c18_carry_mem_iff fs f).1 hf).2

/-- … and every non-coordinate field (such as `charge`) is. -/
theorem c18_carry_keeps (fs : List (String × S)) (f : String × S) (hf : f ∈ fs) (hn : f.1 ∉ coordFieldNames) :
    f ∈ carry fs := (c18_carry_mem_iff fs f).2 ⟨hf, hn⟩

theorem c18_carry_append (fs gs : List (String × S)) : carry (fs ++ gs) = carry fs ++ carry gs := by
  simp [carry]

theorem c18_carry_eq_self_iff (fs : List (String × S)) : carry fs = fs ↔ ∀ f ∈ fs, f.1 ∉ coordFieldNames := by
  simp [carry, List.filter_eq_self]

theorem c18_carry_eq_self {fs : List (String × S)} (h : ∀ f ∈ fs, f.1 ∉ coordFieldNames) : carry fs = fs :=
  (c18_carry_eq_self_iff fs).2 h

example : carry [("charge", (1 : Int)), ("E", 7), ("pdgId", 13), ("px", 2)] = [("charge", 1), ("pdgId", 13)] := by
  decide

/-- forgetting the extra fields -/
def RRes.toRes : RRes S B → Res S B
  | .scalar s => .scalar s
  | .truth b => .truth b
  | .vrec r => .vec r.v

/-- a record behaves like the vector object with the same coordinates: the value of an operation on a record is the
method layer's value on its vector -/
theorem c18_unary_value (f : Vec S → Except Err (Res S B)) (r : Rec S) :
    (unaryOp f r).map RRes.toRes = f r.v := by
  unfold unaryOp
  cases h : f r.v with
  | error e => rfl
  | ok x => cases x <;> rfl

theorem c18_binary_value (f : Vec S → Vec S → Except Err (Res S B)) (a b : Rec S) :
    (binaryOp f a b).map RRes.toRes = f a.v b.v := by
  unfold binaryOp
  cases h : f a.v b.v with
  | error e => rfl
  | ok x => cases x <;> rfl

/-- UNARY operation with a vector result: the result's fields are exactly the result coordinates followed by the
operand's non-coordinate fields in their original order -/
theorem c18_unary_fields (f : Vec S → Except Err (Res S B)) (r r' : Rec S) (h : unaryOp f r = .ok (.vrec r')) :
    f r.v = .ok (.vec r'.v) ∧ r'.extra = carry r.extra ∧ r'.fields = r'.v.named ++ carry r.extra := by
  unfold unaryOp at h
  cases hf : f r.v with
  | error e => simp [hf] at h
  | ok x =>
    cases x with
    | scalar s => simp [hf] at h
    | truth b => simp [hf] at h
    | vec v =>
      simp only [hf, Except.ok.injEq, RRes.vrec.injEq] at h
      subst h
      simp [Rec.fields]

/-- … in particular every non-coordinate field of the operand is carried through unchanged (same name, same value,
same order) when the operand has no stray coordinate-named extras -/
theorem c18_unary_extra_unchanged (f : Vec S → Except Err (Res S B)) (r r' : Rec S)
    (h : unaryOp f r = .ok (.vrec r')) (hex : ∀ x ∈ r.extra, x.1 ∉ coordFieldNames) : r'.extra = r.extra := by
  rw [(c18_unary_fields f r r' h).2.1, c18_carry_eq_self hex]

/-- a field such as `charge` survives every unary operation -/
theorem c18_unary_keeps (f : Vec S → Except Err (Res S B)) (r r' : Rec S) (h : unaryOp f r = .ok (.vrec r'))
    (x : String × S) (hx : x ∈ r.extra) (hn : x.1 ∉ coordFieldNames) : x ∈ r'.extra := by
  rw [(c18_unary_fields f r r' h).2.1]
  exact c18_carry_keeps _ x hx hn

/-- scalar and truth results have no fields -/
theorem c18_unary_nonvector_fields (f : Vec S → Except Err (Res S B)) (r : Rec S) (res : RRes S B)
    (h : unaryOp f r = .ok res) (hv : ∀ r', res ≠ .vrec r') : res.fields = [] := by
  cases res with
  | scalar s => rfl
  | truth b => rfl
  | vrec r' => exact absurd rfl (hv r')

/-- BINARY operation: a vector result has coordinates only -/
theorem c18_binary_no_extra (f : Vec S → Vec S → Except Err (Res S B)) (a b : Rec S) (res : RRes S B)
    (h : binaryOp f a b = .ok res) : res.extra = [] := by
  unfold binaryOp at h
  cases hf : f a.v b.v with
  | error e => simp [hf] at h
  | ok x =>
    cases x <;> simp only [hf, Except.ok.injEq] at h <;> subst h <;> rfl

theorem c18_binary_fields (f : Vec S → Vec S → Except Err (Res S B)) (a b r' : Rec S)
    (h : binaryOp f a b = .ok (.vrec r')) : f a.v b.v = .ok (.vec r'.v) ∧ r'.fields = r'.v.named := by
  have h0 := c18_binary_no_extra f a b _ h
  have hv := c18_binary_value f a b
  rw [h] at hv
  refine ⟨hv.symm, ?_⟩
  simp only [RRes.extra] at h0
  simp [Rec.fields, h0]

/-! ### arrays -/

/-- a unary operation on an array keeps list structure, nesting and missing-value positions -/
theorem c18_arrayUnary_shape (f : Vec S → Except Err (Res S B)) (arr : Layout (Rec S)) (out : Layout (RRes S B))
    (h : arrayUnary f arr = .ok out) : out.shape = arr.shape := by
  rw [c18_sequence_shape _ _ h, c18_map_shape]

/-- a binary operation on two arrays of equal structure returns that structure -/
theorem c18_arrayBinary_shape (f : Vec S → Vec S → Except Err (Res S B)) (a b : Layout (Rec S))
    (out : Layout (RRes S B)) (hs : a.shape = b.shape) (h : arrayBinary f a b = .ok out) :
    out.shape = a.shape ∧ out.shape = b.shape := by
  have := c18_sequence_shape _ _ h
  rw [c18_zipWith_shape _ a b hs] at this
  exact ⟨this, this.trans hs⟩

/-- array ⊗ single record / object vector: the array's structure -/
theorem c18_arrayBinary_shape_broadcast (f : Vec S → Vec S → Except Err (Res S B)) (a : Layout (Rec S)) (b : Rec S)
    (out : Layout (RRes S B)) (h : arrayBinary f a (.leaf b) = .ok out) : out.shape = a.shape := by
  have := c18_sequence_shape _ _ h
  rwa [c18_zipWith_leaf_right, c18_map_shape] at this

/-- the records of the result, in order, are the record-level results -/
theorem c18_arrayUnary_leaves (f : Vec S → Except Err (Res S B)) (arr : Layout (Rec S)) (out : Layout (RRes S B))
    (h : arrayUnary f arr = .ok out) : out.leaves.map .ok = arr.leaves.map (unaryOp f) := by
  have := c18_sequence_ok _ _ h
  rw [← c18_map_leaves, ← c18_map_leaves, this]

/-- `(op arr)[p] = op (arr[p])`: the record selected from the result is the operation applied to the selected record
(which by `c18_unary_value` is the method layer's value on its vector, i.e. what the vector object gives) -/
theorem c18_arrayUnary_select (f : Vec S → Except Err (Res S B)) (arr : Layout (Rec S)) (out : Layout (RRes S B))
    (h : arrayUnary f arr = .ok out) (p : List Nat) (r : Rec S) (hp : arr.path p = some (.leaf r)) :
    ∃ res, unaryOp f r = .ok res ∧ out.path p = some (.leaf res) := by
  have h1 := c18_select_commutes (unaryOp f) arr p r hp
  rw [c18_sequence_ok _ _ h, c18_map_path] at h1
  cases ho : out.path p with
  | none => simp [ho] at h1
  | some x =>
    simp only [ho, Option.map_some, Option.some.injEq] at h1
    obtain ⟨res, rfl, hres⟩ := map_eq_leaf h1
    exact ⟨res, hres.symm, rfl⟩

/-- every record of the result of a unary array operation carries exactly the non-coordinate fields of the record at
the same position -/
theorem c18_arrayUnary_fields (f : Vec S → Except Err (Res S B)) (arr : Layout (Rec S)) (out : Layout (RRes S B))
    (h : arrayUnary f arr = .ok out) (p : List Nat) (r r' : Rec S) (hp : arr.path p = some (.leaf r))
    (ho : out.path p = some (.leaf (.vrec r'))) :
    r'.fields = r'.v.named ++ carry r.extra := by
  obtain ⟨res, hres, ho'⟩ := c18_arrayUnary_select f arr out h p r hp
  rw [ho] at ho'
  simp only [Option.some.injEq, Layout.leaf.injEq] at ho'
  subst ho'
  exact (c18_unary_fields f r r' hres).2.2

/-- an array operation raises only if the operation raises on one of its records -/
theorem c18_arrayUnary_error (f : Vec S → Except Err (Res S B)) (arr : Layout (Rec S)) (e : Err)
    (h : arrayUnary f arr = .error e) : ∃ r ∈ arr.leaves, unaryOp f r = .error e := by
  have := c18_sequence_error _ _ h
  rw [c18_map_leaves] at this
  obtain ⟨r, hr, he⟩ := List.mem_map.1 this
  exact ⟨r, hr, he⟩

/-- every record of the result of a binary array operation has coordinates only … -/
theorem c18_arrayBinary_coords_only (f : Vec S → Vec S → Except Err (Res S B)) (a b : Layout (Rec S))
    (out : Layout (RRes S B)) (h : arrayBinary f a b = .ok out) : ∀ res ∈ out.leaves, res.extra = [] := by
  intro res hres
  have h2 := congrArg Layout.leaves (c18_sequence_ok _ _ h)
  rw [c18_map_leaves] at h2
  obtain ⟨ra, _, rb, _, e⟩ := c18_zipWith_leaves (binaryOp f) a b (.ok res) (h2 ▸ List.mem_map.2 ⟨res, hres, rfl⟩)
  exact c18_binary_no_extra f ra rb res e.symm

/-- … in particular against a single record or object vector -/
theorem c18_arrayBinary_no_extra (f : Vec S → Vec S → Except Err (Res S B)) (a : Layout (Rec S)) (b : Rec S)
    (out : Layout (RRes S B)) (h : arrayBinary f a (.leaf b) = .ok out) : ∀ res ∈ out.leaves, res.extra = [] :=
  c18_arrayBinary_coords_only f a (.leaf b) out h

end

/-! ## 3. the real `_wrap_result` branches -/

section
variable {S B : Type}

/-- every literal exclusion tuple only lists coordinate names … -/
theorem c18_real_excl_subset (b : Branch) : ∀ n ∈ b.excl, n ∈ coordFieldNames := by
  cases b <;> decide

/-- … hence the real code never drops a non-coordinate field of a unary operand (all five branches) … -/
theorem c18_real_keeps_noncoord (b : Branch) (fs : List (String × S)) (f : String × S) (hf : f ∈ fs)
    (hn : f.1 ∉ coordFieldNames) : f ∈ b.carried 1 fs := by
  have h2 : f.1 ∉ b.excl := fun hh => hn (c18_real_excl_subset b _ hh)
  simp only [Branch.carried, BEq.rfl, if_true, List.mem_filter]
  exact ⟨hf, by simpa using h2⟩

/-- … the non-coordinate fields among what it carries are exactly `carry` of the operand's fields, in order … -/
theorem c18_real_carried_noncoord (b : Branch) (fs : List (String × S)) : carry (b.carried 1 fs) = carry fs := by
  simp only [Branch.carried, BEq.rfl, if_true, carry, List.filter_filter]
  apply List.filter_congr
  intro f hf
  by_cases hc : f.1 ∈ coordFieldNames
  · simp [hc]
  · have h2 : f.1 ∉ b.excl := fun hh => hc (c18_real_excl_subset b _ hh)
    simp [hc, h2]

/-- … what it carries is a sub-list (order kept) of the operand's fields … -/
theorem c18_real_carried_sublist (b : Branch) (n : Nat) (fs : List (String × S)) : (b.carried n fs).Sublist fs := by
  unfold Branch.carried
  split
  · exact List.filter_sublist
  · exact List.nil_sublist _

/-- … and a binary operation (`num_vecargs = 2`) carries nothing, in every branch. -/
theorem c18_real_binary_none (b : Branch) (fs : List (String × S)) : b.carried 2 fs = [] := by
  simp [Branch.carried]

/-- a binary result has the declared coordinates only, whatever the class and the fields of the handler -/
theorem c18_real_binary_fields (parts : List RP) (sd : Nat) (fs : List (String × S)) (raw : List S) (d : Nat)
    (out : List (String × S)) (h : realWrap parts 2 sd fs raw = .ok (d, out)) :
    out = (resultNames parts).zip raw := by
  unfold realWrap at h
  split at h
  · simp at h
  · simp only [c18_real_binary_none, List.append_nil, Except.ok.injEq, Prod.mk.injEq] at h
    exact h.2.symm

/-- the names written for the result coordinates are excluded in their own branch, so a carried field never clashes
with a result coordinate in `dict(zip(names, arrays))` -/
theorem c18_real_no_clash (parts : List RP) (b : Branch) (h : Branch.ofParts parts = some b) :
    ∀ n ∈ resultNames parts, n ∈ b.excl := by
  unfold Branch.ofParts at h
  split at h <;> simp only [Option.some.injEq, reduceCtorEq] at h <;> subst h
  · rename_i a; cases a <;> decide
  · rename_i a; cases a <;> decide
  · rename_i a l; cases a <;> cases l <;> decide
  · rename_i a l; cases a <;> cases l <;> decide
  · rename_i a l t; cases a <;> cases l <;> cases t <;> decide

/-- every branch excludes the momentum spellings `px`, `py` (they come right after `"x", "y"` in all five literal
tuples) … -/
theorem c18_real_px_py_excluded (b : Branch) : "px" ∈ b.excl ∧ "py" ∈ b.excl := by
  cases b <;> decide

/-- … and what the two pass-through tuples leave out of the coordinate names are longitudinal / temporal spellings
only (deliberately: that is how stored `z`/`t`… pass through; the class of the result is the class of `self`) … -/
theorem c18_real_missing :
    coordFieldNames.filter (fun n => !exclAll.contains n) = [] ∧
    coordFieldNames.filter (fun n => !exclAzLon.contains n) =
      ["t", "E", "e", "energy", "tau", "M", "m", "mass"] ∧
    coordFieldNames.filter (fun n => !exclAz.contains n) =
      ["z", "pz", "theta", "eta", "t", "E", "e", "energy", "tau", "M", "m", "mass"] := by
  decide

/-- … so the longest tuple is EXACTLY the 19 coordinate spellings -/
theorem c18_real_exclAll_eq_coords : ∀ n, n ∈ exclAll ↔ n ∈ coordFieldNames := fun n =>
  ⟨c18_real_excl_subset .azNone n, fun h => by simpa using List.filter_eq_nil_iff.1 c18_real_missing.1 n h⟩

/-! ### hypothesis-free: every field list (raw momentum spellings, any order, duplicates) -/

/-- the three full branches (`[Azimuthal, None]`, `[Azimuthal, Longitudinal, None]`,
`[Azimuthal, Longitudinal, Temporal]`) carry EXACTLY the documented fields, for every field list -/
theorem c18_real_carried_eq_carry (b : Branch) (hb : b.excl = exclAll) (fs : List (String × S)) :
    b.carried 1 fs = carry fs := by
  simp only [Branch.carried, BEq.rfl, if_true, carry, hb]
  apply List.filter_congr
  intro f _
  have := c18_real_exclAll_eq_coords f.1
  by_cases hc : f.1 ∈ coordFieldNames
  · simp [hc, this.2 hc]
  · have hn : f.1 ∉ exclAll := fun hh => hc (this.1 hh)
    simp [hc, hn]

/-- the hypothesis of `c18_real_carried_eq_carry` holds for exactly these three branches -/
theorem c18_real_full_branches (b : Branch) : b.excl = exclAll ↔ b = .azNone ∨ b = .azLonNone ∨ b = .azLonTmp := by
  cases b <;> decide

private theorem coord_not_excl {ex : List String} {n : String} (hc : n ∈ coordFieldNames) (hn : n ∉ ex) :
    n ∈ coordFieldNames.filter (fun n => !ex.contains n) :=
  List.mem_filter.2 ⟨hc, by simpa using hn⟩

private theorem carried_extra_coord (b : Branch) (fs : List (String × S)) (f : String × S)
    (hf : f ∈ b.carried 1 fs) (hn : f ∉ carry fs) : f.1 ∈ coordFieldNames ∧ f.1 ∉ b.excl := by
  simp only [Branch.carried, BEq.rfl, if_true, List.mem_filter] at hf
  refine ⟨?_, by simpa using hf.2⟩
  by_cases hc : f.1 ∈ coordFieldNames
  · exact hc
  · exact absurd ((c18_carry_mem_iff fs f).2 ⟨hf.1, hc⟩) hn

/-- branch `[Azimuthal]`, for every field list: the non-coordinate fields among what it carries are exactly the
documented ones, and everything else it carries has a longitudinal or temporal spelling (the stored coordinates that
pass through) — never an azimuthal one -/
theorem c18_real_carried_az (fs : List (String × S)) :
    carry (Branch.az.carried 1 fs) = carry fs ∧
    ∀ f ∈ Branch.az.carried 1 fs, f ∉ carry fs →
      f.1 ∈ ["z", "pz", "theta", "eta", "t", "E", "e", "energy", "tau", "M", "m", "mass"] := by
  refine ⟨c18_real_carried_noncoord .az fs, fun f hf hn => ?_⟩
  obtain ⟨hc, he⟩ := carried_extra_coord .az fs f hf hn
  exact c18_real_missing.2.2 ▸ coord_not_excl (ex := exclAz) hc he

/-- branch `[Azimuthal, Longitudinal]`, for every field list: as above with the temporal spellings only -/
theorem c18_real_carried_azLon (fs : List (String × S)) :
    carry (Branch.azLon.carried 1 fs) = carry fs ∧
    ∀ f ∈ Branch.azLon.carried 1 fs, f ∉ carry fs →
      f.1 ∈ ["t", "E", "e", "energy", "tau", "M", "m", "mass"] := by
  refine ⟨c18_real_carried_noncoord .azLon fs, fun f hf hn => ?_⟩
  obtain ⟨hc, he⟩ := carried_extra_coord .azLon fs f hf hn
  exact c18_real_missing.2.1 ▸ coord_not_excl (ex := exclAzLon) hc he

/-- no branch ever carries a field with an azimuthal spelling, for every field list and every `num_vecargs` -/
theorem c18_real_carried_no_az (b : Branch) (n : Nat) (fs : List (String × S)) :
    ∀ f ∈ b.carried n fs, f.1 ∉ ["x", "px", "y", "py", "rho", "pt", "phi"] := by
  have hx : ∀ n ∈ ["x", "px", "y", "py", "rho", "pt", "phi"], n ∈ b.excl := by cases b <;> decide
  intro f hf hm
  unfold Branch.carried at hf
  split at hf
  · simpa [hx _ hm] using (List.mem_filter.1 hf).2
  · cases hf

/-- the class of the result in the pass-through branches is the class of `self` -/
theorem c18_real_dim_passthrough (d : Nat) (hd : d = 2 ∨ d = 3 ∨ d = 4) :
    Branch.az.dim d = d ∧ (d = 3 ∨ d = 4 → Branch.azLon.dim d = d) := by
  rcases hd with rfl | rfl | rfl <;> decide

/-- the other three branches fix the class -/
theorem c18_real_dim_fixed (d : Nat) :
    Branch.azNone.dim d = 2 ∧ Branch.azLonNone.dim d = 3 ∧ Branch.azLonTmp.dim d = 4 := ⟨rfl, rfl, rfl⟩

example : Branch.az.carried 1 [("E", (4 : Int)), ("px", 1), ("charge", 5), ("py", 2), ("px", 7), ("pz", 3)] =
    [("E", 4), ("charge", 5), ("pz", 3)] := by decide

/-! ### agreement with the documented rule on records as the constructors build them -/

/-- a record as `vector.Array` / `vector.zip` / a previous `_wrap_result` builds it: generic coordinate names first
(that is `Rec.fields`), as many stored coordinates as the dimension, a temporal coordinate only on top of a
longitudinal one, and no coordinate-named field among the others -/
def RecWF (r : Rec S) : Prop :=
  (r.v.ty.tmp.isSome → r.v.ty.lon.isSome) ∧ r.v.c.length = r.v.ty.dim ∧ ∀ f ∈ r.extra, f.1 ∉ coordFieldNames

private theorem carried_append (b : Branch) (xs ys : List (String × S)) :
    b.carried 1 (xs ++ ys) = b.carried 1 xs ++ b.carried 1 ys := by
  simp only [Branch.carried, BEq.rfl, if_true, List.filter_append]

/-- fields named in the tuple are dropped … -/
private theorem carried_in (b : Branch) (names : List String) (xs : List S) (h : ∀ n ∈ names, n ∈ b.excl) :
    b.carried 1 (names.zip xs) = [] := by
  simp only [Branch.carried, BEq.rfl, if_true, List.filter_eq_nil_iff]
  intro f hf
  simpa using h f.1 (List.of_mem_zip (a := f.1) (b := f.2) hf).1

/-- … fields not named in it pass through -/
private theorem carried_out (b : Branch) (names : List String) (xs : List S) (h : ∀ n ∈ names, n ∉ b.excl) :
    b.carried 1 (names.zip xs) = names.zip xs := by
  simp only [Branch.carried, BEq.rfl, if_true, List.filter_eq_self]
  intro f hf
  simpa using h f.1 (List.of_mem_zip (a := f.1) (b := f.2) hf).1

private theorem carried_extra (b : Branch) (fs : List (String × S)) (h : ∀ f ∈ fs, f.1 ∉ coordFieldNames) :
    b.carried 1 fs = fs := by
  simp only [Branch.carried, BEq.rfl, if_true, List.filter_eq_self]
  intro f hf
  have h2 : f.1 ∉ b.excl := fun hh => h f hf (c18_real_excl_subset b _ hh)
  simpa using h2

/- which tuples list the generic coordinate names: the azimuthal ones all five, the longitudinal ones all but that of
`[Azimuthal]`, the temporal ones the three long ones -/
private theorem az_names_excl (b : Branch) (a : Az) : ∀ n ∈ a.names, n ∈ b.excl := by
  cases b <;> cases a <;> decide
private theorem lon_names_excl (b : Branch) (l : Option Lon) : ∀ n ∈ lonNames l, (n ∈ b.excl ↔ b ≠ .az) := by
  rcases l with _ | l
  · nofun
  · cases b <;> cases l <;> decide
private theorem tmp_names_excl (b : Branch) (t : Option Tmp) :
    ∀ n ∈ tmpNames t, (n ∈ b.excl ↔ ¬(b = .az ∨ b = .azLon)) := by
  rcases t with _ | t
  · nofun
  · cases b <;> cases t <;> decide

/-- what a branch carries of the stored coordinates: the longitudinal one in branch `[Azimuthal]`, the temporal one in the
two pass-through branches -/
private theorem carried_named (b : Branch) (v : Vec S) :
    b.carried 1 v.named = (if b = .az then (lonNames v.ty.lon).zip v.lonEl else []) ++
      (if b = .az ∨ b = .azLon then (tmpNames v.ty.tmp).zip v.tmpEl else []) := by
  rw [Vec.named, carried_append, carried_append, carried_in b _ _ (az_names_excl b _), List.nil_append]
  congr 1
  · split
    · exact carried_out b _ _ fun n hn h => (lon_names_excl b _ n hn).1 h ‹_›
    · exact carried_in b _ _ fun n hn => (lon_names_excl b _ n hn).2 ‹_›
  · split
    · exact carried_out b _ _ fun n hn h => (tmp_names_excl b _ n hn).1 h ‹_›
    · exact carried_in b _ _ fun n hn => (tmp_names_excl b _ n hn).2 ‹_›

private theorem len3 {l : List S} (h : l.length = 3) : ∃ a b c, l = [a, b, c] := by
  match l, h with | [a, b, c], _ => exact ⟨a, b, c, rfl⟩

private theorem az_names_length (a : Az) : a.names.length = 2 := by cases a <;> rfl

private theorem coordNames_length (t : VT) : t.coordNames.length = t.dim := by
  rcases t with ⟨be, mom, az, _ | l, _ | c⟩ <;> cases az <;> rfl

private theorem wf_els {v : Vec S} (hwf : v.ty.tmp.isSome → v.ty.lon.isSome) (hlen : v.c.length = v.ty.dim) :
    v.c = v.azEl ++ v.lonEl ++ v.tmpEl ∧ v.azEl.length = 2 ∧ v.lonEl.length = (lonNames v.ty.lon).length ∧
      v.tmpEl.length = (tmpNames v.ty.tmp).length := by
  rcases Vec.wf_cases hwf hlen with ⟨be, mom, az, a, b, rfl⟩ | ⟨be, mom, az, l, a, b, c, rfl⟩ |
    ⟨be, mom, az, l, t, a, b, c, d, rfl⟩ <;> exact ⟨rfl, rfl, rfl, rfl⟩

private theorem zip3 (a : Az) (ln tn : List String) {A L : List S} (T : List S) (hA : A.length = 2)
    (hL : L.length = ln.length) :
    (a.names ++ ln ++ tn).zip (A ++ L ++ T) = a.names.zip A ++ ln.zip L ++ tn.zip T := by
  rw [List.zip_append (by simp [az_names_length, hA, hL]), List.zip_append (by rw [az_names_length, hA])]

private theorem named_eq_zip {v : Vec S} (hwf : v.ty.tmp.isSome → v.ty.lon.isSome) (hlen : v.c.length = v.ty.dim) :
    v.named = v.ty.coordNames.zip v.c := by
  obtain ⟨hc, hA, hL, _⟩ := wf_els hwf hlen
  conv => rhs; rw [hc, VT.coordNames, zip3 _ _ _ _ hA hL]
  rfl

private theorem named_mk (ty : VT) (A L T : List S) (hA : A.length = 2) (hL : L.length = (lonNames ty.lon).length)
    (hT : T.length = (tmpNames ty.tmp).length) (hwf : ty.tmp.isSome → ty.lon.isSome) :
    (Vec.mk ty (A ++ L ++ T)).named = ty.az.names.zip A ++ (lonNames ty.lon).zip L ++ (tmpNames ty.tmp).zip T := by
  rw [named_eq_zip hwf (by simp [hA, hL, hT, ← coordNames_length, VT.coordNames, az_names_length]), VT.coordNames,
    zip3 _ _ _ _ hA hL]

private theorem fields_names {r : Rec S} (h : RecWF r) :
    r.fields.map (·.1) = r.v.ty.coordNames ++ r.extra.map (·.1) := by
  rw [Rec.fields, List.map_append, named_eq_zip h.1 h.2.1]
  exact congrArg (· ++ _) (List.map_fst_zip (by rw [coordNames_length, h.2.1]; exact Nat.le_refl _))

/-- literal lookups (`"t" in fields or "tau" in fields`, …) find the generic names of the type, among other names that
are no coordinate names -/
private theorem names_has (t : VT) {ex : List String} (he : ∀ n ∈ coordFieldNames, ex.contains n = false) :
    ((t.coordNames ++ ex).contains "t" || (t.coordNames ++ ex).contains "tau") = t.tmp.isSome ∧
    ((t.coordNames ++ ex).contains "z" || (t.coordNames ++ ex).contains "theta" ||
      (t.coordNames ++ ex).contains "eta") = t.lon.isSome := by
  have ha : ∀ n ∈ ["t", "tau", "z", "theta", "eta"], t.az.names.contains n = false ∧ ex.contains n = false := by
    refine fun n hn => ⟨?_, he n ?_⟩ <;> revert n
    · cases t.az <;> decide
    · decide
  have hl : (∀ n ∈ ["t", "tau"], (lonNames t.lon).contains n = false) ∧ ((lonNames t.lon).contains "z" ||
      (lonNames t.lon).contains "theta" || (lonNames t.lon).contains "eta") = t.lon.isSome := by
    rcases t.lon with _ | l
    · decide
    · cases l <;> decide
  have ht : (∀ n ∈ ["z", "theta", "eta"], (tmpNames t.tmp).contains n = false) ∧
      ((tmpNames t.tmp).contains "t" || (tmpNames t.tmp).contains "tau") = t.tmp.isSome := by
    rcases t.tmp with _ | c
    · decide
    · cases c <;> decide
  simp only [List.mem_cons, List.not_mem_nil, or_false, forall_eq_or_imp, forall_eq] at ha hl ht
  simp only [VT.coordNames, List.contains_append, ha, hl, ht, Bool.false_or, Bool.or_false, and_self]

private theorem extra_no_coord {r : Rec S} (h : RecWF r) :
    ∀ n ∈ coordFieldNames, (r.extra.map (·.1)).contains n = false := by
  intro n hn
  rw [Bool.eq_false_iff]
  simp only [ne_eq, List.contains_iff_mem, List.mem_map, not_exists, not_and]
  rintro f hf rfl
  exact h.2.2 f hf hn

/-- the code picks the class of the result from `isinstance(self, Vector4D/3D)`; choosing it by the literal lookups
`"t" in fields or "tau" in fields` … would give the same class on records as the constructors build them: with generic names
the lookup finds the temporal coordinate … (used by no proof below) -/
theorem c18_real_has_tmp (r : Rec S) (h : RecWF r) :
    ((r.fields.map (·.1)).contains "t" || (r.fields.map (·.1)).contains "tau") = r.v.ty.tmp.isSome := by
  rw [fields_names h]
  exact (names_has _ (extra_no_coord h)).1

/-- … and `"z" in fields or "theta" in fields or "eta" in fields` the longitudinal one -/
theorem c18_real_has_lon (r : Rec S) (h : RecWF r) :
    ((r.fields.map (·.1)).contains "z" || (r.fields.map (·.1)).contains "theta" ||
      (r.fields.map (·.1)).contains "eta") = r.v.ty.lon.isSome := by
  rw [fields_names h]
  exact (names_has _ (extra_no_coord h)).2

private theorem dim_four {t : VT} (hwf : t.tmp.isSome → t.lon.isSome) : (t.dim == 4) = t.tmp.isSome := by
  rcases t with ⟨_, _, _, _ | _, _ | _⟩ <;> simp [VT.dim] at hwf ⊢

/-- both sides of the agreement on a well-formed record: the real branch writes the declared coordinates, what it carries
of the stored ones, and the other fields; the documented rule the coordinates of the new vector and the other fields -/
private theorem agrees_iff {r : Rec S} (h : RecWF r) {parts : List RP} {b : Branch} (hb : Branch.ofParts parts = some b)
    (raw : List S) (v' : Vec S)
    (hd : b.dim r.v.ty.dim = v'.ty.dim) (hn : (resultNames parts).zip raw ++ b.carried 1 r.v.named = v'.named) :
    realWrap parts 1 r.v.ty.dim r.fields raw = .ok (v'.ty.dim, (Rec.mk v' (carry r.extra)).fields) := by
  simp only [realWrap, hb, Rec.fields, carried_append, carried_extra _ _ h.2.2, c18_carry_eq_self h.2.2, hd, ← hn,
    List.append_assoc]

/-- the three full branches: nothing stored is carried, the declared names are the coordinate names of the new vector -/
private theorem agrees_full {r : Rec S} (h : RecWF r) {parts : List RP} {b : Branch} (hb : Branch.ofParts parts = some b)
    (hf : ¬(b = .az ∨ b = .azLon)) (ty : VT) (raw : List S) (hwf : ty.tmp.isSome → ty.lon.isSome)
    (hp : resultNames parts = ty.coordNames) (hraw : raw.length = (resultNames parts).length)
    (hd : b.dim r.v.ty.dim = ty.dim) :
    realWrap parts 1 r.v.ty.dim r.fields raw = .ok (ty.dim, (Rec.mk ⟨ty, raw.take ty.dim⟩ (carry r.extra)).fields) := by
  rw [hp, coordNames_length] at hraw
  refine agrees_iff h hb raw ⟨ty, _⟩ hd ?_
  rw [carried_named, if_neg (fun hz => hf (.inl hz)), if_neg hf, named_eq_zip hwf (by simp [hraw]), hp,
    List.take_of_length_le (by omega)]
  exact List.append_nil _

/-- ALL branches: on records as the constructors build them, the real `_wrap_result` of a unary operation returns the
class dimension and exactly the fields of the documented rule — the coordinates `wrapVec` (the `_wrap_result` rule of
`Glue/Core`) assigns, followed by the operand's other fields in order -/
theorem c18_real_agrees (r : Rec S) (h : RecWF r) (parts : List RP) (raw : List S) (be : Backend) (mom : Bool)
    (hraw : raw.length = (resultNames parts).length) (v' : Vec S) (hw : wrapVec r.v be mom raw parts = .ok v') :
    realWrap parts 1 r.v.ty.dim r.fields raw = .ok (v'.ty.dim, (Rec.mk v' (carry r.extra)).fields) := by
  obtain ⟨_, _, hL, hT⟩ := wf_els h.1 h.2.1
  unfold wrapVec at hw
  split at hw
  · -- `[Azimuthal]` (e.g. `rotateZ`, `scale` on a 2D vector): stored longitudinal/temporal coordinates pass through
    -- because they are not in the tuple, the class is that of `self`
    rename_i a
    cases hw
    replace hraw : raw.length = 2 := by simpa [resultNames, RP.names, az_names_length] using hraw
    refine agrees_iff h rfl raw _ ((c18_real_dim_passthrough _ (VT.dim_cases _)).1) ?_
    rw [named_mk ⟨be, mom, a, _, _⟩ _ _ _ (by simp [hraw]) hL hT h.1, List.take_of_length_le (by omega), carried_named,
      if_pos rfl, if_pos (.inl rfl), List.append_assoc]
    simp [resultNames, RP.names]
  · -- `[Azimuthal, None]` (e.g. `to_xy`, `to_rhophi`): 2D
    rename_i a
    cases hw
    exact agrees_full (b := .azNone) h rfl nofun ⟨be, mom, a, none, none⟩ raw nofun
      (by simp [resultNames, RP.names, VT.coordNames, lonNames, tmpNames]) hraw rfl
  · -- `[Azimuthal, Longitudinal]` (e.g. `rotateX`, `rotate_axis`, 3D `scale`): a stored temporal coordinate passes
    -- through, the class is 4D iff `self` is a `Vector4D`
    rename_i a l
    replace hraw : raw.length = 3 := by simpa [resultNames, RP.names, az_names_length] using hraw
    rw [List.take_of_length_le (Nat.le_of_eq hraw), dim_four h.1] at hw
    obtain ⟨r0, r1, r2, rfl⟩ := len3 hraw
    have hz : (resultNames [.az a, .lon l]).zip [r0, r1, r2] = a.names.zip [r0, r1] ++ [(l.str, r2)] := by
      cases a <;> rfl
    cases hd : r.v.ty.tmp.isSome <;> simp only [hd, if_true, if_false, Bool.false_eq_true] at hw <;> cases hw
    · have hn : r.v.ty.tmp = none := by simpa using hd
      refine agrees_iff h rfl _ _ (by simp only [Branch.dim, dim_four h.1, hd]; rfl) ?_
      rw [hz, carried_named, hn]
      exact (named_mk ⟨be, mom, a, some l, none⟩ [r0, r1] [r2] [] rfl rfl rfl nofun).symm
    · refine agrees_iff h rfl _ _ (by simp only [Branch.dim, dim_four h.1, hd]; simp [VT.dim, hd]) ?_
      rw [hz, carried_named, if_neg nofun, if_pos (.inr rfl)]
      exact (named_mk ⟨be, mom, a, some l, _⟩ [r0, r1] [r2] _ rfl rfl hT (fun _ => rfl)).symm
  · -- `[Azimuthal, Longitudinal, None]` (e.g. `to_xyz`, `to_Vector3D`, `cross`-like unary results): 3D
    rename_i a l
    cases hw
    exact agrees_full (b := .azLonNone) h rfl nofun ⟨be, mom, a, some l, none⟩ raw nofun
      (by simp [resultNames, RP.names, VT.coordNames, lonNames, tmpNames]) hraw rfl
  · -- `[Azimuthal, Longitudinal, Temporal]` (e.g. `boost`, `to_xyzt`): 4D
    rename_i a l t
    cases hw
    exact agrees_full (b := .azLonTmp) h rfl nofun ⟨be, mom, a, some l, some t⟩ raw (fun _ => rfl)
      (by simp [resultNames, RP.names, VT.coordNames, lonNames, tmpNames]) hraw rfl
  · cases hw

/-- the hypotheses are satisfiable: `(x, y, z, t, charge)`, `rotateZ`-like result -/
example :
    let r : Rec Int := ⟨⟨{ mom := false, az := .xy, lon := some .z, tmp := some .t, be := .ak }, [1, 2, 3, 4]⟩,
      [("charge", -1)]⟩
    RecWF r ∧ realWrap [.az .xy] 1 r.v.ty.dim r.fields [10, 20] =
      .ok (4, [("x", 10), ("y", 20), ("z", 3), ("t", 4), ("charge", -1)]) := by
  refine ⟨⟨by decide, by decide, by decide⟩, by rfl⟩

/-! ### raw records (not built by `vector.Array`/`vector.zip`): what the code returns (witnesses; replayed on the real code).
The operands carry momentum-spelled fields: that is where the exclusion tuples and the choice of the result class show. -/

/-- raw momentum-spelled fields (`ak.zip({"px","py","pz","E","charge"}, with_name="Momentum4D")` with registered
behaviors, so `self` is a `Vector4D`).  `rotateZ` (branch `[Azimuthal]`): the stale `px`, `py` are dropped, the stored
`pz`, `E` pass through under their own spelling, the class stays 4D.  Same non-coordinate fields as the documented
rule. -/
theorem c18_real_raw_rotateZ :
    let self : List (String × Int) := [("px", 1), ("py", 2), ("pz", 3), ("E", 4), ("charge", 5)]
    realWrap [.az .xy] 1 4 self [10, 20] =
      .ok (4, [("x", 10), ("y", 20), ("pz", 3), ("E", 4), ("charge", 5)])
    ∧ carry self = [("charge", 5)] := by
  intro self
  exact ⟨by rfl, by decide⟩

/-- same array, `rotateX` (branch `[Azimuthal, Longitudinal]`): `x, y, z, E, charge`, 4D -/
theorem c18_real_raw_rotateX :
    let self : List (String × Int) := [("px", 1), ("py", 2), ("pz", 3), ("E", 4), ("charge", 5)]
    realWrap [.az .xy, .lon .z] 1 4 self [10, 20, 30] =
      .ok (4, [("x", 10), ("y", 20), ("z", 30), ("E", 4), ("charge", 5)]) := by
  intro self
  rfl

/-- same array, the three full branches (`to_xy`, `to_xyz`, `boostX`/`to_xyzt`): only `charge` is carried (instance of
`c18_real_carried_eq_carry`) -/
theorem c18_real_raw_full (b : Branch) (hb : b.excl = exclAll) :
    let self : List (String × Int) := [("px", 1), ("py", 2), ("pz", 3), ("E", 4), ("charge", 5)]
    b.carried 1 self = [("charge", 5)] := by
  intro self
  rw [c18_real_carried_eq_carry b hb]
  decide

/-- `(pt, phi, eta, mass)` (a `Vector4D`) + `rotateX`: the stored `mass` passes through and the class stays 4D -/
theorem c18_real_raw_mass :
    let self : List (String × Int) := [("pt", 1), ("phi", 2), ("eta", 3), ("mass", 4)]
    realWrap [.az .xy, .lon .z] 1 4 self [10, 20, 30] =
      .ok (4, [("x", 10), ("y", 20), ("z", 30), ("mass", 4)]) := by
  intro self
  rfl

/-! ### where the real branches deviate from the documented rule (witness; replayed on the real code) -/

/-- field ORDER: the pass-through branches keep the operand's order for stored coordinates AND other fields together,
so with `ak.zip({"x","charge","y","z","t"}, with_name="Vector4D")` the result of `rotateZ` is `x, y, charge, z, t`
(coordinates not contiguous); `vector.Array`/`vector.zip` put coordinates first and hide this -/
theorem c18_real_deviation_order :
    let self : List (String × Int) := [("x", 1), ("charge", 5), ("y", 2), ("z", 3), ("t", 4)]
    realWrap [.az .xy] 1 4 self [10, 20] =
      .ok (4, [("x", 10), ("y", 20), ("charge", 5), ("z", 3), ("t", 4)]) := by
  intro self
  rfl

/-- a binary operation in the pass-through branches (`num_vecargs = 2`, e.g. planar `add`): the class is that of the
handler `self` (here a `Vector2D` that happens to have a stray field named `t`: 2D, whatever the field names), the fields are the
declared coordinates only -/
theorem c18_real_binary_dim :
    let self : List (String × Int) := [("x", 1), ("y", 2), ("t", 4)]
    realWrap [.az .xy] 2 2 self [10, 20] = .ok (2, [("x", 10), ("y", 20)]) := by
  intro self
  rfl

end
end VG
