/-
C06 — constructors accept the documented coordinate sets and store them verbatim.

Theorems about the hand-written constructor model `VectorModel/Glue/Ctor.lean` (`vector.obj`, the
`VectorObject*D` / `MomentumObject*D` classes, `vector.array`, `vector.zip`, `vector.Array`) for ALL 2^19 sets of the
19 recognised names (+ the bit "an unrecognised name is present").  A name set is `n : NS` (membership bits grouped into
azimuthal / longitudinal / temporal names); every statement is proved by exhaustive evaluation of the group functions
(128 / 16 / 256 cases) and a symbolic composition.  List versions (`objModel s`, `Doc s`, …) are instances at
`n := NS.ofList s`.

The section letters are the three clauses of the property: (a) a constructor accepts exactly the documented name sets,
(b) what it accepts is stored verbatim (each slot is filled by the supplied name of the right coordinate), (c) the array
constructors interpret whatever they accept as a documented subset and carry the rest as extra fields.
The sections go by constructor, in the order `vector.obj` (a), what `vector.obj` stores (b), the object classes (a),
the array constructors (c), so a letter heads more than one section; (b) for the classes and the arrays is part of the
theorems of their own sections (`Stored`).

Summary of what is TRUE of the code (tree /repo at cc3adc8, after the fixes of `vector.obj` E+e / M+m, of the repeated
spellings in the object classes and of the `VectorObject4D` type check):
* `vector.obj` = documented grammar on ALL name sets (`c06_obj_eq_doc`).
* the object classes accept exactly the documented sets of their dimension, in any documented spelling, and build the
  documented vector (`c06_class_eq_doc`); the only deviation is the FLAVOR, which is the class, never the spelling
  (`VectorObject2D(px=, py=)` is a generic vector, `MomentumObject3D(rho=, phi=, eta=)` a momentum vector).
* the array constructors build a vector only from a complete documented subset, the rest is carried as extra fields;
  `vector.array` decides flavor and dimension from ALL names (extras included) and raises `ValueError` (not `TypeError`)
  on repeated spellings.
-/
import VectorModel.Glue.Ctor

namespace VG
open VK

/-! ### bookkeeping -/

/-- the documented meaning (`docB`, `Doc`) as a constructor's result: `TypeError` where the documentation gives none -/
def docE : Option CtorRes → Except CtorErr CtorRes
  | some r => .ok r
  | none => .error .typeError

theorem docE_ok {o : Option CtorRes} {r : CtorRes} : docE o = .ok r ↔ o = some r := by
  cases o <;> simp [docE]

theorem docE_error {o : Option CtorRes} {e : CtorErr} (h : docE o = .error e) : e = .typeError := by
  cases o <;> cases h
  rfl

/-- the slots of `r` hold supplied names of `n`, each a spelling of the slot's own coordinate ("stored verbatim") -/
def Stored (n : NS) (r : CtorRes) : Prop := r.wf = true ∧ ∀ k ∈ r.fillers, n.has k = true

def azGood (a : AzN) (c : AzC) : Bool :=
  c.2.1.coord == c.1.c1 && c.2.2.coord == c.1.c2 && a.has c.2.1 && a.has c.2.2
def lonGood (l : LonN) (c : LonC) : Bool := c.2.coord == c.1.coord && l.has c.2
def tmpGood (t : TmpN) (c : TmpC) : Bool := c.2.coord == c.1.coord && t.has c.2
def lonGoodO (l : LonN) : Option LonC → Bool | some c => lonGood l c | none => true
def tmpGoodO (t : TmpN) : Option TmpC → Bool | some c => tmpGood t c | none => true

def slotNames {C : Type} : Option (C × CN) → List CN | some (_, k) => [k] | none => []

private theorem AzN.forall {P : AzN → Prop} (h : ∀ x px y py rho pt phi, P ⟨x, px, y, py, rho, pt, phi⟩) : ∀ a, P a :=
  fun ⟨x, px, y, py, rho, pt, phi⟩ => h x px y py rho pt phi
private theorem LonN.forall {P : LonN → Prop} (h : ∀ z pz theta eta, P ⟨z, pz, theta, eta⟩) : ∀ l, P l :=
  fun ⟨z, pz, theta, eta⟩ => h z pz theta eta
private theorem TmpN.forall {P : TmpN → Prop} (h : ∀ t E e energy tau M m mass, P ⟨t, E, e, energy, tau, M, m, mass⟩) :
    ∀ t, P t :=
  fun ⟨t, E, e, energy, tau, M, m, mass⟩ => h t E e energy tau M m mass

theorem CN.all_all (p : CN → Bool) (h : CN.all.all p = true) (k : CN) : p k = true := by
  simp only [CN.all, List.all_cons, List.all_nil, Bool.and_true, Bool.and_eq_true] at h
  cases k <;> simp only [h]

theorem NS.has_ofList (s : List CN) (k : CN) : (NS.ofList s).has k = s.contains k := by
  cases k <;> simp only [NS.ofList, NS.ofP, NS.has, AzN.ofP, LonN.ofP, TmpN.ofP, AzN.has, LonN.has, TmpN.has,
    Bool.or_false, Bool.false_or]

theorem NS.ofList_congr {s s' : List CN} (h : ∀ k, k ∈ s ↔ k ∈ s') : NS.ofList s = NS.ofList s' := by
  have hc : ∀ k, s.contains k = s'.contains k := by
    intro k
    have := h k
    rw [Bool.eq_iff_iff]; simpa using this
  simp only [NS.ofList, NS.ofP, AzN.ofP, LonN.ofP, TmpN.ofP, hc]

theorem NS.anyMom_ofList (s : List CN) : (NS.ofList s).anyMom = s.any CN.isMom := by
  rw [Bool.eq_iff_iff]
  simp only [NS.anyMom, AzN.anyMom, LonN.anyMom, TmpN.anyMom, NS.ofList, NS.ofP, AzN.ofP, LonN.ofP, TmpN.ofP,
    Bool.or_eq_true, List.contains_iff_mem, List.any_eq_true]
  constructor
  · rintro ((((h | h) | h) | h) | (((((h | h) | h) | h) | h) | h)) <;> exact ⟨_, h, rfl⟩
  · rintro ⟨k, hk, hm⟩
    cases k <;> simp_all [CN.isMom]

/- `toList` filters the names of the group by `has`: a name of another group has `has = false`, a name of the group is in
the list that is filtered. -/
theorem AzN.mem_toList (a : AzN) (k : CN) : k ∈ a.toList ↔ a.has k = true := by
  unfold AzN.toList
  rw [List.mem_filter, and_iff_right_iff_imp]
  cases k <;> intro h <;> first | cases h | decide
theorem LonN.mem_toList (l : LonN) (k : CN) : k ∈ l.toList ↔ l.has k = true := by
  unfold LonN.toList
  rw [List.mem_filter, and_iff_right_iff_imp]
  cases k <;> intro h <;> first | cases h | decide
theorem TmpN.mem_toList (t : TmpN) (k : CN) : k ∈ t.toList ↔ t.has k = true := by
  unfold TmpN.toList
  rw [List.mem_filter, and_iff_right_iff_imp]
  cases k <;> intro h <;> first | cases h | decide
theorem NS.mem_toList (n : NS) (k : CN) : k ∈ n.toList ↔ n.has k = true := by
  simp only [NS.toList, List.mem_append, AzN.mem_toList, LonN.mem_toList, TmpN.mem_toList, NS.has, Bool.or_eq_true]

theorem AzN.has_isAz {a : AzN} {k : CN} (h : a.has k = true) : k.isAz = true := by
  cases k <;> first | rfl | cases h

theorem CtorRes.fillers_eq (r : CtorRes) : r.fillers = [r.a1, r.a2] ++ slotNames r.lon ++ slotNames r.tmp := by
  rcases r with ⟨mom, az, a1, a2, _ | _, _ | _⟩ <;> rfl

theorem mem_slotNames {C : Type} {o : Option (C × CN)} {k : CN} : k ∈ slotNames o ↔ ∃ c, o = some (c, k) := by
  rcases o with _ | ⟨c, j⟩ <;> simp [slotNames, eq_comm]

theorem CtorRes.wf_iff (r : CtorRes) : r.wf = true ↔
    r.a1.coord = r.az.c1 ∧ r.a2.coord = r.az.c2 ∧ (∀ c k, r.lon = some (c, k) → k.coord = c.coord) ∧
    (∀ c k, r.tmp = some (c, k) → k.coord = c.coord) ∧ (r.tmp.isSome = true → r.lon.isSome = true) := by
  rcases r with ⟨mom, az, a1, a2, _ | ⟨lc, lk⟩, _ | ⟨tc, tk⟩⟩ <;> simp [CtorRes.wf, CtorRes.fillers, CtorRes.slots]

private theorem stored_of_parts {n : NS} {mom : Bool} {az : Az} {a1 a2 : CN} {lon : Option LonC} {tmp : Option TmpC}
    (ha : azGood n.a (az, a1, a2) = true) (hl : lonGoodO n.l lon = true) (ht : tmpGoodO n.t tmp = true)
    (htl : tmp.isSome = true → lon.isSome = true) : Stored n ⟨mom, az, a1, a2, lon, tmp⟩ := by
  simp only [azGood, Bool.and_eq_true, beq_iff_eq] at ha
  obtain ⟨⟨⟨h1, h2⟩, h3⟩, h4⟩ := ha
  have hl' : ∀ c k, lon = some (c, k) → k.coord = c.coord ∧ n.l.has k = true := by
    rintro c k rfl; simpa [lonGoodO, lonGood] using hl
  have ht' : ∀ c k, tmp = some (c, k) → k.coord = c.coord ∧ n.t.has k = true := by
    rintro c k rfl; simpa [tmpGoodO, tmpGood] using ht
  refine ⟨(CtorRes.wf_iff _).2 ⟨h1, h2, fun c k h => (hl' c k h).1, fun c k h => (ht' c k h).1, htl⟩, fun k hk => ?_⟩
  simp only [CtorRes.fillers_eq, List.mem_append, List.mem_cons, List.not_mem_nil, or_false, mem_slotNames] at hk
  simp only [NS.has, Bool.or_eq_true]
  rcases hk with ((rfl | rfl) | ⟨c, h⟩) | ⟨c, h⟩
  · exact .inl (.inl h3)
  · exact .inl (.inl h4)
  · exact .inl (.inr (hl' c k h).2)
  · exact .inr (ht' c k h).2

private theorem stored_with_mom {n : NS} {r : CtorRes} (m : Bool) (h : Stored n r) : Stored n { r with mom := m } := by
  cases r; exact h

/-! ### the group tables

What is checked by evaluating the group functions on every name set of a group: one pass over the 128 / 16 / 256 sets for
each backend and each group.  The rest of the file combines these facts symbolically. -/

def azOfKW : Option CN → Option CN → Option CN → Option CN → Option AzC
  | some vx, some vy, none, none => some (.xy, vx, vy)
  | none, none, some vr, some vp => some (.rhophi, vr, vp)
  | _, _, _, _ => none
def lonOfKW : Option CN → Option CN → Option CN → Option (Option LonC)
  | none, none, none => some none
  | some v, none, none => some (some (.z, v))
  | none, some v, none => some (some (.theta, v))
  | none, none, some v => some (some (.eta, v))
  | _, _, _ => none
def tmpOfKW : Option CN → Option CN → Option (Option TmpC)
  | none, none => some none
  | some v, none => some (some (.t, v))
  | none, some v => some (some (.tau, v))
  | _, _ => none

/-- the group parts of `kwargs` after the renaming loop -/
def clsAz (a : AzN) : Option AzC := azOfKW (fieldOf a.has .x) (fieldOf a.has .y) (fieldOf a.has .rho) (fieldOf a.has .phi)
def clsLon (l : LonN) : Option (Option LonC) := lonOfKW (fieldOf l.has .z) (fieldOf l.has .theta) (fieldOf l.has .eta)
def clsTmp (t : TmpN) : Option (Option TmpC) := tmpOfKW (fieldOf t.has .t) (fieldOf t.has .tau)

/- `object.py`, three facts per group: (1) `vector.obj` reads the names of a group as the grammar does; (2) a documented reading
is stored verbatim and uses all the names of the group, in `_coordinate_order`; (3) for the CLASSES (section "the object
classes" below): a repeated spelling is not documented, and without one the keys left by their renaming loop (`clsAz` …) are
the documented reading.  The consumers cite the named readings that follow the tables. -/
private theorem obj_az_table : ∀ a, objAz a = docAz a ∧
    (docAz a).all (fun c => azGood a c && a.toList == [c.2.1, c.2.2]) = true ∧
    (if a.dup then docAz a = none else clsAz a = docAz a) := AzN.forall (by decide +kernel)
private theorem obj_lon_table : ∀ l, objLon l = docLon l ∧
    (docLon l).all (fun lon => lonGoodO l lon && l.toList == slotNames lon) = true ∧
    (if l.dup then docLon l = none else clsLon l = docLon l) := LonN.forall (by decide +kernel)
private theorem obj_tmp_table : ∀ t, objTmp t = docTmp t ∧
    (docTmp t).all (fun tmp => tmpGoodO t tmp && t.toList == slotNames tmp) = true ∧
    (if t.dup then docTmp t = none else clsTmp t = docTmp t) := TmpN.forall (by decide +kernel)

private theorem all_some {α : Type} {o : Option α} {p : α → Bool} (h : o.all p = true) {x : α} (hx : o = some x) :
    p x = true := (Option.all_eq_true _ _).1 h x hx

private theorem doc_az_stored {a : AzN} {c : AzC} (h : docAz a = some c) :
    azGood a c = true ∧ a.toList = [c.2.1, c.2.2] := by
  simpa only [Bool.and_eq_true, beq_iff_eq] using all_some (obj_az_table a).2.1 h
private theorem doc_lon_stored {l : LonN} {lon : Option LonC} (h : docLon l = some lon) :
    lonGoodO l lon = true ∧ l.toList = slotNames lon := by
  simpa only [Bool.and_eq_true, beq_iff_eq] using all_some (obj_lon_table l).2.1 h
private theorem doc_tmp_stored {t : TmpN} {tmp : Option TmpC} (h : docTmp t = some tmp) :
    tmpGoodO t tmp = true ∧ t.toList = slotNames tmp := by
  simpa only [Bool.and_eq_true, beq_iff_eq] using all_some (obj_tmp_table t).2.1 h

private theorem doc_az_dup {a : AzN} (h : a.dup = true) : docAz a = none := by
  simpa only [h, if_true] using (obj_az_table a).2.2
private theorem doc_lon_dup {l : LonN} (h : l.dup = true) : docLon l = none := by
  simpa only [h, if_true] using (obj_lon_table l).2.2
private theorem doc_tmp_dup {t : TmpN} (h : t.dup = true) : docTmp t = none := by
  simpa only [h, if_true] using (obj_tmp_table t).2.2
private theorem cls_az_doc {a : AzN} (h : a.dup = false) : clsAz a = docAz a := by
  simpa only [h, Bool.false_eq_true, if_false] using (obj_az_table a).2.2
private theorem cls_lon_doc {l : LonN} (h : l.dup = false) : clsLon l = docLon l := by
  simpa only [h, Bool.false_eq_true, if_false] using (obj_lon_table l).2.2
private theorem cls_tmp_doc {t : TmpN} (h : t.dup = false) : clsTmp t = docTmp t := by
  simpa only [h, Bool.false_eq_true, if_false] using (obj_tmp_table t).2.2

/- `numpy.py`: `_has` picks names of the set under their own coordinates; on a documented group it picks the documented
ones, no spelling is repeated, and a name is present iff a slot is documented. -/
private theorem np_az_table : ∀ a, (npAz a).all (azGood a) = true ∧
    (docAz a).all (fun c => npAz a == some c && !a.dup && a.any) = true := AzN.forall (by decide +kernel)
private theorem np_lon_table : ∀ l, (npLon l).all (lonGood l) = true ∧
    (docLon l).all (fun lon => npLon l == lon && !l.dup && l.any == lon.isSome) = true := LonN.forall (by decide +kernel)
private theorem np_tmp_table : ∀ t, (npTmp t).all (tmpGood t) = true ∧
    (docTmp t).all (fun tmp => npTmp t == tmp && !t.dup && t.any == tmp.isSome) = true := TmpN.forall (by decide +kernel)

private theorem np_az_good {a : AzN} {c : AzC} (h : npAz a = some c) : azGood a c = true := all_some (np_az_table a).1 h
private theorem np_lon_good {l : LonN} {c : LonC} (h : npLon l = some c) : lonGood l c = true := all_some (np_lon_table l).1 h
private theorem np_tmp_good {t : TmpN} {c : TmpC} (h : npTmp t = some c) : tmpGood t c = true := all_some (np_tmp_table t).1 h
private theorem np_az_doc {a : AzN} {c : AzC} (h : docAz a = some c) : npAz a = some c ∧ a.dup = false ∧ a.any = true := by
  simpa only [Bool.and_eq_true, beq_iff_eq, Bool.not_eq_true', and_assoc] using all_some (np_az_table a).2 h
private theorem np_lon_doc {l : LonN} {lon : Option LonC} (h : docLon l = some lon) :
    npLon l = lon ∧ l.dup = false ∧ l.any = lon.isSome := by
  simpa only [Bool.and_eq_true, beq_iff_eq, Bool.not_eq_true', and_assoc] using all_some (np_lon_table l).2 h
private theorem np_tmp_doc {t : TmpN} {tmp : Option TmpC} (h : docTmp t = some tmp) :
    npTmp t = tmp ∧ t.dup = false ∧ t.any = tmp.isSome := by
  simpa only [Bool.and_eq_true, beq_iff_eq, Bool.not_eq_true', and_assoc] using all_some (np_tmp_table t).2 h

/- `awkward_constructors.py`, azimuthal blocks: the pair taken is stored verbatim, marks momentum iff one of its names is a
momentum spelling, and the names left over are the other azimuthal names of the set; a documented pair is taken, nothing is
left over.  Longitudinal / temporal blocks run from dimension 2 / from 2 or 3: the name taken is stored verbatim and is the
only name of its group in the set, a name is only taken at the dimension the blocks expect, which it raises by one; a
documented reading is what the blocks produce. -/
private theorem ak_az_table : ∀ a, (match akAz a with
    | .ok st => st.c.all fun c => azGood a c && (st.mom == (c.2.1.isMom || c.2.2.isMom)) &&
        CN.all.all (fun k => a.has k == (k == c.2.1 || k == c.2.2 || st.rem.has k)) &&
        !st.rem.has c.2.1 && !st.rem.has c.2.2
    | .error _ => true) = true ∧
    (docAz a).all (fun c => akAz a == .ok ⟨some c, c.2.1.isMom || c.2.2.isMom, .empty⟩ &&
      (a.anyMom == (c.2.1.isMom || c.2.2.isMom))) = true := AzN.forall (by decide +kernel)
private theorem ak_lon_table : ∀ l, (match akLon 2 l with
    | .ok (d, lon) => d == (if lon.isSome then 3 else 2) && lonGoodO l lon && l.toList == slotNames lon
    | .error _ => true) = true ∧
    (docLon l).all (fun lon => akLon 2 l == .ok (if lon.isSome then 3 else 2, lon) &&
      (l.anyMom == (slotNames lon).any CN.isMom)) = true := LonN.forall (by decide +kernel)
private theorem ak_tmp_table : ∀ t, ([2, 3].all fun dim => match akTmp dim t with
    | .ok (_, tmp) => (!tmp.isSome || dim == 3) && tmpGoodO t tmp && t.toList == slotNames tmp
    | .error _ => true) = true ∧
    (docTmp t).all (fun tmp => akTmp 3 t == .ok (if tmp.isSome then 4 else 3, tmp) &&
      (tmp.isSome || akTmp 2 t == .ok (2, none)) && (t.anyMom == (slotNames tmp).any CN.isMom)) = true :=
  TmpN.forall (by decide +kernel)

/-- what the azimuthal blocks of `_check_names` did when they took the pair `c` -/
private structure AkAzTaken (a : AzN) (st : AkAz) (c : AzC) : Prop where
  good : azGood a c = true
  mom : st.mom = (c.2.1.isMom || c.2.2.isMom)
  names : ∀ k, a.has k = (k == c.2.1 || k == c.2.2 || st.rem.has k)
  rem1 : st.rem.has c.2.1 = false
  rem2 : st.rem.has c.2.2 = false

private theorem ak_az_taken {a : AzN} {st : AkAz} {c : AzC} (h : akAz a = .ok st) (hc : st.c = some c) : AkAzTaken a st c := by
  have := (ak_az_table a).1
  simp only [h, hc, Option.all_some, Bool.and_eq_true, beq_iff_eq, Bool.not_eq_true'] at this
  obtain ⟨⟨⟨⟨good, mom⟩, names⟩, rem1⟩, rem2⟩ := this
  exact ⟨good, mom, fun k => beq_iff_eq.1 (CN.all_all _ names k), rem1, rem2⟩
private theorem ak_az_doc {a : AzN} {c : AzC} (h : docAz a = some c) :
    akAz a = .ok ⟨some c, c.2.1.isMom || c.2.2.isMom, .empty⟩ ∧ a.anyMom = (c.2.1.isMom || c.2.2.isMom) := by
  simpa only [Bool.and_eq_true, beq_iff_eq] using all_some (ak_az_table a).2 h
private theorem ak_lon_taken {l : LonN} {d : Nat} {lon : Option LonC} (h : akLon 2 l = .ok (d, lon)) :
    d = (if lon.isSome then 3 else 2) ∧ lonGoodO l lon = true ∧ l.toList = slotNames lon := by
  have := (ak_lon_table l).1
  simpa only [h, Bool.and_eq_true, beq_iff_eq, and_assoc] using this
private theorem ak_lon_doc {l : LonN} {lon : Option LonC} (h : docLon l = some lon) :
    akLon 2 l = .ok (if lon.isSome then 3 else 2, lon) ∧ l.anyMom = (slotNames lon).any CN.isMom := by
  simpa only [Bool.and_eq_true, beq_iff_eq] using all_some (ak_lon_table l).2 h
private theorem ak_tmp_taken {t : TmpN} {dim d : Nat} {tmp : Option TmpC} (hd : dim = 2 ∨ dim = 3)
    (h : akTmp dim t = .ok (d, tmp)) : (tmp.isSome = true → dim = 3) ∧ tmpGoodO t tmp = true ∧ t.toList = slotNames tmp := by
  have := (ak_tmp_table t).1
  simp only [List.all_cons, List.all_nil, Bool.and_true, Bool.and_eq_true] at this
  rcases hd with rfl | rfl
  · simpa [h, and_assoc] using this.1
  · simpa [h, and_assoc] using this.2
private theorem ak_tmp_doc {t : TmpN} {tmp : Option TmpC} (h : docTmp t = some tmp) :
    akTmp 3 t = .ok (if tmp.isSome then 4 else 3, tmp) ∧ (tmp.isSome = false → akTmp 2 t = .ok (2, none)) ∧
      t.anyMom = (slotNames tmp).any CN.isMom := by
  have := all_some (ak_tmp_table t).2 h
  simp only [Bool.and_eq_true, beq_iff_eq, Bool.or_eq_true] at this
  exact ⟨this.1.1, fun hn => this.1.2.resolve_left (by simp [hn]), this.2⟩

/-! ### (a) `vector.obj` against the documented grammar -/

theorem c06_obj_az_eq_doc (a : AzN) : objAz a = docAz a := (obj_az_table a).1
theorem c06_obj_lon_eq_doc (l : LonN) : objLon l = docLon l := (obj_lon_table l).1
theorem c06_obj_tmp_eq_doc (t : TmpN) : objTmp t = docTmp t := (obj_tmp_table t).1

/-- **`vector.obj` = documented grammar** on EVERY name set: the documented sets are accepted with the documented
dimension, coordinate system, flavor and slot contents, every other set (missing partner, two coordinates of one group, a
coordinate spelled twice through synonyms — `E` with `e` and `M` with `m` included —, temporal without longitudinal,
unrecognised name) raises `TypeError`. -/
theorem c06_obj_eq_doc (n : NS) : objB n = docE (docB n) := by
  unfold objB docB
  rw [c06_obj_az_eq_doc, c06_obj_lon_eq_doc, c06_obj_tmp_eq_doc]
  cases n.other <;> simp only [Bool.false_eq_true, if_true, if_false, docE]
  rcases docAz n.a with _ | ⟨az, a1, a2⟩ <;> rcases docLon n.l with _ | _ | l <;> rcases docTmp n.t with _ | _ | t <;> rfl

/-- `E` with `e` and `M` with `m` are rejected: the second spelling is not popped (l. 3191 /
3200), becomes a key of its own in `generic_coordinates` (l. 3206) and is never consumed by `_gather_coordinates` -/
theorem c06_obj_rejects_duplicate_temporal :
    objTmp ⟨false, true, true, false, false, false, false, false⟩ = none ∧
    objTmp ⟨false, false, false, false, false, true, true, false⟩ = none := by decide +kernel

theorem c06_obj_documented (n : NS) {d : CtorRes} (h : docB n = some d) : objB n = .ok d := by
  rw [c06_obj_eq_doc, h]; rfl

theorem c06_obj_rejects (n : NS) (h : docB n = none) : objB n = .error .typeError := by
  rw [c06_obj_eq_doc, h]; rfl

/-- an unrecognised name is always a `TypeError` -/
theorem c06_obj_unknown_rejected (n : NS) (h : n.other = true) : objB n = .error .typeError := by
  simp [objB, h]

/-! list versions -/

theorem c06_obj_model_eq_doc (s : List CN) : objModel s = docE (Doc s) := c06_obj_eq_doc _

theorem c06_obj_order_irrelevant {s s' : List CN} (h : ∀ k, k ∈ s ↔ k ∈ s') : objModel s = objModel s' := by
  unfold objModel; rw [NS.ofList_congr h]

theorem c06_doc_order_irrelevant {s s' : List CN} (h : ∀ k, k ∈ s ↔ k ∈ s') : Doc s = Doc s' := by
  unfold Doc; rw [NS.ofList_congr h]

example : objModel [.x, .y, .z, .E, .e] = .error .typeError ∧ Doc [.x, .y, .z, .E, .e] = none := by decide +kernel
example : objModel [.pt, .phi, .eta, .m, .M] = .error .typeError := by decide +kernel
example : objModel [.x, .y, .z, .E, .energy] = .error .typeError := by decide +kernel
example : objModel [.x, .px, .y] = .error .typeError := by decide +kernel
example : objModel [.x, .y, .t] = .error .typeError := by decide +kernel
example : objModel [.pt, .phi, .eta, .mass] = .ok ⟨true, .rhophi, .pt, .phi, some (.eta, .eta), some (.tau, .mass)⟩ := by
  decide +kernel

/-! ### (b) stored verbatim -/

theorem docB_some {n : NS} {d : CtorRes} (h : docB n = some d) :
    ∃ az a1 a2 lon tmp, docAz n.a = some (az, a1, a2) ∧ docLon n.l = some lon ∧ docTmp n.t = some tmp ∧
      n.other = false ∧ (tmp.isSome = true → lon.isSome = true) ∧ d = ⟨n.anyMom, az, a1, a2, lon, tmp⟩ := by
  unfold docB at h
  cases ho : n.other <;> simp only [ho, if_true, if_false, Bool.false_eq_true, reduceCtorEq] at h
  rcases hA : docAz n.a with _ | ⟨az, a1, a2⟩ <;> rcases hL : docLon n.l with _ | lon <;>
    rcases hT : docTmp n.t with _ | tmp <;> simp only [hA, hL, hT, reduceCtorEq] at h
  refine ⟨az, a1, a2, lon, tmp, rfl, rfl, rfl, rfl, ?_⟩
  cases lon <;> cases tmp <;> simp_all

theorem c06_doc_fillers {n : NS} {d : CtorRes} (h : docB n = some d) : Stored n d ∧ d.fillers = n.toList := by
  obtain ⟨az, a1, a2, lon, tmp, hA, hL, hT, _, htl, rfl⟩ := docB_some h
  obtain ⟨gA, lA⟩ := doc_az_stored hA
  obtain ⟨gL, lL⟩ := doc_lon_stored hL
  obtain ⟨gT, lT⟩ := doc_tmp_stored hT
  refine ⟨stored_of_parts gA gL gT htl, ?_⟩
  rw [CtorRes.fillers_eq, NS.toList, lA, lL, lT]

theorem c06_doc_stored {n : NS} {d : CtorRes} (h : docB n = some d) : Stored n d := (c06_doc_fillers h).1

theorem c06_doc_covers {n : NS} {d : CtorRes} (h : docB n = some d) (k : CN) (hk : n.has k = true) : k ∈ d.fillers :=
  (c06_doc_fillers h).2 ▸ (NS.mem_toList n k).2 hk

/-- **`vector.obj` stores verbatim**: whenever it accepts, every slot of the result holds the
value supplied under a name of the call that is a spelling of exactly that slot's coordinate; no value is computed,
converted or moved to another coordinate. -/
theorem c06_obj_verbatim (n : NS) {r : CtorRes} (h : objB n = .ok r) : Stored n r :=
  c06_doc_stored (docE_ok.1 (c06_obj_eq_doc n ▸ h))

theorem CN.mem_syn (k : CN) : k ∈ k.coord.syn :=
  List.contains_iff_mem.1 (CN.all_all (fun k => k.coord.syn.contains k) (by decide +kernel) k)

/-- every spelling of a slot's coordinate, alone in its group, is read by the grammar as that slot -/
private theorem doc_az_syn (az : Az) : ∀ a1 ∈ az.c1.syn, ∀ a2 ∈ az.c2.syn,
    docAz (NS.ofList [a1, a2]).a = some (az, a1, a2) ∧ a1.isAz = true ∧ a2.isAz = true := by
  cases az <;> decide +kernel
private theorem doc_lon_syn (c : Lon) : ∀ k ∈ c.coord.syn,
    docLon (NS.ofList [k]).l = some (some (c, k)) ∧ k.isLon = true := by
  cases c <;> decide +kernel
private theorem doc_tmp_syn (c : Tmp) : ∀ k ∈ c.coord.syn,
    docTmp (NS.ofList [k]).t = some (some (c, k)) ∧ k.isTmp = true := by
  cases c <;> decide +kernel

private theorem CN.groups_disjoint (k : CN) :
    (k.isAz && k.isLon || k.isAz && k.isTmp || k.isLon && k.isTmp) = false := by cases k <;> rfl

private theorem contains_of_all {p : CN → Bool} {s : List CN} (h : ∀ k ∈ s, p k = true) (k : CN) :
    s.contains k = (p k && s.contains k) := by
  cases hk : s.contains k
  · rw [Bool.and_false]
  · rw [h k (List.contains_iff_mem.1 hk)]; rfl

/-- a list sorted into azimuthal, longitudinal and temporal names: every group of its name set comes from its own part -/
theorem NS.ofList_groups {A L T : List CN} (hA : ∀ k ∈ A, k.isAz = true) (hL : ∀ k ∈ L, k.isLon = true)
    (hT : ∀ k ∈ T, k.isTmp = true) :
    NS.ofList (A ++ L ++ T) = ⟨(NS.ofList A).a, (NS.ofList L).l, (NS.ofList T).t, false⟩ := by
  have key : ∀ k, (A ++ L ++ T).contains k =
      if k.isAz then A.contains k else if k.isLon then L.contains k else T.contains k := by
    intro k
    rw [List.contains_append, List.contains_append, contains_of_all hA k, contains_of_all hL k, contains_of_all hT k]
    have hd := CN.groups_disjoint k
    revert hd
    cases k.isAz <;> cases k.isLon <;> cases k.isTmp <;> simp
  -- every field of the name set is `contains` at a concrete name, where `key` picks the part by evaluation
  simp only [NS.ofList, NS.ofP, AzN.ofP, LonN.ofP, TmpN.ofP, key]
  rfl

/-- **a well-formed result is a documented vector**: the names stored in its slots form a documented (in particular
COMPLETE) coordinate set, and the documented meaning of that set is the result itself — same coordinate system, same
dimension, same slot contents — with the documented flavor "momentum iff one of the names is a momentum spelling". -/
theorem c06_wf_documented (r : CtorRes) (h : r.wf = true) :
    Doc r.fillers = some { r with mom := r.fillers.any CN.isMom } := by
  obtain ⟨h1, h2, hl, ht, htl⟩ := (CtorRes.wf_iff r).1 h
  rcases r with ⟨mom, az, a1, a2, lon, tmp⟩
  obtain ⟨dA, g1, g2⟩ := doc_az_syn az a1 (h1 ▸ CN.mem_syn a1) a2 (h2 ▸ CN.mem_syn a2)
  have dL : docLon (NS.ofList (slotNames lon)).l = some lon ∧ ∀ k ∈ slotNames lon, k.isLon = true := by
    rcases lon with _ | ⟨c, k⟩
    · exact ⟨rfl, nofun⟩
    · obtain ⟨d, g⟩ := doc_lon_syn c k (hl c k rfl ▸ CN.mem_syn k)
      exact ⟨d, fun j hj => List.mem_singleton.1 hj ▸ g⟩
  have dT : docTmp (NS.ofList (slotNames tmp)).t = some tmp ∧ ∀ k ∈ slotNames tmp, k.isTmp = true := by
    rcases tmp with _ | ⟨c, k⟩
    · exact ⟨rfl, nofun⟩
    · obtain ⟨d, g⟩ := doc_tmp_syn c k (ht c k rfl ▸ CN.mem_syn k)
      exact ⟨d, fun j hj => List.mem_singleton.1 hj ▸ g⟩
  have hg : NS.ofList ([a1, a2] ++ slotNames lon ++ slotNames tmp) = _ :=
    NS.ofList_groups (by simp [g1, g2]) dL.2 dT.2
  have hm := NS.anyMom_ofList ([a1, a2] ++ slotNames lon ++ slotNames tmp)
  rw [CtorRes.fillers_eq, Doc, docB, ← hm, hg, dA, dL.1, dT.1]
  cases lon <;> cases tmp <;> simp at htl ⊢

/-! ### (a) the object classes `VectorObject{2,3,4}D`, `MomentumObject{2,3,4}D` -/

/-- the three class constructors as ONE rule: a complete azimuthal pair, at most one longitudinal and at most one temporal
generic key, temporal only with longitudinal, and the number of coordinates must be the dimension of the class -/
def classComb (dim : Nat) (mom : Bool) : Option AzC → Option (Option LonC) → Option (Option TmpC) → Except CtorErr CtorRes
  | some (az, a1, a2), some lon, some tmp =>
    if tmp.isSome && lon.isNone then .error .typeError
    else if 2 + (if lon.isSome then 1 else 0) + (if tmp.isSome then 1 else 0) = dim then .ok ⟨mom, az, a1, a2, lon, tmp⟩
    else .error .typeError
  | _, _, _ => .error .typeError

/-- the rows of the class constructors are `classComb` at 2, 3, 4.  The generic keys are split group by group: once a group
is not a documented choice both sides are errors whatever the later groups hold, so 64 of the 2^9 cases are looked at. -/
private theorem class_comb (mom : Bool) (kw : KW) :
    class2 mom kw = classComb 2 mom (azOfKW kw.x kw.y kw.rho kw.phi) (lonOfKW kw.z kw.theta kw.eta) (tmpOfKW kw.t kw.tau) ∧
    class3 mom kw = classComb 3 mom (azOfKW kw.x kw.y kw.rho kw.phi) (lonOfKW kw.z kw.theta kw.eta) (tmpOfKW kw.t kw.tau) ∧
    class4 mom kw = classComb 4 mom (azOfKW kw.x kw.y kw.rho kw.phi) (lonOfKW kw.z kw.theta kw.eta) (tmpOfKW kw.t kw.tau) := by
  rcases kw with ⟨x, y, rho, phi, z, theta, eta, t, tau⟩
  cases x <;> cases y <;> cases rho <;> cases phi <;> try (refine ⟨?_, ?_, ?_⟩ <;> rfl)
  all_goals cases z <;> cases theta <;> cases eta <;> try (refine ⟨?_, ?_, ?_⟩ <;> rfl)
  all_goals cases t <;> cases tau <;> refine ⟨?_, ?_, ?_⟩ <;> rfl

private theorem classComb_baddim {dim : Nat} (mom : Bool) (A : Option AzC) (L : Option (Option LonC)) (T : Option (Option TmpC))
    (h2 : dim ≠ 2) (h3 : dim ≠ 3) (h4 : dim ≠ 4) : classComb dim mom A L T = .error .typeError := by
  rcases A with _ | ⟨az, a1, a2⟩ <;> rcases L with _ | _ | l <;> rcases T with _ | _ | t <;> simp [classComb] <;> omega

private theorem classComb_ok {dim : Nat} {mom : Bool} {A : Option AzC} {L : Option (Option LonC)} {T : Option (Option TmpC)}
    {r : CtorRes} (h : classComb dim mom A L T = .ok r) :
    ∃ az a1 a2 lon tmp, A = some (az, a1, a2) ∧ L = some lon ∧ T = some tmp ∧ (tmp.isSome = true → lon.isSome = true) ∧
      r = ⟨mom, az, a1, a2, lon, tmp⟩ ∧ r.dim = dim := by
  rcases A with _ | ⟨az, a1, a2⟩ <;> rcases L with _ | lon <;> rcases T with _ | tmp <;>
    simp only [classComb] at h <;> try cases h
  by_cases hc : (tmp.isSome && lon.isNone) = true
  · simp [hc] at h
  · by_cases hd : 2 + (if lon.isSome then 1 else 0) + (if tmp.isSome then 1 else 0) = dim
    · simp only [hc, hd, if_true, if_false, Bool.false_eq_true] at h
      cases h
      refine ⟨_, _, _, _, _, rfl, rfl, rfl, ?_, rfl, hd⟩
      intro ht
      cases lon with
      | none => simp [ht] at hc
      | some _ => rfl
    · simp [hc, hd] at h

private theorem classComb_err {dim : Nat} {mom : Bool} {A : Option AzC} {L : Option (Option LonC)} {T : Option (Option TmpC)}
    {e : CtorErr} (h : classComb dim mom A L T = .error e) : e = .typeError := by
  rcases A with _ | ⟨az, a1, a2⟩ <;> rcases L with _ | lon <;> rcases T with _ | tmp <;>
    (try simp only [classComb] at h) <;> (try (cases h; rfl))
  by_cases hc : (tmp.isSome && lon.isNone) = true
  · simp only [hc, if_true] at h; cases h; rfl
  · by_cases hd : 2 + (if lon.isSome then 1 else 0) + (if tmp.isSome then 1 else 0) = dim
    · simp [hc, hd] at h
    · simp only [hc, hd, if_false, Bool.false_eq_true] at h; cases h; rfl

/-- the row-by-row class constructors (l. 676-687, 1049-1078, 1720-1785) are the single rule `classComb` -/
theorem classB_comb (dim : Nat) (mom : Bool) (n : NS) :
    classB dim mom n = if n.other then .error .typeError else if n.synDup then .error .typeError else
      classComb dim mom (clsAz n.a) (clsLon n.l) (clsTmp n.t) := by
  unfold classB
  cases n.other <;> simp only [if_true, if_false, Bool.false_eq_true]
  cases n.synDup <;> simp only [if_true, if_false, Bool.false_eq_true]
  split
  · exact (class_comb _ _).1
  · exact (class_comb _ _).2.1
  · exact (class_comb _ _).2.2
  · rename_i h2 h3 h4
    exact (classComb_baddim mom _ _ _ (fun h => h2 h) (fun h => h3 h) (fun h => h4 h)).symm

theorem c06_doc_synDup {n : NS} (h : n.synDup = true) : docB n = none := by
  simp only [NS.synDup, Bool.or_eq_true] at h
  unfold docB
  cases n.other <;> simp only [if_true, if_false, Bool.false_eq_true]
  rcases h with (h | h) | h
  · rw [doc_az_dup h]
  · rw [doc_lon_dup h]; rcases docAz n.a with _ | ⟨az, a1, a2⟩ <;> rfl
  · rw [doc_tmp_dup h]; rcases docAz n.a with _ | ⟨az, a1, a2⟩ <;> rcases docLon n.l with _ | l <;> rfl

/-- **the object classes = documented grammar, up to the flavor**: `VectorObject<dim>D(**kw)` (`mom = false`) and
`MomentumObject<dim>D(**kw)` (`mom = true`) accept EXACTLY the documented name sets of dimension `dim` (generic or momentum
spellings, any keyword order) and build the documented vector — coordinate system and slot contents as documented — whose
flavor is the CLASS; every other name set (another dimension, missing partner, two coordinates of one group, a coordinate
spelled twice, temporal without longitudinal, unrecognised name) raises `TypeError`. -/
theorem c06_class_eq_doc (dim : Nat) (mom : Bool) (n : NS) :
    classB dim mom n = match docB n with
      | some d => if d.dim = dim then .ok { d with mom := mom } else .error .typeError
      | none => .error .typeError := by
  rw [classB_comb]
  cases hs : n.synDup
  · simp only [NS.synDup, Bool.or_eq_false_iff] at hs
    rw [cls_az_doc hs.1.1, cls_lon_doc hs.1.2, cls_tmp_doc hs.2]
    unfold docB
    cases n.other <;> simp only [if_true, if_false, Bool.false_eq_true]
    rcases docAz n.a with _ | ⟨az, a1, a2⟩ <;> rcases docLon n.l with _ | _ | l <;> rcases docTmp n.t with _ | _ | t <;>
      simp [classComb, CtorRes.dim]
  · rw [c06_doc_synDup hs]
    cases n.other <;> rfl

theorem c06_class_documented (dim : Nat) (mom : Bool) (n : NS) {d : CtorRes} (h : docB n = some d) :
    classB dim mom n = if d.dim = dim then .ok { d with mom := mom } else .error .typeError := by
  rw [c06_class_eq_doc, h]

/-- the classes reject every undocumented name set with `TypeError` (in particular every repeated spelling:
`VectorObject2D(x=1, px=2, y=3)`, `MomentumObject4D(px=, py=, pz=, E=, e=)`) -/
theorem c06_class_rejects (dim : Nat) (mom : Bool) (n : NS) (h : docB n = none) : classB dim mom n = .error .typeError := by
  rw [c06_class_eq_doc, h]

theorem c06_class_ok {dim : Nat} {mom : Bool} {n : NS} {r : CtorRes} (h : classB dim mom n = .ok r) :
    ∃ d, docB n = some d ∧ d.dim = dim ∧ r = { d with mom := mom } := by
  rw [c06_class_eq_doc] at h
  split at h
  · rename_i d hd
    split at h <;> cases h
    exact ⟨d, hd, ‹_›, rfl⟩
  · cases h

/-- acceptance as a `Bool`, for `c06_class_accepts_iff` only: an equation of `Bool`s, which evaluates on given names;
`c06_class_accepts_iff'` says the same in `Prop` and is the form to cite in a proof -/
def okB {α : Type} : Except CtorErr α → Bool | .ok _ => true | .error _ => false

/-- **exact acceptance set of the classes**: the documented sets of dimension `dim` -/
theorem c06_class_accepts_iff (dim : Nat) (mom : Bool) (n : NS) :
    okB (classB dim mom n) = ((docB n).map CtorRes.dim == some dim) := by
  rw [c06_class_eq_doc]
  rcases docB n with _ | d
  · rfl
  · by_cases hd : d.dim = dim <;> simp [hd, okB]

theorem c06_class_accepts_iff' (dim : Nat) (mom : Bool) (n : NS) :
    (∃ r, classB dim mom n = .ok r) ↔ ∃ d, docB n = some d ∧ d.dim = dim := by
  rw [c06_class_eq_doc]
  rcases docB n with _ | d
  · simp
  · by_cases hd : d.dim = dim <;> simp [hd]

/-- the classes only ever raise `TypeError` -/
theorem c06_class_error_kind {dim : Nat} {mom : Bool} {n : NS} {e : CtorErr} (h : classB dim mom n = .error e) :
    e = .typeError := by
  rw [c06_class_eq_doc] at h
  split at h
  · split at h <;> cases h
    rfl
  · cases h; rfl

/-- **the classes store verbatim**: whenever a class accepts, every slot holds the value given under the (unique) supplied
spelling of that slot's coordinate; the flavor of the result is the class, its dimension that of the class. -/
theorem c06_class_verbatim {dim : Nat} {mom : Bool} {n : NS} {r : CtorRes} (h : classB dim mom n = .ok r) :
    Stored n r ∧ r.mom = mom ∧ r.dim = dim := by
  obtain ⟨d, hd, hdim, rfl⟩ := c06_class_ok h
  exact ⟨stored_with_mom mom (c06_doc_stored hd), rfl, hdim⟩

theorem c06_class_order_irrelevant (dim : Nat) (mom : Bool) {s s' : List CN} (h : ∀ k, k ∈ s ↔ k ∈ s') :
    classModel dim mom s = classModel dim mom s' := by
  unfold classModel; rw [NS.ofList_congr h]

/-- the one deviation of the classes from the grammar: the flavor is the class, not the spelling; repeated spellings are
rejected -/
theorem c06_class_examples :
    classModel 2 false [.px, .py] = .ok ⟨false, .xy, .px, .py, none, none⟩ ∧
    Doc [.px, .py] = some ⟨true, .xy, .px, .py, none, none⟩ ∧
    classModel 3 true [.rho, .phi, .eta] = .ok ⟨true, .rhophi, .rho, .phi, some (.eta, .eta), none⟩ ∧
    Doc [.rho, .phi, .eta] = some ⟨false, .rhophi, .rho, .phi, some (.eta, .eta), none⟩ ∧
    classModel 2 false [.x, .px, .y] = .error .typeError ∧ classModel 2 false [.px, .x, .y] = .error .typeError ∧
    classModel 4 true [.px, .py, .pz, .E, .e] = .error .typeError ∧
    classModel 4 false [.x, .y, .z, .E, .t] = .error .typeError ∧
    classModel 3 false [.x, .y, .z, .t] = .error .typeError := by decide +kernel

/-! ### (c) `vector.array` -/

/-- `npB` with the class choice (l. 2159-2164) spelled out -/
theorem npB_cases (n : NS) : npB n =
    if !(n.a.any || n.l.any || n.t.any || n.other) then .error .valueError else
    if n.anyMom && (n.a.dup || n.l.dup || n.t.dup) then .error .valueError else
    match npAz n.a with
    | none => .error .typeError
    | some (az, a1, a2) =>
      if n.t.any then
        (match npLon n.l with
         | none => .error .typeError
         | some l => match npTmp n.t with
           | none => .error .typeError
           | some t => .ok ⟨n.anyMom, az, a1, a2, some l, some t⟩)
      else if n.l.any then
        (match npLon n.l with
         | none => .error .typeError
         | some l => .ok ⟨n.anyMom, az, a1, a2, some l, none⟩)
      else .ok ⟨n.anyMom, az, a1, a2, none, none⟩ := by
  simp only [npB]
  cases n.t.any <;> cases n.l.any <;> rfl

/-- **`vector.array` stores verbatim and never builds a vector from an incomplete set**: whenever it accepts, the slots
hold supplied names of the right coordinates (`Stored`), hence (`c06_wf_documented`) the names used form a documented,
complete coordinate set, interpreted as documented; the flavor is taken from ALL names, extras included. -/
theorem c06_array_verbatim {n : NS} {r : CtorRes} (h : npB n = .ok r) : Stored n r ∧ r.mom = n.anyMom := by
  rw [npB_cases] at h
  cases h0 : (!(n.a.any || n.l.any || n.t.any || n.other)) <;> simp only [h0, if_true, if_false, Bool.false_eq_true, reduceCtorEq] at h
  cases h1 : (n.anyMom && (n.a.dup || n.l.dup || n.t.dup)) <;> simp only [h1, if_true, if_false, Bool.false_eq_true, reduceCtorEq] at h
  rcases hA' : npAz n.a with _ | ⟨az, a1, a2⟩ <;> simp only [hA', reduceCtorEq] at h
  cases hta : n.t.any <;> cases hla : n.l.any <;> simp only [hta, hla, if_true, if_false, Bool.false_eq_true] at h
  · cases h
    exact ⟨stored_of_parts (np_az_good hA') rfl rfl nofun, rfl⟩
  · rcases hL' : npLon n.l with _ | l <;> simp only [hL', reduceCtorEq] at h
    cases h
    exact ⟨stored_of_parts (np_az_good hA') (np_lon_good hL') rfl nofun, rfl⟩
  all_goals
    rcases hL' : npLon n.l with _ | l <;> simp only [hL', reduceCtorEq] at h
    rcases hT' : npTmp n.t with _ | t <;> simp only [hT', reduceCtorEq] at h
    cases h
    exact ⟨stored_of_parts (np_az_good hA') (np_lon_good hL') (np_tmp_good hT') (fun _ => rfl), rfl⟩

theorem c06_array_extras (n : NS) (r : CtorRes) (k : CN) : k ∈ npExtra n r ↔ n.has k = true ∧ k ∉ r.fillers := by
  simp [npExtra, List.mem_filter, NS.mem_toList]

/-- on a documented set `vector.array` builds exactly the documented vector, without extra fields -/
theorem c06_array_documented {n : NS} {d : CtorRes} (h : docB n = some d) : npB n = .ok d ∧ npExtra n d = [] := by
  refine ⟨?_, ?_⟩
  · obtain ⟨az, a1, a2, lon, tmp, hA, hL, hT, ho, htl, rfl⟩ := docB_some h
    obtain ⟨nA, dA, aA⟩ := np_az_doc hA
    obtain ⟨nL, dL, aL⟩ := np_lon_doc hL
    obtain ⟨nT, dT, aT⟩ := np_tmp_doc hT
    -- some name is present, no spelling is repeated, and the class is chosen from `lon` and `tmp`
    rw [npB_cases, nA, nL, nT, dA, dL, dT, aA, aL, aT]
    cases lon <;> cases tmp <;> simp at htl ⊢
  · rw [npExtra, (c06_doc_fillers h).2, List.filter_eq_nil_iff]
    intro k hk
    simp [hk]

/-- discrepancies of `vector.array` with the other constructors outside the documented sets -/
theorem c06_array_examples :
    -- an extra momentum-spelled field turns a generic vector into a momentum vector
    arrayModel [.x, .y, .pt] = .ok ⟨⟨true, .xy, .x, .y, none, none⟩, [.pt]⟩ ∧
    -- both azimuthal systems: the Cartesian one wins, the other is carried along
    arrayModel [.x, .y, .rho, .phi] = .ok ⟨⟨false, .xy, .x, .y, none, none⟩, [.rho, .phi]⟩ ∧
    -- repeated spellings: `ValueError` (duplicate field name after renaming), not `TypeError`
    arrayModel [.x, .px, .y] = .error .valueError ∧
    arrayModel [.x, .y, .z, .E, .e] = .error .valueError ∧
    -- an incomplete set is never a vector
    arrayModel [.x, .y, .t] = .error .typeError ∧ arrayModel [.x, .z] = .error .typeError ∧
    arrayModel [.px, .py, .pz, .theta, .E, .M] = .ok ⟨⟨true, .xy, .px, .py, some (.z, .pz), some (.t, .E)⟩, [.theta, .M]⟩ := by
  decide +kernel

/-! ### (c) `vector.zip`, `vector.Array` (`_check_names`) -/

/-- what `_check_names` accepts went through all three stages, the longitudinal one starting at dimension 2 -/
theorem akB_ok {n : NS} {r : CtorRes} {rem : AzN} (h : akB n = .ok (r, rem)) :
    ∃ st az a1 a2 lon tmp d1 d2, akAz n.a = .ok st ∧ st.c = some (az, a1, a2) ∧ akLon 2 n.l = .ok (d1, lon) ∧
      akTmp d1 n.t = .ok (d2, tmp) ∧ rem = st.rem ∧
      r = ⟨st.mom || (slotNames lon).any CN.isMom || (slotNames tmp).any CN.isMom, az, a1, a2, lon, tmp⟩ := by
  rcases h1 : akAz n.a with e | st <;> simp only [akB, h1, bind, Except.bind, reduceCtorEq] at h
  rcases hc : st.c with _ | ⟨az, a1, a2⟩ <;> simp only [hc, Option.isSome_none, Option.isSome_some, Bool.false_eq_true, if_true, if_false] at h
  · rcases h2 : akLon 0 n.l with e | v <;> simp only [h2, reduceCtorEq] at h
    rcases h3 : akTmp v.fst n.t with e | v1 <;> simp only [h3, reduceCtorEq] at h
  · rcases h2 : akLon 2 n.l with e | ⟨d1, lon⟩ <;> simp only [h2, reduceCtorEq] at h
    rcases h3 : akTmp d1 n.t with e | ⟨d2, tmp⟩ <;> simp only [h3, reduceCtorEq, Except.ok.injEq, Prod.mk.injEq] at h
    refine ⟨st, az, a1, a2, lon, tmp, d1, d2, rfl, hc, rfl, h3, h.2.symm, ?_⟩
    rw [← h.1]
    cases lon <;> cases tmp <;> simp [slotNames]

theorem c06_zip_verbatim {n : NS} {r : CtorRes} {rem : AzN} (h : akB n = .ok (r, rem)) :
    Stored n r ∧ r.mom = r.fillers.any CN.isMom ∧ (∀ k, n.has k = true → k ∈ r.fillers ∨ rem.has k = true) ∧
    (∀ k, rem.has k = true → n.a.has k = true ∧ k ≠ r.a1 ∧ k ≠ r.a2) := by
  obtain ⟨st, az, a1, a2, lon, tmp, d1, d2, h1, hc, h2, h3, rfl, rfl⟩ := akB_ok h
  have hA := ak_az_taken h1 hc
  obtain ⟨rfl, hLg, hLall⟩ := ak_lon_taken h2
  have hT := ak_tmp_taken (by cases lon <;> simp) h3
  have htl : tmp.isSome = true → lon.isSome = true := fun ht => by
    have := hT.1 ht
    cases lon <;> simp at this ⊢
  refine ⟨stored_of_parts hA.good hLg hT.2.1 htl, ?_, fun k hk => ?_, fun k hk => ⟨?_, ?_, ?_⟩⟩
  · rw [CtorRes.fillers_eq, List.any_append, List.any_append, hA.mom]
    simp
  · rw [CtorRes.fillers_eq]
    simp only [NS.has, hA.names k, Bool.or_eq_true, beq_iff_eq, ← LonN.mem_toList, ← TmpN.mem_toList, hLall, hT.2.2] at hk
    simp only [List.mem_append, List.mem_cons, List.not_mem_nil, or_false]
    rcases hk with ((((rfl | rfl) | hk) | hk) | hk)
    · exact .inl (.inl (.inl (.inl rfl)))
    · exact .inl (.inl (.inl (.inr rfl)))
    · exact .inr hk
    · exact .inl (.inl (.inr hk))
    · exact .inl (.inr hk)
  · rw [hA.names k, hk]; simp
  · rintro rfl; exact absurd (hk.symm.trans hA.rem1) nofun
  · rintro rfl; exact absurd (hk.symm.trans hA.rem2) nofun

/-- on a documented set `vector.zip` / `vector.Array` build exactly the documented vector, without extra fields -/
theorem c06_zip_documented {n : NS} {d : CtorRes} (h : docB n = some d) : akB n = .ok (d, .empty) := by
  obtain ⟨az, a1, a2, lon, tmp, hA, hL, hT, ho, htl, rfl⟩ := docB_some h
  obtain ⟨kA, mA⟩ := ak_az_doc hA
  obtain ⟨kL, mL⟩ := ak_lon_doc hL
  obtain ⟨kT3, kT2, mT⟩ := ak_tmp_doc hT
  -- the temporal stage starts at the dimension the longitudinal stage reached: 3 with a longitudinal name; 2 without, and
  -- then the documented set has no temporal name either (`htl`)
  have kT : ∃ d, akTmp (if lon.isSome then 3 else 2) n.t = .ok (d, tmp) := by
    cases hl : lon.isSome
    · have ht : tmp.isSome = false := by
        cases ht : tmp.isSome
        · rfl
        · rw [htl ht] at hl; cases hl
      cases tmp
      · exact ⟨2, kT2 ht⟩
      · cases ht
    · exact ⟨_, kT3⟩
  obtain ⟨d, kT⟩ := kT
  simp only [akB, kA, kL, kT, bind, Except.bind, Option.isSome_some, if_true]
  -- the three stages have run; what is left is the flavor
  rw [NS.anyMom, mA, mL, mT]
  cases lon <;> cases tmp <;> simp [slotNames]

/-! ### C06 assembled, for lists of names -/

/-- list form of `Stored`: the result is well formed (every slot holds a spelling of its own coordinate; temporal only with
longitudinal) and every stored name was supplied -/
def StoredL (s : List CN) (r : CtorRes) : Prop := r.wf = true ∧ ∀ k ∈ r.fillers, k ∈ s

theorem Stored.toList {s : List CN} {r : CtorRes} (h : Stored (.ofList s) r) : StoredL s r :=
  ⟨h.1, fun k hk => by simpa [NS.has_ofList] using h.2 k hk⟩

private theorem with_mom_self (d : CtorRes) : (⟨d.mom, d.az, d.a1, d.a2, d.lon, d.tmp⟩ : CtorRes) = d := by cases d; rfl

/-- **C06, positive part**: on every documented coordinate-name set (in any order, any documented momentum spelling) all
constructors build the documented vector — dimension, coordinate system, flavor, and each slot holding the value
supplied under the corresponding name — and they agree with each other; the array constructors add no extra field; the
classes of the other dimensions raise `TypeError`.  (The classes take their flavor from the class: `MomentumObject*`
with generic spellings / `VectorObject*` with momentum spellings is accepted too, see `c06_class_documented`.) -/
theorem c06_all_agree_on_documented (s : List CN) {d : CtorRes} (h : Doc s = some d) :
    objModel s = .ok d ∧ classModel d.dim d.mom s = .ok d ∧
    (∀ mom, classModel d.dim mom s = .ok { d with mom := mom }) ∧
    (∀ dim mom, dim ≠ d.dim → classModel dim mom s = .error .typeError) ∧
    arrayModel s = .ok ⟨d, []⟩ ∧ zipModel s = .ok ⟨d, []⟩ ∧ akArrayModel s = .ok ⟨d, []⟩ := by
  have hz : zipModel s = .ok ⟨d, []⟩ := by
    unfold zipModel
    rw [c06_zip_documented h]
    simp only [Except.map, ArrRes.mk.injEq, Except.ok.injEq, true_and, List.filter_eq_nil_iff]
    intro k hk
    have := c06_doc_covers h k (by rw [NS.has_ofList]; simpa using hk)
    simpa using this
  refine ⟨c06_obj_documented _ h, ?_, ?_, ?_, ?_, hz, hz⟩
  · unfold classModel; rw [c06_class_documented _ _ _ h, if_pos rfl, with_mom_self]
  · intro mom; unfold classModel; rw [c06_class_documented _ _ _ h, if_pos rfl]
  · intro dim mom hd; unfold classModel; rw [c06_class_documented _ _ _ h, if_neg (fun e => hd e.symm)]
  · unfold arrayModel
    rw [(c06_array_documented h).1]
    simp only [Except.map, (c06_array_documented h).2]

/-- **C06, verbatim storage**: whatever any constructor accepts, each slot of the vector holds the value supplied under
a name of the call which is a spelling of exactly that slot's coordinate, and the stored names form a documented
(complete) coordinate set whose documented coordinate system and dimension are those of the vector built. -/
theorem c06_stored_is_documented {s : List CN} {r : CtorRes} (h : StoredL s r) :
    Doc r.fillers = some { r with mom := r.fillers.any CN.isMom } := c06_wf_documented r h.1

theorem c06_obj_model_verbatim {s : List CN} {r : CtorRes} (h : objModel s = .ok r) :
    StoredL s r ∧ r.mom = s.any CN.isMom := by
  have hd : docB (.ofList s) = some r := docE_ok.1 (c06_obj_model_eq_doc s ▸ h)
  refine ⟨(c06_doc_stored hd).toList, ?_⟩
  obtain ⟨az, a1, a2, lon, tmp, _, _, _, _, _, rfl⟩ := docB_some hd
  exact NS.anyMom_ofList s

theorem c06_class_model_verbatim {dim : Nat} {mom : Bool} {s : List CN} {r : CtorRes} (h : classModel dim mom s = .ok r) :
    StoredL s r ∧ r.mom = mom ∧ r.dim = dim :=
  ⟨(c06_class_verbatim h).1.toList, (c06_class_verbatim h).2⟩

/-- `vector.obj` and the classes reject with `TypeError`, never with another exception -/
theorem c06_obj_error_kind {n : NS} {e : CtorErr} (h : objB n = .error e) : e = .typeError :=
  docE_error (c06_obj_eq_doc n ▸ h)

/-- **C06, negative part**: every undocumented set of names (a missing partner, two coordinates of one group, the same
coordinate spelled twice through synonyms, a temporal coordinate without a longitudinal one, unknown names) is rejected with
`TypeError` by `vector.obj` and by every object class -/
theorem c06_rejects (s : List CN) (h : Doc s = none) (dim : Nat) (mom : Bool) :
    objModel s = .error .typeError ∧ classModel dim mom s = .error .typeError :=
  ⟨c06_obj_rejects _ h, c06_class_rejects _ _ _ h⟩

/-- `vector.obj` and each object class, as functions of the name list, ARE the documented grammar (the classes up to the
dimension test and the flavor) -/
theorem c06_obj_class_eq_doc (s : List CN) (dim : Nat) (mom : Bool) :
    objModel s = docE (Doc s) ∧
    classModel dim mom s = (match Doc s with
      | some d => if d.dim = dim then .ok { d with mom := mom } else .error .typeError
      | none => .error .typeError) :=
  ⟨c06_obj_eq_doc _, c06_class_eq_doc _ _ _⟩

/-- **C06, array constructors (NumPy)**: whatever `vector.array` accepts, the vector part is built from a documented,
complete subset of the supplied names, stored verbatim and interpreted as documented; all other names are extra fields;
the flavor is "some supplied name (extra or not) is a momentum spelling". -/
theorem c06_array_sound {s : List CN} {r : CtorRes} {ex : List CN} (h : arrayModel s = .ok ⟨r, ex⟩) :
    StoredL s r ∧ Doc r.fillers = some { r with mom := r.fillers.any CN.isMom } ∧ r.mom = s.any CN.isMom ∧
    ∀ k, k ∈ ex ↔ k ∈ s ∧ k ∉ r.fillers := by
  unfold arrayModel at h
  rcases hn : npB (.ofList s) with e | r' <;> simp only [hn, Except.map] at h
  · cases h
  · simp only [Except.ok.injEq, ArrRes.mk.injEq] at h
    obtain ⟨rfl, rfl⟩ := h
    have hv := c06_array_verbatim hn
    refine ⟨hv.1.toList, c06_wf_documented _ hv.1.1, by rw [hv.2, NS.anyMom_ofList], ?_⟩
    intro k
    rw [c06_array_extras, NS.has_ofList]; simp

/-- **C06, array constructors (Awkward)**: whatever `vector.zip` / `vector.Array` accept, the vector part is built from a
documented, complete subset of the supplied names, stored verbatim, and is EXACTLY the documented vector of that subset
(flavor included); the remaining names are extra fields, and they can only be azimuthal names (every longitudinal or
temporal name is either used or makes the call fail). -/
theorem c06_zip_sound {s : List CN} {r : CtorRes} {ex : List CN} (h : zipModel s = .ok ⟨r, ex⟩) :
    StoredL s r ∧ Doc r.fillers = some r ∧ (∀ k, k ∈ ex ↔ k ∈ s ∧ k ∉ r.fillers) ∧ ∀ k ∈ ex, k.isAz = true := by
  unfold zipModel at h
  rcases hn : akB (.ofList s) with e | ⟨r', rem⟩ <;> simp only [hn, Except.map] at h
  · cases h
  · simp only [Except.ok.injEq, ArrRes.mk.injEq] at h
    obtain ⟨rfl, rfl⟩ := h
    obtain ⟨hst, hmom, hcov, hrem⟩ := c06_zip_verbatim hn
    have hdoc := c06_wf_documented _ hst.1
    rw [← hmom, with_mom_self] at hdoc
    refine ⟨hst.toList, hdoc, fun k => by simp [List.mem_filter], ?_⟩
    intro k hk
    simp only [List.mem_filter, Bool.not_eq_true', List.contains_eq_mem, decide_eq_false_iff_not] at hk
    rcases hcov k (by rw [NS.has_ofList]; simpa using hk.1) with h1 | h1
    · exact absurd h1 hk.2
    · exact AzN.has_isAz h1

theorem c06_zip_examples :
    zipModel [.x, .y, .px] = .ok ⟨⟨false, .xy, .x, .y, none, none⟩, [.px]⟩ ∧
    zipModel [.px, .py, .x] = .ok ⟨⟨true, .xy, .x, .py, none, none⟩, [.px]⟩ ∧
    zipModel [.x, .y, .rho, .phi] = .error .typeError ∧ zipModel [.x, .y, .z, .E, .e] = .error .typeError ∧
    zipModel [.x, .y, .t] = .error .typeError ∧ zipModel [.x, .y, .z, .theta] = .error .typeError ∧
    zipModel [.rho, .mass, .x, .y, .z] = .ok ⟨⟨true, .xy, .x, .y, some (.z, .z), some (.tau, .mass)⟩, [.rho]⟩ := by
  decide +kernel

/-! all name sets of a group, listed for the count below -/

def boolUniv : List Bool := [false, true]
def AzN.univ : List AzN :=
  boolUniv.flatMap fun x => boolUniv.flatMap fun px => boolUniv.flatMap fun y => boolUniv.flatMap fun py =>
  boolUniv.flatMap fun rho => boolUniv.flatMap fun pt => boolUniv.map fun phi => ⟨x, px, y, py, rho, pt, phi⟩
def LonN.univ : List LonN :=
  boolUniv.flatMap fun z => boolUniv.flatMap fun pz => boolUniv.flatMap fun theta => boolUniv.map fun eta => ⟨z, pz, theta, eta⟩
def TmpN.univ : List TmpN :=
  boolUniv.flatMap fun t => boolUniv.flatMap fun E => boolUniv.flatMap fun e => boolUniv.flatMap fun energy =>
  boolUniv.flatMap fun tau => boolUniv.flatMap fun M => boolUniv.flatMap fun m => boolUniv.map fun mass =>
    ⟨t, E, e, energy, tau, M, m, mass⟩

/-- size of the documented grammar: 6 azimuthal pairs, (no | 4) longitudinal names, (no | 8) temporal names -/
theorem c06_doc_counts :
    (AzN.univ.filter fun a => (docAz a).isSome).length = 6 ∧ (LonN.univ.filter fun l => (docLon l).isSome).length = 5 ∧
    (TmpN.univ.filter fun t => (docTmp t).isSome).length = 9 := by decide +kernel

end VG
