/-
C17 (axes) — theorems about the executable AXIS model of the reducers (`Glue/Reduce.lean`; tied to the real `numpy.sum` /
`ndarray.sum` / `numpy.count_nonzero` / `ak.sum` / `ak.count_nonzero` / `ak.count` on vector arrays by `harness/reduce.py` through
`Driver/Reduce.lean`).  `Props/C17.lean` speaks about FLAT lists of stored coordinates; here: `axis`, `keepdims`, tuple and negative
axes, shapes with length-one / size-0 axes, jagged lists.  All statements hold for every element type `α` with the stated
monoid laws of (`zero`, `add`) as explicit hypotheses; the model itself imports nothing.

The reduction `red` over a mask of axes commutes with every monoid homomorphism (`red_hom`); at the free monoid it gives, for
each output position, the group of input elements the position covers (`groupsArr`), so the counts and the link to `Props/C17`
(`sum2/3/4` over ℝ) are instances of one statement (`reduceAxes_groups`, `sum1_hom`).
-/
import VectorModel.Glue.Reduce
import VectorModel.Props.C17


namespace VRed

variable {α β : Type}

theorem length_rows (k n : Nat) (d : List α) : (rows k n d).length = n := by simp [rows]

theorem mem_rows_length {k n : Nat} {d : List α} (hd : d.length = n * k) : ∀ r ∈ rows k n d, r.length = k := by
  intro r hr
  simp only [rows, List.mem_map, List.mem_range] at hr
  obtain ⟨i, hi, rfl⟩ := hr
  have h1 : (i + 1) * k ≤ n * k := Nat.mul_le_mul_right k hi
  rw [Nat.succ_mul] at h1
  simp only [List.length_take, List.length_drop, hd]
  omega

theorem length_addRows (zero : α) (add : α → α → α) (len : Nat) (rs : List (List α))
    (h : ∀ r ∈ rs, r.length = len) : (addRows zero add len rs).length = len := by
  induction rs with
  | nil => simp [addRows]
  | cons r rs ih =>
    have h1 := h r List.mem_cons_self
    have h2 := ih fun r' hr' => h r' (List.mem_cons_of_mem _ hr')
    simp only [addRows, List.foldr_cons, List.length_zipWith] at h2 ⊢
    omega

theorem length_flatten_uniform (q : Nat) (l : List (List α)) (h : ∀ r ∈ l, r.length = q) :
    l.flatten.length = l.length * q := by
  induction l with
  | nil => simp
  | cons r l ih =>
    have h1 := h r List.mem_cons_self
    have h2 := ih fun r' hr' => h r' (List.mem_cons_of_mem _ hr')
    simp only [List.flatten_cons, List.length_append, List.length_cons, Nat.succ_mul, h1, h2]
    omega

/-! ### 1. the SHAPE of the result -/

/-- `keepdims=False`: exactly the axes that are not reduced are left, with their lengths — whatever these are (1 included) -/
theorem c17a_shape_drop (sh : List Nat) (m : List Bool) (h : m.length = sh.length) :
    outShape false sh m = ((sh.zip m).filter fun p => !p.2).map Prod.fst := by
  induction sh generalizing m with
  | nil => simp [outShape]
  | cons n sh ih =>
    cases m with
    | nil => simp at h
    | cons b m =>
      have h' : m.length = sh.length := by simpa using h
      cases b <;> simp [outShape, ih m h']

/-- `keepdims=True`: the reduced axes have length 1, all others are unchanged -/
theorem c17a_shape_keep (sh : List Nat) (m : List Bool) (h : m.length = sh.length) :
    outShape true sh m = (sh.zip m).map fun p => if p.2 then 1 else p.1 := by
  induction sh generalizing m with
  | nil => simp [outShape]
  | cons n sh ih =>
    cases m with
    | nil => simp at h
    | cons b m =>
      have h' : m.length = sh.length := by simpa using h
      cases b <;> simp [outShape, ih m h']

theorem length_maskOf (n : Nat) (axes : List Nat) : (maskOf n axes).length = n := by simp [maskOf]

theorem maskOf_get (n : Nat) (axes : List Nat) (i : Nat) (hi : i < n) : (maskOf n axes)[i]? = some (axes.contains i) := by
  simp [maskOf, hi]

/-- the shape of `numpy.sum(a, axis=axes, keepdims=kd)` is the documented one -/
theorem c17a_shape (zero : α) (add : α → α → α) (axes : List Nat) (a : Arr α) :
    (reduceAxes zero add axes false a).shape
        = (((a.shape.zip (maskOf a.shape.length axes)).filter fun p => !p.2).map Prod.fst) ∧
      (reduceAxes zero add axes true a).shape
        = ((a.shape.zip (maskOf a.shape.length axes)).map fun p => if p.2 then 1 else p.1) :=
  ⟨c17a_shape_drop _ _ (length_maskOf _ _), c17a_shape_keep _ _ (length_maskOf _ _)⟩

/-- length-one axes that are not reduced stay (the `squeeze()` defect): concrete instances -/
example : (reduceAxes (0 : Int) (· + ·) [0] false ⟨[2, 1, 3], [1, 2, 3, 4, 5, 6]⟩).shape = [1, 3] := by decide
example : (reduceAxes (0 : Int) (· + ·) [1] false ⟨[1, 6], [1, 2, 3, 4, 5, 6]⟩).shape = [1] := by decide
example : (reduceAxes (0 : Int) (· + ·) [0, 2] true ⟨[2, 1, 3], [1, 2, 3, 4, 5, 6]⟩).shape = [1, 1, 1] := by decide

theorem prod_outShape_keepdims (sh : List Nat) (m : List Bool) : prod (outShape true sh m) = prod (outShape false sh m) := by
  induction sh generalizing m with
  | nil => rfl
  | cons n sh ih =>
    cases h : m.headD false <;>
      simp only [outShape, h, if_true, Bool.false_eq_true, if_false, prod, ih, Nat.one_mul]

/-- the `keepdims=True` result is the plain result reshaped: same C-order data, shapes with the same number of
elements (the extra axes all have length 1) -/
theorem c17a_keepdims (zero : α) (add : α → α → α) (axes : List Nat) (a : Arr α) :
    (reduceAxes zero add axes true a).data = (reduceAxes zero add axes false a).data ∧
      prod (reduceAxes zero add axes true a).shape = prod (reduceAxes zero add axes false a).shape :=
  ⟨rfl, prod_outShape_keepdims _ _⟩

theorem length_red (zero : α) (add : α → α → α) (sh : List Nat) (m : List Bool) (d : List α) (hd : d.length = prod sh) :
    (red zero add sh m d).length = prod (outShape false sh m) := by
  induction sh generalizing m d with
  | nil => simpa [red, outShape] using hd
  | cons n sh ih =>
    have hrows := mem_rows_length (k := prod sh) (n := n) (d := d) (by simpa [prod] using hd)
    have hall : ∀ r ∈ (rows (prod sh) n d).map (red zero add sh m.tail), r.length = prod (outShape false sh m.tail) := by
      intro r hr
      simp only [List.mem_map] at hr
      obtain ⟨r0, hr0, rfl⟩ := hr
      exact ih m.tail r0 (hrows r0 hr0)
    cases h : m.headD false
    · simp only [red, outShape, h, Bool.false_eq_true, if_false, prod]
      rw [length_flatten_uniform _ _ hall]
      simp [length_rows]
    · simp only [red, outShape, h, if_true, Bool.false_eq_true, if_false]
      exact length_addRows _ _ _ _ hall

theorem length_red_rows (zero : α) (add : α → α → α) (sh : List Nat) (m : List Bool) (n : Nat) (d : List α)
    (hd : d.length = n * prod sh) :
    ∀ r ∈ (rows (prod sh) n d).map (red zero add sh m), r.length = prod (outShape false sh m) := by
  intro r hr
  obtain ⟨r0, hr0, rfl⟩ := List.mem_map.mp hr
  exact length_red zero add sh m r0 (mem_rows_length hd r0 hr0)

theorem c17a_wf (zero : α) (add : α → α → α) (axes : List Nat) (kd : Bool) (a : Arr α) (h : a.WF) :
    (reduceAxes zero add axes kd a).WF := by
  unfold Arr.WF reduceAxes reduceMask
  cases kd
  · exact length_red _ _ _ _ _ h
  · simp only [prod_outShape_keepdims]
    exact length_red _ _ _ _ _ h

/-! ### 2. the axis argument -/

/-- axis `-k` is axis `ndim - k` -/
theorem c17a_negative_axis (ndim k : Nat) (h1 : 1 ≤ k) (h2 : k ≤ ndim) :
    normAxis ndim (.one (-(k : Int))) = normAxis ndim (.one ((ndim - k : Nat) : Int)) ∧
      normAxis ndim (.one (-(k : Int))) = .ok [ndim - k] := by
  have e1 : normOne ndim (-(k : Int)) = some (ndim - k) := by
    unfold normOne
    rw [if_neg (by omega), if_pos (by omega)]
    congr 1
    omega
  have e2 : normOne ndim ((ndim - k : Nat) : Int) = some (ndim - k) := by
    unfold normOne
    rw [if_pos (by omega), if_pos (by omega)]
    congr 1
  simp [normAxis, e1, e2]

/-- out of range is an error (except NumPy's 0-d quirk) -/
theorem c17a_axis_out_of_range (ndim : Nat) (k : Int) (h : (ndim : Int) ≤ k ∨ k < -(ndim : Int)) (h0 : 0 < ndim) :
    normAxis ndim (.one k) = .error .axisError := by
  have e : normOne ndim k = none := by
    unfold normOne
    split
    · rw [if_neg (by omega)]
    · rw [if_neg (by omega)]
  simp only [normAxis, e]
  rw [if_neg (by omega)]

theorem maskOf_range (n : Nat) : maskOf n (List.range n) = List.replicate n true := by
  apply List.ext_getElem
  · simp [maskOf]
  · intro i h1 h2
    simp only [maskOf, List.length_map, List.length_range] at h1
    simp [maskOf, h1]

/-- `axis=None` is every axis: the shape is `()` (all ones with `keepdims`) -/
theorem c17a_none (zero : α) (add : α → α → α) (kd : Bool) (a : Arr α) :
    sumArr zero add .none kd a = .ok (reduceMask zero add (List.replicate a.shape.length true) kd a) := by
  simp [sumArr, normAxis, reduceAxes, maskOf_range]

theorem outShape_all (sh : List Nat) : outShape false sh (List.replicate sh.length true) = [] ∧
    outShape true sh (List.replicate sh.length true) = List.replicate sh.length 1 := by
  induction sh with
  | nil => simp [outShape]
  | cons n sh ih => simp [outShape, List.replicate_succ, ih.1, ih.2]

/-! ### 3. reductions commute with monoid homomorphisms; `count_nonzero` is the sum of the 0/1 indicator -/

theorem rows_map (f : α → β) (k n : Nat) (d : List α) : rows k n (d.map f) = (rows k n d).map (List.map f) := by
  simp [rows, List.map_drop, List.map_take]

theorem addRows_map (z : α) (add : α → α → α) (z' : β) (add' : β → β → β) (h : α → β) (hz : h z = z')
    (hadd : ∀ a b, h (add a b) = add' (h a) (h b)) (len : Nat) (rs : List (List α)) :
    (addRows z add len rs).map h = addRows z' add' len (rs.map (List.map h)) := by
  induction rs with
  | nil => simp [addRows, hz]
  | cons r rs ih =>
    simp only [addRows, List.foldr_cons, List.map_cons] at ih ⊢
    rw [← ih, List.map_zipWith, List.zipWith_map]
    simp only [hadd]

theorem red_hom (z : α) (add : α → α → α) (z' : β) (add' : β → β → β) (h : α → β) (hz : h z = z')
    (hadd : ∀ a b, h (add a b) = add' (h a) (h b)) (sh : List Nat) (m : List Bool) (d : List α) :
    (red z add sh m d).map h = red z' add' sh m (d.map h) := by
  induction sh generalizing m d with
  | nil => simp [red]
  | cons n sh ih =>
    have e : (rows (prod sh) n (d.map h)).map (red z' add' sh m.tail)
        = ((rows (prod sh) n d).map (red z add sh m.tail)).map (List.map h) := by
      rw [rows_map, List.map_map, List.map_map]
      apply List.map_congr_left
      intro r _
      exact (ih m.tail r).symm
    cases hm : m.headD false
    · simp only [red, hm, Bool.false_eq_true, if_false, e, List.map_flatten]
    · simp only [red, hm, if_true, e]
      exact addRows_map z add z' add' h hz hadd _ _

section hom
variable (z : β) (add : β → β → β) (c : α → β) (S : List α → β) (hnil : S [] = z)
  (happ : ∀ a b, S (a ++ b) = add (S a) (S b)) (hone : ∀ v, S [v] = c v)
include hnil happ hone

/-- a function `S` on lists that is a monoid homomorphism and is `c` on singletons is the sum of the `c`s … -/
theorem sum1_hom (vs : List α) : sum1 z add (vs.map c) = S vs := by
  induction vs with
  | nil => exact hnil.symm
  | cons v vs ih =>
    show add (c v) (sum1 z add (vs.map c)) = S ([v] ++ vs)
    rw [ih, happ, hone]

/-- … and the reduction of the `c`s over any axes is, position by position, `S` of the group the position covers -/
theorem reduceAxes_groups (axes : List Nat) (kd : Bool) (a : Arr α) :
    reduceAxes z add axes kd (a.map c) = (groupsArr axes kd a).map S := by
  simp only [groupsArr, reduceAxes, reduceMask, Arr.map, Arr.mk.injEq, true_and]
  rw [red_hom [] (· ++ ·) z add S hnil happ, List.map_map]
  exact congrArg _ (List.map_congr_left fun v _ => (hone v).symm)

end hom

theorem filter_length_single (p : α → Bool) (v : α) : ([v].filter p).length = ind p v := by
  simp only [ind, List.filter_cons, List.filter_nil]
  cases p v <;> rfl

/-- `count_nonzero` (defined through the GROUPS of elements an output position covers) is the
sum, over the same axes, of the 0/1 indicator -/
theorem c17a_count_nonzero_eq_sum_indicator (p : α → Bool) (ax : AxisSpec) (kd : Bool) (a : Arr α) :
    countNonzeroArr p ax kd a = sumArr 0 (· + ·) ax kd (a.map (ind p)) := by
  unfold countNonzeroArr sumArr
  simp only [Arr.map]
  cases normAxis a.shape.length ax with
  | error e => rfl
  | ok axes =>
    exact congrArg Except.ok (reduceAxes_groups 0 (· + ·) (ind p) (fun g => (g.filter p).length) rfl (by simp)
      (filter_length_single p) axes kd a).symm

/-- … and `count` the sum of ones -/
theorem c17a_count_eq_sum_ones (ax : AxisSpec) (kd : Bool) (a : Arr α) :
    countArr ax kd a = sumArr 0 (· + ·) ax kd (a.map fun _ => 1) := by
  unfold countArr sumArr
  simp only [Arr.map]
  cases normAxis a.shape.length ax with
  | error e => rfl
  | ok axes =>
    exact congrArg Except.ok (reduceAxes_groups 0 (· + ·) (fun _ => 1) List.length rfl (by simp) (fun _ => rfl) axes kd a).symm

/-- same errors, same shape, and at every output position the count of non-zero elements is at most the number of
elements covered -/
theorem c17a_count_nonzero_le (p : α → Bool) (ax : AxisSpec) (kd : Bool) (a : Arr α) :
    match countNonzeroArr p ax kd a, countArr ax kd a with
    | .ok c, .ok n => c.shape = n.shape ∧ c.data.length = n.data.length ∧ ∀ i, c.data.getD i 0 ≤ n.data.getD i 0
    | .error e, .error e' => e = e'
    | _, _ => False := by
  unfold countNonzeroArr countArr
  cases normAxis a.shape.length ax with
  | error e => simp
  | ok axes =>
    simp only [Arr.map, List.length_map, true_and]
    intro i
    simp only [List.getD_eq_getElem?_getD, List.getElem?_map]
    cases (groupsArr axes kd a).data[i]? with
    | none => simp
    | some g => simpa using List.length_filter_le p g

/-! ### 4. reducing over all axes is the sum of all elements -/

section monoid
variable (zero : α) (add : α → α → α) (hz : ∀ a, add zero a = a) (hz' : ∀ a, add a zero = a)
  (assoc : ∀ a b c, add (add a b) c = add a (add b c))
include hz assoc

theorem sum1_append (a b : List α) : sum1 zero add (a ++ b) = add (sum1 zero add a) (sum1 zero add b) := by
  induction a with
  | nil => simp [sum1, hz]
  | cons x a ih => simp only [sum1, List.cons_append, List.foldr_cons] at ih ⊢; rw [ih, assoc]

theorem sum1_flatten (l : List (List α)) : sum1 zero add l.flatten = sum1 zero add (l.map (sum1 zero add)) := by
  induction l with
  | nil => rfl
  | cons r l ih =>
    rw [List.flatten_cons, sum1_append zero add hz assoc, ih]
    rfl

omit hz assoc in
theorem flatten_rows (k n : Nat) (d : List α) : (rows k n d).flatten = d.take (n * k) := by
  induction n with
  | zero => simp [rows]
  | succ n ih =>
    have : rows k (n + 1) d = rows k n d ++ [(d.drop (n * k)).take k] := by
      simp [rows, List.range_succ]
    rw [this, List.flatten_append, ih, Nat.succ_mul, List.take_add]
    simp

omit hz assoc in
theorem addRows_singletons (f : List α → α) (l : List (List α)) :
    addRows zero add 1 (l.map fun r => [f r]) = [sum1 zero add (l.map f)] := by
  induction l with
  | nil => rfl
  | cons r l ih =>
    simp only [addRows, List.map_cons, List.foldr_cons] at ih ⊢
    rw [ih]
    rfl

include hz'

theorem red_all (sh : List Nat) (d : List α) (hd : d.length = prod sh) :
    red zero add sh (List.replicate sh.length true) d = [sum1 zero add d] := by
  induction sh generalizing d with
  | nil =>
    match d, hd with
    | [x], _ => simp [red, sum1, hz']
  | cons n sh ih =>
    have hd' : d.length = n * prod sh := by simpa [prod] using hd
    have hrows := mem_rows_length (k := prod sh) (n := n) (d := d) hd'
    have e : (rows (prod sh) n d).map (red zero add sh (List.replicate sh.length true))
        = (rows (prod sh) n d).map fun r => [sum1 zero add r] := by
      apply List.map_congr_left
      intro r hr
      exact ih r (hrows r hr)
    simp only [red, List.length_cons, List.replicate_succ, List.headD_cons, if_true, List.tail_cons, e, (outShape_all sh).1, prod]
    rw [addRows_singletons, ← sum1_flatten zero add hz assoc, flatten_rows, ← hd', List.take_length]

/-- `axis=None` gives the sum of all elements, as a 0-d array (`keepdims`: all axes of length one) -/
theorem c17a_total (a : Arr α) (h : a.WF) :
    sumArr zero add .none false a = .ok ⟨[], [sum1 zero add a.data]⟩ ∧
      sumArr zero add .none true a = .ok ⟨List.replicate a.shape.length 1, [sum1 zero add a.data]⟩ := by
  simp only [c17a_none, reduceMask, (outShape_all a.shape).1, (outShape_all a.shape).2,
    red_all zero add hz hz' assoc a.shape a.data h, and_self]

end monoid

/-! ### 5. jagged (Awkward) arrays -/

/-- an empty list sums to zero, counts zero; an array without lists sums (position-wise) to the empty list -/
theorem c17a_jagged_empty (zero : α) (add : α → α → α) (p : α → Bool) :
    sum1 zero add [] = zero ∧ sumPos add ([] : List (List α)) = [] ∧
      akSum zero add (some (-1)) false (.d2 [[], []]) = .ok (.d1 [zero, zero]) ∧
      akSum zero add (some 0) false (.d2 [[], []]) = .ok (.d1 []) ∧
      akSum zero add none false (.d2 [[], []]) = .ok (.d0 zero) ∧
      akSum zero add (some (-1)) true (.d2 [[], []]) = .ok (.d2 [[zero], [zero]]) ∧
      akCountNonzero p (some (-1)) false (.d2 [[], []]) = .ok (.d1 [0, 0]) ∧
      akCount (some 1) false (.d2 ([[], []] : List (List α))) = .ok (.d1 [0, 0]) :=
  ⟨rfl, rfl, rfl, rfl, rfl, rfl, rfl, rfl⟩

/-- `axis=-1` of a jagged array: one sum per list, in order — empty lists give zero; `keepdims` wraps each in a length-one list -/
theorem c17a_jagged_last (zero : α) (add : α → α → α) (l : List (List α)) :
    akSum zero add (some (-1)) false (.d2 l) = .ok (.d1 (l.map (sum1 zero add))) ∧
      akSum zero add (some (-1)) true (.d2 l) = .ok (.d2 (l.map fun r => [sum1 zero add r])) ∧
      (∀ i : Nat, l[i]? = some [] → (l.map (sum1 zero add))[i]? = some zero) := by
  refine ⟨rfl, rfl, ?_⟩
  intro i h
  simp [h, sum1]

/-- negative axes of the jagged reductions: `-1` is the innermost axis, `-depth` is axis 0 -/
theorem c17a_jagged_negative_axis (zero : α) (add : α → α → α) (kd : Bool) (l2 : List (List α)) (l3 : List (List (List α))) :
    akSum zero add (some (-1)) kd (.d2 l2) = akSum zero add (some 1) kd (.d2 l2) ∧
      akSum zero add (some (-2)) kd (.d2 l2) = akSum zero add (some 0) kd (.d2 l2) ∧
      akSum zero add (some (-1)) kd (.d3 l3) = akSum zero add (some 2) kd (.d3 l3) ∧
      akSum zero add (some (-2)) kd (.d3 l3) = akSum zero add (some 1) kd (.d3 l3) ∧
      akSum zero add (some (-3)) kd (.d3 l3) = akSum zero add (some 0) kd (.d3 l3) ∧
      akSum zero add (some 2) kd (.d2 l2) = .error .valueError ∧ akSum zero add (some (-3)) kd (.d2 l2) = .error .valueError :=
  ⟨rfl, rfl, rfl, rfl, rfl, rfl, rfl⟩

theorem length_padZip (f : β → β → β) (a b : List β) : (padZip f a b).length = max a.length b.length := by
  induction a generalizing b with
  | nil => simp only [padZip, List.length_nil, Nat.zero_max]
  | cons x a ih =>
    cases b with
    | nil => simp only [padZip, List.length_nil, Nat.max_zero]
    | cons y b => simp only [padZip, List.length_cons, ih, Nat.succ_max_succ]

/-- `axis=0` of a jagged array: nothing is padded in — the result is as long as the LONGEST list -/
theorem c17a_jagged_axis0_length (add : α → α → α) (l : List (List α)) :
    (sumPos add l).length = (l.map List.length).foldr max 0 := by
  induction l with
  | nil => rfl
  | cons r l ih => simp only [sumPos, List.foldr_cons, List.map_cons, length_padZip] at ih ⊢; rw [ih]

theorem sum1_ind (p : α → Bool) (r : List α) : sum1 0 (· + ·) (r.map (ind p)) = (r.filter p).length :=
  sum1_hom 0 (· + ·) (ind p) (fun g => (g.filter p).length) rfl (by simp) (filter_length_single p) r

theorem sum1_ones (r : List α) : sum1 0 (· + ·) (r.map fun _ => 1) = r.length :=
  sum1_hom 0 (· + ·) (fun _ => 1) List.length rfl (by simp) (fun _ => rfl) r

/-- `ak.count_nonzero(axis=-1)` / `ak.count(axis=-1)`: per list the number of non-zero vectors / of vectors; the first never exceeds the second -/
theorem c17a_jagged_count_nonzero (p : α → Bool) (l : List (List α)) :
    akCountNonzero p (some (-1)) false (.d2 l) = .ok (.d1 (l.map fun r => (r.filter p).length)) ∧
      akCount (some (-1)) false (.d2 l) = .ok (.d1 (l.map List.length)) ∧
      ∀ r ∈ l, (r.filter p).length ≤ r.length := by
  refine ⟨?_, ?_, fun r _ => List.length_filter_le p r⟩
  · show Except.ok (JRes.d1 ((l.map (·.map (ind p))).map (sum1 0 (· + ·)))) = _
    simp only [List.map_map, Function.comp_def, sum1_ind]
  · show Except.ok (JRes.d1 ((l.map (·.map fun _ => 1)).map (sum1 0 (· + ·)))) = _
    simp only [List.map_map, Function.comp_def, sum1_ones]

section cmonoid
variable (zero : α) (add : α → α → α) (hz : ∀ a, add zero a = a) (hz' : ∀ a, add a zero = a)
  (assoc : ∀ a b c, add (add a b) c = add a (add b c)) (comm : ∀ a b, add a b = add b a)
include hz hz' assoc comm

theorem sum1_padZip (a b : List α) : sum1 zero add (padZip add a b) = add (sum1 zero add a) (sum1 zero add b) := by
  induction a generalizing b with
  | nil => simp [padZip, sum1, hz]
  | cons x a ih =>
    cases b with
    | nil => simp [padZip, sum1, hz']
    | cons y b =>
      have := ih b
      simp only [sum1, padZip, List.foldr_cons] at this ⊢
      rw [this, assoc x y, assoc x, ← assoc y, comm y, assoc _ y]

theorem sum1_sumPos (l : List (List α)) : sum1 zero add (sumPos add l) = sum1 zero add l.flatten := by
  induction l with
  | nil => rfl
  | cons r l ih =>
    rw [List.flatten_cons, sum1_append zero add hz assoc, ← ih]
    exact sum1_padZip zero add hz hz' assoc comm r _

/-- `axis=None` is the sum of all elements, and so is the sum of the `axis=-1` sums and the sum of the `axis=0` sums -/
theorem c17a_jagged_total (l : List (List α)) :
    akSum zero add none false (.d2 l) = .ok (.d0 (sum1 zero add l.flatten)) ∧
      sum1 zero add (l.map (sum1 zero add)) = sum1 zero add l.flatten ∧
      sum1 zero add (sumPos add l) = sum1 zero add l.flatten :=
  ⟨rfl, (sum1_flatten zero add hz assoc l).symm, sum1_sumPos zero add hz hz' assoc comm l⟩

end cmonoid

/-! ### 6. each output element is the sum of exactly the input elements whose index agrees on the kept axes -/

theorem getD_row (zero : α) (d : List α) (a k r : Nat) (hr : r < k) :
    ((d.drop a).take k).getD r zero = d.getD (a + r) zero := by
  simp only [List.getD_eq_getElem?_getD, List.getElem?_take, hr, if_true, List.getElem?_drop]

theorem ravel_lt (sh is : List Nat) (h : ValidIdx sh is) : ravel sh is < prod sh := by
  induction sh generalizing is with
  | nil => cases is <;> simp_all [ValidIdx, ravel, prod]
  | cons n sh ih =>
    cases is with
    | nil => simp [ValidIdx] at h
    | cons i is =>
      obtain ⟨h1, h2⟩ := h
      have := ih is h2
      have h3 : (i + 1) * prod sh ≤ n * prod sh := Nat.mul_le_mul_right _ h1
      rw [Nat.succ_mul] at h3
      simp only [ravel, prod]
      omega

theorem valid_of_mem_allIdx (sh is : List Nat) (h : is ∈ allIdx sh) : ValidIdx sh is := by
  induction sh generalizing is with
  | nil => simp [allIdx] at h; subst h; trivial
  | cons n sh ih =>
    simp only [allIdx, List.mem_flatMap, List.mem_range, List.mem_map] at h
    obtain ⟨i, hi, is', his', rfl⟩ := h
    exact ⟨hi, ih is' his'⟩

theorem getD_flatten_uniform (zero : α) (q : Nat) (l : List (List α)) (h : ∀ r ∈ l, r.length = q) (j t : Nat) (ht : t < q) :
    l.flatten.getD (j * q + t) zero = (l.getD j []).getD t zero := by
  induction l generalizing j with
  | nil => simp
  | cons r l ih =>
    have h1 := h r List.mem_cons_self
    have h2 := fun r' hr' => h r' (List.mem_cons_of_mem _ hr')
    cases j with
    | zero =>
      simp only [List.flatten_cons, Nat.zero_mul, Nat.zero_add, List.getD_cons_zero]
      simp only [List.getD_eq_getElem?_getD]
      rw [List.getElem?_append_left (by omega)]
    | succ j =>
      simp only [List.flatten_cons, List.getD_cons_succ]
      rw [← ih h2 j]
      simp only [List.getD_eq_getElem?_getD]
      rw [List.getElem?_append_right (by rw [h1, Nat.succ_mul]; omega)]
      congr 2
      rw [h1, Nat.succ_mul]; omega

section element
variable (zero : α) (add : α → α → α) (hz : ∀ a, add zero a = a) (hz' : ∀ a, add a zero = a)
  (assoc : ∀ a b c, add (add a b) c = add a (add b c))

theorem getD_addRows (q : Nat) (rs : List (List α)) (h : ∀ r ∈ rs, r.length = q) (t : Nat) (ht : t < q) :
    (addRows zero add q rs).getD t zero = sum1 zero add (rs.map fun r => r.getD t zero) := by
  induction rs with
  | nil => simp [addRows, sum1, List.getD_eq_getElem?_getD, ht]
  | cons r rs ih =>
    have h1 := h r List.mem_cons_self
    have h2 := fun r' hr' => h r' (List.mem_cons_of_mem _ hr')
    have hl := length_addRows zero add q rs h2
    have ih' := ih h2
    simp only [addRows, List.foldr_cons, List.map_cons, sum1] at ih' hl ⊢
    rw [← ih']
    have ht1 : t < r.length := by omega
    have ht2 : t < (List.foldr (List.zipWith add) (List.replicate q zero) rs).length := by omega
    simp only [List.getD_eq_getElem?_getD]
    rw [List.getElem?_eq_getElem (by simp only [List.length_zipWith]; omega), List.getElem_zipWith,
      List.getElem?_eq_getElem ht1, List.getElem?_eq_getElem ht2]
    rfl

include hz assoc in
theorem sum1_flatMap_filter {γ δ : Type} (l : List γ) (F : γ → List δ) (P : δ → Bool) (g : δ → α) :
    sum1 zero add (((l.flatMap F).filter P).map g) = sum1 zero add (l.map fun i => sum1 zero add (((F i).filter P).map g)) := by
  induction l with
  | nil => rfl
  | cons x l ih =>
    rw [List.flatMap_cons, List.filter_append, List.map_append, sum1_append zero add hz assoc, ih]
    rfl

include hz hz' in
theorem sum1_pick (l : List Nat) (hl : l.Nodup) (j0 : Nat) (S : Nat → α) :
    sum1 zero add (l.map fun i => if i = j0 then S i else zero) = if j0 ∈ l then S j0 else zero := by
  induction l with
  | nil => rfl
  | cons x l ih =>
    have hn := List.nodup_cons.mp hl
    have ih' := ih hn.2
    simp only [sum1, List.map_cons, List.foldr_cons] at ih' ⊢
    rw [ih']
    by_cases hx : x = j0
    · subst hx
      simp [hn.1, hz']
    · have : ¬ j0 = x := fun e => hx e.symm
      simp [hx, this, hz]

include hz hz' assoc in
theorem red_element (sh : List Nat) (m : List Bool) (d : List α) (hd : d.length = prod sh) (js : List Nat)
    (hj : ValidIdx (outShape false sh m) js) :
    (red zero add sh m d).getD (ravel (outShape false sh m) js) zero
      = sum1 zero add (((allIdx sh).filter fun is => decide (keepProj m is = js)).map fun is => d.getD (ravel sh is) zero) := by
  induction sh generalizing m d js with
  | nil =>
    cases js with
    | nil => simp [red, allIdx, keepProj, ravel, sum1, hz']
    | cons j js => simp [outShape, ValidIdx] at hj
  | cons n sh ih =>
    have hd' : d.length = n * prod sh := by simpa [prod] using hd
    have hrows := mem_rows_length (k := prod sh) (n := n) (d := d) hd'
    -- the right-hand side, row by row
    have rhs : ∀ (P : List Nat → Bool),
        sum1 zero add (((allIdx (n :: sh)).filter P).map fun is => d.getD (ravel (n :: sh) is) zero)
          = sum1 zero add ((List.range n).map fun i => sum1 zero add
              (((allIdx sh).filter fun is => P (i :: is)).map fun is =>
                ((d.drop (i * prod sh)).take (prod sh)).getD (ravel sh is) zero)) := by
      intro P
      rw [allIdx, sum1_flatMap_filter zero add hz assoc]
      congr 1
      apply List.map_congr_left
      intro i _
      rw [List.filter_map, List.map_map]
      congr 1
      apply List.map_congr_left
      intro is his
      have := ravel_lt sh is (valid_of_mem_allIdx sh is (List.mem_filter.mp his).1)
      simp only [Function.comp, ravel]
      rw [getD_row zero d _ _ _ this]
    have hall := length_red_rows zero add sh m.tail n d hd'
    rw [rhs]
    cases hm : m.headD false
    · -- the leading axis is kept
      simp only [outShape, hm, Bool.false_eq_true, if_false] at hj ⊢
      cases js with
      | nil => simp [ValidIdx] at hj
      | cons j0 js =>
        obtain ⟨hj0, hjs⟩ := hj
        have ht := ravel_lt _ _ hjs
        simp only [red, hm, Bool.false_eq_true, if_false, ravel]
        rw [getD_flatten_uniform zero _ _ hall j0 _ ht]
        have e : ∀ i, sum1 zero add (((allIdx sh).filter fun is => decide (keepProj m (i :: is) = j0 :: js)).map fun is =>
              ((d.drop (i * prod sh)).take (prod sh)).getD (ravel sh is) zero)
            = if i = j0 then (fun i => sum1 zero add (((allIdx sh).filter fun is => decide (keepProj m.tail is = js)).map fun is =>
              ((d.drop (i * prod sh)).take (prod sh)).getD (ravel sh is) zero)) i else zero := by
          intro i
          simp only [keepProj, hm, Bool.false_eq_true, if_false, List.cons.injEq]
          by_cases hi : i = j0
          · simp only [hi, true_and, if_true]
          · simp only [hi, false_and, decide_false, List.filter_false, List.map_nil, if_false]
            rfl
        simp only [e]
        rw [sum1_pick zero add hz hz' _ List.nodup_range, if_pos (List.mem_range.mpr hj0)]
        have hr0 : ((rows (prod sh) n d).map (red zero add sh m.tail)).getD j0 []
            = red zero add sh m.tail ((d.drop (j0 * prod sh)).take (prod sh)) := by
          simp [rows, List.getD_eq_getElem?_getD, hj0]
        rw [hr0]
        exact ih m.tail _ (hrows _ (by simp only [rows, List.mem_map, List.mem_range]; exact ⟨j0, hj0, rfl⟩)) js hjs
    · -- the leading axis is reduced
      simp only [outShape, hm, if_true, Bool.false_eq_true, if_false] at hj ⊢
      have ht := ravel_lt _ _ hj
      simp only [red, hm, if_true]
      rw [getD_addRows zero add _ _ hall _ ht]
      simp only [rows, List.map_map]
      congr 1
      apply List.map_congr_left
      intro i hi
      simp only [Function.comp, keepProj, hm, if_true]
      exact ih m.tail _ (hrows _ (by simp only [rows, List.mem_map]; exact ⟨i, hi, rfl⟩)) js hj

include hz hz' assoc in
/-- the element of `numpy.sum(a, axis=axes)` at the multi-index `js` is the sum of exactly the elements of `a` whose
multi-index, with the reduced axes struck out, is `js` -/
theorem c17a_element (a : Arr α) (h : a.WF) (axes : List Nat) (js : List Nat)
    (hj : ValidIdx (reduceAxes zero add axes false a).shape js) :
    (reduceAxes zero add axes false a).get zero js
      = sum1 zero add (((allIdx a.shape).filter fun is => decide (keepProj (maskOf a.shape.length axes) is = js)).map (a.get zero)) :=
  red_element zero add hz hz' assoc a.shape _ a.data h js hj

end element

/-- the index bookkeeping on an instance: shape (2, 1, 3), axis 0 — output index (0, 2) collects the inputs (0, 0, 2) and (1, 0, 2) -/
example : (allIdx [2, 1, 3]).filter (fun is => decide (keepProj (maskOf 3 [0]) is = [0, 2])) = [[0, 0, 2], [1, 0, 2]] := by decide

/-! ### 7. reducing in two steps: first the axes `A`, then the image of `B` among the remaining axes = reducing over `A ∪ B` -/

theorem outShape_combine (sh : List Nat) (m1 m2 : List Bool) (h : m1.length = sh.length) :
    outShape false sh (combine m1 m2) = outShape false (outShape false sh m1) m2 := by
  induction sh generalizing m1 m2 with
  | nil => simp [outShape]
  | cons n sh ih =>
    cases m1 with
    | nil => simp at h
    | cons b m1 =>
      have h' : m1.length = sh.length := by simpa using h
      cases b
      · cases hm : m2.headD false <;>
          simp only [combine, outShape, List.headD_cons, List.tail_cons, hm, Bool.false_eq_true, if_false, if_true, ih m1 m2.tail h']
      · simp only [combine, outShape, List.headD_cons, List.tail_cons, if_true, Bool.false_eq_true, if_false, ih m1 m2 h']

theorem rows_flatten (q : Nat) (L : List (List α)) (hL : ∀ r ∈ L, r.length = q) : rows q L.length L.flatten = L := by
  induction L with
  | nil => simp [rows]
  | cons r L ih =>
    have h1 := hL r List.mem_cons_self
    have h2 := ih fun r' hr' => hL r' (List.mem_cons_of_mem _ hr')
    have e : rows q (L.length + 1) (r ++ L.flatten) = r :: rows q L.length L.flatten := by
      simp only [rows, List.range_succ_eq_map, List.map_cons, List.map_map, Nat.zero_mul, List.drop_zero, List.take_left' h1]
      congr 1
      apply List.map_congr_left
      intro i _
      simp only [Function.comp, Nat.succ_mul]
      rw [Nat.add_comm, ← List.drop_drop, List.drop_left' h1]
    rw [List.length_cons, List.flatten_cons, e, h2]

section compose
variable (zero : α) (add : α → α → α) (hz : ∀ a, add zero a = a)
  (assoc : ∀ a b c, add (add a b) c = add a (add b c)) (comm : ∀ a b, add a b = add b a)

include assoc comm in
theorem medial (a b c d : α) : add (add a b) (add c d) = add (add a c) (add b d) := by
  rw [assoc a b, assoc a c, ← assoc b c d, comm b c, assoc c b d]

include hz assoc comm

theorem red_zipWith (sh : List Nat) (m : List Bool) (a b : List α) (hab : a.length = b.length) :
    red zero add sh m (List.zipWith add a b) = List.zipWith add (red zero add sh m a) (red zero add sh m b) := by
  let addP : α × α → α × α → α × α := fun p q => (add p.1 q.1, add p.2 q.2)
  have e1 : List.zipWith add a b = (a.zip b).map (fun p => add p.1 p.2) := by
    rw [List.map_zip_eq_zipWith]; rfl
  have hf : (red (zero, zero) addP sh m (a.zip b)).map Prod.fst = red zero add sh m a := by
    rw [red_hom (zero, zero) addP zero add Prod.fst rfl (fun _ _ => rfl), List.map_fst_zip (by omega)]
  have hs : (red (zero, zero) addP sh m (a.zip b)).map Prod.snd = red zero add sh m b := by
    rw [red_hom (zero, zero) addP zero add Prod.snd rfl (fun _ _ => rfl), List.map_snd_zip (by omega)]
  rw [e1, ← red_hom (zero, zero) addP zero add (fun p => add p.1 p.2) (hz zero)
    (fun p q => medial add assoc comm p.1 q.1 p.2 q.2), ← hf, ← hs, List.zipWith_map, List.zipWith_self]

omit assoc comm in
theorem red_replicate_zero (sh : List Nat) (m : List Bool) :
    red zero add sh m (List.replicate (prod sh) zero) = List.replicate (prod (outShape false sh m)) zero := by
  have e : List.replicate (prod sh) zero = (List.replicate (prod sh) ()).map (fun _ => zero) := by simp
  have hl := length_red () (fun _ _ => ()) sh m (List.replicate (prod sh) ()) (by simp)
  rw [e, ← red_hom () (fun _ _ => ()) zero add (fun _ => zero) rfl (fun _ _ => (hz zero).symm),
    show red () (fun _ _ => ()) sh m (List.replicate (prod sh) ()) = List.replicate (prod (outShape false sh m)) ()
      from List.eq_replicate_iff.mpr ⟨hl, fun _ _ => rfl⟩]
  simp

theorem red_addRows (sh : List Nat) (m : List Bool) (L : List (List α)) (hL : ∀ r ∈ L, r.length = prod sh) :
    red zero add sh m (addRows zero add (prod sh) L)
      = addRows zero add (prod (outShape false sh m)) (L.map (red zero add sh m)) := by
  induction L with
  | nil => exact red_replicate_zero zero add hz sh m
  | cons r L ih =>
    have h1 := hL r List.mem_cons_self
    have h2 := fun r' hr' => hL r' (List.mem_cons_of_mem _ hr')
    have hl := length_addRows zero add (prod sh) L h2
    have ih' := ih h2
    simp only [addRows, List.foldr_cons, List.map_cons] at ih' hl ⊢
    rw [red_zipWith zero add hz assoc comm sh m _ _ (by omega), ih']

theorem red_compose (sh : List Nat) (m1 m2 : List Bool) (d : List α) (hd : d.length = prod sh) (h : m1.length = sh.length) :
    red zero add (outShape false sh m1) m2 (red zero add sh m1 d) = red zero add sh (combine m1 m2) d := by
  induction sh generalizing m1 m2 d with
  | nil => simp [red, outShape]
  | cons n sh ih =>
    cases m1 with
    | nil => simp at h
    | cons b m1 =>
      have h' : m1.length = sh.length := by simpa using h
      have hd' : d.length = n * prod sh := by simpa [prod] using hd
      have hrows := mem_rows_length (k := prod sh) (n := n) (d := d) hd'
      have hall := length_red_rows zero add sh m1 n d hd'
      have step : ∀ m2', ((rows (prod sh) n d).map (red zero add sh m1)).map (red zero add (outShape false sh m1) m2')
          = (rows (prod sh) n d).map (red zero add sh (combine m1 m2')) := by
        intro m2'
        rw [List.map_map]
        apply List.map_congr_left
        intro r hr
        exact ih m1 m2' r (hrows r hr) h'
      cases b
      · -- the leading axis survives the first step
        have hlen : ((rows (prod sh) n d).map (red zero add sh m1)).length = n := by simp [length_rows]
        have hrf := rows_flatten _ _ hall
        rw [hlen] at hrf
        simp only [combine, red, outShape, List.headD_cons, List.tail_cons, Bool.false_eq_true, if_false, hrf, step,
          outShape_combine sh m1 m2.tail h']
      · -- the leading axis is reduced in the first step
        simp only [combine, red, outShape, List.headD_cons, List.tail_cons, if_true, Bool.false_eq_true, if_false]
        rw [red_addRows zero add hz assoc comm _ m2 _ hall, step, outShape_combine sh m1 m2 h']

/-- summing over the axes `m1`, then over the axes `m2` of the result, is summing over both at once -/
theorem c17a_axes_compose (a : Arr α) (h : a.WF) (m1 m2 : List Bool) (h1 : m1.length = a.shape.length) :
    reduceMask zero add m2 false (reduceMask zero add m1 false a) = reduceMask zero add (combine m1 m2) false a := by
  simp only [reduceMask, Arr.mk.injEq]
  exact ⟨(outShape_combine _ _ _ h1).symm, red_compose zero add hz assoc comm _ _ _ _ h h1⟩

end compose

/-- first axis 0 of three, then axis 1 of the remaining two (originally axis 2) = axes 0 and 2 -/
example : combine [true, false, false] [false, true] = [true, false, true] := by decide
example : (reduceMask (0 : Int) (· + ·) [false, true] false (reduceMask 0 (· + ·) [true, false, false] false ⟨[2, 1, 3], [1, 2, 3, 4, 5, 6]⟩)).data
    = (reduceAxes 0 (· + ·) [0, 2] false ⟨[2, 1, 3], [1, 2, 3, 4, 5, 6]⟩).data := by decide

/-! ### 8. the link to `Props/C17`: with the Cartesian components (the generated accessors) as elements and component-wise
addition, the reduction over ALL axes is `sum2/3/4` of the flat list, and the reduction over ANY axes is, position by position,
`sum2/3/4` of the group of stored elements the position covers — so every theorem of `Props/C17` about `sum2/3/4` (`c17_sum4`: the
denotation of the result is the sum of the denotations, `_perm`, `_append`, `_flatten`) applies to every axis. -/

section link
open VR VK Spec

/-- the Cartesian components `(a.x, a.y[, a.z[, a.t]])` of a stored element, by the generated accessors -/
noncomputable def cart2of (k0 : Az) (v : ℝ × ℝ) : ℝ × ℝ := (planar_x.eval k0 v.1 v.2, planar_y.eval k0 v.1 v.2)
noncomputable def cart3of (k0 : Az) (k1 : Lon) (v : ℝ × ℝ × ℝ) : ℝ × ℝ × ℝ :=
  (planar_x.eval k0 v.1 v.2.1, planar_y.eval k0 v.1 v.2.1, spatial_z.eval k0 k1 v.1 v.2.1 v.2.2)
noncomputable def cart4of (k0 : Az) (k1 : Lon) (k2 : Tmp) (v : ℝ × ℝ × ℝ × ℝ) : ℝ × ℝ × ℝ × ℝ :=
  (planar_x.eval k0 v.1 v.2.1, planar_y.eval k0 v.1 v.2.1, spatial_z.eval k0 k1 v.1 v.2.1 v.2.2.1,
    lorentz_t.eval k0 k1 k2 v.1 v.2.1 v.2.2.1 v.2.2.2)

/-! `add2/3/4` are, by definition, the addition of the product monoid `ℝ × … × ℝ`, and `(0, …, 0)` is its zero: the monoid
laws asked for by the theorems above are Mathlib's `zero_add`, `add_zero`, `add_assoc`, `add_comm`. -/

theorem add2_comm (a b : ℝ × ℝ) : add2 a b = add2 b a := add_comm a b
theorem add3_comm (a b : ℝ × ℝ × ℝ) : add3 a b = add3 b a := add_comm a b
theorem add4_comm (a b : ℝ × ℝ × ℝ × ℝ) : add4 a b = add4 b a := add_comm a b

theorem sum2_single (k0 : Az) (v : ℝ × ℝ) : sum2 k0 [v] = cart2of k0 v := by
  rw [c17_sum2_cons, c17_sum2_nil]; exact add_zero (cart2of k0 v)
theorem sum3_single (k0 : Az) (k1 : Lon) (v : ℝ × ℝ × ℝ) : sum3 k0 k1 [v] = cart3of k0 k1 v := by
  rw [c17_sum3_cons, c17_sum3_nil]; exact add_zero (cart3of k0 k1 v)
theorem sum4_single (k0 : Az) (k1 : Lon) (k2 : Tmp) (v : ℝ × ℝ × ℝ × ℝ) : sum4 k0 k1 k2 [v] = cart4of k0 k1 k2 v := by
  rw [c17_sum4_cons, c17_sum4_nil]; exact add_zero (cart4of k0 k1 k2 v)

/-- `numpy.sum(a)` (all axes) of an array of ANY shape is `Props/C17`'s `sum4` (`sum3`, `sum2`) of its flat list -/
theorem c17a_flat_agrees (k0 : Az) (k1 : Lon) (k2 : Tmp) (sh : List Nat) (vs : List (ℝ × ℝ × ℝ × ℝ)) (h : vs.length = prod sh) :
    sumArr (0, 0, 0, 0) add4 .none false ⟨sh, vs.map (cart4of k0 k1 k2)⟩ = .ok ⟨[], [sum4 k0 k1 k2 vs]⟩ := by
  rw [(c17a_total (0, 0, 0, 0) add4 zero_add add_zero add_assoc ⟨sh, vs.map (cart4of k0 k1 k2)⟩
    (by simpa [Arr.WF] using h)).1,
    sum1_hom _ _ _ _ (c17_sum4_nil k0 k1 k2) (c17_sum4_append k0 k1 k2) (sum4_single k0 k1 k2)]
theorem c17a_flat_agrees3 (k0 : Az) (k1 : Lon) (sh : List Nat) (vs : List (ℝ × ℝ × ℝ)) (h : vs.length = prod sh) :
    sumArr (0, 0, 0) add3 .none false ⟨sh, vs.map (cart3of k0 k1)⟩ = .ok ⟨[], [sum3 k0 k1 vs]⟩ := by
  rw [(c17a_total (0, 0, 0) add3 zero_add add_zero add_assoc ⟨sh, vs.map (cart3of k0 k1)⟩
    (by simpa [Arr.WF] using h)).1,
    sum1_hom _ _ _ _ (c17_sum3_nil k0 k1) (c17_sum3_append k0 k1) (sum3_single k0 k1)]
theorem c17a_flat_agrees2 (k0 : Az) (sh : List Nat) (vs : List (ℝ × ℝ)) (h : vs.length = prod sh) :
    sumArr (0, 0) add2 .none false ⟨sh, vs.map (cart2of k0)⟩ = .ok ⟨[], [sum2 k0 vs]⟩ := by
  rw [(c17a_total (0, 0) add2 zero_add add_zero add_assoc ⟨sh, vs.map (cart2of k0)⟩
    (by simpa [Arr.WF] using h)).1,
    sum1_hom _ _ _ _ (c17_sum2_nil k0) (c17_sum2_append k0) (sum2_single k0)]

/-- for EVERY axis set and `keepdims`, the sum is — position by position — `sum4` of the group of stored elements
that the position covers (`groupsArr`, characterised by `c17a_element` at the free monoid) -/
theorem c17a_axis_agrees (k0 : Az) (k1 : Lon) (k2 : Tmp) (axes : List Nat) (kd : Bool) (a : Arr (ℝ × ℝ × ℝ × ℝ)) :
    reduceAxes (0, 0, 0, 0) add4 axes kd (a.map (cart4of k0 k1 k2)) = (groupsArr axes kd a).map (sum4 k0 k1 k2) :=
  reduceAxes_groups _ _ _ _ (c17_sum4_nil k0 k1 k2) (c17_sum4_append k0 k1 k2) (sum4_single k0 k1 k2) axes kd a
theorem c17a_axis_agrees3 (k0 : Az) (k1 : Lon) (axes : List Nat) (kd : Bool) (a : Arr (ℝ × ℝ × ℝ)) :
    reduceAxes (0, 0, 0) add3 axes kd (a.map (cart3of k0 k1)) = (groupsArr axes kd a).map (sum3 k0 k1) :=
  reduceAxes_groups _ _ _ _ (c17_sum3_nil k0 k1) (c17_sum3_append k0 k1) (sum3_single k0 k1) axes kd a
theorem c17a_axis_agrees2 (k0 : Az) (axes : List Nat) (kd : Bool) (a : Arr (ℝ × ℝ)) :
    reduceAxes (0, 0) add2 axes kd (a.map (cart2of k0)) = (groupsArr axes kd a).map (sum2 k0) :=
  reduceAxes_groups _ _ _ _ (c17_sum2_nil k0) (c17_sum2_append k0) (sum2_single k0) axes kd a

end link

end VRed
