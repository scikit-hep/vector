/-
Lorentz (4D) part of the public API at the level of PUBLIC METHODS: glue ∘ compute (prefix `c09m_`).

The glue model is instantiated at `S := ℝ`, `B := Prop` with the generated REAL compute layer `evR`
(`Props/EvReal.lean`), and the theorems say what the 4D accessors, the boosts, `to_beta3` and the causal
predicates DENOTE, for every storage of the operands.  The six boosts along a coordinate axis are instances of one theorem
about a `BoostForm` (`Refine/LorentzBin.lean`), `boostForm_selfCall`, read by axis in `c09m_boostA_beta_rng`,
`c09m_boostA_gamma_rng`.  The `c09m_*_rng` theorems say that a result's stored coordinates are in range
(`C01E.StoredInRange` of `Props/MethodBin.lean`, through `Props/CanonClosed.lean`) when those of the boosted vector are: for
the axis boosts as a last conjunct, for the boosts by a vector as a property of whatever the call returns (no hypothesis on
the storages or on the booster).

§1 accessors, §2 axis boosts, §3 `boost_p4` / `boost_beta3` / `boost`, §4 `to_beta3`, §5 causal predicates; §6 the guards
(`AttributeError` on a 2D / 3D `self`, `TypeError` for a booster of the wrong dimension), for every compute layer; §7–8 the
`boostCM_of…` methods, which are the boosts by `neg3D` of the booster (`binary_route_neg`, `boostCM_eq`); then: a stored τ is
passed through by every boost; §9 the same accessors and predicates under the signed reading of a stored τ (`denoteS`,
`Spec/SignedTau.lean`), which covers τ-stored space-like vectors.
-/
import VectorModel.Props.C01Method
import VectorModel.Props.MethodBin
import VectorModel.Refine.LorentzAcc
import VectorModel.Refine.LorentzBin
import VectorModel.Refine.LorentzSigned
import VectorModel.Props.C09
import VectorModel.Props.C13
import VectorModel.Props.C14

set_option linter.constructorNameAsVariable false

namespace VR
namespace C01M
open VK VG Spec Real

/-! ### 1. accessors -/

theorem c09m_acc_t (K : Consts ℝ) (A : Arith ℝ) (v : Vec ℝ) (hv : WFV v)
    (hc : Stored4 (fun _ l t _ _ c d => SinOK l c ∧ CanonTmp t d) v) (x y z t : ℝ)
    (h : denote v = some [x, y, z, t]) : call evR K A "t" v [] = .ok (.scalar t) := by
  obtain ⟨hd, rfl, rfl, rfl, rfl, -⟩ := denote_lorentz h
  rw [call_accR K A (a := .t) rfl hv hd.ge (.inl rfl), accR, ap4, lorentz_t_eq_tOf _ _ _ _ _ _ _ hc.1 hc.2]

theorem c09m_acc_t2 (K : Consts ℝ) (A : Arith ℝ) (v : Vec ℝ) (hv : WFV v)
    (hc : Stored4 (fun k l t a b c d => CanonLon k l a b c ∧ CanonTmp t d) v) (x y z t : ℝ)
    (h : denote v = some [x, y, z, t]) : call evR K A "t2" v [] = .ok (.scalar (t ^ 2)) := by
  obtain ⟨hd, rfl, rfl, rfl, rfl, -⟩ := denote_lorentz h
  rw [call_accR K A (a := .t2) rfl hv hd.ge (.inl rfl), accR, ap4, refine_lorentz_t2 _ _ _ _ _ _ _ hc.1 hc.2]

theorem c09m_acc_tau2 (K : Consts ℝ) (A : Arith ℝ) (v : Vec ℝ) (hv : WFV v)
    (hc : Stored4 (fun k l t a b c d => CanonLon k l a b c ∧ CanonTmp t d) v) (x y z t : ℝ)
    (h : denote v = some [x, y, z, t]) :
    call evR K A "tau2" v [] = .ok (.scalar (t ^ 2 - (x ^ 2 + y ^ 2 + z ^ 2))) := by
  obtain ⟨hd, rfl, rfl, rfl, rfl, -⟩ := denote_lorentz h
  rw [call_accR K A (a := .tau2) rfl hv hd.ge (.inl rfl), accR, ap4, refine_lorentz_tau2 _ _ _ _ _ _ _ hc.1 hc.2]; rfl

/-- `tau = sign(s)·√|s|` with `s = t² − x² − y² − z²` (negative for space-like vectors) -/
theorem c09m_acc_tau (K : Consts ℝ) (A : Arith ℝ) (v : Vec ℝ) (hv : WFV v)
    (hc : Stored4 (fun k l t a b c d => CanonLon k l a b c ∧ CanonTmp t d) v) (x y z t : ℝ)
    (h : denote v = some [x, y, z, t]) :
    call evR K A "tau" v [] = .ok (.scalar (Real.sign (t ^ 2 - (x ^ 2 + y ^ 2 + z ^ 2))
      * sqrt |t ^ 2 - (x ^ 2 + y ^ 2 + z ^ 2)|)) := by
  obtain ⟨hd, rfl, rfl, rfl, rfl, -⟩ := denote_lorentz h
  rw [call_accR K A (a := .tau) rfl hv hd.ge (.inl rfl), accR, ap4, refine_lorentz_tau _ _ _ _ _ _ _ hc.1 hc.2]; rfl

theorem c09m_acc_tau_timelike (K : Consts ℝ) (A : Arith ℝ) (v : Vec ℝ) (hv : WFV v)
    (hc : Stored4 (fun k l t a b c d => CanonLon k l a b c ∧ CanonTmp t d) v) (x y z t : ℝ)
    (h : denote v = some [x, y, z, t]) (hs : 0 < t ^ 2 - (x ^ 2 + y ^ 2 + z ^ 2)) :
    call evR K A "tau" v [] = .ok (.scalar (sqrt (t ^ 2 - (x ^ 2 + y ^ 2 + z ^ 2)))) := by
  rw [c09m_acc_tau K A v hv hc x y z t h, Real.sign_of_pos hs, abs_of_pos hs, one_mul]

/-- a τ-stored vector returns its stored τ (no hypothesis) -/
theorem c09m_acc_tau_stored (K : Consts ℝ) (A : Arith ℝ) (v : Vec ℝ) (hv : WFV v) (hd : v.ty.dim = 4)
    (ht : v.ty.tmp = some .tau) : call evR K A "tau" v [] = .ok (.scalar (c4 v).2.2.2) := by
  rw [call_accR K A (a := .tau) rfl hv hd.ge (.inl rfl), accR, ap4]
  have : tmpOf v = .tau := by simp [tmpOf, ht]
  rw [this, refine_lorentz_tau_of_tau]

theorem c09m_acc_beta (K : Consts ℝ) (A : Arith ℝ) (v : Vec ℝ) (hv : WFV v)
    (hc : Stored4 (fun k l t a b c d => Canon3 k l a b c ∧ CanonTmp t d) v) (x y z t : ℝ)
    (h : denote v = some [x, y, z, t]) (ht : t ≠ 0) :
    call evR K A "beta" v [] = .ok (.scalar (sqrt (x ^ 2 + y ^ 2 + z ^ 2) / t)) := by
  obtain ⟨hd, rfl, rfl, rfl, rfl, -⟩ := denote_lorentz h
  rw [call_accR K A (a := .beta) rfl hv hd.ge (.inl rfl), accR, ap4, refine_lorentz_beta _ _ _ _ _ _ _ hc.1 hc.2 ht]; rfl

theorem c09m_acc_gamma (K : Consts ℝ) (A : Arith ℝ) (v : Vec ℝ) (hv : WFV v)
    (hc : Stored4 (fun k l t a b c d => CanonLon k l a b c ∧ CanonTmp t d) v) (x y z t : ℝ)
    (h : denote v = some [x, y, z, t]) (hs : 0 < t ^ 2 - (x ^ 2 + y ^ 2 + z ^ 2)) :
    call evR K A "gamma" v [] = .ok (.scalar (t / sqrt (t ^ 2 - (x ^ 2 + y ^ 2 + z ^ 2)))) := by
  obtain ⟨hd, rfl, rfl, rfl, rfl, -⟩ := denote_lorentz h
  rw [call_accR K A (a := .gamma) rfl hv hd.ge (.inl rfl), accR, ap4, refine_lorentz_gamma _ _ _ _ _ _ _ hc.1 hc.2 hs]; rfl

theorem c09m_acc_rapidity (K : Consts ℝ) (A : Arith ℝ) (v : Vec ℝ) (hv : WFV v)
    (hc : Stored4 (fun k l t a b c d => CanonLon k l a b c ∧ TanOK l c ∧ CanonTmp t d) v) (x y z t : ℝ)
    (h : denote v = some [x, y, z, t]) (hz : |z| < t) :
    call evR K A "rapidity" v [] = .ok (.scalar (1 / 2 * Real.log ((t + z) / (t - z)))) := by
  obtain ⟨hd, rfl, rfl, rfl, rfl, -⟩ := denote_lorentz h
  rw [call_accR K A (a := .rapidity) rfl hv hd.ge (.inl rfl), accR, ap4, refine_lorentz_rapidity _ _ _ _ _ _ _ hc.1 hc.2.1 hc.2.2 hz]

theorem c09m_acc_Et2 (K : Consts ℝ) (A : Arith ℝ) (v : Vec ℝ) (hv : WFV v) (hmom : v.ty.mom = true)
    (hc : Stored4 (fun k l t a b c d => CanonLon k l a b c ∧ CanonTmp t d) v) (x y z t : ℝ)
    (h : denote v = some [x, y, z, t]) (hp : 0 < x ^ 2 + y ^ 2 + z ^ 2) :
    call evR K A "Et2" v [] = .ok (.scalar (t ^ 2 * (x ^ 2 + y ^ 2) / (x ^ 2 + y ^ 2 + z ^ 2))) := by
  obtain ⟨hd, rfl, rfl, rfl, rfl, -⟩ := denote_lorentz h
  rw [call_accR K A (a := .Et2) rfl hv hd.ge (.inr hmom), accR, ap4, refine_lorentz_Et2 _ _ _ _ _ _ _ hc.1 hc.2 hp, ← Spec.sq_xOf_add_sq_yOf]; rfl

/-- `Et = √Et2 = t ρ / |p|` for `0 ≤ t` (momentum vectors); for `t < 0` the storages disagree (known finding `Et:t<0`) -/
theorem c09m_acc_Et (K : Consts ℝ) (A : Arith ℝ) (v : Vec ℝ) (hv : WFV v) (hmom : v.ty.mom = true)
    (hc : Stored4 (fun k l t a b c d => Canon3 k l a b c ∧ CanonTmp t d) v) (x y z t : ℝ)
    (h : denote v = some [x, y, z, t]) (hp : 0 < x ^ 2 + y ^ 2 + z ^ 2) (ht : 0 ≤ t) :
    call evR K A "Et" v [] = .ok (.scalar (sqrt (t ^ 2 * (x ^ 2 + y ^ 2) / (x ^ 2 + y ^ 2 + z ^ 2)))) := by
  obtain ⟨hd, rfl, rfl, rfl, rfl, -⟩ := denote_lorentz h
  rw [call_accR K A (a := .Et) rfl hv hd.ge (.inr hmom), accR, ap4, refine_lorentz_Et _ _ _ _ _ _ _ hc.1 hc.2 hp ht, ← Spec.sq_xOf_add_sq_yOf]; rfl

/-- `Mt2 = t² − z²` (momentum vectors; representable `τ ≥ 0`) -/
theorem c09m_acc_Mt2 (K : Consts ℝ) (A : Arith ℝ) (v : Vec ℝ) (hv : WFV v) (hmom : v.ty.mom = true)
    (hc : Stored4 (fun _ l t _ _ c d => TanOK l c ∧ CanonTmp t d) v) (x y z t : ℝ)
    (h : denote v = some [x, y, z, t]) : call evR K A "Mt2" v [] = .ok (.scalar (t ^ 2 - z ^ 2)) := by
  obtain ⟨hd, rfl, rfl, rfl, rfl, -⟩ := denote_lorentz h
  rw [call_accR K A (a := .Mt2) rfl hv hd.ge (.inr hmom), accR, ap4, refine_lorentz_Mt2 _ _ _ _ _ _ _ hc.1 hc.2]

theorem c09m_acc_Mt (K : Consts ℝ) (A : Arith ℝ) (v : Vec ℝ) (hv : WFV v) (hmom : v.ty.mom = true)
    (hc : Stored4 (fun _ l t _ _ c d => TanOK l c ∧ CanonTmp t d) v) (x y z t : ℝ)
    (h : denote v = some [x, y, z, t]) (hs : 0 ≤ t ^ 2 - z ^ 2) :
    call evR K A "Mt" v [] = .ok (.scalar (sqrt (t ^ 2 - z ^ 2))) := by
  obtain ⟨hd, rfl, rfl, rfl, rfl, -⟩ := denote_lorentz h
  rw [call_accR K A (a := .Mt) rfl hv hd.ge (.inr hmom), accR, ap4, refine_lorentz_Mt _ _ _ _ _ _ _ hc.1 hc.2 hs]

/-- **guards**: a Lorentz accessor on a 2D/3D vector, and `Et Et2 Mt Mt2` on a generic (non-momentum) vector of any
dimension, raise `AttributeError` -/
theorem c09m_acc_guard (K : Consts ℝ) (A : Arith ℝ) (g : String) (a : Acc) (hg : accOfName g = some a) (v : Vec ℝ)
    (h : v.ty.dim < a.need ∨ (a.momOnly = true ∧ v.ty.mom = false)) :
    call evR K A g v [] = .error .attributeError := by
  rw [c14_call_generic evR K A g a v [] hg]
  rcases h with h | ⟨h1, h2⟩ <;> simp [getAcc, *]

theorem c09m_acc_guard_names (K : Consts ℝ) (A : Arith ℝ) (v : Vec ℝ) :
    (v.ty.dim < 4 → ∀ g ∈ ["t", "t2", "tau", "tau2", "beta", "gamma", "rapidity", "Et", "Et2", "Mt", "Mt2"],
      call evR K A g v [] = .error .attributeError) ∧
    (v.ty.mom = false → ∀ g ∈ ["Et", "Et2", "Mt", "Mt2"], call evR K A g v [] = .error .attributeError) := by
  constructor
  · intro hd g hg
    simp only [List.mem_cons, List.not_mem_nil, or_false] at hg
    rcases hg with rfl | rfl | rfl | rfl | rfl | rfl | rfl | rfl | rfl | rfl | rfl <;>
      exact c09m_acc_guard K A _ _ rfl v (Or.inl (by exact hd))
  · intro hm g hg
    simp only [List.mem_cons, List.not_mem_nil, or_false] at hg
    rcases hg with rfl | rfl | rfl | rfl <;> exact c09m_acc_guard K A _ _ rfl v (Or.inr (by exact ⟨rfl, hm⟩))

/-- **momentum synonyms** (`E energy e → t`, `M mass m → tau`, `E2 … → t2`, `M2 … → tau2`, `et transverse_energy → Et`,
`mt transverse_mass → Mt`, …): on a momentum vector they are the generic accessor, so every theorem above applies -/
theorem c09m_mom_synonym (K : Consts ℝ) (A : Arith ℝ) (n g : String) (a : Acc) (v : Vec ℝ) (args : List (Arg ℝ))
    (hn : momAccOfName n = some a) (hg : accOfName g = some a) (hm : v.ty.mom = true) :
    call evR K A n v args = call evR K A g v args :=
  c14_call_synonym evR K A n g a v args hn hg hm

/-- e.g. `mass` of a momentum vector in any storage is `sign(s)·√|s|` of its denotation -/
example (K : Consts ℝ) (A : Arith ℝ) (v : Vec ℝ) (hv : WFV v) (hm : v.ty.mom = true)
    (hc : Stored4 (fun k l t a b c d => CanonLon k l a b c ∧ CanonTmp t d) v) (x y z t : ℝ)
    (h : denote v = some [x, y, z, t]) :
    call evR K A "mass" v [] = .ok (.scalar (Real.sign (t ^ 2 - (x ^ 2 + y ^ 2 + z ^ 2))
      * sqrt |t ^ 2 - (x ^ 2 + y ^ 2 + z ^ 2)|)) := by
  rw [c09m_mom_synonym K A "mass" "tau" .tau v [] rfl rfl hm]
  exact c09m_acc_tau K A v hv hc x y z t h

/-- non-vacuity: a momentum vector stored as (ρ, φ, η, τ) = (2, 1, 1, 3) satisfies every hypothesis on the storage used
above; it is time-like with `0 < t`, `|z| < t` -/
example : let v : Vec ℝ := ⟨⟨.obj, true, .rhophi, some .eta, some .tau⟩, [2, 1, 1, 3]⟩
    WFV v ∧ v.ty.dim = 4 ∧ Stored4 (fun k l t a b c d => Canon3 k l a b c ∧ TanOK l c ∧ SinOK l c ∧ CanonTmp t d) v := by
  intro v
  refine ⟨⟨by simp [v], rfl⟩, by simp [v, VT.dim], ⟨?_, ?_⟩, trivial, trivial, ?_⟩
  · show (0 : ℝ) ≤ 2; norm_num
  · show (0 : ℝ) < 2; norm_num
  · show (0 : ℝ) ≤ 3; norm_num

/-! ### 2. boosts along a coordinate axis -/

def l4 (p : ℝ × ℝ × ℝ × ℝ) : List ℝ := [p.1, p.2.1, p.2.2.1, p.2.2.2]

def on4 (f : ℝ × ℝ × ℝ × ℝ → ℝ × ℝ × ℝ × ℝ) : List ℝ → List ℝ
  | [x, y, z, t] => l4 (f (x, y, z, t))
  | l => l

/-- the vector `_wrap_result` builds from a declared 4D result type and a raw 4-tuple -/
def mk4 (be : Backend) (mom : Bool) (ret : Ret) (r : ℝ × ℝ × ℝ × ℝ) : Vec ℝ :=
  match retAz ret, retLon ret, retTmp ret with
  | some a, some l, some t => ⟨⟨be, mom, a, some l, some t⟩, [r.1, r.2.1, r.2.2.1, r.2.2.2]⟩
  | _, _, _ => ⟨⟨be, mom, .xy, none, none⟩, []⟩

theorem denote_mk4 (be : Backend) (mom : Bool) (ret : Ret) (r : ℝ × ℝ × ℝ × ℝ) :
    denote (mk4 be mom ret r) = (interp4 ret r).map l4 := by
  unfold mk4 interp4
  cases retAz ret <;> cases retLon ret <;> cases retTmp ret <;> rfl

/-- how the unary Lorentz methods parse (the name tables of `call`, evaluated once) -/
theorem call_unary4 {S B : Type} (ev : Ev S B) (K : Consts S) (A : Arith S) (v : Vec S) (s : S) :
    (call ev K A "boostX" v [.kw "beta" s] = selfCall ev v .lorentz_boostX_beta 4 [s] ∧
      call ev K A "boostX" v [.sc s] = selfCall ev v .lorentz_boostX_beta 4 [s] ∧
      call ev K A "boostX" v [.kw "gamma" s] = selfCall ev v .lorentz_boostX_gamma 4 [s]) ∧
    (call ev K A "boostY" v [.kw "beta" s] = selfCall ev v .lorentz_boostY_beta 4 [s] ∧
      call ev K A "boostY" v [.sc s] = selfCall ev v .lorentz_boostY_beta 4 [s] ∧
      call ev K A "boostY" v [.kw "gamma" s] = selfCall ev v .lorentz_boostY_gamma 4 [s]) ∧
    (call ev K A "boostZ" v [.kw "beta" s] = selfCall ev v .lorentz_boostZ_beta 4 [s] ∧
      call ev K A "boostZ" v [.sc s] = selfCall ev v .lorentz_boostZ_beta 4 [s] ∧
      call ev K A "boostZ" v [.kw "gamma" s] = selfCall ev v .lorentz_boostZ_gamma 4 [s]) ∧
    (call ev K A "is_timelike" v [.sc s] = selfCall ev v .lorentz_is_timelike 4 [s] ∧
      call ev K A "is_timelike" v [] = selfCall ev v .lorentz_is_timelike 4 [K.zeroI]) ∧
    (call ev K A "is_spacelike" v [.sc s] = selfCall ev v .lorentz_is_spacelike 4 [s] ∧
      call ev K A "is_spacelike" v [] = selfCall ev v .lorentz_is_spacelike 4 [K.zeroI]) ∧
    (call ev K A "is_lightlike" v [.sc s] = selfCall ev v .lorentz_is_lightlike 4 [s] ∧
      call ev K A "is_lightlike" v [] = selfCall ev v .lorentz_is_lightlike 4 [K.tol]) ∧
    call ev K A "to_beta3" v [] = selfCall ev v .lorentz_to_beta3 4 [] :=
  ⟨⟨rfl, rfl, rfl⟩, ⟨rfl, rfl, rfl⟩, ⟨rfl, rfl, rfl⟩, ⟨rfl, rfl⟩, ⟨rfl, rfl⟩, ⟨rfl, rfl⟩, rfl⟩

theorem selfCall_mk4 (m : ModuleId) (sc : List ℝ) (hs : operandSlots m.info.shape = [3]) (be mom az l t) (a b c d : ℝ)
    {r : ℝ × ℝ × ℝ × ℝ} {ret : Ret} {a' : Az} {l' : Lon} {t' : Tmp}
    (he : evR m [.az az, .lon l, .tmp t] (sc ++ [a, b, c, d]) = some (.vals (l4 r), ret))
    (hret : ret = .vec [.az a', .lon l', .tmp t']) :
    selfCall evR ⟨⟨be, mom, az, some l, some t⟩, [a, b, c, d]⟩ m 4 sc = .ok (.vec (mk4 be mom ret r)) := by
  subst hret
  rw [selfCall_of_le (by simp [VT.dim]), dispatch_one evR m sc none _ 3 hs _ _ rfl _ _ he]
  rfl

theorem mk4_rng {be : Backend} {mom : Bool} {ret : Ret} {a' : Az} {l' : Lon} {t' : Tmp} {r : ℝ × ℝ × ℝ × ℝ}
    (hret : ret = .vec [.az a', .lon l', .tmp t']) (hc : OutCanon4 ret r) : C01E.StoredInRange (mk4 be mom ret r) := by
  subst hret
  exact C01E.outCanon4_parts hc

/-! the six axis boosts, evaluated -/

theorem boostX_beta_eval (K : Consts ℝ) (A : Arith ℝ) (be mom az l t) (a b c d s : ℝ) :
    call evR K A "boostX" ⟨⟨be, mom, az, some l, some t⟩, [a, b, c, d]⟩ [.kw "beta" s] =
      .ok (.vec (mk4 be mom (lorentz_boostX_beta.ret az l t) (lorentz_boostX_beta.eval az l t s a b c d))) ∧
    call evR K A "boostX" ⟨⟨be, mom, az, some l, some t⟩, [a, b, c, d]⟩ [.sc s] =
      .ok (.vec (mk4 be mom (lorentz_boostX_beta.ret az l t) (lorentz_boostX_beta.eval az l t s a b c d))) := by
  have h := selfCall_mk4 .lorentz_boostX_beta [s] rfl be mom az l t a b c d rfl (lorentz_boostX_beta_ret_eq az l t)
  obtain ⟨⟨h1, h2, -⟩, -⟩ := call_unary4 evR K A ⟨⟨be, mom, az, some l, some t⟩, [a, b, c, d]⟩ s
  exact ⟨h1.trans h, h2.trans h⟩

theorem boostY_beta_eval (K : Consts ℝ) (A : Arith ℝ) (be mom az l t) (a b c d s : ℝ) :
    call evR K A "boostY" ⟨⟨be, mom, az, some l, some t⟩, [a, b, c, d]⟩ [.kw "beta" s] =
      .ok (.vec (mk4 be mom (lorentz_boostY_beta.ret az l t) (lorentz_boostY_beta.eval az l t s a b c d))) ∧
    call evR K A "boostY" ⟨⟨be, mom, az, some l, some t⟩, [a, b, c, d]⟩ [.sc s] =
      .ok (.vec (mk4 be mom (lorentz_boostY_beta.ret az l t) (lorentz_boostY_beta.eval az l t s a b c d))) := by
  have h := selfCall_mk4 .lorentz_boostY_beta [s] rfl be mom az l t a b c d rfl (lorentz_boostY_beta_ret_eq az l t)
  obtain ⟨-, ⟨h1, h2, -⟩, -⟩ := call_unary4 evR K A ⟨⟨be, mom, az, some l, some t⟩, [a, b, c, d]⟩ s
  exact ⟨h1.trans h, h2.trans h⟩

theorem boostZ_beta_eval (K : Consts ℝ) (A : Arith ℝ) (be mom az l t) (a b c d s : ℝ) :
    call evR K A "boostZ" ⟨⟨be, mom, az, some l, some t⟩, [a, b, c, d]⟩ [.kw "beta" s] =
      .ok (.vec (mk4 be mom (lorentz_boostZ_beta.ret az l t) (lorentz_boostZ_beta.eval az l t s a b c d))) ∧
    call evR K A "boostZ" ⟨⟨be, mom, az, some l, some t⟩, [a, b, c, d]⟩ [.sc s] =
      .ok (.vec (mk4 be mom (lorentz_boostZ_beta.ret az l t) (lorentz_boostZ_beta.eval az l t s a b c d))) := by
  have h := selfCall_mk4 .lorentz_boostZ_beta [s] rfl be mom az l t a b c d rfl (lorentz_boostZ_beta_ret_eq az l t)
  obtain ⟨-, -, ⟨h1, h2, -⟩, -⟩ := call_unary4 evR K A ⟨⟨be, mom, az, some l, some t⟩, [a, b, c, d]⟩ s
  exact ⟨h1.trans h, h2.trans h⟩

theorem boostX_gamma_eval (K : Consts ℝ) (A : Arith ℝ) (be mom az l t) (a b c d s : ℝ) :
    call evR K A "boostX" ⟨⟨be, mom, az, some l, some t⟩, [a, b, c, d]⟩ [.kw "gamma" s] =
      .ok (.vec (mk4 be mom (lorentz_boostX_gamma.ret az l t) (lorentz_boostX_gamma.eval az l t s a b c d))) := by
  obtain ⟨⟨-, -, h⟩, -⟩ := call_unary4 evR K A ⟨⟨be, mom, az, some l, some t⟩, [a, b, c, d]⟩ s
  exact h.trans (selfCall_mk4 .lorentz_boostX_gamma [s] rfl be mom az l t a b c d rfl (lorentz_boostX_gamma_ret_eq az l t))

theorem boostY_gamma_eval (K : Consts ℝ) (A : Arith ℝ) (be mom az l t) (a b c d s : ℝ) :
    call evR K A "boostY" ⟨⟨be, mom, az, some l, some t⟩, [a, b, c, d]⟩ [.kw "gamma" s] =
      .ok (.vec (mk4 be mom (lorentz_boostY_gamma.ret az l t) (lorentz_boostY_gamma.eval az l t s a b c d))) := by
  obtain ⟨-, ⟨-, -, h⟩, -⟩ := call_unary4 evR K A ⟨⟨be, mom, az, some l, some t⟩, [a, b, c, d]⟩ s
  exact h.trans (selfCall_mk4 .lorentz_boostY_gamma [s] rfl be mom az l t a b c d rfl (lorentz_boostY_gamma_ret_eq az l t))

theorem boostZ_gamma_eval (K : Consts ℝ) (A : Arith ℝ) (be mom az l t) (a b c d s : ℝ) :
    call evR K A "boostZ" ⟨⟨be, mom, az, some l, some t⟩, [a, b, c, d]⟩ [.kw "gamma" s] =
      .ok (.vec (mk4 be mom (lorentz_boostZ_gamma.ret az l t) (lorentz_boostZ_gamma.eval az l t s a b c d))) := by
  obtain ⟨-, -, ⟨-, -, h⟩, -⟩ := call_unary4 evR K A ⟨⟨be, mom, az, some l, some t⟩, [a, b, c, d]⟩ s
  exact h.trans (selfCall_mk4 .lorentz_boostZ_gamma [s] rfl be mom az l t a b c d rfl (lorentz_boostZ_gamma_ret_eq az l t))

/-- the hypotheses on the storage of a boosted vector: the code divides by `tan θ` / `sin θ` of a θ-stored operand; a
stored τ is non-negative.  The boosts by a vector need less of the boosted operand, `TanOK` and `CanonTmp` only: their
statements spell that out as `Stored4 (fun _ l t _ _ c d => TanOK l c ∧ CanonTmp t d) v`. -/
def BoostOK (v : Vec ℝ) : Prop := Stored4 (fun _ l t _ _ c d => TanOK l c ∧ SinOK l c ∧ CanonTmp t d) v

/-- **a module of the shape `BoostForm` (Refine/LorentzBin) called with one scalar on a 4D vector in every storage** (`hm`:
what the compute layer answers at key variables): the result has the backend / flavor / temporal storage of `v`, Cartesian `z`,
and the azimuthal storage the form declares; it denotes `Λ (denote v)` — for a τ-stored `v`, whose stored τ is returned as it
is, when `Λ` is a boost; its stored coordinates are in range when those of `v` are, given the module's theorem of
Props/CanonClosed -/
theorem boostForm_selfCall {ret : Az → Lon → Tmp → Ret} {eval : Az → Lon → Tmp → ℝ → ℝ → ℝ → ℝ → ℝ × ℝ × ℝ × ℝ}
    {Λ : ℝ × ℝ × ℝ × ℝ → ℝ × ℝ × ℝ × ℝ} {az : Az → Az} (F : BoostForm ret eval Λ az AxisOK) (m : ModuleId) (s : ℝ)
    (hs : operandSlots m.info.shape = [3])
    (hm : ∀ k0 k1 k2 a b c d,
      evR m [.az k0, .lon k1, .tmp k2] [s, a, b, c, d] = some (.vals (l4 (eval k0 k1 k2 a b c d)), ret k0 k1 k2))
    {v : Vec ℝ} (hv : WFV v) (hd : v.ty.dim = 4) :
    ∃ w, selfCall evR v m 4 [s] = .ok (.vec w) ∧ w.ty = { v.ty with az := az v.ty.az, lon := some .z } ∧ WFV w ∧
      (BoostOK v → (v.ty.tmp = some .tau → IsBoost Λ) → denote w = (denote v).map (on4 Λ)) ∧
      ((∀ k0 k1 k2 a b c d, AzOK k0 a b → InTmp k2 d → OutCanon4 (ret k0 k1 k2) (eval k0 k1 k2 a b c d)) →
        C01E.StoredInRange v → C01E.StoredInRange w) ∧
      (v.ty.tmp = some .tau → (c4 w).2.2.2 = (c4 v).2.2.2) := by
  obtain ⟨be, mom, k0, k1, k2, a, b, c, d, rfl⟩ := wfv4 hv hd
  have hR := F.ret_eq k0 k1 k2
  refine ⟨_, selfCall_mk4 m [s] hs be mom k0 k1 k2 a b c d (hm ..) hR, by rw [hR]; rfl,
    by rw [hR]; exact ⟨by simp [mk4, retAz, retLon, retTmp], rfl⟩, fun hc hΛ => ?_,
    fun hr I => mk4_rng hR (hr _ _ _ _ _ _ _ I.1 I.2.2), fun ht => ?_⟩
  · rw [denote_mk4, F.spec k0 k1 k2 a b c d ⟨hc.1, hc.2.1⟩ hc.2.2 fun e => hΛ (by rw [e])]; rfl
  · cases ht
    rw [hR]
    exact F.tau_stored k0 k1 a b c d

/-- the public name of the boost along a coordinate axis, and the azimuthal storage of its result (`boostZ` keeps that of
the operand) -/
def boostName : Spec10.Axis → String
  | .x => "boostX" | .y => "boostY" | .z => "boostZ"
def boostAz : Spec10.Axis → Az → Az
  | .z, k => k | _, _ => .xy

/-- **`boostX/Y/Z(beta=β)` (also positional) on a 4D vector in every storage**, the axis a parameter (`bAβ` of Props/C09):
the result is Cartesian (`boostZ`: azimuthally as `v`), with the temporal storage of `v`, and denotes the generated Cartesian
kernel applied to `denote v`; for a τ-stored `v` (where the stored τ is passed through) the parameter must be physical; the
stored coordinates of the result are in range when those of `v` are -/
theorem c09m_boostA_beta_rng (K : Consts ℝ) (A : Arith ℝ) (ax : Spec10.Axis) (v : Vec ℝ) (hv : WFV v) (hd : v.ty.dim = 4)
    (hc : BoostOK v) (β : ℝ) (hβ : v.ty.tmp = some .tau → |β| < 1) :
    ∃ w, call evR K A (boostName ax) v [.kw "beta" β] = .ok (.vec w) ∧ call evR K A (boostName ax) v [.sc β] = .ok (.vec w) ∧
      w.ty = { v.ty with az := boostAz ax v.ty.az, lon := some .z } ∧ WFV w ∧ denote w = (denote v).map (on4 (bAβ ax β)) ∧
      (C01E.StoredInRange v → C01E.StoredInRange w) := by
  obtain ⟨⟨x1, x2, -⟩, ⟨y1, y2, -⟩, ⟨z1, z2, -⟩, -⟩ := call_unary4 evR K A v β
  cases ax
  · obtain ⟨w, e, h1, h2, h3, h4, -⟩ := boostForm_selfCall (lorentz_boostX_beta_form β) .lorentz_boostX_beta β rfl
      (fun _ _ _ _ _ _ _ => rfl) hv hd
    exact ⟨w, x1.trans e, x2.trans e, h1, h2, h3 hc fun e => boostX_isBoost (L.gam_beta (hβ e)),
      h4 fun k0 k1 k2 a b c d _ => c13c_lorentz_boostX_beta k0 k1 k2 β a b c d⟩
  · obtain ⟨w, e, h1, h2, h3, h4, -⟩ := boostForm_selfCall (lorentz_boostY_beta_form β) .lorentz_boostY_beta β rfl
      (fun _ _ _ _ _ _ _ => rfl) hv hd
    exact ⟨w, y1.trans e, y2.trans e, h1, h2, h3 hc fun e => boostY_isBoost (L.gam_beta (hβ e)),
      h4 fun k0 k1 k2 a b c d _ => c13c_lorentz_boostY_beta k0 k1 k2 β a b c d⟩
  · obtain ⟨w, e, h1, h2, h3, h4, -⟩ := boostForm_selfCall (lorentz_boostZ_beta_form β) .lorentz_boostZ_beta β rfl
      (fun _ _ _ _ _ _ _ => rfl) hv hd
    exact ⟨w, z1.trans e, z2.trans e, h1, h2, h3 hc fun e => boostZ_isBoost (L.gam_beta (hβ e)),
      h4 fun k0 k1 k2 a b c d => c13c_lorentz_boostZ_beta k0 k1 k2 β a b c d⟩

/-- **`boostX/Y/Z(gamma=γ)`**, likewise (`bAγ`) -/
theorem c09m_boostA_gamma_rng (K : Consts ℝ) (A : Arith ℝ) (ax : Spec10.Axis) (v : Vec ℝ) (hv : WFV v) (hd : v.ty.dim = 4)
    (hc : BoostOK v) (γ : ℝ) (hγ : v.ty.tmp = some .tau → 1 ≤ |γ|) :
    ∃ w, call evR K A (boostName ax) v [.kw "gamma" γ] = .ok (.vec w) ∧
      w.ty = { v.ty with az := boostAz ax v.ty.az, lon := some .z } ∧ WFV w ∧ denote w = (denote v).map (on4 (bAγ ax γ)) ∧
      (C01E.StoredInRange v → C01E.StoredInRange w) := by
  obtain ⟨⟨-, -, x⟩, ⟨-, -, y⟩, ⟨-, -, z⟩, -⟩ := call_unary4 evR K A v γ
  cases ax
  · obtain ⟨w, e, h1, h2, h3, h4, -⟩ := boostForm_selfCall (lorentz_boostX_gamma_form γ) .lorentz_boostX_gamma γ rfl
      (fun _ _ _ _ _ _ _ => rfl) hv hd
    exact ⟨w, x.trans e, h1, h2, h3 hc fun e => boostX_isBoost (L.gam_gamma (hγ e)),
      h4 fun k0 k1 k2 a b c d _ => c13c_lorentz_boostX_gamma k0 k1 k2 γ a b c d⟩
  · obtain ⟨w, e, h1, h2, h3, h4, -⟩ := boostForm_selfCall (lorentz_boostY_gamma_form γ) .lorentz_boostY_gamma γ rfl
      (fun _ _ _ _ _ _ _ => rfl) hv hd
    exact ⟨w, y.trans e, h1, h2, h3 hc fun e => boostY_isBoost (L.gam_gamma (hγ e)),
      h4 fun k0 k1 k2 a b c d _ => c13c_lorentz_boostY_gamma k0 k1 k2 γ a b c d⟩
  · obtain ⟨w, e, h1, h2, h3, h4, -⟩ := boostForm_selfCall (lorentz_boostZ_gamma_form γ) .lorentz_boostZ_gamma γ rfl
      (fun _ _ _ _ _ _ _ => rfl) hv hd
    exact ⟨w, z.trans e, h1, h2, h3 hc fun e => boostZ_isBoost (L.gam_gamma (hγ e)),
      h4 fun k0 k1 k2 a b c d => c13c_lorentz_boostZ_gamma k0 k1 k2 γ a b c d⟩

/-! the six methods: the two theorems at `.x`, `.y`, `.z` (`bAβ .x = bXβ`, … by definition) -/

theorem c09m_boostX_beta (K : Consts ℝ) (A : Arith ℝ) (v : Vec ℝ) (hv : WFV v) (hd : v.ty.dim = 4) (hc : BoostOK v)
    (β : ℝ) (hβ : v.ty.tmp = some .tau → |β| < 1) :
    ∃ w, call evR K A "boostX" v [.kw "beta" β] = .ok (.vec w) ∧ call evR K A "boostX" v [.sc β] = .ok (.vec w) ∧
      w.ty = { v.ty with az := .xy, lon := some .z } ∧ WFV w ∧ denote w = (denote v).map (on4 (bXβ β)) := by
  obtain ⟨w, h1, h2, h3, h4, h5, -⟩ := c09m_boostA_beta_rng K A .x v hv hd hc β hβ
  exact ⟨w, h1, h2, h3, h4, h5⟩

theorem c09m_boostY_beta (K : Consts ℝ) (A : Arith ℝ) (v : Vec ℝ) (hv : WFV v) (hd : v.ty.dim = 4) (hc : BoostOK v)
    (β : ℝ) (hβ : v.ty.tmp = some .tau → |β| < 1) :
    ∃ w, call evR K A "boostY" v [.kw "beta" β] = .ok (.vec w) ∧ call evR K A "boostY" v [.sc β] = .ok (.vec w) ∧
      w.ty = { v.ty with az := .xy, lon := some .z } ∧ WFV w ∧ denote w = (denote v).map (on4 (bYβ β)) := by
  obtain ⟨w, h1, h2, h3, h4, h5, -⟩ := c09m_boostA_beta_rng K A .y v hv hd hc β hβ
  exact ⟨w, h1, h2, h3, h4, h5⟩

theorem c09m_boostZ_beta (K : Consts ℝ) (A : Arith ℝ) (v : Vec ℝ) (hv : WFV v) (hd : v.ty.dim = 4) (hc : BoostOK v)
    (β : ℝ) (hβ : v.ty.tmp = some .tau → |β| < 1) :
    ∃ w, call evR K A "boostZ" v [.kw "beta" β] = .ok (.vec w) ∧ call evR K A "boostZ" v [.sc β] = .ok (.vec w) ∧
      w.ty = { v.ty with lon := some .z } ∧ WFV w ∧ denote w = (denote v).map (on4 (bZβ β)) := by
  obtain ⟨w, h1, h2, h3, h4, h5, -⟩ := c09m_boostA_beta_rng K A .z v hv hd hc β hβ
  exact ⟨w, h1, h2, h3, h4, h5⟩

theorem c09m_boostX_gamma (K : Consts ℝ) (A : Arith ℝ) (v : Vec ℝ) (hv : WFV v) (hd : v.ty.dim = 4) (hc : BoostOK v)
    (β : ℝ) (hβ : v.ty.tmp = some .tau → 1 ≤ |β|) :
    ∃ w, call evR K A "boostX" v [.kw "gamma" β] = .ok (.vec w) ∧
      w.ty = { v.ty with az := .xy, lon := some .z } ∧ WFV w ∧ denote w = (denote v).map (on4 (bXγ β)) := by
  obtain ⟨w, h1, h2, h3, h4, -⟩ := c09m_boostA_gamma_rng K A .x v hv hd hc β hβ
  exact ⟨w, h1, h2, h3, h4⟩

theorem c09m_boostY_gamma (K : Consts ℝ) (A : Arith ℝ) (v : Vec ℝ) (hv : WFV v) (hd : v.ty.dim = 4) (hc : BoostOK v)
    (β : ℝ) (hβ : v.ty.tmp = some .tau → 1 ≤ |β|) :
    ∃ w, call evR K A "boostY" v [.kw "gamma" β] = .ok (.vec w) ∧
      w.ty = { v.ty with az := .xy, lon := some .z } ∧ WFV w ∧ denote w = (denote v).map (on4 (bYγ β)) := by
  obtain ⟨w, h1, h2, h3, h4, -⟩ := c09m_boostA_gamma_rng K A .y v hv hd hc β hβ
  exact ⟨w, h1, h2, h3, h4⟩

theorem c09m_boostZ_gamma (K : Consts ℝ) (A : Arith ℝ) (v : Vec ℝ) (hv : WFV v) (hd : v.ty.dim = 4) (hc : BoostOK v)
    (β : ℝ) (hβ : v.ty.tmp = some .tau → 1 ≤ |β|) :
    ∃ w, call evR K A "boostZ" v [.kw "gamma" β] = .ok (.vec w) ∧
      w.ty = { v.ty with lon := some .z } ∧ WFV w ∧ denote w = (denote v).map (on4 (bZγ β)) := by
  obtain ⟨w, h1, h2, h3, h4, -⟩ := c09m_boostA_gamma_rng K A .z v hv hd hc β hβ
  exact ⟨w, h1, h2, h3, h4⟩

/-! ### 3. `boost_p4`, `boost_beta3`, `boost` -/

/-- generic `dispatch` of a module with key shape `(az, lon, tmp, az, lon, tmp)` on two 4D operands, for ANY compute layer:
one call of the compute layer with the concatenated keys / coordinates; handler = operand of higher backend priority
(first wins ties), flavor = momentum if either operand is -/
theorem dispatch_44 {S B : Type} (ev : Ev S B) (m : ModuleId) (hm : operandSlots m.info.shape = [3, 3])
    (be mom az l t) (a b c d : S) (be' mom' az' l' t') (a' b' c' d' : S) :
    dispatch ev m [] none [⟨⟨be, mom, az, some l, some t⟩, [a, b, c, d]⟩, ⟨⟨be', mom', az', some l', some t'⟩, [a', b', c', d']⟩]
      [⟨⟨be, mom, az, some l, some t⟩, [a, b, c, d]⟩, ⟨⟨be', mom', az', some l', some t'⟩, [a', b', c', d']⟩] =
      match ev m [.az az, .lon l, .tmp t, .az az', .lon l', .tmp t'] [a, b, c, d, a', b', c', d'] with
      | none => .error .typeError
      | some (out, ret) =>
        wrapResult (if be'.prio > be.prio then ⟨⟨be', mom', az', some l', some t'⟩, [a', b', c', d']⟩
            else ⟨⟨be, mom, az, some l, some t⟩, [a, b, c, d]⟩)
          (if be'.prio > be.prio then be' else be) (mom || mom') out ret := by
  rcases hE : ev m [.az az, .lon l, .tmp t, .az az', .lon l', .tmp t'] [a, b, c, d, a', b', c', d'] with _ | ⟨out, ret⟩
  · exact dispatch_two_none ev m [] _ _ 3 3 hm _ _ _ _ rfl rfl hE _
  · rw [dispatch_two ev m [] _ _ 3 3 hm _ _ _ _ rfl rfl out ret hE _ _ (VG.handlerOf_pair _ _)]
    by_cases h : be'.prio > be.prio <;> simp only [h, ↓reduceIte, List.any_cons, List.any_nil, Bool.or_false]

/-- the same for key shape `(az, lon, tmp, az, lon)`: a 4D and a 3D operand -/
theorem dispatch_43 {S B : Type} (ev : Ev S B) (m : ModuleId) (hm : operandSlots m.info.shape = [3, 2])
    (be mom az l t) (a b c d : S) (be' mom' az' l') (a' b' c' : S) :
    dispatch ev m [] none [⟨⟨be, mom, az, some l, some t⟩, [a, b, c, d]⟩, ⟨⟨be', mom', az', some l', none⟩, [a', b', c']⟩]
      [⟨⟨be, mom, az, some l, some t⟩, [a, b, c, d]⟩, ⟨⟨be', mom', az', some l', none⟩, [a', b', c']⟩] =
      match ev m [.az az, .lon l, .tmp t, .az az', .lon l'] [a, b, c, d, a', b', c'] with
      | none => .error .typeError
      | some (out, ret) =>
        wrapResult (if be'.prio > be.prio then ⟨⟨be', mom', az', some l', none⟩, [a', b', c']⟩
            else ⟨⟨be, mom, az, some l, some t⟩, [a, b, c, d]⟩)
          (if be'.prio > be.prio then be' else be) (mom || mom') out ret := by
  rcases hE : ev m [.az az, .lon l, .tmp t, .az az', .lon l'] [a, b, c, d, a', b', c'] with _ | ⟨out, ret⟩
  · exact dispatch_two_none ev m [] _ _ 3 2 hm _ _ _ _ rfl rfl hE _
  · rw [dispatch_two ev m [] _ _ 3 2 hm _ _ _ _ rfl rfl out ret hE _ _ (VG.handlerOf_pair _ _)]
    by_cases h : be'.prio > be.prio <;> simp only [h, ↓reduceIte, List.any_cons, List.any_nil, Bool.or_false]

theorem evR_boost_p4 (az l t az' l' t') (a b c d a' b' c' d' : ℝ) :
    evR .lorentz_boost_p4 [.az az, .lon l, .tmp t, .az az', .lon l', .tmp t'] [a, b, c, d, a', b', c', d'] =
      some (Out.vals (l4 (lorentz_boost_p4.eval az l t az' l' t' a b c d a' b' c' d')), .vec [.az .xy, .lon .z, .tmp t]) := by
  rw [← lorentz_boost_p4_ret_eq az l t az' l' t']; rfl

theorem evR_boost_beta3 (az l t az' l') (a b c d a' b' c' : ℝ) :
    evR .lorentz_boost_beta3 [.az az, .lon l, .tmp t, .az az', .lon l'] [a, b, c, d, a', b', c'] =
      some (Out.vals (l4 (lorentz_boost_beta3.eval az l t az' l' a b c d a' b' c')), .vec [.az .xy, .lon .z, .tmp t]) := by
  rw [← lorentz_boost_beta3_ret_eq az l t az' l']; rfl

/-- how the boosts by a vector parse (`binOfName`, evaluated once) -/
theorem call_boosts {S B : Type} (ev : Ev S B) (K : Consts S) (A : Arith S) (v o : Vec S) :
    call ev K A "boost_p4" v [.v o] = binary ev K .boost_p4 v o [] ∧
    call ev K A "boost_beta3" v [.v o] = binary ev K .boost_beta3 v o [] ∧
    call ev K A "boost" v [.v o] = binary ev K .boost v o [] ∧
    call ev K A "boostCM_of_p4" v [.v o] = binary ev K .boostCM_of_p4 v o [] ∧
    call ev K A "boostCM_of_beta3" v [.v o] = binary ev K .boostCM_of_beta3 v o [] ∧
    call ev K A "boostCM_of" v [.v o] = binary ev K .boostCM_of v o [] := ⟨rfl, rfl, rfl, rfl, rfl, rfl⟩

/-- `binary_route_ok` for the `boostCM_of…` methods, which dispatch on `neg3D` of the booster -/
theorem binary_route_neg {S B : Type} (ev : Ev S B) (K : Consts S) {b : Bin} {self o n : Vec S} (extra : List S)
    {m : ModuleId} (h : b.route self.ty.dim o.ty.dim = .ok m) (hb : b.viaNeg = true)
    (hn : negN ev K 3 o = .ok (.vec n)) :
    binary ev K b self o extra = dispatch ev m (b.scalars K extra) none [self, n] [self, n] := by
  rw [binary_eq, h, binOperand, if_pos hb, hn]

theorem call_boost_p4 {S B : Type} (ev : Ev S B) (K : Consts S) (A : Arith S) (v o : Vec S) :
    call ev K A "boost_p4" v [.v o] =
      if v.ty.dim < 4 then .error .attributeError else
      if o.ty.dim != 4 then .error .typeError else dispatch ev .lorentz_boost_p4 [] none [v, o] [v, o] :=
  (call_boosts ev K A v o).1

theorem call_boost_beta3 {S B : Type} (ev : Ev S B) (K : Consts S) (A : Arith S) (v o : Vec S) :
    call ev K A "boost_beta3" v [.v o] =
      if v.ty.dim < 4 then .error .attributeError else
      if o.ty.dim != 3 then .error .typeError else dispatch ev .lorentz_boost_beta3 [] none [v, o] [v, o] :=
  (call_boosts ev K A v o).2.1

/-- the handler backend of a binary method -/
def hbe (be be' : Backend) : Backend := if be'.prio > be.prio then be' else be

theorem boost_p4_eval (K : Consts ℝ) (A : Arith ℝ) (be mom az l t) (a b c d : ℝ) (be' mom' az' l' t') (a' b' c' d' : ℝ) :
    call evR K A "boost_p4" ⟨⟨be, mom, az, some l, some t⟩, [a, b, c, d]⟩ [.v ⟨⟨be', mom', az', some l', some t'⟩, [a', b', c', d']⟩] =
      .ok (.vec ⟨⟨hbe be be', mom || mom', .xy, some .z, some t⟩,
        l4 (lorentz_boost_p4.eval az l t az' l' t' a b c d a' b' c' d')⟩) := by
  refine ((call_boosts evR K A _ _).1.trans (binary_route_ok evR K [] (m := .lorentz_boost_p4) rfl rfl)).trans
    ((dispatch_44 evR _ rfl ..).trans ?_)
  rw [evR_boost_p4]
  rfl

theorem boost_beta3_eval (K : Consts ℝ) (A : Arith ℝ) (be mom az l t) (a b c d : ℝ) (be' mom' az' l') (a' b' c' : ℝ) :
    call evR K A "boost_beta3" ⟨⟨be, mom, az, some l, some t⟩, [a, b, c, d]⟩ [.v ⟨⟨be', mom', az', some l', none⟩, [a', b', c']⟩] =
      .ok (.vec ⟨⟨hbe be be', mom || mom', .xy, some .z, some t⟩,
        l4 (lorentz_boost_beta3.eval az l t az' l' a b c d a' b' c')⟩) := by
  refine ((call_boosts evR K A _ _).2.1.trans (binary_route_ok evR K [] (m := .lorentz_boost_beta3) rfl rfl)).trans
    ((dispatch_43 evR _ rfl ..).trans ?_)
  rw [evR_boost_beta3]
  rfl

/-- **`boost_p4` on a 4D vector by a 4D vector, both in every storage**: the result is Cartesian with the temporal storage of
`v`, backend of the handler, momentum if either operand is, and denotes the generated Cartesian kernel `bp4` (Props/C09)
applied to the denotations; for a τ-stored `v` (whose stored τ is passed through) the booster must be a physical momentum
(time-like, positive energy) -/
theorem c09m_boost_p4 (K : Consts ℝ) (A : Arith ℝ) (v p : Vec ℝ) (hv : WFV v) (hd : v.ty.dim = 4) (hp : WFV p)
    (hdp : p.ty.dim = 4) (hc : Stored4 (fun _ l t _ _ c d => TanOK l c ∧ CanonTmp t d) v) (hcp : BoostOK p)
    (x y z t px py pz E : ℝ) (h : denote v = some [x, y, z, t]) (h' : denote p = some [px, py, pz, E])
    (hphys : v.ty.tmp = some .tau → px ^ 2 + py ^ 2 + pz ^ 2 < E ^ 2 ∧ 0 < E) :
    ∃ w, call evR K A "boost_p4" v [.v p] = .ok (.vec w) ∧
      w.ty = ⟨hbe v.ty.be p.ty.be, v.ty.mom || p.ty.mom, .xy, some .z, v.ty.tmp⟩ ∧ WFV w ∧
      denote w = some (l4 (bp4 (x, y, z, t) (px, py, pz, E))) := by
  obtain ⟨be, mom, az, l, t0, a, b, c, d, rfl⟩ := wfv4 hv hd
  obtain ⟨be', mom', az', l', t', a', b', c', d', rfl⟩ := wfv4 hp hdp
  simp only [denote, Option.some.injEq, List.cons.injEq, and_true] at h h'
  obtain ⟨rfl, rfl, rfl, rfl⟩ := h
  obtain ⟨rfl, rfl, rfl, rfl⟩ := h'
  have hi := refine_lorentz_boost_p4_cart az l t0 az' l' t' a b c d a' b' c' d' hc.1 hcp.1 hcp.2.1 hc.2 hcp.2.2
    (fun e => ⟨sub_pos.mpr (hphys (by rw [e])).1, (hphys (by rw [e])).2⟩)
  rw [lorentz_boost_p4_ret_eq] at hi
  exact ⟨_, boost_p4_eval K A be mom az l t0 a b c d be' mom' az' l' t' a' b' c' d', rfl, ⟨by simp, rfl⟩,
    congrArg (Option.map l4) hi⟩

/-- whatever `boost_p4` returns on 4D operands has its stored coordinates in range when those of `v` are — no hypothesis on
the storages or on the booster: the result is Cartesian and a stored τ is passed through -/
theorem c09m_boost_p4_rng (K : Consts ℝ) (A : Arith ℝ) {v p w : Vec ℝ} (hv : WFV v) (hd : v.ty.dim = 4) (hp : WFV p)
    (hdp : p.ty.dim = 4) (h : call evR K A "boost_p4" v [.v p] = .ok (.vec w)) (I : C01E.StoredInRange v) :
    C01E.StoredInRange w := by
  obtain ⟨be, mom, az, l, t0, a, b, c, d, rfl⟩ := wfv4 hv hd
  obtain ⟨be', mom', az', l', t', a', b', c', d', rfl⟩ := wfv4 hp hdp
  obtain rfl := C01E.vec_inj (h.symm.trans (boost_p4_eval K A be mom az l t0 a b c d be' mom' az' l' t' a' b' c' d'))
  exact C01E.rng_V4 (c13c_lorentz_boost_p4_ret az l t0 az' l' t') (c13c_lorentz_boost_p4 az l t0 az' l' t' a b c d a' b' c' d' I.2.2)

/-- **`boost_beta3` on a 4D vector by a 3D velocity, both in every storage**; for a τ-stored `v` the velocity must be
subluminal -/
theorem c09m_boost_beta3 (K : Consts ℝ) (A : Arith ℝ) (v p : Vec ℝ) (hv : WFV v) (hd : v.ty.dim = 4) (hp : WFV p)
    (hdp : p.ty.dim = 3) (hc : Stored4 (fun _ l t _ _ c d => TanOK l c ∧ CanonTmp t d) v)
    (hcp : Stored3 (fun _ l _ _ c => TanOK l c) p)
    (x y z t bx by' bz : ℝ) (h : denote v = some [x, y, z, t]) (h' : denote p = some [bx, by', bz])
    (hphys : v.ty.tmp = some .tau → bx ^ 2 + by' ^ 2 + bz ^ 2 < 1) :
    ∃ w, call evR K A "boost_beta3" v [.v p] = .ok (.vec w) ∧
      w.ty = ⟨hbe v.ty.be p.ty.be, v.ty.mom || p.ty.mom, .xy, some .z, v.ty.tmp⟩ ∧ WFV w ∧
      denote w = some (l4 (bβ3 (x, y, z, t) (bx, by', bz))) := by
  obtain ⟨be, mom, az, l, t0, a, b, c, d, rfl⟩ := wfv4 hv hd
  obtain ⟨be', mom', az', l', a', b', c', rfl⟩ := (wfv_dim hp).2.1 hdp
  simp only [denote, Option.some.injEq, List.cons.injEq, and_true] at h h'
  obtain ⟨rfl, rfl, rfl, rfl⟩ := h
  obtain ⟨rfl, rfl, rfl⟩ := h'
  have hi := refine_lorentz_boost_beta3_cart az l t0 az' l' a b c d a' b' c' hc.1 hcp hc.2
    (fun e => hphys (by rw [e]))
  rw [lorentz_boost_beta3_ret_eq] at hi
  exact ⟨_, boost_beta3_eval K A be mom az l t0 a b c d be' mom' az' l' a' b' c', rfl, ⟨by simp, rfl⟩,
    congrArg (Option.map l4) hi⟩

theorem c09m_boost_beta3_rng (K : Consts ℝ) (A : Arith ℝ) {v p w : Vec ℝ} (hv : WFV v) (hd : v.ty.dim = 4) (hp : WFV p)
    (hdp : p.ty.dim = 3) (h : call evR K A "boost_beta3" v [.v p] = .ok (.vec w)) (I : C01E.StoredInRange v) :
    C01E.StoredInRange w := by
  obtain ⟨be, mom, az, l, t0, a, b, c, d, rfl⟩ := wfv4 hv hd
  obtain ⟨be', mom', az', l', a', b', c', rfl⟩ := (wfv_dim hp).2.1 hdp
  obtain rfl := C01E.vec_inj (h.symm.trans (boost_beta3_eval K A be mom az l t0 a b c d be' mom' az' l' a' b' c'))
  exact C01E.rng_V4 (c13c_lorentz_boost_beta3_ret az l t0 az' l') (c13c_lorentz_boost_beta3 az l t0 az' l' a b c d a' b' c' I.2.2)

/-- **`boost` dispatches on the dimension of its argument** — for ALL operands and any compute layer -/
theorem c09m_boost_dispatch {S B : Type} (ev : Ev S B) (K : Consts S) (A : Arith S) (v b : Vec S) :
    (b.ty.dim = 3 → call ev K A "boost" v [.v b] = call ev K A "boost_beta3" v [.v b]) ∧
    (b.ty.dim = 4 → call ev K A "boost" v [.v b] = call ev K A "boost_p4" v [.v b]) ∧
    (b.ty.dim = 2 → call ev K A "boost" v [.v b] =
      if v.ty.dim < 4 then .error .attributeError else .error .typeError) := by
  obtain ⟨c1, c2, c3, -⟩ := call_boosts ev K A v b
  rw [c1, c2, c3, binary_eq, binary_eq, binary_eq]
  refine ⟨fun h => by rw [h]; rfl, fun h => by rw [h]; rfl, fun h => ?_⟩
  by_cases hv : v.ty.dim < 4
  · rw [if_pos hv, show Bin.boost.route v.ty.dim b.ty.dim = .error .attributeError from if_pos hv]
  · rw [if_neg hv, show Bin.boost.route v.ty.dim b.ty.dim = .error .typeError from (if_neg hv).trans (by rw [h]; rfl)]

/-- **Lorentz invariance at method level**: two 4D vectors in ANY two storages, boosted by the same subluminal 3D velocity
(in any storage): the Minkowski product of the denotations of the results equals that of the originals -/
theorem c09m_boost_mdot (K : Consts ℝ) (A : Arith ℝ) (v₁ v₂ p : Vec ℝ) (hv₁ : WFV v₁) (hd₁ : v₁.ty.dim = 4)
    (hv₂ : WFV v₂) (hd₂ : v₂.ty.dim = 4) (hp : WFV p) (hdp : p.ty.dim = 3)
    (hc₁ : Stored4 (fun _ l t _ _ c d => TanOK l c ∧ CanonTmp t d) v₁)
    (hc₂ : Stored4 (fun _ l t _ _ c d => TanOK l c ∧ CanonTmp t d) v₂)
    (hcp : Stored3 (fun _ l _ _ c => TanOK l c) p) (X₁ X₂ : V4) (β : V3)
    (h₁ : denote v₁ = some (l4 X₁)) (h₂ : denote v₂ = some (l4 X₂)) (h' : denote p = some [β.1, β.2.1, β.2.2])
    (hβ : β.1 ^ 2 + β.2.1 ^ 2 + β.2.2 ^ 2 < 1) :
    ∃ w₁ w₂ Y₁ Y₂, call evR K A "boost" v₁ [.v p] = .ok (.vec w₁) ∧ call evR K A "boost" v₂ [.v p] = .ok (.vec w₂) ∧
      denote w₁ = some (l4 Y₁) ∧ denote w₂ = some (l4 Y₂) ∧ VR.mdot Y₁ Y₂ = VR.mdot X₁ X₂ := by
  obtain ⟨w₁, e₁, -, -, d₁⟩ := c09m_boost_beta3 K A v₁ p hv₁ hd₁ hp hdp hc₁ hcp _ _ _ _ _ _ _ h₁ h' (fun _ => hβ)
  obtain ⟨w₂, e₂, -, -, d₂⟩ := c09m_boost_beta3 K A v₂ p hv₂ hd₂ hp hdp hc₂ hcp _ _ _ _ _ _ _ h₂ h' (fun _ => hβ)
  refine ⟨w₁, w₂, _, _, ?_, ?_, d₁, d₂, c09_boost_beta3_mdot X₁ X₂ β hβ⟩
  · rw [(c09m_boost_dispatch evR K A v₁ p).1 hdp, e₁]
  · rw [(c09m_boost_dispatch evR K A v₂ p).1 hdp, e₂]

/-! ### 4. `to_beta3` -/

/-- the vector `_wrap_result` builds from a declared 3D result type `(az, lon, None)` and a raw triple -/
def mk3 (be : Backend) (mom : Bool) (ret : Ret) (r : ℝ × ℝ × ℝ) : Vec ℝ :=
  match retAz ret, retLon ret with
  | some a, some l => ⟨⟨be, mom, a, some l, none⟩, [r.1, r.2.1, r.2.2]⟩
  | _, _ => ⟨⟨be, mom, .xy, none, none⟩, []⟩

theorem denote_mk3 (be : Backend) (mom : Bool) (ret : Ret) (r : ℝ × ℝ × ℝ) :
    denote (mk3 be mom ret r) = (interp3 ret r).map C11M.toL3 := by
  unfold mk3 interp3
  cases retAz ret <;> cases retLon ret <;> rfl

theorem to_beta3_ret_eq (az : Az) (l : Lon) (tm : Tmp) : lorentz_to_beta3.ret az l tm = .vec [.az az, .lon l, .none] := by
  cases az <;> cases l <;> cases tm <;> rfl

theorem to_beta3_eval (K : Consts ℝ) (A : Arith ℝ) (be mom az l t) (a b c d : ℝ) :
    call evR K A "to_beta3" ⟨⟨be, mom, az, some l, some t⟩, [a, b, c, d]⟩ [] =
      .ok (.vec (mk3 be mom (lorentz_to_beta3.ret az l t) (lorentz_to_beta3.eval az l t a b c d))) := by
  rw [(call_unary4 evR K A _ 0).2.2.2.2.2.2, selfCall_of_le (by simp [VT.dim]),
    dispatch_one evR .lorentz_to_beta3 [] none _ 3 rfl _ _ rfl _ _ rfl]
  cases az <;> cases l <;> cases t <;> rfl

/-- **`to_beta3` on a 4D vector in every storage**: a 3D vector in the spatial storage of `v`, same backend and flavor,
denoting `(x/t, y/t, z/t)`. Needs `t ≠ 0`, and `0 < t` for the storages `(x, y, θ)` and `(x, y, η)`, which divide `x, y` by `t`
but keep θ/η (known finding `to_beta3:xy_theta|xy_eta:t<0`) -/
theorem c09m_to_beta3 (K : Consts ℝ) (A : Arith ℝ) (v : Vec ℝ) (hv : WFV v)
    (hc : Stored4 (fun k l t a b c d => CanonLon k l a b c ∧ CanonTmp t d) v) (x y z t : ℝ)
    (h : denote v = some [x, y, z, t]) (ht : t ≠ 0) (hpos : v.ty.az = .xy → v.ty.lon = some .z ∨ 0 < t) :
    ∃ w, call evR K A "to_beta3" v [] = .ok (.vec w) ∧ w.ty = { v.ty with tmp := none } ∧ WFV w ∧
      denote w = some [x / t, y / t, z / t] ∧
      (C01E.StoredInRange v → (v.ty.az = .rhophi → 0 < t) → C01E.StoredInRange w) := by
  obtain ⟨hd, -⟩ := denote_lorentz h
  obtain ⟨be, mom, az, l, t0, a, b, c, d, rfl⟩ := wfv4 hv hd
  simp only [denote, Option.some.injEq, List.cons.injEq, and_true] at h
  obtain ⟨rfl, rfl, rfl, rfl⟩ := h
  have hi := refine_lorentz_to_beta3_ne_zero az l t0 a b c d hc.1 hc.2 ht
    (fun e => (hpos e).imp (fun h => Option.some.inj h) id)
  refine ⟨_, to_beta3_eval K A be mom az l t0 a b c d, ?_, ?_, ?_, fun I hp => ?_⟩
  · cases az <;> cases l <;> cases t0 <;> rfl
  · cases az <;> cases l <;> cases t0 <;> exact ⟨by simp [mk3, retAz, retLon, lorentz_to_beta3.ret], rfl⟩
  · rw [denote_mk3, hi]; rfl
  · have hr := c13c_lorentz_to_beta3_partial az l t0 a b c d I.1 I.2.1
      (fun e => by rw [refine_lorentz_t az l t0 a b c d hc.1 hc.2]; exact hp e)
    rw [to_beta3_ret_eq] at hr ⊢
    simp only [OutCanon3, OutCanonR, OutCanonL, and_true] at hr
    exact ⟨hr.1, hr.2, trivial⟩

/-- under `0 < t` no distinction between storages is needed -/
theorem c09m_to_beta3_pos (K : Consts ℝ) (A : Arith ℝ) (v : Vec ℝ) (hv : WFV v)
    (hc : Stored4 (fun k l t a b c d => CanonLon k l a b c ∧ CanonTmp t d) v) (x y z t : ℝ)
    (h : denote v = some [x, y, z, t]) (ht : 0 < t) :
    ∃ w, call evR K A "to_beta3" v [] = .ok (.vec w) ∧ w.ty = { v.ty with tmp := none } ∧ WFV w ∧
      denote w = some [x / t, y / t, z / t] := by
  obtain ⟨w, h1, h2, h3, h4, -⟩ := c09m_to_beta3 K A v hv hc x y z t h ht.ne' (fun _ => Or.inr ht)
  exact ⟨w, h1, h2, h3, h4⟩

/-! ### 5. `is_timelike`, `is_spacelike`, `is_lightlike` -/

theorem selfCall_truth (m : ModuleId) (sc : List ℝ) (hs : operandSlots m.info.shape = [3]) (be mom az l t) (a b c d : ℝ)
    (hm : m.kind = .bool) {p q : Prop} {ret : Ret}
    (he : evR m [.az az, .lon l, .tmp t] (sc ++ [a, b, c, d]) = some (.truth p, ret)) (hpq : p ↔ q) :
    selfCall evR ⟨⟨be, mom, az, some l, some t⟩, [a, b, c, d]⟩ m 4 sc = .ok (.truth q) := by
  obtain rfl := evR_bool hm he
  rw [selfCall_of_le (by simp [VT.dim]), dispatch_one evR m sc none _ 3 hs _ _ rfl _ _ he, ← propext hpq]
  rfl

/-- the three causal predicates threshold the Minkowski self-product `s` the compute layer forms from the stored
coordinates (Props/C13), in every storage; default tolerances `K.zeroI`, `K.zeroI`, `K.tol` -/
theorem causal_eval (K : Consts ℝ) (A : Arith ℝ) (be mom az l t) (a b c d tol : ℝ) {s : ℝ}
    (hdot : lorentz_dot.eval az l t az l t a b c d a b c d = s) :
    call evR K A "is_timelike" ⟨⟨be, mom, az, some l, some t⟩, [a, b, c, d]⟩ [.sc tol] = .ok (.truth (s > |tol|)) ∧
    call evR K A "is_timelike" ⟨⟨be, mom, az, some l, some t⟩, [a, b, c, d]⟩ [] = .ok (.truth (s > |K.zeroI|)) ∧
    call evR K A "is_spacelike" ⟨⟨be, mom, az, some l, some t⟩, [a, b, c, d]⟩ [.sc tol] = .ok (.truth (s < -|tol|)) ∧
    call evR K A "is_spacelike" ⟨⟨be, mom, az, some l, some t⟩, [a, b, c, d]⟩ [] = .ok (.truth (s < -|K.zeroI|)) ∧
    call evR K A "is_lightlike" ⟨⟨be, mom, az, some l, some t⟩, [a, b, c, d]⟩ [.sc tol] = .ok (.truth (|s| < |tol|)) ∧
    call evR K A "is_lightlike" ⟨⟨be, mom, az, some l, some t⟩, [a, b, c, d]⟩ [] = .ok (.truth (|s| < |K.tol|)) := by
  subst hdot
  obtain ⟨-, -, -, ⟨t1, t2⟩, ⟨s1, s2⟩, ⟨l1, l2⟩, -⟩ :=
    call_unary4 evR K A ⟨⟨be, mom, az, some l, some t⟩, [a, b, c, d]⟩ tol
  exact ⟨t1.trans (selfCall_truth _ [tol] rfl be mom az l t a b c d rfl rfl (c13_is_timelike_iff_dot ..)),
    t2.trans (selfCall_truth _ [K.zeroI] rfl be mom az l t a b c d rfl rfl (c13_is_timelike_iff_dot ..)),
    s1.trans (selfCall_truth _ [tol] rfl be mom az l t a b c d rfl rfl (c13_is_spacelike_iff_dot ..)),
    s2.trans (selfCall_truth _ [K.zeroI] rfl be mom az l t a b c d rfl rfl (c13_is_spacelike_iff_dot ..)),
    l1.trans (selfCall_truth _ [tol] rfl be mom az l t a b c d rfl rfl (c13_is_lightlike_iff_dot ..)),
    l2.trans (selfCall_truth _ [K.tol] rfl be mom az l t a b c d rfl rfl (c13_is_lightlike_iff_dot ..))⟩

theorem dot_self_denote (az : Az) (l : Lon) (t : Tmp) (a b c d : ℝ) (h1 : TanOK l c) (h2 : SinOK l c)
    (h3 : CanonTmp t d) :
    lorentz_dot.eval az l t az l t a b c d a b c d
      = tOf az l t a b c d ^ 2 - (xOf az a b ^ 2 + yOf az a b ^ 2 + zOf az l a b c ^ 2) := by
  rw [refine_lorentz_dot az l t az l t a b c d a b c d h1 h1 h2 h2 h3 h3]
  simp only [Spec.mdot, Spec.cart4]; ring

/-- **the causal predicates on a 4D vector in every storage** are the documented sign tests of `s = t² − x² − y² − z²` of
the denotation: `is_timelike(tol)` ⇔ `s > |tol|`, `is_spacelike(tol)` ⇔ `s < −|tol|`, `is_lightlike(tol)` ⇔ `|s| < |tol|`;
default tolerances `0`, `0`, `1e-5` (`K.zeroI`, `K.zeroI`, `K.tol`) -/
theorem c09m_causal (K : Consts ℝ) (A : Arith ℝ) (v : Vec ℝ) (hv : WFV v) (hc : BoostOK v) (x y z t : ℝ)
    (h : denote v = some [x, y, z, t]) (tol : ℝ) :
    call evR K A "is_timelike" v [.sc tol] = .ok (.truth (t ^ 2 - (x ^ 2 + y ^ 2 + z ^ 2) > |tol|)) ∧
    call evR K A "is_timelike" v [] = .ok (.truth (t ^ 2 - (x ^ 2 + y ^ 2 + z ^ 2) > |K.zeroI|)) ∧
    call evR K A "is_spacelike" v [.sc tol] = .ok (.truth (t ^ 2 - (x ^ 2 + y ^ 2 + z ^ 2) < -|tol|)) ∧
    call evR K A "is_spacelike" v [] = .ok (.truth (t ^ 2 - (x ^ 2 + y ^ 2 + z ^ 2) < -|K.zeroI|)) ∧
    call evR K A "is_lightlike" v [.sc tol] = .ok (.truth (|t ^ 2 - (x ^ 2 + y ^ 2 + z ^ 2)| < |tol|)) ∧
    call evR K A "is_lightlike" v [] = .ok (.truth (|t ^ 2 - (x ^ 2 + y ^ 2 + z ^ 2)| < |K.tol|)) := by
  obtain ⟨hd, -⟩ := denote_lorentz h
  obtain ⟨be, mom, az, l, t0, a, b, c, d, rfl⟩ := wfv4 hv hd
  simp only [denote, Option.some.injEq, List.cons.injEq, and_true] at h
  obtain ⟨rfl, rfl, rfl, rfl⟩ := h
  exact causal_eval K A be mom az l t0 a b c d tol (dot_self_denote az l t0 a b c d hc.1 hc.2.1 hc.2.2)

/-! ### 6. dimension guards — for ALL operands and any compute layer -/

/-- how the `boostCM_of…` methods parse: guards, then `neg3D` of the booster, then the boost -/
theorem call_boostCM {S B : Type} (ev : Ev S B) (K : Consts S) (A : Arith S) (v o : Vec S) :
    let g (bad : Bool) : Except Err (Res S B) :=
      if v.ty.dim < 4 then .error .attributeError else
      if bad || (o.ty.dim != 3 && o.ty.dim != 4) then .error .typeError else
      match negN ev K 3 o with
      | .ok (.vec n) =>
        dispatch ev (if o.ty.dim == 4 then .lorentz_boost_p4 else .lorentz_boost_beta3) [] none [v, n] [v, n]
      | .ok _ => .error .assertionError
      | .error e => .error e
    call ev K A "boostCM_of_p4" v [.v o] = g (some 4 != some o.ty.dim) ∧
    call ev K A "boostCM_of_beta3" v [.v o] = g (some 3 != some o.ty.dim) ∧
    call ev K A "boostCM_of" v [.v o] = g false :=
  ⟨(call_boosts ev K A v o).2.2.2.1, (call_boosts ev K A v o).2.2.2.2.1, (call_boosts ev K A v o).2.2.2.2.2⟩

theorem boostCM_eq {S B : Type} (ev : Ev S B) (K : Consts S) (A : Arith S) (v o n : Vec S) (hd : v.ty.dim = 4)
    (hn : negN ev K 3 o = .ok (.vec n)) (hdim : n.ty.dim = o.ty.dim) :
    (o.ty.dim = 4 → call ev K A "boostCM_of_p4" v [.v o] = call ev K A "boost_p4" v [.v n] ∧
      call ev K A "boostCM_of" v [.v o] = call ev K A "boost_p4" v [.v n]) ∧
    (o.ty.dim = 3 → call ev K A "boostCM_of_beta3" v [.v o] = call ev K A "boost_beta3" v [.v n] ∧
      call ev K A "boostCM_of" v [.v o] = call ev K A "boost_beta3" v [.v n]) := by
  obtain ⟨-, -, -, c1, c2, c3⟩ := call_boosts ev K A v o
  obtain ⟨d1, d2, -⟩ := call_boosts ev K A v n
  rw [c1, c2, c3, d1, d2]
  constructor <;> intro h
  · have r (b : Bin) (hb : b.viaNeg = true) (hr : b.route 4 4 = .ok .lorentz_boost_p4) :=
      binary_route_neg ev K (b := b) [] (by rw [hd, h]; exact hr) hb hn
    have e := binary_route_ok ev K (b := .boost_p4) (self := v) (o := n) [] (m := .lorentz_boost_p4)
      (by rw [hd, hdim, h]; rfl) rfl
    exact ⟨(r _ rfl rfl).trans e.symm, (r _ rfl rfl).trans e.symm⟩
  · have r (b : Bin) (hb : b.viaNeg = true) (hr : b.route 4 3 = .ok .lorentz_boost_beta3) :=
      binary_route_neg ev K (b := b) [] (by rw [hd, h]; exact hr) hb hn
    have e := binary_route_ok ev K (b := .boost_beta3) (self := v) (o := n) [] (m := .lorentz_boost_beta3)
      (by rw [hd, hdim, h]; rfl) rfl
    exact ⟨(r _ rfl rfl).trans e.symm, (r _ rfl rfl).trans e.symm⟩

/-- **every Lorentz method on a 2D/3D `self` raises `AttributeError`** (whatever the arguments) -/
theorem c09m_dim_guard {S B : Type} (ev : Ev S B) (K : Consts S) (A : Arith S) (v o : Vec S) (s : S)
    (hd : v.ty.dim < 4) :
    (∀ m ∈ ["boost_p4", "boost_beta3", "boost", "boostCM_of_p4", "boostCM_of_beta3", "boostCM_of"],
      call ev K A m v [.v o] = .error .attributeError) ∧
    (∀ m ∈ ["boostX", "boostY", "boostZ"], call ev K A m v [.kw "beta" s] = .error .attributeError ∧
      call ev K A m v [.kw "gamma" s] = .error .attributeError ∧ call ev K A m v [.sc s] = .error .attributeError) ∧
    (∀ m ∈ ["is_timelike", "is_spacelike", "is_lightlike"], call ev K A m v [] = .error .attributeError ∧
      call ev K A m v [.sc s] = .error .attributeError) ∧
    call ev K A "to_beta3" v [] = .error .attributeError := by
  obtain ⟨⟨x1, x2, x3⟩, ⟨y1, y2, y3⟩, ⟨z1, z2, z3⟩, ⟨t1, t2⟩, ⟨s1, s2⟩, ⟨l1, l2⟩, hb⟩ := call_unary4 ev K A v s
  obtain ⟨b1, b2, b3, b4, b5, b6⟩ := call_boosts ev K A v o
  have g {b : Bin} (hr : b.route v.ty.dim o.ty.dim = .error .attributeError) := binary_route_error ev K [] hr
  simp only [selfCall_of_lt hd] at x1 x2 x3 y1 y2 y3 z1 z2 z3 t1 t2 s1 s2 l1 l2 hb
  exact ⟨List.forall_iff_forall_mem.1 ⟨b1.trans (g (if_pos hd)), b2.trans (g (if_pos hd)), b3.trans (g (if_pos hd)),
      b4.trans (g (if_pos hd)), b5.trans (g (if_pos hd)), b6.trans (g (if_pos hd))⟩,
    List.forall_iff_forall_mem.1 ⟨⟨x1, x3, x2⟩, ⟨y1, y3, y2⟩, ⟨z1, z3, z2⟩⟩,
    List.forall_iff_forall_mem.1 ⟨⟨t2, t1⟩, ⟨s2, s1⟩, ⟨l2, l1⟩⟩, hb⟩

/-- **a booster of the wrong dimension raises `TypeError`** (on a 4D `self`) -/
theorem c09m_booster_guard {S B : Type} (ev : Ev S B) (K : Consts S) (A : Arith S) (v o : Vec S)
    (hd : v.ty.dim = 4) :
    (o.ty.dim ≠ 4 → call ev K A "boost_p4" v [.v o] = .error .typeError ∧
      call ev K A "boostCM_of_p4" v [.v o] = .error .typeError) ∧
    (o.ty.dim ≠ 3 → call ev K A "boost_beta3" v [.v o] = .error .typeError ∧
      call ev K A "boostCM_of_beta3" v [.v o] = .error .typeError) ∧
    (o.ty.dim = 2 → call ev K A "boost" v [.v o] = .error .typeError ∧
      call ev K A "boostCM_of" v [.v o] = .error .typeError) := by
  obtain ⟨b1, b2, b3, b4, b5, b6⟩ := call_boosts ev K A v o
  have hn : ¬ v.ty.dim < 4 := by omega
  have g {b : Bin} (hr : b.route v.ty.dim o.ty.dim = .error .typeError) := binary_route_error ev K [] hr
  refine ⟨fun h => ?_, fun h => ?_, fun h => ?_⟩
  · have h' : (o.ty.dim != 4) = true := by simpa using h
    exact ⟨b1.trans (g ((if_neg hn).trans (if_pos h'))), b4.trans (g ((if_neg hn).trans (if_pos h')))⟩
  · have h' : (o.ty.dim != 3) = true := by simpa using h
    exact ⟨b2.trans (g ((if_neg hn).trans (if_pos h'))), b5.trans (g ((if_neg hn).trans (if_pos h')))⟩
  · exact ⟨b3.trans (g ((if_neg hn).trans (by rw [h]; rfl))), b6.trans (g ((if_neg hn).trans (by rw [h]; rfl)))⟩

/-- the boostX/Y/Z methods accept exactly one of `beta=`, `gamma=` or a positional scalar: e.g. both keywords, or none,
raise `TypeError` on a 4D vector -/
example {S B : Type} (ev : Ev S B) (K : Consts S) (A : Arith S) (v : Vec S) (hd : v.ty.dim = 4) (s u : S) :
    call ev K A "boostX" v [.kw "beta" s, .kw "gamma" u] = .error .typeError ∧
    call ev K A "boostZ" v [] = .error .typeError := by
  have hn : ¬ v.ty.dim < 4 := by omega
  constructor
  · show (if v.ty.dim < 4 then _ else _) = _
    rw [if_neg hn]
  · show (if v.ty.dim < 4 then _ else _) = _
    rw [if_neg hn]

/-! ### 7. `boostCM_of_p4`, `boostCM_of`: `neg3D` of the booster, then `boost_p4` -/

/-- `neg3D` of a 4D vector, evaluated: `spatial.scale(-1)` on the spatial part, the stored temporal coordinate is kept -/
theorem neg3D_eval4 (K : Consts ℝ) (be mom az l t) (a b c d : ℝ) :
    negN evR K 3 ⟨⟨be, mom, az, some l, some t⟩, [a, b, c, d]⟩ =
      .ok (.vec ⟨⟨be, mom, az, some l, some t⟩,
        [(spatial_scale.eval az l K.negOne a b c).1, (spatial_scale.eval az l K.negOne a b c).2.1,
         (spatial_scale.eval az l K.negOne a b c).2.2, d]⟩) := by
  rw [negN, scaleN, if_neg (by simp [VT.dim]), dispatch_one evR (scaleMod 3) [K.negOne] none _ 2 rfl _ _ rfl _ _ rfl,
    spatial_scale_ret_eq]
  rfl

/-- the flipped polar angle `|θ − π|` of a negated θ-stored vector still has `tan`, `sin ≠ 0` -/
theorem neg_lon_ok (az : Az) (l : Lon) (a b c : ℝ) (hr : ThetaRange l c) (h1 : TanOK l c) (h2 : SinOK l c) :
    TanOK l (spatial_scale.eval az l (-1) a b c).2.2 ∧ SinOK l (spatial_scale.eval az l (-1) a b c).2.2 := by
  cases l
  · exact ⟨trivial, trivial⟩
  · have e : (spatial_scale.eval az .theta (-1) a b c).2.2 = π - c := by
      have hs : P.sign (-1 : ℝ) = -1 := Real.sign_of_neg (by norm_num)
      have e2 : c + 0.5 * (P.sign (-1 : ℝ) - 1) * π = -(π - c) := by rw [hs]; ring
      have e3 : |c + 0.5 * (P.sign (-1 : ℝ) - 1) * π| = π - c := by
        rw [e2, abs_neg, abs_of_nonneg (sub_nonneg.mpr hr.2)]
      cases az <;> exact e3
    rw [e]
    refine ⟨?_, ?_⟩
    · show cos (π - c) ≠ 0
      rw [cos_pi_sub]; exact neg_ne_zero.mpr h1
    · show sin (π - c) ≠ 0
      rw [sin_pi_sub]; exact h2
  · exact ⟨trivial, trivial⟩

/-- the negated vector denotes `(−x, −y, −z, t)`: for τ storage the kept τ denotes the same `t` because `|p|` is preserved -/
theorem neg_denote (az : Az) (l : Lon) (t : Tmp) (a b c d : ℝ) (hr : ThetaRange l c) :
    Spec.cart4 az l t (spatial_scale.eval az l (-1) a b c).1 (spatial_scale.eval az l (-1) a b c).2.1
        (spatial_scale.eval az l (-1) a b c).2.2 d
      = (-(xOf az a b), -(yOf az a b), -(zOf az l a b c), tOf az l t a b c d) := by
  have h := refine_spatial_scale az l (-1) a b c hr
  generalize spatial_scale.eval az l (-1) a b c = r at h
  have h' : Spec.cart3 az l r.1 r.2.1 r.2.2 = smul3 (-1) (Spec.cart3 az l a b c) := by
    cases az <;> cases l <;> exact Option.some.inj h
  simp only [Spec.cart3, smul3, Prod.mk.injEq] at h'
  obtain ⟨hx, hy, hz⟩ := h'
  have ht : tOf az l t r.1 r.2.1 r.2.2 d = tOf az l t a b c d :=
    tOf_congr_mag2 (by simp only [mag2Of, hx, hy, hz]; ring) t d
  simp only [Spec.cart4, hx, hy, hz, ht, neg_one_mul]

/-- `neg3D` of a booster `p`: a vector of the same type denoting `(−p⃗, E)` that satisfies `BoostOK` -/
theorem neg3D_spec4 (K : Consts ℝ) (hK : K.negOne = -1) {p : Vec ℝ} (hp : WFV p) (hdp : p.ty.dim = 4)
    (hcp : Stored4 (fun _ l t _ _ c d => ThetaRange l c ∧ TanOK l c ∧ SinOK l c ∧ CanonTmp t d) p)
    {px py pz E : ℝ} (h' : denote p = some [px, py, pz, E]) :
    ∃ n, negN evR K 3 p = .ok (.vec n) ∧ WFV n ∧ n.ty = p.ty ∧ BoostOK n ∧ denote n = some [-px, -py, -pz, E] := by
  obtain ⟨be, mom, az, l, t, a, b, c, d, rfl⟩ := wfv4 hp hdp
  obtain ⟨hr, h1, h2, h3⟩ := hcp
  simp only [denote, Option.some.injEq, List.cons.injEq, and_true] at h'
  obtain ⟨rfl, rfl, rfl, rfl⟩ := h'
  refine ⟨_, neg3D_eval4 K be mom az l t a b c d, ⟨by simp, rfl⟩, rfl, ?_, ?_⟩
  · rw [hK]; exact ⟨(neg_lon_ok az l a b c hr h1 h2).1, (neg_lon_ok az l a b c hr h1 h2).2, h3⟩
  · rw [hK, C11M.denote_V4, neg_denote az l t a b c d hr]; rfl

/-- **`boostCM_of_p4` (and `boostCM_of` with a 4D argument)**: `boost_p4` with the spatial part of the booster negated; the
result denotes `bp4 X (−p⃗, E)` -/
theorem c09m_boostCM_of_p4 (K : Consts ℝ) (A : Arith ℝ) (hK : K.negOne = -1) (v p : Vec ℝ) (hv : WFV v)
    (hd : v.ty.dim = 4) (hp : WFV p) (hdp : p.ty.dim = 4)
    (hc : Stored4 (fun _ l t _ _ c d => TanOK l c ∧ CanonTmp t d) v)
    (hcp : Stored4 (fun _ l t _ _ c d => ThetaRange l c ∧ TanOK l c ∧ SinOK l c ∧ CanonTmp t d) p)
    (x y z t px py pz E : ℝ) (h : denote v = some [x, y, z, t]) (h' : denote p = some [px, py, pz, E])
    (hphys : v.ty.tmp = some .tau → px ^ 2 + py ^ 2 + pz ^ 2 < E ^ 2 ∧ 0 < E) :
    ∃ w, call evR K A "boostCM_of_p4" v [.v p] = .ok (.vec w) ∧ call evR K A "boostCM_of" v [.v p] = .ok (.vec w) ∧
      w.ty = ⟨hbe v.ty.be p.ty.be, v.ty.mom || p.ty.mom, .xy, some .z, v.ty.tmp⟩ ∧ WFV w ∧
      denote w = some (l4 (bp4 (x, y, z, t) (-px, -py, -pz, E))) := by
  obtain ⟨n, hn, hwn, hty, hcn, hden⟩ := neg3D_spec4 K hK hp hdp hcp h'
  have hdn : n.ty.dim = p.ty.dim := by rw [hty]
  obtain ⟨e1, e2⟩ := (boostCM_eq evR K A v p n hd hn hdn).1 hdp
  obtain ⟨w, e, htw, hw, hdw⟩ := c09m_boost_p4 K A v n hv hd hwn (hdn.trans hdp) hc hcn x y z t _ _ _ _ h hden
    (fun e => by simpa only [neg_sq] using hphys e)
  exact ⟨w, e1.trans e, e2.trans e, by rw [htw, hty], hw, hdw⟩

/-- whatever `boostCM_of_p4` returns on 4D operands has its stored coordinates in range when those of `v` are -/
theorem c09m_boostCM_of_p4_rng (K : Consts ℝ) (A : Arith ℝ) {v p w : Vec ℝ} (hv : WFV v) (hd : v.ty.dim = 4) (hp : WFV p)
    (hdp : p.ty.dim = 4) (h : call evR K A "boostCM_of_p4" v [.v p] = .ok (.vec w)) (I : C01E.StoredInRange v) :
    C01E.StoredInRange w := by
  obtain ⟨be', mom', az', l', t', a', b', c', d', rfl⟩ := wfv4 hp hdp
  rw [((boostCM_eq evR K A v _ _ hd (neg3D_eval4 K be' mom' az' l' t' a' b' c' d') rfl).1 rfl).1] at h
  exact c09m_boost_p4_rng K A hv hd ⟨by simp, rfl⟩ rfl h I

/-- **boosting a forward time-like vector into its own rest frame**, in EVERY storage (12 × any backend/flavor):
`v.boostCM_of_p4(v)` denotes `(0, 0, 0, τ)` with `τ = √(t² − x² − y² − z²)` -/
theorem c09m_boostCM_of_p4_self (K : Consts ℝ) (A : Arith ℝ) (hK : K.negOne = -1) (v : Vec ℝ) (hv : WFV v)
    (hd : v.ty.dim = 4)
    (hc : Stored4 (fun _ l t _ _ c d => ThetaRange l c ∧ TanOK l c ∧ SinOK l c ∧ CanonTmp t d) v)
    (x y z t : ℝ) (h : denote v = some [x, y, z, t]) (ht : 0 < t) (hs : x ^ 2 + y ^ 2 + z ^ 2 < t ^ 2) :
    ∃ w, call evR K A "boostCM_of_p4" v [.v v] = .ok (.vec w) ∧ call evR K A "boostCM_of" v [.v v] = .ok (.vec w) ∧
      w.ty = { v.ty with az := .xy, lon := some .z } ∧ WFV w ∧
      denote w = some [0, 0, 0, sqrt (t ^ 2 - x ^ 2 - y ^ 2 - z ^ 2)] := by
  obtain ⟨w, e1, e2, hty, hw, hden⟩ := c09m_boostCM_of_p4 K A hK v v hv hd hv hd ⟨hc.2.1, hc.2.2.2⟩ hc x y z t x y z t h h
    (fun _ => ⟨hs, ht⟩)
  refine ⟨w, e1, e2, ?_, hw, ?_⟩
  · rw [hty]
    obtain ⟨be, mom, az, l, t0, a, b, c, d, rfl⟩ := wfv4 hv hd
    cases be <;> cases mom <;> rfl
  · rw [hden, c09_boostCM_of_self (x, y, z, t) ht hs]; rfl

/-! ### 8. `boostCM_of_beta3` (and `boostCM_of` with a 3D argument) -/

theorem neg3D_eval3 (K : Consts ℝ) (be mom az l) (a b c : ℝ) :
    negN evR K 3 ⟨⟨be, mom, az, some l, none⟩, [a, b, c]⟩ =
      .ok (.vec ⟨⟨be, mom, az, some l, none⟩,
        [(spatial_scale.eval az l K.negOne a b c).1, (spatial_scale.eval az l K.negOne a b c).2.1,
         (spatial_scale.eval az l K.negOne a b c).2.2]⟩) := by
  rw [negN, scaleN, if_neg (by simp [VT.dim]), dispatch_one evR (scaleMod 3) [K.negOne] none _ 2 rfl _ _ rfl _ _ rfl,
    spatial_scale_ret_eq]
  rfl

/-- `neg3D` of a velocity `p`: a vector of the same type denoting `−p⃗` whose stored θ still has `tan θ ≠ 0` -/
theorem neg3D_spec3 (K : Consts ℝ) (hK : K.negOne = -1) {p : Vec ℝ} (hp : WFV p) (hdp : p.ty.dim = 3)
    (hcp : Stored3 (fun _ l _ _ c => ThetaRange l c ∧ TanOK l c ∧ SinOK l c) p) {bx by' bz : ℝ}
    (h' : denote p = some [bx, by', bz]) :
    ∃ n, negN evR K 3 p = .ok (.vec n) ∧ WFV n ∧ n.ty = p.ty ∧ Stored3 (fun _ l _ _ c => TanOK l c) n ∧
      denote n = some [-bx, -by', -bz] := by
  obtain ⟨be, mom, az, l, a, b, c, rfl⟩ := (wfv_dim hp).2.1 hdp
  obtain ⟨hr, h1, h2⟩ := hcp
  simp only [denote, Option.some.injEq, List.cons.injEq, and_true] at h'
  obtain ⟨rfl, rfl, rfl⟩ := h'
  have hnd := neg_denote az l .t a b c 0 hr
  simp only [Spec.cart4, Prod.mk.injEq] at hnd
  refine ⟨_, neg3D_eval3 K be mom az l a b c, ⟨by simp, rfl⟩, rfl, ?_, ?_⟩
  · rw [hK]; exact (neg_lon_ok az l a b c hr h1 h2).1
  · simp only [hK, denote, hnd.1, hnd.2.1, hnd.2.2.1]

/-- **`boostCM_of_beta3` (and `boostCM_of` with a 3D argument)**: `boost_beta3` with the negated velocity -/
theorem c09m_boostCM_of_beta3 (K : Consts ℝ) (A : Arith ℝ) (hK : K.negOne = -1) (v p : Vec ℝ) (hv : WFV v)
    (hd : v.ty.dim = 4) (hp : WFV p) (hdp : p.ty.dim = 3)
    (hc : Stored4 (fun _ l t _ _ c d => TanOK l c ∧ CanonTmp t d) v)
    (hcp : Stored3 (fun _ l _ _ c => ThetaRange l c ∧ TanOK l c ∧ SinOK l c) p)
    (x y z t bx by' bz : ℝ) (h : denote v = some [x, y, z, t]) (h' : denote p = some [bx, by', bz])
    (hphys : v.ty.tmp = some .tau → bx ^ 2 + by' ^ 2 + bz ^ 2 < 1) :
    ∃ w, call evR K A "boostCM_of_beta3" v [.v p] = .ok (.vec w) ∧ call evR K A "boostCM_of" v [.v p] = .ok (.vec w) ∧
      w.ty = ⟨hbe v.ty.be p.ty.be, v.ty.mom || p.ty.mom, .xy, some .z, v.ty.tmp⟩ ∧ WFV w ∧
      denote w = some (l4 (bβ3 (x, y, z, t) (-bx, -by', -bz))) := by
  obtain ⟨n, hn, hwn, hty, hcn, hden⟩ := neg3D_spec3 K hK hp hdp hcp h'
  have hdn : n.ty.dim = p.ty.dim := by rw [hty]
  obtain ⟨e1, e2⟩ := (boostCM_eq evR K A v p n hd hn hdn).2 hdp
  obtain ⟨w, e, htw, hw, hdw⟩ := c09m_boost_beta3 K A v n hv hd hwn (hdn.trans hdp) hc hcn x y z t _ _ _ h hden
    (fun e => by simpa only [neg_sq] using hphys e)
  exact ⟨w, e1.trans e, e2.trans e, by rw [htw, hty], hw, hdw⟩

theorem c09m_boostCM_of_beta3_rng (K : Consts ℝ) (A : Arith ℝ) {v p w : Vec ℝ} (hv : WFV v) (hd : v.ty.dim = 4) (hp : WFV p)
    (hdp : p.ty.dim = 3) (h : call evR K A "boostCM_of_beta3" v [.v p] = .ok (.vec w)) (I : C01E.StoredInRange v) :
    C01E.StoredInRange w := by
  obtain ⟨be', mom', az', l', a', b', c', rfl⟩ := (wfv_dim hp).2.1 hdp
  rw [((boostCM_eq evR K A v _ _ hd (neg3D_eval3 K be' mom' az' l' a' b' c') rfl).2 rfl).1] at h
  exact c09m_boost_beta3_rng K A hv hd ⟨by simp, rfl⟩ rfl h I

/-- **`v.boostCM_of_beta3(v.to_beta3())`**: if `b` (3D, any storage) denotes the velocity `(x/t, y/t, z/t)` of a forward
time-like `v`, the result denotes `(0, 0, 0, τ)` -/
theorem c09m_boostCM_of_beta3_self (K : Consts ℝ) (A : Arith ℝ) (hK : K.negOne = -1) (v p : Vec ℝ) (hv : WFV v)
    (hd : v.ty.dim = 4) (hp : WFV p) (hdp : p.ty.dim = 3)
    (hc : Stored4 (fun _ l t _ _ c d => TanOK l c ∧ CanonTmp t d) v)
    (hcp : Stored3 (fun _ l _ _ c => ThetaRange l c ∧ TanOK l c ∧ SinOK l c) p)
    (x y z t : ℝ) (h : denote v = some [x, y, z, t]) (h' : denote p = some [x / t, y / t, z / t])
    (ht : 0 < t) (hs : x ^ 2 + y ^ 2 + z ^ 2 < t ^ 2) :
    ∃ w, call evR K A "boostCM_of_beta3" v [.v p] = .ok (.vec w) ∧
      denote w = some [0, 0, 0, sqrt (t ^ 2 - x ^ 2 - y ^ 2 - z ^ 2)] := by
  have hsub := c09_to_beta3_subluminal (x, y, z, t) ht hs
  have e3 : toβ3 (x, y, z, t) = (x / t, y / t, z / t) := by simp only [d_lorentz_to_beta3]
  rw [e3] at hsub
  obtain ⟨w, e1, -, -, -, hden⟩ := c09m_boostCM_of_beta3 K A hK v p hv hd hp hdp hc hcp x y z t _ _ _ h h' (fun _ => hsub)
  refine ⟨w, e1, ?_⟩
  have hself := c09_boostCM_of_beta3_self (x, y, z, t) ht hs
  have en : neg3 (toβ3 (x, y, z, t)) = (-(x / t), -(y / t), -(z / t)) := by
    rw [e3]; simp only [neg3, d_spatial_scale, mul_neg, mul_one]
  rw [en] at hself
  rw [hden, hself]
  have hM : (0 : ℝ) < t ^ 2 - (x ^ 2 + y ^ 2 + z ^ 2) := by linarith
  have e : t ^ 2 - x ^ 2 - y ^ 2 - z ^ 2 = t ^ 2 - (x ^ 2 + y ^ 2 + z ^ 2) := by ring
  simp only [l4, d_lorentz_tau, d_lorentz_tau2, d_spatial_mag2, P.copysign, e, if_pos hM.le, abs_of_pos hM,
    abs_of_nonneg (Real.sqrt_nonneg _)]

/-! ### the stored τ is passed through unchanged (no hypothesis on the stored coordinates or the boost parameter) -/

/-- **axis boosts of a τ-stored vector**: the result is τ-stored and its stored τ is that of `v` -/
theorem c09m_boost_axis_tau_stored (K : Consts ℝ) (A : Arith ℝ) (v : Vec ℝ) (hv : WFV v) (hd : v.ty.dim = 4)
    (ht : v.ty.tmp = some .tau) (s : ℝ) :
    ∀ m ∈ ["boostX", "boostY", "boostZ"],
      (∃ w, call evR K A m v [.kw "beta" s] = .ok (.vec w) ∧ call evR K A m v [.sc s] = .ok (.vec w) ∧
        w.ty.tmp = some .tau ∧ (c4 w).2.2.2 = (c4 v).2.2.2) ∧
      (∃ w, call evR K A m v [.kw "gamma" s] = .ok (.vec w) ∧ w.ty.tmp = some .tau ∧ (c4 w).2.2.2 = (c4 v).2.2.2) := by
  obtain ⟨⟨x1, x2, x3⟩, ⟨y1, y2, y3⟩, ⟨z1, z2, z3⟩, -⟩ := call_unary4 evR K A v s
  have key : ∀ {ret eval Λ az} (F : BoostForm ret eval Λ az AxisOK) (m : ModuleId) (hs : operandSlots m.info.shape = [3])
      (hm : ∀ k0 k1 k2 a b c d,
        evR m [.az k0, .lon k1, .tmp k2] [s, a, b, c, d] = some (.vals (l4 (eval k0 k1 k2 a b c d)), ret k0 k1 k2)),
      ∃ w, selfCall evR v m 4 [s] = .ok (.vec w) ∧ w.ty.tmp = some .tau ∧ (c4 w).2.2.2 = (c4 v).2.2.2 := by
    intro ret eval Λ az F m hs hm
    obtain ⟨w, e, hty, -, -, -, h⟩ := boostForm_selfCall F m s hs hm hv hd
    exact ⟨w, e, by rw [hty]; exact ht, h ht⟩
  obtain ⟨w1, e1, t1⟩ := key (lorentz_boostX_beta_form s) .lorentz_boostX_beta rfl fun _ _ _ _ _ _ _ => rfl
  obtain ⟨w2, e2, t2⟩ := key (lorentz_boostX_gamma_form s) .lorentz_boostX_gamma rfl fun _ _ _ _ _ _ _ => rfl
  obtain ⟨w3, e3, t3⟩ := key (lorentz_boostY_beta_form s) .lorentz_boostY_beta rfl fun _ _ _ _ _ _ _ => rfl
  obtain ⟨w4, e4, t4⟩ := key (lorentz_boostY_gamma_form s) .lorentz_boostY_gamma rfl fun _ _ _ _ _ _ _ => rfl
  obtain ⟨w5, e5, t5⟩ := key (lorentz_boostZ_beta_form s) .lorentz_boostZ_beta rfl fun _ _ _ _ _ _ _ => rfl
  obtain ⟨w6, e6, t6⟩ := key (lorentz_boostZ_gamma_form s) .lorentz_boostZ_gamma rfl fun _ _ _ _ _ _ _ => rfl
  exact List.forall_iff_forall_mem.1 ⟨⟨⟨w1, x1.trans e1, x2.trans e1, t1⟩, ⟨w2, x3.trans e2, t2⟩⟩,
    ⟨⟨w3, y1.trans e3, y2.trans e3, t3⟩, ⟨w4, y3.trans e4, t4⟩⟩, ⟨⟨w5, z1.trans e5, z2.trans e5, t5⟩, ⟨w6, z3.trans e6, t6⟩⟩⟩

/-- **`boost_p4` / `boost_beta3` of a τ-stored vector**: the result is τ-stored with the stored τ of `v` -/
theorem c09m_boost_tau_stored (K : Consts ℝ) (A : Arith ℝ) (v p : Vec ℝ) (hv : WFV v) (hd : v.ty.dim = 4) (hp : WFV p)
    (ht : v.ty.tmp = some .tau) :
    (p.ty.dim = 4 → ∃ w, call evR K A "boost_p4" v [.v p] = .ok (.vec w) ∧ w.ty.tmp = some .tau ∧
      (c4 w).2.2.2 = (c4 v).2.2.2) ∧
    (p.ty.dim = 3 → ∃ w, call evR K A "boost_beta3" v [.v p] = .ok (.vec w) ∧ w.ty.tmp = some .tau ∧
      (c4 w).2.2.2 = (c4 v).2.2.2) := by
  obtain ⟨be, mom, az, l, t, a, b, c, d, rfl⟩ := wfv4 hv hd
  obtain rfl : t = .tau := Option.some.inj ht
  refine ⟨fun hdp => ?_, fun hdp => ?_⟩
  · obtain ⟨be', mom', az', l', t', a', b', c', d', rfl⟩ := wfv4 hp hdp
    exact ⟨_, boost_p4_eval K A be mom az l .tau a b c d be' mom' az' l' t' a' b' c' d',
      rfl, refine_lorentz_boost_p4_tau_stored az l az' l' t' a b c d a' b' c' d'⟩
  · obtain ⟨be', mom', az', l', a', b', c', rfl⟩ := (wfv_dim hp).2.1 hdp
    exact ⟨_, boost_beta3_eval K A be mom az l .tau a b c d be' mom' az' l' a' b' c',
      rfl, refine_lorentz_boost_beta3_tau_stored az l az' l' a b c d a' b' c'⟩

/-- **Lorentz invariance at method level, 4D booster**: two 4D vectors in ANY two storages boosted by the same physical
momentum (forward, time-like; any storage): the Minkowski product of the denotations is preserved -/
theorem c09m_boost_p4_mdot (K : Consts ℝ) (A : Arith ℝ) (v₁ v₂ p : Vec ℝ) (hv₁ : WFV v₁) (hd₁ : v₁.ty.dim = 4)
    (hv₂ : WFV v₂) (hd₂ : v₂.ty.dim = 4) (hp : WFV p) (hdp : p.ty.dim = 4)
    (hc₁ : Stored4 (fun _ l t _ _ c d => TanOK l c ∧ CanonTmp t d) v₁)
    (hc₂ : Stored4 (fun _ l t _ _ c d => TanOK l c ∧ CanonTmp t d) v₂) (hcp : BoostOK p) (X₁ X₂ P : V4)
    (h₁ : denote v₁ = some (l4 X₁)) (h₂ : denote v₂ = some (l4 X₂)) (h' : denote p = some (l4 P))
    (hE : 0 < P.2.2.2) (hP : P.1 ^ 2 + P.2.1 ^ 2 + P.2.2.1 ^ 2 < P.2.2.2 ^ 2) :
    ∃ w₁ w₂ Y₁ Y₂, call evR K A "boost" v₁ [.v p] = .ok (.vec w₁) ∧ call evR K A "boost" v₂ [.v p] = .ok (.vec w₂) ∧
      denote w₁ = some (l4 Y₁) ∧ denote w₂ = some (l4 Y₂) ∧ VR.mdot Y₁ Y₂ = VR.mdot X₁ X₂ := by
  obtain ⟨w₁, e₁, -, -, d₁⟩ := c09m_boost_p4 K A v₁ p hv₁ hd₁ hp hdp hc₁ hcp _ _ _ _ _ _ _ _ h₁ h' (fun _ => ⟨hP, hE⟩)
  obtain ⟨w₂, e₂, -, -, d₂⟩ := c09m_boost_p4 K A v₂ p hv₂ hd₂ hp hdp hc₂ hcp _ _ _ _ _ _ _ _ h₂ h' (fun _ => ⟨hP, hE⟩)
  refine ⟨w₁, w₂, _, _, ?_, ?_, d₁, d₂, c09_boost_p4_mdot X₁ X₂ P hE hP⟩
  · rw [(c09m_boost_dispatch evR K A v₁ p).2.1 hdp, e₁]
  · rw [(c09m_boost_dispatch evR K A v₂ p).2.1 hdp, e₂]

/-! ### examples at concrete points; non-vacuity of the hypotheses -/

/-- a momentum vector stored as (ρ, φ, θ, τ) = (2, 1, 1, 3): every storage hypothesis used in sections 2–5 holds, it is
forward time-like -/
example : let v : Vec ℝ := ⟨⟨.obj, true, .rhophi, some .theta, some .tau⟩, [2, 1, 1, 3]⟩
    WFV v ∧ v.ty.dim = 4 ∧ BoostOK v ∧
    Stored4 (fun _ l t _ _ c d => ThetaRange l c ∧ TanOK l c ∧ SinOK l c ∧ CanonTmp t d) v ∧
    ∃ x y z t, denote v = some [x, y, z, t] ∧ 0 < t ∧ x ^ 2 + y ^ 2 + z ^ 2 < t ^ 2 := by
  intro v
  have hpi : (1 : ℝ) < π := by linarith [two_le_pi]
  have hc : cos (1 : ℝ) ≠ 0 := Spec.tanOK_one .theta
  have hs : sin (1 : ℝ) ≠ 0 := Spec.sinOK_one .theta
  have h3 : (0 : ℝ) ≤ 3 := by norm_num
  refine ⟨⟨by simp [v], rfl⟩, by simp [v, VT.dim], ⟨hc, hs, h3⟩, ⟨⟨zero_le_one, hpi.le⟩, hc, hs, h3⟩,
    _, _, _, _, rfl, ?_, ?_⟩
  · exact Real.sqrt_pos.mpr (by unfold mag2Of; positivity)
  · have hm : 0 ≤ mag2Of .rhophi .theta 2 1 1 := Spec.mag2Of_nonneg' _ _ _ _ _
    show mag2Of .rhophi .theta 2 1 1 < sqrt (3 ^ 2 + mag2Of .rhophi .theta 2 1 1) ^ 2
    rw [Real.sq_sqrt (by positivity)]; linarith

/-- `boost` of a (ρ, φ, η, τ) object momentum vector by the NumPy-backend geometric velocity β = (0.3, −0.2, 0.5):
the result is a NumPy-backend Cartesian momentum vector, τ-stored, denoting the boosted denotation -/
example (K : Consts ℝ) (A : Arith ℝ) :
    let v : Vec ℝ := ⟨⟨.obj, true, .rhophi, some .eta, some .tau⟩, [2, 1, 1, 3]⟩
    let b : Vec ℝ := ⟨⟨.np, false, .xy, some .z, none⟩, [0.3, -0.2, 0.5]⟩
    ∃ w X, denote v = some (l4 X) ∧ call evR K A "boost" v [.v b] = .ok (.vec w) ∧
      w.ty = ⟨.np, true, .xy, some .z, some .tau⟩ ∧ denote w = some (l4 (bβ3 X (0.3, -0.2, 0.5))) := by
  intro v b
  obtain ⟨w, e, hty, -, hden⟩ := c09m_boost_beta3 K A v b ⟨by simp [v], rfl⟩ (by simp [v, VT.dim]) ⟨by simp [b], rfl⟩
    (by simp [b, VT.dim]) ⟨trivial, show (0 : ℝ) ≤ 3 by norm_num⟩ trivial _ _ _ _ 0.3 (-0.2) 0.5 rfl rfl
    (fun _ => by norm_num)
  exact ⟨w, _, rfl, by rw [(c09m_boost_dispatch evR K A v b).1 (by simp [b, VT.dim]), e], hty, hden⟩

/-- `boostX(beta=0.6)`, `boostZ(gamma=-1.25)` on the same vector -/
example (K : Consts ℝ) (A : Arith ℝ) :
    let v : Vec ℝ := ⟨⟨.obj, true, .rhophi, some .eta, some .tau⟩, [2, 1, 1, 3]⟩
    (∃ w, call evR K A "boostX" v [.kw "beta" 0.6] = .ok (.vec w) ∧ denote w = (denote v).map (on4 (bXβ 0.6))) ∧
    (∃ w, call evR K A "boostZ" v [.kw "gamma" (-1.25)] = .ok (.vec w) ∧
      denote w = (denote v).map (on4 (bZγ (-1.25)))) := by
  intro v
  have hv : WFV v := ⟨by simp [v], rfl⟩
  have hd : v.ty.dim = 4 := by simp [v, VT.dim]
  have hc : BoostOK v := ⟨trivial, trivial, show (0 : ℝ) ≤ 3 by norm_num⟩
  obtain ⟨w, e, -, -, -, hden⟩ := c09m_boostX_beta K A v hv hd hc 0.6
    (fun _ => by rw [abs_of_pos] <;> norm_num)
  obtain ⟨w', e', -, -, hden'⟩ := c09m_boostZ_gamma K A v hv hd hc (-1.25)
    (fun _ => by rw [abs_of_neg] <;> norm_num)
  exact ⟨⟨w, e, hden⟩, ⟨w', e', hden'⟩⟩

/-- C01 in its literal form for a Lorentz accessor and a predicate: a vector stored as (ρ, φ, η, τ) and one stored as
(x, y, z, t) with the same denotation have the same `tau`, `rapidity` and `is_timelike` -/
example (K : Consts ℝ) (A : Arith ℝ) (v w : Vec ℝ) (hv : WFV v) (hw : WFV w) (x y z t : ℝ)
    (h1 : denote v = some [x, y, z, t]) (h2 : denote w = some [x, y, z, t])
    (hcv : Stored4 (fun k l t a b c d => CanonLon k l a b c ∧ TanOK l c ∧ SinOK l c ∧ CanonTmp t d) v)
    (hcw : Stored4 (fun k l t a b c d => CanonLon k l a b c ∧ TanOK l c ∧ SinOK l c ∧ CanonTmp t d) w) (hz : |z| < t) :
    call evR K A "tau" v [] = call evR K A "tau" w [] ∧ call evR K A "rapidity" v [] = call evR K A "rapidity" w [] ∧
      call evR K A "is_timelike" v [] = call evR K A "is_timelike" w [] := by
  rw [c09m_acc_tau K A v hv ⟨hcv.1, hcv.2.2.2⟩ x y z t h1, c09m_acc_tau K A w hw ⟨hcw.1, hcw.2.2.2⟩ x y z t h2,
    c09m_acc_rapidity K A v hv ⟨hcv.1, hcv.2.1, hcv.2.2.2⟩ x y z t h1 hz,
    c09m_acc_rapidity K A w hw ⟨hcw.1, hcw.2.1, hcw.2.2.2⟩ x y z t h2 hz,
    (c09m_causal K A v hv hcv.2 x y z t h1 0).2.1, (c09m_causal K A w hw hcw.2 x y z t h2 0).2.1]
  exact ⟨rfl, rfl, rfl⟩

/-! ### 9. the SIGNED-τ reading (`Spec/SignedTau.lean`): τ-stored SPACE-LIKE vectors (`τ < 0`)

`denote` (Props/C01Method) reads a stored τ as `t = √(τ² + |p|²)`, which is what the code computes only for `τ ≥ 0`
(`CanonTmp`).  The code computes `t = √max(copysign(τ², τ) + |p|², 0)`: `denoteS` is that reading; it agrees with
`denote` for `τ ≥ 0`, and the accessors `t tau tau2 t2` and the causal predicates are functions of `denoteS` for every
representable stored τ (`CanonTmpS`), negative ones included. -/

/-- denotation, signed-τ reading (differs from `denote` only on 4D τ-stored vectors with `τ < 0`) -/
noncomputable def denoteS (v : Vec ℝ) : Option (List ℝ) :=
  match v.ty.lon, v.ty.tmp, v.c with
  | some l, some t, [a, b, c, d] => some (l4 (cart4S v.ty.az l t a b c d))
  | _, _, _ => denote v

theorem denoteS_eq_denote (v : Vec ℝ) (hc : Stored4 (fun _ _ t _ _ _ d => CanonTmp t d) v) : denoteS v = denote v := by
  obtain ⟨⟨be, mom, az, lon, tmp⟩, c⟩ := v
  unfold denoteS
  split
  · next l t a b c d h1 h2 h3 =>
    simp only at h1 h2 h3
    subst h1 h2 h3
    have hc' : CanonTmp t d := hc
    simp only [cart4S_eq_cart4 _ _ _ _ _ _ _ hc']; rfl
  · rfl

theorem denoteS_lorentz {v : Vec ℝ} (hv : WFV v) {x y z t : ℝ} (h : denoteS v = some [x, y, z, t]) :
    ∃ be mom az l t0 a b c d, v = ⟨⟨be, mom, az, some l, some t0⟩, [a, b, c, d]⟩ ∧ x = xOf az a b ∧ y = yOf az a b ∧
      z = zOf az l a b c ∧ t = tOfS az l t0 a b c d := by
  rcases wfv_cases hv with ⟨be, mom, az, a, b, rfl⟩ | ⟨be, mom, az, l, a, b, c, rfl⟩ |
    ⟨be, mom, az, l, t, a, b, c, d, rfl⟩
  · simp [denoteS, denote] at h
  · simp [denoteS, denote] at h
  · simp only [denoteS, l4, cart4S, Option.some.injEq, List.cons.injEq, and_true] at h
    obtain ⟨rfl, rfl, rfl, rfl⟩ := h
    exact ⟨be, mom, az, l, t, a, b, c, d, rfl, rfl, rfl, rfl, rfl⟩

/-- **`t`, `t2`, `tau2`, `tau` of ANY representable 4D vector** (space-like τ-stored ones included) are the documented
functions of the signed denotation -/
theorem c09m_acc_signed (K : Consts ℝ) (A : Arith ℝ) (v : Vec ℝ) (hv : WFV v)
    (hc : Stored4 (fun k l t a b c d => CanonLon k l a b c ∧ CanonTmpS k l t a b c d) v) (x y z t : ℝ)
    (h : denoteS v = some [x, y, z, t]) :
    call evR K A "t" v [] = .ok (.scalar t) ∧ call evR K A "t2" v [] = .ok (.scalar (t ^ 2)) ∧
    call evR K A "tau2" v [] = .ok (.scalar (t ^ 2 - (x ^ 2 + y ^ 2 + z ^ 2))) ∧
    call evR K A "tau" v [] = .ok (.scalar (Real.sign (t ^ 2 - (x ^ 2 + y ^ 2 + z ^ 2))
      * sqrt |t ^ 2 - (x ^ 2 + y ^ 2 + z ^ 2)|)) := by
  obtain ⟨be, mom, az, l, t0, a, b, c, d, rfl, rfl, rfl, rfl, rfl⟩ := denoteS_lorentz hv h
  have hd : (⟨⟨be, mom, az, some l, some t0⟩, [a, b, c, d]⟩ : Vec ℝ).ty.dim = 4 := by simp [VT.dim]
  refine ⟨?_, ?_, ?_, ?_⟩
  · rw [call_accR K A (a := .t) rfl hv hd.ge (.inl rfl), accR, ap4]
    exact congrArg _ (congrArg _ (refine_lorentz_t_signed az l t0 a b c d hc.1 hc.2))
  · rw [call_accR K A (a := .t2) rfl hv hd.ge (.inl rfl), accR, ap4]
    exact congrArg _ (congrArg _ (refine_lorentz_t2_signed az l t0 a b c d hc.1 hc.2))
  · rw [call_accR K A (a := .tau2) rfl hv hd.ge (.inl rfl), accR, ap4]
    exact congrArg _ (congrArg _ (refine_lorentz_tau2_signed az l t0 a b c d hc.1 hc.2))
  · rw [call_accR K A (a := .tau) rfl hv hd.ge (.inl rfl), accR, ap4]
    exact congrArg _ (congrArg _ (refine_lorentz_tau_signed az l t0 a b c d hc.1 hc.2))

/-- **the causal predicates of ANY representable 4D vector** are the sign tests of `s = t² − x² − y² − z²` of the signed
denotation -/
theorem c09m_causal_signed (K : Consts ℝ) (A : Arith ℝ) (v : Vec ℝ) (hv : WFV v)
    (hc : Stored4 (fun k l t a b c d => TanOK l c ∧ SinOK l c ∧ CanonTmpS k l t a b c d) v) (x y z t : ℝ)
    (h : denoteS v = some [x, y, z, t]) (tol : ℝ) :
    call evR K A "is_timelike" v [.sc tol] = .ok (.truth (t ^ 2 - (x ^ 2 + y ^ 2 + z ^ 2) > |tol|)) ∧
    call evR K A "is_timelike" v [] = .ok (.truth (t ^ 2 - (x ^ 2 + y ^ 2 + z ^ 2) > |K.zeroI|)) ∧
    call evR K A "is_spacelike" v [.sc tol] = .ok (.truth (t ^ 2 - (x ^ 2 + y ^ 2 + z ^ 2) < -|tol|)) ∧
    call evR K A "is_spacelike" v [] = .ok (.truth (t ^ 2 - (x ^ 2 + y ^ 2 + z ^ 2) < -|K.zeroI|)) ∧
    call evR K A "is_lightlike" v [.sc tol] = .ok (.truth (|t ^ 2 - (x ^ 2 + y ^ 2 + z ^ 2)| < |tol|)) ∧
    call evR K A "is_lightlike" v [] = .ok (.truth (|t ^ 2 - (x ^ 2 + y ^ 2 + z ^ 2)| < |K.tol|)) := by
  obtain ⟨be, mom, az, l, t0, a, b, c, d, rfl, rfl, rfl, rfl, rfl⟩ := denoteS_lorentz hv h
  refine causal_eval K A be mom az l t0 a b c d tol ?_
  rw [refine_lorentz_dot_signed az l t0 az l t0 a b c d a b c d hc.1 hc.1 hc.2.1 hc.2.1 hc.2.2 hc.2.2]
  simp only [Spec.mdot, cart4S]; ring

/-- e.g. the τ-stored vector `(x, y, z, τ) = (3, 0, 0, −2)` is space-like: `is_spacelike()` (zero tolerance) holds -/
example (K : Consts ℝ) (A : Arith ℝ) (hK : K.zeroI = 0) :
    ∃ P : Prop, call evR K A "is_spacelike" ⟨⟨.obj, false, .xy, some .z, some .tau⟩, [3, 0, 0, -2]⟩ [] = .ok (.truth P) ∧ P := by
  have hcan : CanonTmpS .xy .z .tau 3 0 0 (-2) := by
    show (0 : ℝ) ≤ tau2S (-2) + mag2Of .xy .z 3 0 0
    rw [tau2S_of_neg (by norm_num)]; norm_num [mag2Of, xOf, yOf, zOf]
  have h := (c09m_causal_signed K A ⟨⟨.obj, false, .xy, some .z, some .tau⟩, [3, 0, 0, -2]⟩ ⟨by simp, rfl⟩
    ⟨trivial, trivial, hcan⟩ _ _ _ _ rfl 0).2.2.2.1
  refine ⟨_, h, ?_⟩
  have ht : tOfS .xy .z .tau 3 0 0 (-2) ^ 2 = 5 := by
    rw [tOfS_tau_sq _ _ _ _ _ _ hcan, tau2S_of_neg (by norm_num)]; norm_num [mag2Of, xOf, yOf, zOf]
  show tOfS .xy .z .tau 3 0 0 (-2) ^ 2 - ((3 : ℝ) ^ 2 + 0 ^ 2 + 0 ^ 2) < -|K.zeroI|
  rw [ht, hK]; norm_num

end C01M
end VR
