/-
Vector-space / dot / cross laws at the level of PUBLIC METHODS (glue ∘ compute), every storage pairing.

The glue model is instantiated at `S := ℝ`, `B := Prop` with the generated REAL compute layer `evR`
(`Props/EvReal.lean`); the theorems say what the BINARY public methods (`add`, `subtract`, `dot`, `cross`)
and `scale` / `unit` DENOTE, for all well-formed operands in every storage pairing, any flavors and backends.

Names to watch (they are fixed, and several of these namespaces are open at once from here on): `C01M.WFV` is the `WFV` of
this layer, not `VG.WFV` of `Props/C15.lean`; `C01M.c4` is the 4-tuple of stored coordinates, `C11M.c4` the stored temporal
coordinate alone (`C01M.tmpOf` and `C11M.tmpOf` agree); `C11M.hbe` and `C01M.hbe` (`Props/MethodLorentz.lean`) are the same
function, as are `C11M.toL4` and `C01M.l4`; `C11M.V3`, `C11M.V4` are vectors in explicit form, `VR.V3`, `VR.V4` of
`Props/C09.lean` the types `ℝ × ℝ × ℝ`, `ℝ × ℝ × ℝ × ℝ`; `C04M.LonOK` (`Props/MethodConv.lean`) is a hypothesis of a
conversion, `VR.LonOK` (`Props/CanonClosed.lean`) the range of a stored longitudinal coordinate.

Method: `dispatch_pair` / `dispatch_single` evaluate `VG.dispatch` once for arbitrary operands and compute layer
(`dispatch_pair_scalar` / `_truth`: over `evR`, for modules that declare `float` / `bool`); `sameDim_eval` (with
`sameDim_truth`, `sameDim_scalar`) does it for the nine same-dimension methods in all three dimensions at once; the
`*_eval2/3/4` lemmas and `dot_eval` reduce `call evR K A "<name>" a [.v b]` to the generated `<module>.eval k… coords` for
ARBITRARY key variables (no 144-fold case split); the `c11m_*` theorems rewrite with the all-keys refinement theorems
(`refine_planar_* / refine_spatial_* / refine_lorentz_*`), whose hypotheses are taken over verbatim as hypotheses on the
stored coordinates (`TanOKV`, `SinOKV`, `CanonTmpV`, `RepAdd`, `RepSub`, `SubCausal`, `ThetaRangeV`, `UnitOK`).

* `c11m_add`, `c11m_subtract`      2D (4 pairings), 3D (36), 4D (144): component-wise sum / difference, result type
* `c11m_dot`                       Euclidean (2D/3D) / Minkowski (4D) product of the denotations
* `c11m_cross`, `c11m_cross_guard` 3D × 3D cross product; every other dimension pairing is an error
* `c11m_scale`, `c11m_neg`, `c11m_neg_denote`, `c11m_neg_tau_discrepancy`
* `c11m_unit`                      denotation divided by its norm, norm one
* `c11m_dim_guard`, `c11m_dim_guard_tol`, `c11m_operators`
* `c11m_add_comm`, `c11m_dot_comm`, `c11m_add_indep`
* `c11m_*_regular`                 the compute call behind each method is regular (Props/Regular.lean)
* `C01E.StoredInRange`, `c11m_add_rng`, `c11m_subtract_rng`, `c11m_scale_rng`, `c11m_unit_rng`: the same theorems with the
  conjunct that operands whose stored coordinates are in range give a result whose stored coordinates are in range
  (`Props/CanonClosed.lean`) and, for `add` / `subtract`, with the azimuthal / longitudinal system of the result
  (`DeclaredSys`); `c11m_add`, … are these without the two conjuncts.  `C01E.c01m_rotateZ_rng`, `C01E.rng_cart_sp`: the
  same for `rotateZ` and for the rotations about an axis of `Props/C01Method.lean`.
-/
import VectorModel.Props.C01Method
import VectorModel.Refine.SpatialBin
import VectorModel.Refine.LorentzBin
import VectorModel.Props.Regular
import VectorModel.Props.CanonClosed

set_option linter.constructorNameAsVariable false

namespace VR
namespace C11M
open VK VG Spec Real C01M

/-! ### generic facts about `dispatch` with two / one counted operands -/

/-- the handler of a two-operand call: the operand of higher backend priority, the first wins ties -/
def hand {S : Type} (a b : Vec S) : Vec S := if b.ty.be.prio > a.ty.be.prio then b else a

def hbe (x y : Backend) : Backend := if y.prio > x.prio then y else x

theorem hbe_prio (x y : Backend) : (hbe x y).prio = max x.prio y.prio := by
  cases x <;> cases y <;> rfl
theorem hbe_tie (x y : Backend) (h : x.prio = y.prio) : hbe x y = x := by
  cases x <;> cases y <;> first | rfl | (simp [Backend.prio] at h)
theorem hbe_mem (x y : Backend) : hbe x y = x ∨ hbe x y = y := by
  cases x <;> cases y <;> simp [hbe, Backend.prio]

theorem hand_be {S : Type} (a b : Vec S) : (hand a b).ty.be = hbe a.ty.be b.ty.be := by
  unfold hand hbe; split <;> rfl

theorem dispatch_pair {S B : Type} (ev : Ev S B) (m : ModuleId) (sc : List S) (a b : Vec S) (n1 n2 : Nat)
    (hs : operandSlots m.info.shape = [n1, n2]) (k1 k2 : List KA) (c1 c2 : List S)
    (h1 : operandKey a n1 = some (k1, c1)) (h2 : operandKey b n2 = some (k2, c2))
    (out : Out S B) (ret : Ret) (he : ev m (k1 ++ k2) (sc ++ (c1 ++ c2)) = some (out, ret)) :
    dispatch ev m sc none [a, b] [a, b] =
      wrapResult (hand a b) (hand a b).ty.be (a.ty.mom || b.ty.mom) out ret := by
  rw [dispatch_two ev m sc a b n1 n2 hs k1 k2 c1 c2 h1 h2 out ret he _ _ (VG.handlerOf_pair a b)]
  simp only [List.any_cons, List.any_nil, Bool.or_false]
  rfl

theorem dispatch_pair_scalar (m : ModuleId) (hm : m.kind = .float) (sc : List ℝ) (a b : Vec ℝ) (n1 n2 : Nat)
    (hs : operandSlots m.info.shape = [n1, n2]) (k1 k2 : List KA) (c1 c2 : List ℝ)
    (h1 : operandKey a n1 = some (k1, c1)) (h2 : operandKey b n2 = some (k2, c2)) {s : ℝ} {ret : Ret}
    (he : evR m (k1 ++ k2) (sc ++ (c1 ++ c2)) = some (.vals [s], ret)) :
    dispatch evR m sc none [a, b] [a, b] = .ok (.scalar s) := by
  obtain rfl := evR_float hm he
  rw [dispatch_pair evR m sc a b n1 n2 hs k1 k2 c1 c2 h1 h2 _ _ he]
  rfl

theorem dispatch_pair_truth (m : ModuleId) (hm : m.kind = .bool) (sc : List ℝ) (a b : Vec ℝ) (n1 n2 : Nat)
    (hs : operandSlots m.info.shape = [n1, n2]) (k1 k2 : List KA) (c1 c2 : List ℝ)
    (h1 : operandKey a n1 = some (k1, c1)) (h2 : operandKey b n2 = some (k2, c2)) {p : Prop} {ret : Ret}
    (he : evR m (k1 ++ k2) (sc ++ (c1 ++ c2)) = some (.truth p, ret)) :
    dispatch evR m sc none [a, b] [a, b] = .ok (.truth p) := by
  obtain rfl := evR_bool hm he
  rw [dispatch_pair evR m sc a b n1 n2 hs k1 k2 c1 c2 h1 h2 _ _ he]
  rfl

theorem dispatch_single {S B : Type} (ev : Ev S B) (m : ModuleId) (sc : List S) (a : Vec S) (n1 : Nat)
    (hs : operandSlots m.info.shape = [n1]) (k1 : List KA) (c1 : List S)
    (h1 : operandKey a n1 = some (k1, c1))
    (out : Out S B) (ret : Ret) (he : ev m k1 (sc ++ c1) = some (out, ret)) :
    dispatch ev m sc none [a] [a] = wrapResult a a.ty.be a.ty.mom out ret :=
  dispatch_one ev m sc none a n1 hs k1 c1 h1 out ret (by simpa using he)

/-! ### the string layer -/

theorem call_bin {S B : Type} (ev : Ev S B) (K : Consts S) (A : Arith S) (self o : Vec S) :
    call ev K A "add" self [.v o] = binary ev K .add self o [] ∧
    call ev K A "subtract" self [.v o] = binary ev K .subtract self o [] ∧
    call ev K A "dot" self [.v o] = binary ev K .dot self o [] ∧
    call ev K A "cross" self [.v o] = binary ev K .cross self o [] := ⟨rfl, rfl, rfl, rfl⟩

theorem call_un {S B : Type} (ev : Ev S B) (K : Consts S) (A : Arith S) (self o : Vec S) (f : S) :
    call ev K A "scale" self [.sc f] = scaleN ev self.ty.dim f self ∧
    call ev K A "unit" self [] = selfCall ev self (unitMod self.ty.dim) 2 [] ∧
    call ev K A "is_parallel" self [.v o, .sc f] = binary ev K .is_parallel self o [f] ∧
    call ev K A "is_antiparallel" self [.v o, .sc f] = binary ev K .is_antiparallel self o [f] ∧
    call ev K A "is_perpendicular" self [.v o, .sc f] = binary ev K .is_perpendicular self o [f] :=
  ⟨rfl, rfl, rfl, rfl, rfl⟩

/-- the nine same-dimension methods on operands of equal dimension: `dispatch` of the module of that dimension -/
theorem binary_sameDim {S B : Type} (ev : Ev S B) (K : Consts S) (b : Bin) (hb : b.sameDim = true) (self o : Vec S)
    (extra : List S) (m : ModuleId) (h : o.ty.dim = self.ty.dim) (hm : b.sameDimMod self.ty.dim = some m) :
    binary ev K b self o extra = dispatch ev m (b.scalars K extra) none [self, o] [self, o] :=
  binary_route_ok ev K extra (by rw [Bin.route_sameDim b hb, if_neg (by simp [h]), hm]) (Bin.viaNeg_sameDim hb)

abbrev V2 (be : Backend) (mom : Bool) (az : Az) (a b : ℝ) : Vec ℝ := ⟨⟨be, mom, az, none, none⟩, [a, b]⟩
abbrev V3 (be : Backend) (mom : Bool) (az : Az) (l : Lon) (a b c : ℝ) : Vec ℝ := ⟨⟨be, mom, az, some l, none⟩, [a, b, c]⟩
abbrev V4 (be : Backend) (mom : Bool) (az : Az) (l : Lon) (t : Tmp) (a b c d : ℝ) : Vec ℝ :=
  ⟨⟨be, mom, az, some l, some t⟩, [a, b, c, d]⟩

theorem planar_add_ret_eq (k0 k1 : Az) : planar_add.ret k0 k1 = Ret.vec [RP.az (azOfRet (planar_add.ret k0 k1))] := by
  cases k0 <;> cases k1 <;> rfl
theorem planar_subtract_ret_eq (k0 k1 : Az) :
    planar_subtract.ret k0 k1 = Ret.vec [RP.az (azOfRet (planar_subtract.ret k0 k1))] := by
  cases k0 <;> cases k1 <;> rfl

theorem planar_scale_ret_eq (k0 : Az) : planar_scale.ret k0 = Ret.vec [RP.az k0] := by cases k0 <;> rfl
theorem planar_unit_ret_eq (k0 : Az) : planar_unit.ret k0 = Ret.vec [RP.az k0] := by cases k0 <;> rfl

/-- temporal system of a 4D sum / difference: `tau` only when both operands are stored with `tau` -/
def tmpRes : Tmp → Tmp → Tmp
  | .tau, .tau => .tau
  | _, _ => .t

/-! ### evaluation of the calls on the three shapes (all keys at once; backends and flavors arbitrary) -/

theorem add_eval2 (K : Consts ℝ) (A : Arith ℝ) (be1 mom1 az1 be2 mom2 az2) (a0 a1 a2 a3 : ℝ) :
    call evR K A "add" (V2 be1 mom1 az1 a0 a1) [.v (V2 be2 mom2 az2 a2 a3)] =
      .ok (.vec (V2 (hbe be1 be2) (mom1 || mom2) (azOfRet (planar_add.ret az1 az2))
        (planar_add.eval az1 az2 a0 a1 a2 a3).1 (planar_add.eval az1 az2 a0 a1 a2 a3).2)) := by
  rw [(call_bin evR K A _ _).1]
  rw [binary_sameDim evR K .add rfl (V2 be1 mom1 az1 a0 a1) (V2 be2 mom2 az2 a2 a3) [] .planar_add rfl rfl,
    dispatch_pair evR .planar_add _ _ _ 1 1 rfl _ _ _ _ rfl rfl _ _ rfl,
    planar_add_ret_eq, hand_be]
  unfold hand; split <;> rfl

theorem subtract_eval2 (K : Consts ℝ) (A : Arith ℝ) (be1 mom1 az1 be2 mom2 az2) (a0 a1 a2 a3 : ℝ) :
    call evR K A "subtract" (V2 be1 mom1 az1 a0 a1) [.v (V2 be2 mom2 az2 a2 a3)] =
      .ok (.vec (V2 (hbe be1 be2) (mom1 || mom2) (azOfRet (planar_subtract.ret az1 az2))
        (planar_subtract.eval az1 az2 a0 a1 a2 a3).1 (planar_subtract.eval az1 az2 a0 a1 a2 a3).2)) := by
  rw [(call_bin evR K A _ _).2.1]
  rw [binary_sameDim evR K .subtract rfl (V2 be1 mom1 az1 a0 a1) (V2 be2 mom2 az2 a2 a3) [] .planar_subtract rfl rfl,
    dispatch_pair evR .planar_subtract _ _ _ 1 1 rfl _ _ _ _ rfl rfl _ _ rfl,
    planar_subtract_ret_eq, hand_be]
  unfold hand; split <;> rfl

theorem add_eval3 (K : Consts ℝ) (A : Arith ℝ) (be1 mom1 az1 l1 be2 mom2 az2 l2) (a0 a1 a2 a3 a4 a5 : ℝ) :
    call evR K A "add" (V3 be1 mom1 az1 l1 a0 a1 a2) [.v (V3 be2 mom2 az2 l2 a3 a4 a5)] =
      .ok (.vec (V3 (hbe be1 be2) (mom1 || mom2) (azOfRet (spatial_add.ret az1 l1 az2 l2))
        (lonOfRet (spatial_add.ret az1 l1 az2 l2))
        (spatial_add.eval az1 l1 az2 l2 a0 a1 a2 a3 a4 a5).1 (spatial_add.eval az1 l1 az2 l2 a0 a1 a2 a3 a4 a5).2.1
        (spatial_add.eval az1 l1 az2 l2 a0 a1 a2 a3 a4 a5).2.2)) := by
  rw [(call_bin evR K A _ _).1]
  rw [binary_sameDim evR K .add rfl (V3 be1 mom1 az1 l1 a0 a1 a2) (V3 be2 mom2 az2 l2 a3 a4 a5) [] .spatial_add rfl rfl,
    dispatch_pair evR .spatial_add _ _ _ 2 2 rfl _ _ _ _ rfl rfl _ _ rfl,
    spatial_add_ret_eq, hand_be]
  unfold hand; split <;> rfl

theorem subtract_eval3 (K : Consts ℝ) (A : Arith ℝ) (be1 mom1 az1 l1 be2 mom2 az2 l2) (a0 a1 a2 a3 a4 a5 : ℝ) :
    call evR K A "subtract" (V3 be1 mom1 az1 l1 a0 a1 a2) [.v (V3 be2 mom2 az2 l2 a3 a4 a5)] =
      .ok (.vec (V3 (hbe be1 be2) (mom1 || mom2) (azOfRet (spatial_subtract.ret az1 l1 az2 l2))
        (lonOfRet (spatial_subtract.ret az1 l1 az2 l2))
        (spatial_subtract.eval az1 l1 az2 l2 a0 a1 a2 a3 a4 a5).1 (spatial_subtract.eval az1 l1 az2 l2 a0 a1 a2 a3 a4 a5).2.1
        (spatial_subtract.eval az1 l1 az2 l2 a0 a1 a2 a3 a4 a5).2.2)) := by
  rw [(call_bin evR K A _ _).2.1]
  rw [binary_sameDim evR K .subtract rfl (V3 be1 mom1 az1 l1 a0 a1 a2) (V3 be2 mom2 az2 l2 a3 a4 a5) [] .spatial_subtract rfl rfl,
    dispatch_pair evR .spatial_subtract _ _ _ 2 2 rfl _ _ _ _ rfl rfl _ _ rfl,
    spatial_subtract_ret_eq, hand_be]
  unfold hand; split <;> rfl

theorem cross_eval3 (K : Consts ℝ) (A : Arith ℝ) (be1 mom1 az1 l1 be2 mom2 az2 l2) (a0 a1 a2 a3 a4 a5 : ℝ) :
    call evR K A "cross" (V3 be1 mom1 az1 l1 a0 a1 a2) [.v (V3 be2 mom2 az2 l2 a3 a4 a5)] =
      .ok (.vec (V3 (hbe be1 be2) (mom1 || mom2) .xy .z
        (spatial_cross.eval az1 l1 az2 l2 a0 a1 a2 a3 a4 a5).1 (spatial_cross.eval az1 l1 az2 l2 a0 a1 a2 a3 a4 a5).2.1
        (spatial_cross.eval az1 l1 az2 l2 a0 a1 a2 a3 a4 a5).2.2)) := by
  rw [(call_bin evR K A _ _).2.2.2]
  have e : binary evR K .cross (V3 be1 mom1 az1 l1 a0 a1 a2) (V3 be2 mom2 az2 l2 a3 a4 a5) [] =
      dispatch evR .spatial_cross [] none [V3 be1 mom1 az1 l1 a0 a1 a2, V3 be2 mom2 az2 l2 a3 a4 a5]
        [V3 be1 mom1 az1 l1 a0 a1 a2, V3 be2 mom2 az2 l2 a3 a4 a5] := rfl
  rw [e, dispatch_pair evR .spatial_cross _ _ _ 2 2 rfl _ _ _ _ rfl rfl _ _ rfl,
    refine_spatial_cross_ret, hand_be]
  unfold hand; split <;> rfl

theorem add_eval4 (K : Consts ℝ) (A : Arith ℝ) (be1 mom1 az1 l1 t1 be2 mom2 az2 l2 t2) (a0 a1 a2 a3 a4 a5 a6 a7 : ℝ) :
    call evR K A "add" (V4 be1 mom1 az1 l1 t1 a0 a1 a2 a3) [.v (V4 be2 mom2 az2 l2 t2 a4 a5 a6 a7)] =
      .ok (.vec (V4 (hbe be1 be2) (mom1 || mom2) (azOfRet (spatial_add.ret az1 l1 az2 l2))
        (lonOfRet (spatial_add.ret az1 l1 az2 l2)) (tmpRes t1 t2)
        (lorentz_add.eval az1 l1 t1 az2 l2 t2 a0 a1 a2 a3 a4 a5 a6 a7).1
        (lorentz_add.eval az1 l1 t1 az2 l2 t2 a0 a1 a2 a3 a4 a5 a6 a7).2.1
        (lorentz_add.eval az1 l1 t1 az2 l2 t2 a0 a1 a2 a3 a4 a5 a6 a7).2.2.1
        (lorentz_add.eval az1 l1 t1 az2 l2 t2 a0 a1 a2 a3 a4 a5 a6 a7).2.2.2)) := by
  rw [(call_bin evR K A _ _).1]
  rw [binary_sameDim evR K .add rfl (V4 be1 mom1 az1 l1 t1 a0 a1 a2 a3) (V4 be2 mom2 az2 l2 t2 a4 a5 a6 a7) [] .lorentz_add rfl rfl,
    dispatch_pair evR .lorentz_add _ _ _ 3 3 rfl _ _ _ _ rfl rfl _ _ rfl,
    lorentz_add_ret_eq, hand_be]
  unfold hand; split <;> cases t1 <;> cases t2 <;> rfl

theorem subtract_eval4 (K : Consts ℝ) (A : Arith ℝ) (be1 mom1 az1 l1 t1 be2 mom2 az2 l2 t2)
    (a0 a1 a2 a3 a4 a5 a6 a7 : ℝ) :
    call evR K A "subtract" (V4 be1 mom1 az1 l1 t1 a0 a1 a2 a3) [.v (V4 be2 mom2 az2 l2 t2 a4 a5 a6 a7)] =
      .ok (.vec (V4 (hbe be1 be2) (mom1 || mom2) (azOfRet (spatial_subtract.ret az1 l1 az2 l2))
        (lonOfRet (spatial_subtract.ret az1 l1 az2 l2)) (tmpRes t1 t2)
        (lorentz_subtract.eval az1 l1 t1 az2 l2 t2 a0 a1 a2 a3 a4 a5 a6 a7).1
        (lorentz_subtract.eval az1 l1 t1 az2 l2 t2 a0 a1 a2 a3 a4 a5 a6 a7).2.1
        (lorentz_subtract.eval az1 l1 t1 az2 l2 t2 a0 a1 a2 a3 a4 a5 a6 a7).2.2.1
        (lorentz_subtract.eval az1 l1 t1 az2 l2 t2 a0 a1 a2 a3 a4 a5 a6 a7).2.2.2)) := by
  rw [(call_bin evR K A _ _).2.1]
  rw [binary_sameDim evR K .subtract rfl (V4 be1 mom1 az1 l1 t1 a0 a1 a2 a3) (V4 be2 mom2 az2 l2 t2 a4 a5 a6 a7) [] .lorentz_subtract rfl rfl,
    dispatch_pair evR .lorentz_subtract _ _ _ 3 3 rfl _ _ _ _ rfl rfl _ _ rfl,
    lorentz_subtract_ret_eq, hand_be]
  unfold hand; split <;> cases t1 <;> cases t2 <;> rfl

/-! ### denotations -/

def toL2 (p : ℝ × ℝ) : List ℝ := [p.1, p.2]
def toL3 (p : ℝ × ℝ × ℝ) : List ℝ := [p.1, p.2.1, p.2.2]
def toL4 (p : ℝ × ℝ × ℝ × ℝ) : List ℝ := [p.1, p.2.1, p.2.2.1, p.2.2.2]

theorem denote_V2 (be mom az) (a b : ℝ) : denote (V2 be mom az a b) = some (toL2 (cart2 az a b)) := rfl
theorem denote_V3 (be mom az l) (a b c : ℝ) : denote (V3 be mom az l a b c) = some (toL3 (cart3 az l a b c)) := rfl
theorem denote_V4 (be mom az l t) (a b c d : ℝ) :
    denote (V4 be mom az l t a b c d) = some (toL4 (cart4 az l t a b c d)) := rfl

theorem denote2_of_interp (be mom az) (rest : List RP) (v p : ℝ × ℝ) (h : interp2 (Ret.vec (RP.az az :: rest)) v = some p) :
    denote (V2 be mom az v.1 v.2) = some (toL2 p) := by
  rw [denote_V2]; exact congrArg (fun o => o.map toL2) h
theorem denote3_of_interp (be mom az l) (rest : List RP) (v p : ℝ × ℝ × ℝ)
    (h : interp3 (Ret.vec (RP.az az :: RP.lon l :: rest)) v = some p) :
    denote (V3 be mom az l v.1 v.2.1 v.2.2) = some (toL3 p) := by
  rw [denote_V3]; exact congrArg (fun o => o.map toL3) h
theorem denote4_of_interp (be mom az l t) (rest : List RP) (v p : ℝ × ℝ × ℝ × ℝ)
    (h : interp4 (Ret.vec (RP.az az :: RP.lon l :: RP.tmp t :: rest)) v = some p) :
    denote (V4 be mom az l t v.1 v.2.1 v.2.2.1 v.2.2.2) = some (toL4 p) := by
  rw [denote_V4]; exact congrArg (fun o => o.map toL4) h

/-! ### hypotheses on the stored coordinates of the operands (those of the `refine_*` theorems, verbatim) -/

def c4 (v : Vec ℝ) : ℝ := match v.c with | [_, _, _, d] => d | _ => 0
def tmpOf (v : Vec ℝ) : Tmp := v.ty.tmp.getD .t

/-- 4D operands: `sin θ ≠ 0` for θ storage (the temporal accessors divide by it) -/
def SinOKV (v : Vec ℝ) : Prop := v.ty.tmp.isSome → SinOK (lonOf v) (c3 v).2.2
/-- 4D operands: `0 ≤ τ` for τ storage -/
def CanonTmpV (v : Vec ℝ) : Prop := CanonTmp (tmpOf v) (c4 v)
noncomputable def sp (v : Vec ℝ) : ℝ × ℝ × ℝ := cart3 v.ty.az (lonOf v) (c3 v).1 (c3 v).2.1 (c3 v).2.2
noncomputable def st (v : Vec ℝ) : ℝ := tOf v.ty.az (lonOf v) (tmpOf v) (c3 v).1 (c3 v).2.1 (c3 v).2.2 (c4 v)

/-- 3D / 4D sums: the exact result is representable in the DECLARED result system (declared `z`, or off the z axis) -/
def RepAdd (a b : Vec ℝ) : Prop :=
  a.ty.lon.isSome → Representable3 (spatial_add.ret a.ty.az (lonOf a) b.ty.az (lonOf b)) (add3 (sp a) (sp b))
def RepSub (a b : Vec ℝ) : Prop :=
  a.ty.lon.isSome → Representable3 (spatial_subtract.ret a.ty.az (lonOf a) b.ty.az (lonOf b)) (sub3 (sp a) (sp b))
/-- τ,τ differences: the exact difference is future-directed and causal (representable in τ storage) -/
def SubCausal (a b : Vec ℝ) : Prop :=
  a.ty.tmp = some .tau → b.ty.tmp = some .tau →
    0 ≤ st a - st b ∧
    ((sp a).1 - (sp b).1) ^ 2 + ((sp a).2.1 - (sp b).2.1) ^ 2 + ((sp a).2.2 - (sp b).2.2) ^ 2 ≤ (st a - st b) ^ 2

/-- hypotheses of `refine_planar_unit` / `refine_spatial_unit` / `refine_lorentz_unit` on the stored coordinates:
2D `0 < ρ`; 3D representable storage and `0 < |p|²`; 4D `sin θ ≠ 0`, `0 ≤ τ`, not light-like -/
def UnitOK (v : Vec ℝ) : Prop :=
  match v.ty.lon, v.ty.tmp with
  | none, _ => 0 < rhoOf v.ty.az (c3 v).1 (c3 v).2.1
  | some l, none => Canon3 v.ty.az l (c3 v).1 (c3 v).2.1 (c3 v).2.2 ∧ 0 < mag2Of v.ty.az l (c3 v).1 (c3 v).2.1 (c3 v).2.2
  | some l, some t => SinOK l (c3 v).2.2 ∧ CanonTmp t (c4 v) ∧
      tOf v.ty.az l t (c3 v).1 (c3 v).2.1 (c3 v).2.2 (c4 v) ^ 2 - mag2Of v.ty.az l (c3 v).1 (c3 v).2.1 (c3 v).2.2 ≠ 0

def tmpRes? (a b : Option Tmp) : Option Tmp := a.bind fun t1 => b.map fun t2 => tmpRes t1 t2

theorem wfv_pair {a b : Vec ℝ} (ha : WFV a) (hb : WFV b) (hd : a.ty.dim = b.ty.dim) :
    (∃ be1 mom1 az1 a0 a1 be2 mom2 az2 b0 b1, a = V2 be1 mom1 az1 a0 a1 ∧ b = V2 be2 mom2 az2 b0 b1) ∨
    (∃ be1 mom1 az1 l1 a0 a1 a2 be2 mom2 az2 l2 b0 b1 b2,
      a = V3 be1 mom1 az1 l1 a0 a1 a2 ∧ b = V3 be2 mom2 az2 l2 b0 b1 b2) ∨
    (∃ be1 mom1 az1 l1 t1 a0 a1 a2 a3 be2 mom2 az2 l2 t2 b0 b1 b2 b3,
      a = V4 be1 mom1 az1 l1 t1 a0 a1 a2 a3 ∧ b = V4 be2 mom2 az2 l2 t2 b0 b1 b2 b3) := by
  rcases wfv_cases ha with ⟨be1, mom1, az1, a0, a1, rfl⟩ | ⟨be1, mom1, az1, l1, a0, a1, a2, rfl⟩ |
    ⟨be1, mom1, az1, l1, t1, a0, a1, a2, a3, rfl⟩ <;>
  rcases wfv_cases hb with ⟨be2, mom2, az2, b0, b1, rfl⟩ | ⟨be2, mom2, az2, l2, b0, b1, b2, rfl⟩ |
    ⟨be2, mom2, az2, l2, t2, b0, b1, b2, b3, rfl⟩ <;> try (simp [VT.dim] at hd; done)
  · exact Or.inl ⟨_, _, _, _, _, _, _, _, _, _, rfl, rfl⟩
  · exact Or.inr (Or.inl ⟨_, _, _, _, _, _, _, _, _, _, _, _, _, _, rfl, rfl⟩)
  · exact Or.inr (Or.inr ⟨_, _, _, _, _, _, _, _, _, _, _, _, _, _, _, _, _, _, rfl, rfl⟩)

/-! ### the same-dimension methods, evaluated for all three dimensions at once -/

universe u

/-- the value a dimension-indexed triple of functions of the stored keys and coordinates takes on two operands of equal
dimension (`BinDom` below is the case of propositions) -/
def binSel {α : Sort u} (d2 : Az → Az → ℝ → ℝ → ℝ → ℝ → α)
    (d3 : Az → Lon → Az → Lon → ℝ → ℝ → ℝ → ℝ → ℝ → ℝ → α)
    (d4 : Az → Lon → Tmp → Az → Lon → Tmp → ℝ → ℝ → ℝ → ℝ → ℝ → ℝ → ℝ → ℝ → α) (a b : Vec ℝ) : α :=
  match a.ty.lon, a.ty.tmp with
  | none, _ => d2 a.ty.az b.ty.az (c3 a).1 (c3 a).2.1 (c3 b).1 (c3 b).2.1
  | some _, none => d3 a.ty.az (lonOf a) b.ty.az (lonOf b) (c3 a).1 (c3 a).2.1 (c3 a).2.2 (c3 b).1 (c3 b).2.1 (c3 b).2.2
  | some _, some _ => d4 a.ty.az (lonOf a) (tmpOf a) b.ty.az (lonOf b) (tmpOf b) (c3 a).1 (c3 a).2.1 (c3 a).2.2 (c4 a)
      (c3 b).1 (c3 b).2.1 (c3 b).2.2 (c4 b)

section
variable (K : Consts ℝ) (b : Bin) (hb : b.sameDim = true) (extra : List ℝ) {sc : List ℝ} (hsc : b.scalars K extra = sc)
  {m2 m3 m4 : ModuleId} (hm2 : b.sameDimMod 2 = some m2) (hm3 : b.sameDimMod 3 = some m3)
  (hm4 : b.sameDimMod 4 = some m4) (hs2 : operandSlots m2.info.shape = [1, 1])
  (hs3 : operandSlots m3.info.shape = [2, 2]) (hs4 : operandSlots m4.info.shape = [3, 3])
include hb hsc hm2 hm3 hm4 hs2 hs3 hs4

/-- **a same-dimension method on well-formed operands of equal dimension, every storage pairing, any backends / flavors**:
ONE call of the module of that dimension at the operands' keys and coordinates (`o2` / `o3` / `o4`: what the compute layer
answers at key VARIABLES), wrapped for the handler -/
theorem sameDim_eval {o2 : Az → Az → ℝ → ℝ → ℝ → ℝ → Out ℝ Prop × Ret}
    {o3 : Az → Lon → Az → Lon → ℝ → ℝ → ℝ → ℝ → ℝ → ℝ → Out ℝ Prop × Ret}
    {o4 : Az → Lon → Tmp → Az → Lon → Tmp → ℝ → ℝ → ℝ → ℝ → ℝ → ℝ → ℝ → ℝ → Out ℝ Prop × Ret}
    (he2 : ∀ k0 k1 a0 a1 b0 b1, evR m2 [.az k0, .az k1] (sc ++ [a0, a1, b0, b1]) = some (o2 k0 k1 a0 a1 b0 b1))
    (he3 : ∀ k0 k1 k2 k3 a0 a1 a2 b0 b1 b2,
      evR m3 [.az k0, .lon k1, .az k2, .lon k3] (sc ++ [a0, a1, a2, b0, b1, b2]) = some (o3 k0 k1 k2 k3 a0 a1 a2 b0 b1 b2))
    (he4 : ∀ k0 k1 k2 k3 k4 k5 a0 a1 a2 a3 b0 b1 b2 b3,
      evR m4 [.az k0, .lon k1, .tmp k2, .az k3, .lon k4, .tmp k5] (sc ++ [a0, a1, a2, a3, b0, b1, b2, b3]) =
        some (o4 k0 k1 k2 k3 k4 k5 a0 a1 a2 a3 b0 b1 b2 b3))
    (a o : Vec ℝ) (ha : WFV a) (ho : WFV o) (hd : a.ty.dim = o.ty.dim) :
    binary evR K b a o extra =
      wrapResult (hand a o) (hand a o).ty.be (a.ty.mom || o.ty.mom) (binSel o2 o3 o4 a o).1 (binSel o2 o3 o4 a o).2 := by
  subst hsc
  rcases wfv_pair ha ho hd with ⟨be1, mom1, az1, a0, a1, be2, mom2, az2, b0, b1, rfl, rfl⟩ |
    ⟨be1, mom1, az1, l1, a0, a1, a2, be2, mom2, az2, l2, b0, b1, b2, rfl, rfl⟩ |
    ⟨be1, mom1, az1, l1, t1, a0, a1, a2, a3, be2, mom2, az2, l2, t2, b0, b1, b2, b3, rfl, rfl⟩
  · rw [binary_sameDim evR K b hb (V2 be1 mom1 az1 a0 a1) (V2 be2 mom2 az2 b0 b1) extra m2 rfl hm2]
    exact dispatch_pair evR m2 _ _ _ 1 1 hs2 _ _ _ _ rfl rfl _ _ (he2 ..)
  · rw [binary_sameDim evR K b hb (V3 be1 mom1 az1 l1 a0 a1 a2) (V3 be2 mom2 az2 l2 b0 b1 b2) extra m3 rfl hm3]
    exact dispatch_pair evR m3 _ _ _ 2 2 hs3 _ _ _ _ rfl rfl _ _ (he3 ..)
  · rw [binary_sameDim evR K b hb (V4 be1 mom1 az1 l1 t1 a0 a1 a2 a3) (V4 be2 mom2 az2 l2 t2 b0 b1 b2 b3) extra m4 rfl hm4]
    exact dispatch_pair evR m4 _ _ _ 3 3 hs4 _ _ _ _ rfl rfl _ _ (he4 ..)

theorem sameDim_truth (hk2 : m2.kind = .bool) (hk3 : m3.kind = .bool) (hk4 : m4.kind = .bool)
    {d2 : Az → Az → ℝ → ℝ → ℝ → ℝ → Prop} {d3 : Az → Lon → Az → Lon → ℝ → ℝ → ℝ → ℝ → ℝ → ℝ → Prop}
    {d4 : Az → Lon → Tmp → Az → Lon → Tmp → ℝ → ℝ → ℝ → ℝ → ℝ → ℝ → ℝ → ℝ → Prop}
    {r2 : Az → Az → Ret} {r3 : Az → Lon → Az → Lon → Ret} {r4 : Az → Lon → Tmp → Az → Lon → Tmp → Ret}
    (he2 : ∀ k0 k1 a0 a1 b0 b1,
      evR m2 [.az k0, .az k1] (sc ++ [a0, a1, b0, b1]) = some (.truth (d2 k0 k1 a0 a1 b0 b1), r2 k0 k1))
    (he3 : ∀ k0 k1 k2 k3 a0 a1 a2 b0 b1 b2,
      evR m3 [.az k0, .lon k1, .az k2, .lon k3] (sc ++ [a0, a1, a2, b0, b1, b2]) =
        some (.truth (d3 k0 k1 k2 k3 a0 a1 a2 b0 b1 b2), r3 k0 k1 k2 k3))
    (he4 : ∀ k0 k1 k2 k3 k4 k5 a0 a1 a2 a3 b0 b1 b2 b3,
      evR m4 [.az k0, .lon k1, .tmp k2, .az k3, .lon k4, .tmp k5] (sc ++ [a0, a1, a2, a3, b0, b1, b2, b3]) =
        some (.truth (d4 k0 k1 k2 k3 k4 k5 a0 a1 a2 a3 b0 b1 b2 b3), r4 k0 k1 k2 k3 k4 k5))
    (a o : Vec ℝ) (ha : WFV a) (ho : WFV o) (hd : a.ty.dim = o.ty.dim) :
    binary evR K b a o extra = .ok (.truth (binSel d2 d3 d4 a o)) := by
  rw [sameDim_eval K b hb extra hsc hm2 hm3 hm4 hs2 hs3 hs4 he2 he3 he4 a o ha ho hd]
  have h2 := fun k0 k1 => evR_bool hk2 (he2 k0 k1 0 0 0 0)
  have h3 := fun k0 k1 k2 k3 => evR_bool hk3 (he3 k0 k1 k2 k3 0 0 0 0 0 0)
  have h4 := fun k0 k1 k2 k3 k4 k5 => evR_bool hk4 (he4 k0 k1 k2 k3 k4 k5 0 0 0 0 0 0 0 0)
  unfold binSel
  split <;> simp only [h2, h3, h4] <;> rfl

theorem sameDim_scalar (hk2 : m2.kind = .float) (hk3 : m3.kind = .float) (hk4 : m4.kind = .float)
    {d2 : Az → Az → ℝ → ℝ → ℝ → ℝ → ℝ} {d3 : Az → Lon → Az → Lon → ℝ → ℝ → ℝ → ℝ → ℝ → ℝ → ℝ}
    {d4 : Az → Lon → Tmp → Az → Lon → Tmp → ℝ → ℝ → ℝ → ℝ → ℝ → ℝ → ℝ → ℝ → ℝ}
    {r2 : Az → Az → Ret} {r3 : Az → Lon → Az → Lon → Ret} {r4 : Az → Lon → Tmp → Az → Lon → Tmp → Ret}
    (he2 : ∀ k0 k1 a0 a1 b0 b1,
      evR m2 [.az k0, .az k1] (sc ++ [a0, a1, b0, b1]) = some (.vals [d2 k0 k1 a0 a1 b0 b1], r2 k0 k1))
    (he3 : ∀ k0 k1 k2 k3 a0 a1 a2 b0 b1 b2,
      evR m3 [.az k0, .lon k1, .az k2, .lon k3] (sc ++ [a0, a1, a2, b0, b1, b2]) =
        some (.vals [d3 k0 k1 k2 k3 a0 a1 a2 b0 b1 b2], r3 k0 k1 k2 k3))
    (he4 : ∀ k0 k1 k2 k3 k4 k5 a0 a1 a2 a3 b0 b1 b2 b3,
      evR m4 [.az k0, .lon k1, .tmp k2, .az k3, .lon k4, .tmp k5] (sc ++ [a0, a1, a2, a3, b0, b1, b2, b3]) =
        some (.vals [d4 k0 k1 k2 k3 k4 k5 a0 a1 a2 a3 b0 b1 b2 b3], r4 k0 k1 k2 k3 k4 k5))
    (a o : Vec ℝ) (ha : WFV a) (ho : WFV o) (hd : a.ty.dim = o.ty.dim) :
    binary evR K b a o extra = .ok (.scalar (binSel d2 d3 d4 a o)) := by
  rw [sameDim_eval K b hb extra hsc hm2 hm3 hm4 hs2 hs3 hs4 he2 he3 he4 a o ha ho hd]
  have h2 := fun k0 k1 => evR_float hk2 (he2 k0 k1 0 0 0 0)
  have h3 := fun k0 k1 k2 k3 => evR_float hk3 (he3 k0 k1 k2 k3 0 0 0 0 0 0)
  have h4 := fun k0 k1 k2 k3 k4 k5 => evR_float hk4 (he4 k0 k1 k2 k3 k4 k5 0 0 0 0 0 0 0 0)
  unfold binSel
  split <;> simp only [h2, h3, h4] <;> rfl

end

end C11M

/-! ### stored coordinates in range (`Props/CanonClosed.lean` at the level of public calls)

Each vector-valued single-call theorem below (`c11m_add_rng`, …; `c09m_*_rng` in `Props/MethodLorentz.lean`) ends with the
conjunct that operands whose stored coordinates are in range give a result whose stored coordinates are in range. -/

-- `StoredInRange` is a conjunct of the invariant `Good` of the expression theorems (`Props/MethodExpr.lean`): their namespace
namespace C01E
open VK VG Spec Real C01M

/-- `0 ≤ ρ`, `-π ≤ φ ≤ π` for polar storage; `0 ≤ θ ≤ π` for θ storage; `0 ≤ τ` for τ storage -/
def StoredInRange (v : Vec ℝ) : Prop :=
  AzOK v.ty.az (c3 v).1 (c3 v).2.1 ∧ LonOK (lonOf v) (c3 v).2.2 ∧ InTmp (C11M.tmpOf v) (C11M.c4 v)

theorem vec_inj {r r' : Vec ℝ} (h : (Except.ok (Res.vec r) : Except Err (Res ℝ Prop)) = .ok (.vec r')) : r = r' :=
  Res.vec.inj (Except.ok.inj h)

/-- a range theorem of `Props/CanonClosed.lean`, read on the vector `_wrap_result` builds from the raw result -/
theorem rng_V2 {be mom az ret} {v : ℝ × ℝ} (hret : ret = .vec [.az az]) (hc : OutCanon2 ret v) :
    StoredInRange (C11M.V2 be mom az v.1 v.2) := by
  subst hret
  exact ⟨outCanon2_iff.mp hc, trivial, trivial⟩

theorem rng_V3 {be mom az l ret} {v : ℝ × ℝ × ℝ} (hret : ret = .vec [.az az, .lon l]) (hc : OutCanon3 ret v) :
    StoredInRange (C11M.V3 be mom az l v.1 v.2.1 v.2.2) := by
  subst hret
  exact ⟨(outCanon3_iff.mp hc).1, (outCanon3_iff.mp hc).2, trivial⟩

theorem outCanon4_parts {a : Az} {l : Lon} {t : Tmp} {v : ℝ × ℝ × ℝ × ℝ}
    (h : OutCanon4 (.vec [.az a, .lon l, .tmp t]) v) : AzOK a v.1 v.2.1 ∧ LonOK l v.2.2.1 ∧ InTmp t v.2.2.2 :=
  outCanon4_iff.mp h

theorem rng_V4 {be mom az l t ret} {v : ℝ × ℝ × ℝ × ℝ} (hret : ret = .vec [.az az, .lon l, .tmp t])
    (hc : OutCanon4 ret v) : StoredInRange (C11M.V4 be mom az l t v.1 v.2.1 v.2.2.1 v.2.2.2) := by
  subst hret
  exact outCanon4_parts hc

/-- **`rotateZ` (`c01m_rotateZ`) keeps the stored coordinates in range** (the rotated azimuth passes through `rectify`), and
the stored longitudinal coordinate as it is -/
theorem c01m_rotateZ_rng (K : Consts ℝ) (A : Arith ℝ) (v : Vec ℝ) (hv : C01M.WFV v) (ang : ℝ) :
    ∃ w, call evR K A "rotateZ" v [.sc ang] = .ok (.vec w) ∧ w.ty = v.ty ∧ C01M.WFV w ∧
      denote w = (denote v).map (onPlanar (rotZ2 ang)) ∧ (StoredInRange v → StoredInRange w) ∧
      (c3 w).2.2 = (c3 v).2.2 := by
  obtain ⟨w, hcall, h2, h3, h4⟩ := c01m_rotateZ K A v hv ang
  refine ⟨w, hcall, h2, h3, h4, ?_⟩
  obtain rfl := vec_inj (hcall.symm.trans (rotateZ_eval K A v hv ang))
  have hc := fun az a b hA => outCanon2_iff.mp (c10_rotateZ_ret az ▸ c13c_planar_rotateZ az ang a b hA)
  rcases wfv_cases hv with ⟨be, mom, az, a, b, rfl⟩ | ⟨be, mom, az, l, a, b, c, rfl⟩ |
    ⟨be, mom, az, l, t, a, b, c, d, rfl⟩
  · exact ⟨fun I => ⟨hc az a b I.1, trivial, trivial⟩, rfl⟩
  · exact ⟨fun I => ⟨hc az a b I.1, I.2.1, trivial⟩, rfl⟩
  · exact ⟨fun I => ⟨hc az a b I.1, I.2.1, I.2.2⟩, rfl⟩

/-- a result stored Cartesian in space that keeps the stored t / τ of `v` (the rotations about an axis, `c01m_rotateX`, …) is in
range when `v` is -/
theorem rng_cart_sp {v w : Vec ℝ} (hv : C01M.WFV v) (hw : C01M.WFV w) (hd : 3 ≤ v.ty.dim)
    (hty : w.ty = { v.ty with az := .xy, lon := some .z }) (ht : w.tmpEl = v.tmpEl) (I : StoredInRange v) :
    StoredInRange w := by
  rcases wfv_cases hv with ⟨_, _, _, a, b, rfl⟩ | ⟨_, _, _, _, a, b, c, rfl⟩ | ⟨_, _, _, _, t, a, b, c, d, rfl⟩
  · simp [VT.dim] at hd
  · rcases wfv_cases hw with ⟨_, _, _, _, _, rfl⟩ | ⟨_, _, _, _, _, _, _, rfl⟩ | ⟨_, _, _, _, _, _, _, _, _, rfl⟩ <;> cases hty
    exact ⟨trivial, trivial, trivial⟩
  · rcases wfv_cases hw with ⟨_, _, _, _, _, rfl⟩ | ⟨_, _, _, _, _, _, _, rfl⟩ | ⟨_, _, _, _, _, _, _, _, d', rfl⟩ <;> cases hty
    obtain rfl : d' = d := List.head_eq_of_cons_eq ht
    exact ⟨trivial, trivial, I.2.2⟩

end C01E

namespace C11M
open VK VG Spec Real C01M

/-! ### 1. add / subtract -/

/-- the azimuthal / longitudinal system of the result `r` of a method on `a`, `b` is the one its planar module (`ret2`),
resp. its spatial module (`ret3`, also behind the 4D module), declares at the operands' keys -/
def DeclaredSys (ret2 : Az → Az → Ret) (ret3 : Az → Lon → Az → Lon → Ret) (a b r : Vec ℝ) : Prop :=
  (a.ty.lon = none → r.ty.az = azOfRet (ret2 a.ty.az b.ty.az) ∧ r.ty.lon = none) ∧
  (a.ty.lon.isSome → r.ty.az = azOfRet (ret3 a.ty.az (lonOf a) b.ty.az (lonOf b)) ∧
    r.ty.lon = some (lonOfRet (ret3 a.ty.az (lonOf a) b.ty.az (lonOf b))))

/-- **add in every storage pairing (2D: 4, 3D: 36, 4D: 144), any flavors and backends**: the result denotes the
component-wise sum of the Cartesian denotations, and its stored coordinates are in range when those of the operands are -/
theorem c11m_add_rng (K : Consts ℝ) (A : Arith ℝ) (a b : Vec ℝ) (ha : WFV a) (hb : WFV b) (hd : a.ty.dim = b.ty.dim)
    (hT1 : TanOKV a) (hT2 : TanOKV b) (hS1 : SinOKV a) (hS2 : SinOKV b) (hC1 : CanonTmpV a) (hC2 : CanonTmpV b)
    (hrep : RepAdd a b) :
    ∃ r p q, call evR K A "add" a [.v b] = .ok (.vec r) ∧ WFV r ∧ r.ty.dim = a.ty.dim ∧
      r.ty.mom = (a.ty.mom || b.ty.mom) ∧ r.ty.be = hbe a.ty.be b.ty.be ∧ r.ty.tmp = tmpRes? a.ty.tmp b.ty.tmp ∧
      DeclaredSys planar_add.ret spatial_add.ret a b r ∧
      denote a = some p ∧ denote b = some q ∧ denote r = some (List.zipWith (· + ·) p q) ∧
      (C01E.StoredInRange a → C01E.StoredInRange b → C01E.StoredInRange r) := by
  rcases wfv_cases ha with ⟨be1, mom1, az1, a0, a1, rfl⟩ | ⟨be1, mom1, az1, l1, a0, a1, a2, rfl⟩ |
    ⟨be1, mom1, az1, l1, t1, a0, a1, a2, a3, rfl⟩ <;>
  rcases wfv_cases hb with ⟨be2, mom2, az2, b0, b1, rfl⟩ | ⟨be2, mom2, az2, l2, b0, b1, b2, rfl⟩ |
    ⟨be2, mom2, az2, l2, t2, b0, b1, b2, b3, rfl⟩ <;> try (simp [VT.dim] at hd; done)
  · refine ⟨_, _, _, add_eval2 K A be1 mom1 az1 be2 mom2 az2 a0 a1 b0 b1, ⟨by simp, rfl⟩, rfl, rfl, rfl, rfl,
      ⟨fun _ => ⟨rfl, rfl⟩, nofun⟩, denote_V2 .., denote_V2 .., ?_,
      fun _ _ => C01E.rng_V2 (planar_add_ret_eq az1 az2) (c13c_planar_add az1 az2 a0 a1 b0 b1)⟩
    have h := refine_planar_add az1 az2 a0 a1 b0 b1
    rw [planar_add_ret_eq] at h
    exact denote2_of_interp _ _ _ _ _ _ h
  · refine ⟨_, _, _, add_eval3 K A be1 mom1 az1 l1 be2 mom2 az2 l2 a0 a1 a2 b0 b1 b2, ⟨by simp, rfl⟩, rfl, rfl, rfl, rfl,
      ⟨nofun, fun _ => ⟨rfl, rfl⟩⟩, denote_V3 .., denote_V3 .., ?_,
      fun _ _ => C01E.rng_V3 (spatial_add_ret_eq az1 l1 az2 l2) (c13c_spatial_add az1 l1 az2 l2 a0 a1 a2 b0 b1 b2)⟩
    have h := refine_spatial_add az1 l1 az2 l2 a0 a1 a2 b0 b1 b2 hT1 hT2 (hrep rfl)
    rw [spatial_add_ret_eq] at h
    exact denote3_of_interp _ _ _ _ _ _ _ h
  · refine ⟨_, _, _, add_eval4 K A be1 mom1 az1 l1 t1 be2 mom2 az2 l2 t2 a0 a1 a2 a3 b0 b1 b2 b3, ⟨by simp, rfl⟩, rfl, rfl,
      rfl, rfl, ⟨nofun, fun _ => ⟨rfl, rfl⟩⟩, denote_V4 .., denote_V4 .., ?_, fun I1 I2 => ?_⟩
    · have h := refine_lorentz_add az1 l1 t1 az2 l2 t2 a0 a1 a2 a3 b0 b1 b2 b3 hT1 hT2 (hS1 rfl) (hS2 rfl) hC1 hC2 (hrep rfl)
      rw [lorentz_add_ret_eq] at h
      exact denote4_of_interp _ _ _ _ _ _ _ _ h
    · have hc := c13c_lorentz_add az1 l1 t1 az2 l2 t2 a0 a1 a2 a3 b0 b1 b2 b3 hT1 hT2 (hS1 rfl) (hS2 rfl) I1.2.2 I2.2.2
        (hrep rfl)
      cases t1 <;> cases t2 <;> exact C01E.rng_V4 (lorentz_add_ret_eq az1 l1 _ az2 l2 _) hc

theorem c11m_add (K : Consts ℝ) (A : Arith ℝ) (a b : Vec ℝ) (ha : WFV a) (hb : WFV b) (hd : a.ty.dim = b.ty.dim)
    (hT1 : TanOKV a) (hT2 : TanOKV b) (hS1 : SinOKV a) (hS2 : SinOKV b) (hC1 : CanonTmpV a) (hC2 : CanonTmpV b)
    (hrep : RepAdd a b) :
    ∃ r p q, call evR K A "add" a [.v b] = .ok (.vec r) ∧ WFV r ∧ r.ty.dim = a.ty.dim ∧
      r.ty.mom = (a.ty.mom || b.ty.mom) ∧ r.ty.be = hbe a.ty.be b.ty.be ∧ r.ty.tmp = tmpRes? a.ty.tmp b.ty.tmp ∧
      denote a = some p ∧ denote b = some q ∧ denote r = some (List.zipWith (· + ·) p q) := by
  obtain ⟨r, p, q, h1, h2, h3, h4, h5, h6, -, h7, h8, h9, -⟩ := c11m_add_rng K A a b ha hb hd hT1 hT2 hS1 hS2 hC1 hC2 hrep
  exact ⟨r, p, q, h1, h2, h3, h4, h5, h6, h7, h8, h9⟩

/-- **subtract in every storage pairing**; for τ,τ-stored 4D operands the exact difference must be representable in τ
storage (`SubCausal`) -/
theorem c11m_subtract_rng (K : Consts ℝ) (A : Arith ℝ) (a b : Vec ℝ) (ha : WFV a) (hb : WFV b) (hd : a.ty.dim = b.ty.dim)
    (hT1 : TanOKV a) (hT2 : TanOKV b) (hS1 : SinOKV a) (hS2 : SinOKV b) (hC1 : CanonTmpV a) (hC2 : CanonTmpV b)
    (hrep : RepSub a b) (hcaus : SubCausal a b) :
    ∃ r p q, call evR K A "subtract" a [.v b] = .ok (.vec r) ∧ WFV r ∧ r.ty.dim = a.ty.dim ∧
      r.ty.mom = (a.ty.mom || b.ty.mom) ∧ r.ty.be = hbe a.ty.be b.ty.be ∧ r.ty.tmp = tmpRes? a.ty.tmp b.ty.tmp ∧
      DeclaredSys planar_subtract.ret spatial_subtract.ret a b r ∧
      denote a = some p ∧ denote b = some q ∧ denote r = some (List.zipWith (· - ·) p q) ∧
      (C01E.StoredInRange a → C01E.StoredInRange b → C01E.StoredInRange r) := by
  rcases wfv_cases ha with ⟨be1, mom1, az1, a0, a1, rfl⟩ | ⟨be1, mom1, az1, l1, a0, a1, a2, rfl⟩ |
    ⟨be1, mom1, az1, l1, t1, a0, a1, a2, a3, rfl⟩ <;>
  rcases wfv_cases hb with ⟨be2, mom2, az2, b0, b1, rfl⟩ | ⟨be2, mom2, az2, l2, b0, b1, b2, rfl⟩ |
    ⟨be2, mom2, az2, l2, t2, b0, b1, b2, b3, rfl⟩ <;> try (simp [VT.dim] at hd; done)
  · refine ⟨_, _, _, subtract_eval2 K A be1 mom1 az1 be2 mom2 az2 a0 a1 b0 b1, ⟨by simp, rfl⟩, rfl, rfl, rfl, rfl,
      ⟨fun _ => ⟨rfl, rfl⟩, nofun⟩, denote_V2 .., denote_V2 .., ?_,
      fun _ _ => C01E.rng_V2 (planar_subtract_ret_eq az1 az2) (c13c_planar_subtract az1 az2 a0 a1 b0 b1)⟩
    have h := refine_planar_subtract az1 az2 a0 a1 b0 b1
    rw [planar_subtract_ret_eq] at h
    exact denote2_of_interp _ _ _ _ _ _ h
  · refine ⟨_, _, _, subtract_eval3 K A be1 mom1 az1 l1 be2 mom2 az2 l2 a0 a1 a2 b0 b1 b2, ⟨by simp, rfl⟩, rfl, rfl, rfl,
      rfl, ⟨nofun, fun _ => ⟨rfl, rfl⟩⟩, denote_V3 .., denote_V3 .., ?_, fun _ _ =>
      C01E.rng_V3 (spatial_subtract_ret_eq az1 l1 az2 l2) (c13c_spatial_subtract az1 l1 az2 l2 a0 a1 a2 b0 b1 b2)⟩
    have h := refine_spatial_subtract az1 l1 az2 l2 a0 a1 a2 b0 b1 b2 hT1 hT2 (hrep rfl)
    rw [spatial_subtract_ret_eq] at h
    exact denote3_of_interp _ _ _ _ _ _ _ h
  · refine ⟨_, _, _, subtract_eval4 K A be1 mom1 az1 l1 t1 be2 mom2 az2 l2 t2 a0 a1 a2 a3 b0 b1 b2 b3, ⟨by simp, rfl⟩,
      rfl, rfl, rfl, rfl, ⟨nofun, fun _ => ⟨rfl, rfl⟩⟩, denote_V4 .., denote_V4 .., ?_, fun I1 I2 => ?_⟩
    · have h := refine_lorentz_subtract az1 l1 t1 az2 l2 t2 a0 a1 a2 a3 b0 b1 b2 b3 hT1 hT2 (hS1 rfl) (hS2 rfl) hC1 hC2
        (hrep rfl) (fun e1 e2 => hcaus (congrArg some e1) (congrArg some e2))
      rw [lorentz_subtract_ret_eq] at h
      exact denote4_of_interp _ _ _ _ _ _ _ _ h
    · have hc := c13c_lorentz_subtract az1 l1 t1 az2 l2 t2 a0 a1 a2 a3 b0 b1 b2 b3 hT1 hT2 (hS1 rfl) (hS2 rfl) I1.2.2 I2.2.2
        (hrep rfl) (fun e1 e2 => by subst e1; subst e2; exact (hcaus rfl rfl).2)
      cases t1 <;> cases t2 <;> exact C01E.rng_V4 (lorentz_subtract_ret_eq az1 l1 _ az2 l2 _) hc

theorem c11m_subtract (K : Consts ℝ) (A : Arith ℝ) (a b : Vec ℝ) (ha : WFV a) (hb : WFV b) (hd : a.ty.dim = b.ty.dim)
    (hT1 : TanOKV a) (hT2 : TanOKV b) (hS1 : SinOKV a) (hS2 : SinOKV b) (hC1 : CanonTmpV a) (hC2 : CanonTmpV b)
    (hrep : RepSub a b) (hcaus : SubCausal a b) :
    ∃ r p q, call evR K A "subtract" a [.v b] = .ok (.vec r) ∧ WFV r ∧ r.ty.dim = a.ty.dim ∧
      r.ty.mom = (a.ty.mom || b.ty.mom) ∧ r.ty.be = hbe a.ty.be b.ty.be ∧ r.ty.tmp = tmpRes? a.ty.tmp b.ty.tmp ∧
      denote a = some p ∧ denote b = some q ∧ denote r = some (List.zipWith (· - ·) p q) := by
  obtain ⟨r, p, q, h1, h2, h3, h4, h5, h6, -, h7, h8, h9, -⟩ :=
    c11m_subtract_rng K A a b ha hb hd hT1 hT2 hS1 hS2 hC1 hC2 hrep hcaus
  exact ⟨r, p, q, h1, h2, h3, h4, h5, h6, h7, h8, h9⟩

/-! ### 2. dot -/

/-- Euclidean product of two component lists of length 2 / 3; Minkowski product `t₁t₂ − x₁x₂ − y₁y₂ − z₁z₂` for length 4 -/
def dotL : List ℝ → List ℝ → ℝ
  | [x1, y1], [x2, y2] => x1 * x2 + y1 * y2
  | [x1, y1, z1], [x2, y2, z2] => x1 * x2 + y1 * y2 + z1 * z2
  | [x1, y1, z1, t1], [x2, y2, z2, t2] => t1 * t2 - x1 * x2 - y1 * y2 - z1 * z2
  | _, _ => 0

theorem dot_eval (K : Consts ℝ) (A : Arith ℝ) (a b : Vec ℝ) (ha : WFV a) (hb : WFV b) (hd : a.ty.dim = b.ty.dim) :
    call evR K A "dot" a [.v b] = .ok (.scalar (binSel planar_dot.eval spatial_dot.eval lorentz_dot.eval a b)) :=
  (call_bin evR K A a b).2.2.1.trans <| sameDim_scalar K .dot rfl [] rfl rfl rfl rfl rfl rfl rfl rfl rfl rfl
    (fun _ _ _ _ _ _ => rfl) (fun _ _ _ _ _ _ _ _ _ _ => rfl) (fun _ _ _ _ _ _ _ _ _ _ _ _ _ _ => rfl) a b ha hb hd

/-- **dot in every storage pairing**: Euclidean product of the denotations for 2D/3D, Minkowski product for 4D -/
theorem c11m_dot (K : Consts ℝ) (A : Arith ℝ) (a b : Vec ℝ) (ha : WFV a) (hb : WFV b) (hd : a.ty.dim = b.ty.dim)
    (hT1 : TanOKV a) (hT2 : TanOKV b) (hS1 : SinOKV a) (hS2 : SinOKV b) (hC1 : CanonTmpV a) (hC2 : CanonTmpV b) :
    ∃ p q, denote a = some p ∧ denote b = some q ∧ call evR K A "dot" a [.v b] = .ok (.scalar (dotL p q)) := by
  rw [dot_eval K A a b ha hb hd]
  rcases wfv_pair ha hb hd with ⟨be1, mom1, az1, a0, a1, be2, mom2, az2, b0, b1, rfl, rfl⟩ |
    ⟨be1, mom1, az1, l1, a0, a1, a2, be2, mom2, az2, l2, b0, b1, b2, rfl, rfl⟩ |
    ⟨be1, mom1, az1, l1, t1, a0, a1, a2, a3, be2, mom2, az2, l2, t2, b0, b1, b2, b3, rfl, rfl⟩
  · exact ⟨_, _, rfl, rfl, congrArg _ (congrArg _ (refine_planar_dot ..))⟩
  · exact ⟨_, _, rfl, rfl, congrArg _ (congrArg _ (refine_spatial_dot az1 l1 az2 l2 a0 a1 a2 b0 b1 b2 hT1 hT2))⟩
  · exact ⟨_, _, rfl, rfl, congrArg _ (congrArg _ (refine_lorentz_dot az1 l1 t1 az2 l2 t2 a0 a1 a2 a3 b0 b1 b2 b3 hT1 hT2
      (hS1 rfl) (hS2 rfl) hC1 hC2))⟩

/-! ### 3. cross -/

def crossL : List ℝ → List ℝ → List ℝ
  | [x1, y1, z1], [x2, y2, z2] => [y1 * z2 - z1 * y2, z1 * x2 - x1 * z2, x1 * y2 - y1 * x2]
  | _, _ => []

/-- **cross, 3D × 3D in every storage pairing (36)**: a Cartesian 3D vector denoting the cross product -/
theorem c11m_cross (K : Consts ℝ) (A : Arith ℝ) (a b : Vec ℝ) (ha : WFV a) (hb : WFV b) (hda : a.ty.dim = 3)
    (hdb : b.ty.dim = 3) (hT1 : TanOKV a) (hT2 : TanOKV b) :
    ∃ r p q, call evR K A "cross" a [.v b] = .ok (.vec r) ∧ WFV r ∧
      r.ty = ⟨hbe a.ty.be b.ty.be, a.ty.mom || b.ty.mom, .xy, some .z, none⟩ ∧
      denote a = some p ∧ denote b = some q ∧ denote r = some (crossL p q) := by
  obtain ⟨be1, mom1, az1, l1, a0, a1, a2, rfl⟩ := (wfv_dim ha).2.1 hda
  obtain ⟨be2, mom2, az2, l2, b0, b1, b2, rfl⟩ := (wfv_dim hb).2.1 hdb
  refine ⟨_, _, _, cross_eval3 K A be1 mom1 az1 l1 be2 mom2 az2 l2 a0 a1 a2 b0 b1 b2, ⟨by simp, rfl⟩, rfl,
    denote_V3 .., denote_V3 .., ?_⟩
  have h := refine_spatial_cross az1 l1 az2 l2 a0 a1 a2 b0 b1 b2 hT1 hT2
  rw [refine_spatial_cross_ret] at h
  exact denote3_of_interp _ _ _ _ _ _ _ h

/-- **cross, any other dimension pairing**: `AttributeError` when `self` is 2D, `TypeError` otherwise — for ALL operands
(no well-formedness needed), any compute layer -/
theorem c11m_cross_guard {S B : Type} (ev : Ev S B) (K : Consts S) (A : Arith S) (a b : Vec S)
    (h : ¬ (a.ty.dim = 3 ∧ b.ty.dim = 3)) :
    call ev K A "cross" a [.v b] = .error (if a.ty.dim < 3 then .attributeError else .typeError) := by
  exact (call_bin ev K A a b).2.2.2.trans (c05_cross_guard ev K a b [] (by omega))

/-! ### 4. scale, neg -/

theorem call_scale {S B : Type} (ev : Ev S B) (K : Consts S) (A : Arith S) (v : Vec S) (f : S) :
    call ev K A "scale" v [.sc f] = scaleN ev v.ty.dim f v := (call_un ev K A v v f).1

theorem scale_eval2 (K : Consts ℝ) (A : Arith ℝ) (be mom az) (f a b : ℝ) :
    call evR K A "scale" (V2 be mom az a b) [.sc f] =
      .ok (.vec (V2 be mom az (planar_scale.eval az f a b).1 (planar_scale.eval az f a b).2)) := by
  rw [call_scale]
  show dispatch evR .planar_scale [f] none [V2 be mom az a b] [V2 be mom az a b] = _
  rw [dispatch_single evR .planar_scale [f] _ 1 rfl _ _ rfl _ _ rfl, planar_scale_ret_eq]
  rfl

theorem scale_eval3 (K : Consts ℝ) (A : Arith ℝ) (be mom az l) (f a b c : ℝ) :
    call evR K A "scale" (V3 be mom az l a b c) [.sc f] =
      .ok (.vec (V3 be mom az l (spatial_scale.eval az l f a b c).1 (spatial_scale.eval az l f a b c).2.1
        (spatial_scale.eval az l f a b c).2.2)) := by
  rw [call_scale]
  show dispatch evR .spatial_scale [f] none [V3 be mom az l a b c] [V3 be mom az l a b c] = _
  rw [dispatch_single evR .spatial_scale [f] _ 2 rfl _ _ rfl _ _ rfl, spatial_scale_ret_eq]
  rfl

theorem scale_eval4 (K : Consts ℝ) (A : Arith ℝ) (be mom az l t) (f a b c d : ℝ) :
    call evR K A "scale" (V4 be mom az l t a b c d) [.sc f] =
      .ok (.vec (V4 be mom az l t (lorentz_scale.eval az l t f a b c d).1 (lorentz_scale.eval az l t f a b c d).2.1
        (lorentz_scale.eval az l t f a b c d).2.2.1 (lorentz_scale.eval az l t f a b c d).2.2.2)) := by
  rw [call_scale]
  show dispatch evR .lorentz_scale [f] none [V4 be mom az l t a b c d] [V4 be mom az l t a b c d] = _
  rw [dispatch_single evR .lorentz_scale [f] _ 3 rfl _ _ rfl _ _ rfl,
    lorentz_scale_ret_eq]
  rfl

/-- the stored θ of a θ-stored operand lies in `[0, π]` (the code flips θ for negative factors) -/
def ThetaRangeV (v : Vec ℝ) : Prop := ThetaRange (lonOf v) (c3 v).2.2

/-- **scale in every storage (2 + 6 + 12), every factor** (for τ-stored 4D vectors only `0 ≤ f`: a τ-stored vector always
denotes `t ≥ 0`): the type is unchanged and the result denotes `f •` the denotation -/
theorem c11m_scale_rng (K : Consts ℝ) (A : Arith ℝ) (v : Vec ℝ) (hv : WFV v) (f : ℝ) (hθ : ThetaRangeV v)
    (hf : v.ty.tmp = some .tau → 0 ≤ f) :
    ∃ r p, call evR K A "scale" v [.sc f] = .ok (.vec r) ∧ r.ty = v.ty ∧ WFV r ∧
      denote v = some p ∧ denote r = some (p.map (f * ·)) ∧ (C01E.StoredInRange v → C01E.StoredInRange r) := by
  rcases wfv_cases hv with ⟨be, mom, az, a, b, rfl⟩ | ⟨be, mom, az, l, a, b, c, rfl⟩ |
    ⟨be, mom, az, l, t, a, b, c, d, rfl⟩
  · refine ⟨_, _, scale_eval2 K A be mom az f a b, rfl, ⟨by simp, rfl⟩, denote_V2 .., ?_,
      fun I => C01E.rng_V2 (planar_scale_ret_eq az) (c13c_planar_scale az f a b I.1)⟩
    have h := refine_planar_scale az f a b
    rw [planar_scale_ret_eq] at h
    exact denote2_of_interp _ _ _ _ _ _ h
  · refine ⟨_, _, scale_eval3 K A be mom az l f a b c, rfl, ⟨by simp, rfl⟩, denote_V3 .., ?_,
      fun I => C01E.rng_V3 (spatial_scale_ret_eq az l) (c13c_spatial_scale az l f a b c I.1 I.2.1)⟩
    have h := refine_spatial_scale az l f a b c hθ
    rw [spatial_scale_ret_eq] at h
    exact denote3_of_interp _ _ _ _ _ _ _ h
  · refine ⟨_, _, scale_eval4 K A be mom az l t f a b c d, rfl, ⟨by simp, rfl⟩, denote_V4 .., ?_, fun I =>
      C01E.rng_V4 (lorentz_scale_ret_eq az l t)
        (c13c_lorentz_scale_gen az l t f a b c d I.1 I.2.1 I.2.2 fun e => hf (congrArg some e))⟩
    have h := refine_lorentz_scale_partial az l t f a b c d hθ (fun e => hf (congrArg some e))
    rw [lorentz_scale_ret_eq] at h
    exact denote4_of_interp _ _ _ _ _ _ _ _ h

theorem c11m_scale (K : Consts ℝ) (A : Arith ℝ) (v : Vec ℝ) (hv : WFV v) (f : ℝ) (hθ : ThetaRangeV v)
    (hf : v.ty.tmp = some .tau → 0 ≤ f) :
    ∃ r p, call evR K A "scale" v [.sc f] = .ok (.vec r) ∧ r.ty = v.ty ∧ WFV r ∧
      denote v = some p ∧ denote r = some (p.map (f * ·)) := by
  obtain ⟨r, p, h1, h2, h3, h4, h5, -⟩ := c11m_scale_rng K A v hv f hθ hf
  exact ⟨r, p, h1, h2, h3, h4, h5⟩

/-- **unary minus is `scale(-1)`** (also `__mul__`, `__rmul__`, `__truediv__` are `scale`) -/
theorem c11m_neg {S B : Type} (ev : Ev S B) (K : Consts S) (A : Arith S) (v : Vec S) (f : S) :
    operator ev K A "neg" v [] = call ev K A "scale" v [.sc K.negOne] ∧
    operator ev K A "mul" v [.sc f] = call ev K A "scale" v [.sc f] ∧
    operator ev K A "rmul" v [.sc f] = call ev K A "scale" v [.sc f] ∧
    operator ev K A "truediv" v [.sc f] = call ev K A "scale" v [.sc (A.inv f)] :=
  ⟨(call_scale ev K A v _).symm, (call_scale ev K A v f).symm, (call_scale ev K A v f).symm,
    (call_scale ev K A v _).symm⟩

/-- unary minus denotes the negated vector, for every storage except τ-stored 4D vectors -/
theorem c11m_neg_denote (K : Consts ℝ) (A : Arith ℝ) (hK : K.negOne = -1) (v : Vec ℝ) (hv : WFV v) (hθ : ThetaRangeV v)
    (hτ : v.ty.tmp ≠ some .tau) :
    ∃ r p, operator evR K A "neg" v [] = .ok (.vec r) ∧ r.ty = v.ty ∧ denote v = some p ∧
      denote r = some (p.map (fun x => -x)) := by
  obtain ⟨r, p, h1, h2, -, h3, h4⟩ := c11m_scale K A v hv (-1) hθ (fun e => absurd e hτ)
  refine ⟨r, p, by rw [(c11m_neg evR K A v 0).1, hK]; exact h1, h2, h3, ?_⟩
  rw [h4]; congr 1; exact List.map_congr_left (fun x _ => by ring)

/-! ### 5. unit -/

theorem planar_unit_ret_eq' (k0 : Az) : planar_unit.ret k0 = Ret.vec [RP.az k0] := planar_unit_ret_eq k0
theorem spatial_unit_ret_eq (k0 : Az) (k1 : Lon) : spatial_unit.ret k0 k1 = Ret.vec [RP.az k0, RP.lon k1] := by
  cases k0 <;> cases k1 <;> rfl

theorem unit_eval2 (K : Consts ℝ) (A : Arith ℝ) (be mom az) (a b : ℝ) :
    call evR K A "unit" (V2 be mom az a b) [] =
      .ok (.vec (V2 be mom az (planar_unit.eval az a b).1 (planar_unit.eval az a b).2)) := by
  rw [(call_un evR K A _ (V2 be mom az a b) 0).2.1, selfCall_of_le (two_le_dim _)]
  show dispatch evR .planar_unit [] none [V2 be mom az a b] [V2 be mom az a b] = _
  rw [dispatch_single evR .planar_unit [] _ 1 rfl _ _ rfl _ _ rfl, planar_unit_ret_eq]
  rfl

theorem unit_eval3 (K : Consts ℝ) (A : Arith ℝ) (be mom az l) (a b c : ℝ) :
    call evR K A "unit" (V3 be mom az l a b c) [] =
      .ok (.vec (V3 be mom az l (spatial_unit.eval az l a b c).1 (spatial_unit.eval az l a b c).2.1
        (spatial_unit.eval az l a b c).2.2)) := by
  rw [(call_un evR K A _ (V3 be mom az l a b c) 0).2.1, selfCall_of_le (two_le_dim _)]
  show dispatch evR .spatial_unit [] none [V3 be mom az l a b c] [V3 be mom az l a b c] = _
  rw [dispatch_single evR .spatial_unit [] _ 2 rfl _ _ rfl _ _ rfl, spatial_unit_ret_eq]
  rfl

theorem unit_eval4 (K : Consts ℝ) (A : Arith ℝ) (be mom az l t) (a b c d : ℝ) :
    call evR K A "unit" (V4 be mom az l t a b c d) [] =
      .ok (.vec (V4 be mom az l t (lorentz_unit.eval az l t a b c d).1 (lorentz_unit.eval az l t a b c d).2.1
        (lorentz_unit.eval az l t a b c d).2.2.1 (lorentz_unit.eval az l t a b c d).2.2.2)) := by
  rw [(call_un evR K A _ (V4 be mom az l t a b c d) 0).2.1, selfCall_of_le (two_le_dim _)]
  show dispatch evR .lorentz_unit [] none [V4 be mom az l t a b c d] [V4 be mom az l t a b c d] = _
  rw [dispatch_single evR .lorentz_unit [] _ 3 rfl _ _ rfl _ _ rfl,
    lorentz_unit_ret_eq]
  rfl

/-- the norm of a component list: Euclidean for length 2 / 3, `√|t² − |p|²|` for length 4 -/
noncomputable def normL : List ℝ → ℝ
  | [x, y] => sqrt (x ^ 2 + y ^ 2)
  | [x, y, z] => sqrt (x ^ 2 + y ^ 2 + z ^ 2)
  | [x, y, z, t] => sqrt |t ^ 2 - (x ^ 2 + y ^ 2 + z ^ 2)|
  | _ => 0

theorem normL_unit : ∀ p : List ℝ, 0 < normL p → normL (p.map (fun x => 1 / normL p * x)) = 1
  | [x, y], h => by
    simp only [normL] at h ⊢
    simp only [List.map_cons, List.map_nil]
    have e := sq_sqrt (show 0 ≤ x ^ 2 + y ^ 2 by positivity)
    generalize sqrt (x ^ 2 + y ^ 2) = n at h e ⊢
    have : (1 / n * x) ^ 2 + (1 / n * y) ^ 2 = 1 := by
      have hn : n ≠ 0 := h.ne'
      field_simp; linarith
    rw [this, sqrt_one]
  | [x, y, z], h => by
    simp only [normL] at h ⊢
    simp only [List.map_cons, List.map_nil]
    have e := sq_sqrt (show 0 ≤ x ^ 2 + y ^ 2 + z ^ 2 by positivity)
    generalize sqrt (x ^ 2 + y ^ 2 + z ^ 2) = n at h e ⊢
    have : (1 / n * x) ^ 2 + (1 / n * y) ^ 2 + (1 / n * z) ^ 2 = 1 := by
      have hn : n ≠ 0 := h.ne'
      field_simp; linarith
    rw [this, sqrt_one]
  | [x, y, z, t], h => by
    simp only [normL] at h ⊢
    simp only [List.map_cons, List.map_nil]
    have e := sq_sqrt (abs_nonneg (t ^ 2 - (x ^ 2 + y ^ 2 + z ^ 2)))
    generalize sqrt |t ^ 2 - (x ^ 2 + y ^ 2 + z ^ 2)| = n at h e ⊢
    have hn : n ≠ 0 := h.ne'
    have : (1 / n * t) ^ 2 - ((1 / n * x) ^ 2 + (1 / n * y) ^ 2 + (1 / n * z) ^ 2)
        = (t ^ 2 - (x ^ 2 + y ^ 2 + z ^ 2)) / n ^ 2 := by field_simp
    rw [this, abs_div, abs_of_pos (by positivity : 0 < n ^ 2), ← e, div_self (by positivity), sqrt_one]
  | [], h => by simp [normL] at h
  | [_], h => by simp [normL] at h
  | _ :: _ :: _ :: _ :: _ :: _, h => by simp [normL] at h

/-- **unit in every storage (2 + 6 + 12)**: the type is unchanged, the result denotes the denotation divided by its
(positive) norm — hence parallel to it and of norm one -/
theorem c11m_unit_rng (K : Consts ℝ) (A : Arith ℝ) (v : Vec ℝ) (hv : WFV v) (hu : UnitOK v) :
    ∃ r p u, call evR K A "unit" v [] = .ok (.vec r) ∧ r.ty = v.ty ∧ WFV r ∧ denote v = some p ∧ 0 < normL p ∧
      denote r = some u ∧ u = p.map (fun x => 1 / normL p * x) ∧ normL u = 1 ∧
      (C01E.StoredInRange v → C01E.StoredInRange r) := by
  rcases wfv_cases hv with ⟨be, mom, az, a, b, rfl⟩ | ⟨be, mom, az, l, a, b, c, rfl⟩ |
    ⟨be, mom, az, l, t, a, b, c, d, rfl⟩
  · have hr : 0 < rhoOf az a b := hu
    have hn : normL (toL2 (cart2 az a b)) = rhoOf az a b := (rhoOf_eq_sqrt (canon2_of_rho_pos hr)).symm
    have h := refine_planar_unit az a b hr
    rw [planar_unit_ret_eq] at h
    have hpos : 0 < normL (toL2 (cart2 az a b)) := hn ▸ hr
    have hu' : toL2 (xOf az a b / rhoOf az a b, yOf az a b / rhoOf az a b)
        = (toL2 (cart2 az a b)).map (fun x => 1 / normL (toL2 (cart2 az a b)) * x) := by
      rw [hn]
      simp only [toL2, cart2, List.map_cons, List.map_nil, List.cons.injEq, and_true]
      constructor <;> ring
    refine ⟨_, _, _, unit_eval2 K A be mom az a b, rfl, ⟨by simp, rfl⟩, denote_V2 .., hpos,
      denote2_of_interp _ _ _ _ _ _ h, hu', ?_,
      fun I => C01E.rng_V2 (planar_unit_ret_eq az) (c13c_planar_unit az a b I.1)⟩
    rw [hu']; exact normL_unit _ hpos
  · obtain ⟨hc, hm⟩ : Canon3 az l a b c ∧ 0 < mag2Of az l a b c := hu
    have hn : normL (toL3 (cart3 az l a b c)) = sqrt (mag2Of az l a b c) := rfl
    have h := refine_spatial_unit az l a b c hc hm
    rw [spatial_unit_ret_eq] at h
    have hpos : 0 < normL (toL3 (cart3 az l a b c)) := hn ▸ sqrt_pos.mpr hm
    refine ⟨_, _, _, unit_eval3 K A be mom az l a b c, rfl, ⟨by simp, rfl⟩, denote_V3 .., hpos,
      denote3_of_interp _ _ _ _ _ _ _ h, rfl, normL_unit _ hpos,
      fun I => C01E.rng_V3 (spatial_unit_ret_eq az l) (c13c_spatial_unit_gen az l a b c I.1 I.2.1)⟩
  · obtain ⟨hs, hc, hm⟩ : SinOK l c ∧ CanonTmp t d ∧ tOf az l t a b c d ^ 2 - mag2Of az l a b c ≠ 0 := hu
    have hn : normL (toL4 (cart4 az l t a b c d)) = sqrt |tOf az l t a b c d ^ 2 - mag2Of az l a b c| := rfl
    have h := refine_lorentz_unit az l t a b c d hs hc hm
    rw [lorentz_unit_ret_eq] at h
    have hpos : 0 < normL (toL4 (cart4 az l t a b c d)) := hn ▸ sqrt_pos.mpr (abs_pos.mpr hm)
    refine ⟨_, _, _, unit_eval4 K A be mom az l t a b c d, rfl, ⟨by simp, rfl⟩, denote_V4 .., hpos,
      denote4_of_interp _ _ _ _ _ _ _ _ h, rfl, normL_unit _ hpos,
      fun I => C01E.rng_V4 (lorentz_unit_ret_eq az l t) (c13c_lorentz_unit_gen az l t a b c d I.1 I.2.1 I.2.2)⟩

theorem c11m_unit (K : Consts ℝ) (A : Arith ℝ) (v : Vec ℝ) (hv : WFV v) (hu : UnitOK v) :
    ∃ r p u, call evR K A "unit" v [] = .ok (.vec r) ∧ r.ty = v.ty ∧ WFV r ∧ denote v = some p ∧ 0 < normL p ∧
      denote r = some u ∧ u = p.map (fun x => 1 / normL p * x) ∧ normL u = 1 := by
  obtain ⟨r, p, u, h1, h2, h3, h4, h5, h6, h7, h8, -⟩ := c11m_unit_rng K A v hv hu
  exact ⟨r, p, u, h1, h2, h3, h4, h5, h6, h7, h8⟩

/-! ### 6. dimension guard of the nine same-dimension methods -/

theorem call_bin9 {S B : Type} (ev : Ev S B) (K : Consts S) (A : Arith S) (self o : Vec S) :
    call ev K A "equal" self [.v o] = binary ev K .equal self o [] ∧
    call ev K A "not_equal" self [.v o] = binary ev K .not_equal self o [] ∧
    call ev K A "isclose" self [.v o] = binary ev K .isclose self o [] ∧
    call ev K A "is_parallel" self [.v o] = binary ev K .is_parallel self o [] ∧
    call ev K A "is_antiparallel" self [.v o] = binary ev K .is_antiparallel self o [] ∧
    call ev K A "is_perpendicular" self [.v o] = binary ev K .is_perpendicular self o [] :=
  ⟨rfl, rfl, rfl, rfl, rfl, rfl⟩

/-- **operands of different dimension are rejected with `TypeError`** by the nine same-dimension methods — for ALL
operands (no well-formedness needed) and any compute layer -/
theorem c11m_dim_guard {S B : Type} (ev : Ev S B) (K : Consts S) (A : Arith S) (a b : Vec S) (h : a.ty.dim ≠ b.ty.dim) :
    ∀ m ∈ ["add", "subtract", "dot", "equal", "not_equal", "isclose", "is_parallel", "is_antiparallel",
        "is_perpendicular"], call ev K A m a [.v b] = .error .typeError := by
  obtain ⟨c1, c2, c3, _⟩ := call_bin ev K A a b
  obtain ⟨c4, c5, c6, c7, c8, c9⟩ := call_bin9 ev K A a b
  intro m hm
  simp only [List.mem_cons, List.not_mem_nil, or_false] at hm
  rcases hm with rfl | rfl | rfl | rfl | rfl | rfl | rfl | rfl | rfl <;>
    simp only [c1, c2, c3, c4, c5, c6, c7, c8, c9] <;> exact c05_binary_sameDim_guard ev K _ a b _ rfl (Ne.symm h)

theorem c11m_dim_guard_tol {S B : Type} (ev : Ev S B) (K : Consts S) (A : Arith S) (a b : Vec S) (t : S)
    (h : a.ty.dim ≠ b.ty.dim) :
    ∀ m ∈ ["is_parallel", "is_antiparallel", "is_perpendicular"], call ev K A m a [.v b, .sc t] = .error .typeError := by
  intro m hm
  simp only [List.mem_cons, List.not_mem_nil, or_false] at hm
  rcases hm with rfl | rfl | rfl <;> simp only [call_un ev K A a b t] <;>
    exact c05_binary_sameDim_guard ev K _ a b _ rfl (Ne.symm h)

/-! ### 7. operators -/

/-- **`+`, `-`, `@`, `==`, `!=` are the methods `add`, `subtract`, `dot`, `equal`, `not_equal`** -/
theorem c11m_operators {S B : Type} (ev : Ev S B) (K : Consts S) (A : Arith S) (self o : Vec S) :
    operator ev K A "add" self [.v o] = call ev K A "add" self [.v o] ∧
    operator ev K A "sub" self [.v o] = call ev K A "subtract" self [.v o] ∧
    operator ev K A "matmul" self [.v o] = call ev K A "dot" self [.v o] ∧
    operator ev K A "eq" self [.v o] = call ev K A "equal" self [.v o] ∧
    operator ev K A "ne" self [.v o] = call ev K A "not_equal" self [.v o] := by
  obtain ⟨h1, h2, h3, -⟩ := call_bin ev K A self o
  obtain ⟨h4, h5, -⟩ := call_bin9 ev K A self o
  exact ⟨h1.symm, h2.symm, h3.symm, h4.symm, h5.symm⟩

/-! ### 8. commutativity at method level (the two calls use DIFFERENT keys `(k₁, k₂)` / `(k₂, k₁)`) -/

theorem zipWith_add_comm (p q : List ℝ) : List.zipWith (· + ·) p q = List.zipWith (· + ·) q p := by
  induction p generalizing q with
  | nil => cases q <;> rfl
  | cons x xs ih =>
    cases q with
    | nil => rfl
    | cons y ys => simp only [List.zipWith_cons_cons, add_comm x y, ih ys]

/-- **`a + b` and `b + a` denote the same vector, in every storage pairing**; the flavor is the same, and the result
backend is the same unless the backends tie (first wins) -/
theorem c11m_add_comm (K : Consts ℝ) (A : Arith ℝ) (a b : Vec ℝ) (ha : WFV a) (hb : WFV b) (hd : a.ty.dim = b.ty.dim)
    (hT1 : TanOKV a) (hT2 : TanOKV b) (hS1 : SinOKV a) (hS2 : SinOKV b) (hC1 : CanonTmpV a) (hC2 : CanonTmpV b)
    (hrep : RepAdd a b) (hrep' : RepAdd b a) :
    ∃ r₁ r₂, call evR K A "add" a [.v b] = .ok (.vec r₁) ∧ call evR K A "add" b [.v a] = .ok (.vec r₂) ∧
      denote r₁ = denote r₂ ∧ r₁.ty.mom = r₂.ty.mom ∧ r₁.ty.dim = r₂.ty.dim := by
  obtain ⟨r₁, p, q, e₁, -, d₁, m₁, -, -, hp, hq, h₁⟩ := c11m_add K A a b ha hb hd hT1 hT2 hS1 hS2 hC1 hC2 hrep
  obtain ⟨r₂, q', p', e₂, -, d₂, m₂, -, -, hq', hp', h₂⟩ := c11m_add K A b a hb ha hd.symm hT2 hT1 hS2 hS1 hC2 hC1 hrep'
  refine ⟨r₁, r₂, e₁, e₂, ?_, by rw [m₁, m₂, Bool.or_comm], by rw [d₁, d₂, hd]⟩
  rw [hp] at hp'; rw [hq] at hq'
  cases hp'; cases hq'
  rw [h₁, h₂, zipWith_add_comm]

theorem dotL_comm (p q : List ℝ) : dotL p q = dotL q p := by
  unfold dotL
  split
  · ring
  · ring
  · ring
  · rename_i h1 h2 h3
    split
    · exact (h1 _ _ _ _ rfl rfl).elim
    · exact (h2 _ _ _ _ _ _ rfl rfl).elim
    · exact (h3 _ _ _ _ _ _ _ _ rfl rfl).elim
    · rfl

/-- **`a @ b = b @ a` in every storage pairing** -/
theorem c11m_dot_comm (K : Consts ℝ) (A : Arith ℝ) (a b : Vec ℝ) (ha : WFV a) (hb : WFV b) (hd : a.ty.dim = b.ty.dim)
    (hT1 : TanOKV a) (hT2 : TanOKV b) (hS1 : SinOKV a) (hS2 : SinOKV b) (hC1 : CanonTmpV a) (hC2 : CanonTmpV b) :
    call evR K A "dot" a [.v b] = call evR K A "dot" b [.v a] := by
  obtain ⟨p, q, hp, hq, e₁⟩ := c11m_dot K A a b ha hb hd hT1 hT2 hS1 hS2 hC1 hC2
  obtain ⟨q', p', hq', hp', e₂⟩ := c11m_dot K A b a hb ha hd.symm hT2 hT1 hS2 hS1 hC2 hC1
  rw [hp] at hp'; rw [hq] at hq'
  cases hp'; cases hq'
  rw [e₁, e₂, dotL_comm]

/-- **coordinate independence of `add`** (C01 at method level, binary form): operands with the same denotations — in
whatever storages, flavors, backends — give sums with the same denotation -/
theorem c11m_add_indep (K : Consts ℝ) (A : Arith ℝ) (a₁ b₁ a₂ b₂ : Vec ℝ)
    (ha₁ : WFV a₁) (hb₁ : WFV b₁) (hd₁ : a₁.ty.dim = b₁.ty.dim) (ha₂ : WFV a₂) (hb₂ : WFV b₂) (hd₂ : a₂.ty.dim = b₂.ty.dim)
    (hTa₁ : TanOKV a₁) (hTb₁ : TanOKV b₁) (hSa₁ : SinOKV a₁) (hSb₁ : SinOKV b₁) (hCa₁ : CanonTmpV a₁) (hCb₁ : CanonTmpV b₁)
    (hTa₂ : TanOKV a₂) (hTb₂ : TanOKV b₂) (hSa₂ : SinOKV a₂) (hSb₂ : SinOKV b₂) (hCa₂ : CanonTmpV a₂) (hCb₂ : CanonTmpV b₂)
    (hrep₁ : RepAdd a₁ b₁) (hrep₂ : RepAdd a₂ b₂) (hab : denote a₁ = denote a₂) (hbb : denote b₁ = denote b₂) :
    ∃ r₁ r₂, call evR K A "add" a₁ [.v b₁] = .ok (.vec r₁) ∧ call evR K A "add" a₂ [.v b₂] = .ok (.vec r₂) ∧
      denote r₁ = denote r₂ := by
  obtain ⟨r₁, p, q, e₁, -, -, -, -, -, hp, hq, h₁⟩ := c11m_add K A a₁ b₁ ha₁ hb₁ hd₁ hTa₁ hTb₁ hSa₁ hSb₁ hCa₁ hCb₁ hrep₁
  obtain ⟨r₂, p', q', e₂, -, -, -, -, -, hp', hq', h₂⟩ := c11m_add K A a₂ b₂ ha₂ hb₂ hd₂ hTa₂ hTb₂ hSa₂ hSb₂ hCa₂ hCb₂ hrep₂
  rw [hab, hp'] at hp; rw [hbb, hq'] at hq
  cases hp; cases hq
  exact ⟨r₁, r₂, e₁, e₂, by rw [h₁, h₂]⟩

/-! ### regular forms (Props/Regular.lean): the compute call behind each method applies no partial primitive
(`/`, `sqrt`, `tan`, `log`, …) at a singular point — the denotation theorems above do not hold "by accident" through
Lean's totalised arithmetic.  Beyond the hypotheses of the denotation theorems this needs `sin θ ≠ 0` for θ-stored 3D
operands too (the code computes `ρ / tan θ`), and `η ≠ 0` for `dot` on the (ρ,φ,η) × (ρ,φ,θ) pairings. -/

/-- `sin θ ≠ 0` for θ storage, any dimension -/
def SinOKAll (v : Vec ℝ) : Prop := SinOK (lonOf v) (c3 v).2.2
/-- `η ≠ 0` of the η-stored operand of a (ρ,φ,η) × (ρ,φ,θ) / (ρ,φ,θ) × (ρ,φ,η) pairing (`tan(2 arctan e^{-η})`) -/
def DotEtaV (a b : Vec ℝ) : Prop := DotEtaOK a.ty.az (lonOf a) b.ty.az (lonOf b) (c3 a).2.2 (c3 b).2.2

/-- the regularity predicate of the compute function a same-dimension binary method calls, by dimension of `self` -/
def BinDom (d2 : Az → Az → ℝ → ℝ → ℝ → ℝ → Prop)
    (d3 : Az → Lon → Az → Lon → ℝ → ℝ → ℝ → ℝ → ℝ → ℝ → Prop)
    (d4 : Az → Lon → Tmp → Az → Lon → Tmp → ℝ → ℝ → ℝ → ℝ → ℝ → ℝ → ℝ → ℝ → Prop) (a b : Vec ℝ) : Prop :=
  match a.ty.lon, a.ty.tmp with
  | none, _ => d2 a.ty.az b.ty.az (c3 a).1 (c3 a).2.1 (c3 b).1 (c3 b).2.1
  | some _, none => d3 a.ty.az (lonOf a) b.ty.az (lonOf b) (c3 a).1 (c3 a).2.1 (c3 a).2.2 (c3 b).1 (c3 b).2.1 (c3 b).2.2
  | some _, some _ => d4 a.ty.az (lonOf a) (tmpOf a) b.ty.az (lonOf b) (tmpOf b) (c3 a).1 (c3 a).2.1 (c3 a).2.2 (c4 a)
      (c3 b).1 (c3 b).2.1 (c3 b).2.2 (c4 b)

/-- the same for the unary methods `scale` (`pre` = the factor) and `unit` -/
def UnDom (d2 : Az → ℝ → ℝ → Prop) (d3 : Az → Lon → ℝ → ℝ → ℝ → Prop) (d4 : Az → Lon → Tmp → ℝ → ℝ → ℝ → ℝ → Prop)
    (v : Vec ℝ) : Prop :=
  match v.ty.lon, v.ty.tmp with
  | none, _ => d2 v.ty.az (c3 v).1 (c3 v).2.1
  | some _, none => d3 v.ty.az (lonOf v) (c3 v).1 (c3 v).2.1 (c3 v).2.2
  | some _, some _ => d4 v.ty.az (lonOf v) (tmpOf v) (c3 v).1 (c3 v).2.1 (c3 v).2.2 (c4 v)

theorem dotEta_lb {k0 k1 k2 k3} {c f : ℝ} (h : DotEtaOK k0 k1 k2 k3 c f) : LB.DotEtaOK k0 k1 k2 k3 c f := by
  cases k0 <;> cases k1 <;> cases k2 <;> cases k3 <;> exact h

theorem c11m_add_regular (a b : Vec ℝ) (ha : WFV a) (hb : WFV b) (hd : a.ty.dim = b.ty.dim)
    (hT1 : TanOKV a) (hT2 : TanOKV b) (hS1 : SinOKAll a) (hS2 : SinOKAll b) (hC1 : CanonTmpV a) (hC2 : CanonTmpV b)
    (hrep : RepAdd a b) : BinDom planar_add.evalDom spatial_add.evalDom lorentz_add.evalDom a b := by
  rcases wfv_cases ha with ⟨be1, mom1, az1, a0, a1, rfl⟩ | ⟨be1, mom1, az1, l1, a0, a1, a2, rfl⟩ |
    ⟨be1, mom1, az1, l1, t1, a0, a1, a2, a3, rfl⟩ <;>
  rcases wfv_cases hb with ⟨be2, mom2, az2, b0, b1, rfl⟩ | ⟨be2, mom2, az2, l2, b0, b1, b2, rfl⟩ |
    ⟨be2, mom2, az2, l2, t2, b0, b1, b2, b3, rfl⟩ <;> try (simp [VT.dim] at hd; done)
  · exact (regular_planar_add az1 az2 a0 a1 b0 b1).1
  · exact (regular_spatial_add az1 l1 az2 l2 a0 a1 a2 b0 b1 b2 hT1 hT2 (hrep rfl) hS1 hS2).1
  · exact (regular_lorentz_add az1 l1 t1 az2 l2 t2 a0 a1 a2 a3 b0 b1 b2 b3 hT1 hT2 hS1 hS2 hC1 hC2 (hrep rfl)).1

theorem c11m_subtract_regular (a b : Vec ℝ) (ha : WFV a) (hb : WFV b) (hd : a.ty.dim = b.ty.dim)
    (hT1 : TanOKV a) (hT2 : TanOKV b) (hS1 : SinOKAll a) (hS2 : SinOKAll b) (hC1 : CanonTmpV a) (hC2 : CanonTmpV b)
    (hrep : RepSub a b) (hcaus : SubCausal a b) :
    BinDom planar_subtract.evalDom spatial_subtract.evalDom lorentz_subtract.evalDom a b := by
  rcases wfv_cases ha with ⟨be1, mom1, az1, a0, a1, rfl⟩ | ⟨be1, mom1, az1, l1, a0, a1, a2, rfl⟩ |
    ⟨be1, mom1, az1, l1, t1, a0, a1, a2, a3, rfl⟩ <;>
  rcases wfv_cases hb with ⟨be2, mom2, az2, b0, b1, rfl⟩ | ⟨be2, mom2, az2, l2, b0, b1, b2, rfl⟩ |
    ⟨be2, mom2, az2, l2, t2, b0, b1, b2, b3, rfl⟩ <;> try (simp [VT.dim] at hd; done)
  · exact (regular_planar_subtract az1 az2 a0 a1 b0 b1).1
  · exact (regular_spatial_subtract az1 l1 az2 l2 a0 a1 a2 b0 b1 b2 hT1 hT2 (hrep rfl) hS1 hS2).1
  · exact (regular_lorentz_subtract az1 l1 t1 az2 l2 t2 a0 a1 a2 a3 b0 b1 b2 b3 hT1 hT2 hS1 hS2 hC1 hC2 (hrep rfl)
      (fun e1 e2 => hcaus (congrArg some e1) (congrArg some e2))).1

theorem c11m_dot_regular (a b : Vec ℝ) (ha : WFV a) (hb : WFV b) (hd : a.ty.dim = b.ty.dim)
    (hT1 : TanOKV a) (hT2 : TanOKV b) (hS1 : SinOKAll a) (hS2 : SinOKAll b) (hC1 : CanonTmpV a) (hC2 : CanonTmpV b)
    (he : DotEtaV a b) : BinDom planar_dot.evalDom spatial_dot.evalDom lorentz_dot.evalDom a b := by
  rcases wfv_cases ha with ⟨be1, mom1, az1, a0, a1, rfl⟩ | ⟨be1, mom1, az1, l1, a0, a1, a2, rfl⟩ |
    ⟨be1, mom1, az1, l1, t1, a0, a1, a2, a3, rfl⟩ <;>
  rcases wfv_cases hb with ⟨be2, mom2, az2, b0, b1, rfl⟩ | ⟨be2, mom2, az2, l2, b0, b1, b2, rfl⟩ |
    ⟨be2, mom2, az2, l2, t2, b0, b1, b2, b3, rfl⟩ <;> try (simp [VT.dim] at hd; done)
  · exact (regular_planar_dot az1 az2 a0 a1 b0 b1).1
  · exact (regular_spatial_dot az1 l1 az2 l2 a0 a1 a2 b0 b1 b2 hT1 hT2 hS1 hS2 he).1
  · exact (regular_lorentz_dot az1 l1 t1 az2 l2 t2 a0 a1 a2 a3 b0 b1 b2 b3 hT1 hT2 hS1 hS2 hC1 hC2 (dotEta_lb he)).1

theorem c11m_cross_regular (a b : Vec ℝ) (ha : WFV a) (hb : WFV b) (hda : a.ty.dim = 3) (hdb : b.ty.dim = 3)
    (hT1 : TanOKV a) (hT2 : TanOKV b) (hS1 : SinOKAll a) (hS2 : SinOKAll b) :
    spatial_cross.evalDom a.ty.az (lonOf a) b.ty.az (lonOf b) (c3 a).1 (c3 a).2.1 (c3 a).2.2 (c3 b).1 (c3 b).2.1
      (c3 b).2.2 := by
  obtain ⟨be1, mom1, az1, l1, a0, a1, a2, rfl⟩ := (wfv_dim ha).2.1 hda
  obtain ⟨be2, mom2, az2, l2, b0, b1, b2, rfl⟩ := (wfv_dim hb).2.1 hdb
  exact (regular_spatial_cross az1 l1 az2 l2 a0 a1 a2 b0 b1 b2 hT1 hT2 hS1 hS2).1

theorem c11m_scale_regular (v : Vec ℝ) (hv : WFV v) (f : ℝ) (hθ : ThetaRangeV v) (hf : v.ty.tmp = some .tau → 0 ≤ f) :
    UnDom (planar_scale.evalDom · f) (spatial_scale.evalDom · · f) (lorentz_scale.evalDom · · · f) v := by
  rcases wfv_cases hv with ⟨be, mom, az, a, b, rfl⟩ | ⟨be, mom, az, l, a, b, c, rfl⟩ |
    ⟨be, mom, az, l, t, a, b, c, d, rfl⟩
  · exact (regular_planar_scale az f a b).1
  · exact (regular_spatial_scale az l f a b c hθ).1
  · exact (regular_lorentz_scale az l t f a b c d hθ (fun e => hf (congrArg some e))).1

theorem c11m_unit_regular (v : Vec ℝ) (hv : WFV v) (hu : UnitOK v) :
    UnDom planar_unit.evalDom spatial_unit.evalDom lorentz_unit.evalDom v := by
  rcases wfv_cases hv with ⟨be, mom, az, a, b, rfl⟩ | ⟨be, mom, az, l, a, b, c, rfl⟩ |
    ⟨be, mom, az, l, t, a, b, c, d, rfl⟩
  · exact (regular_planar_unit az a b hu).1
  · exact (regular_spatial_unit az l a b c hu.1 hu.2).1
  · exact (regular_lorentz_unit az l t a b c d hu.1 hu.2.1 hu.2.2).1

/-! ### the hypothesis `τ storage → 0 ≤ f` of `c11m_scale` is necessary -/

/-- unary minus of a τ-stored 4D vector with `t > 0`: the stored τ is negated, but a τ-stored vector always denotes
`t ≥ 0` (`Spec.tOf`) — the result does NOT denote the negated time component (known finding of C01, `scale` with `f < 0`
on τ storage; under the signed-τ reading of `Spec/SignedTau.lean` the sign of τ carries the sign of `t`) -/
theorem c11m_neg_tau_discrepancy (K : Consts ℝ) (A : Arith ℝ) (be mom az l) (a b c d : ℝ)
    (ht : 0 < tOf az l .tau a b c d) :
    ∃ r x y z t', operator evR K A "neg" (V4 be mom az l .tau a b c d) [] = .ok (.vec r) ∧
      denote r = some [x, y, z, t'] ∧ t' ≠ -tOf az l .tau a b c d := by
  refine ⟨_, _, _, _, _, by rw [(c11m_neg evR K A _ 0).1, scale_eval4], denote_V4 .., ?_⟩
  have h0 : 0 ≤ (cart4 az l Tmp.tau (lorentz_scale.eval az l Tmp.tau K.negOne a b c d).1
      (lorentz_scale.eval az l Tmp.tau K.negOne a b c d).2.1 (lorentz_scale.eval az l Tmp.tau K.negOne a b c d).2.2.1
      (lorentz_scale.eval az l Tmp.tau K.negOne a b c d).2.2.2).2.2.2 := by
    show 0 ≤ tOf az l .tau _ _ _ _
    rw [tOf_tau_eq]; exact sqrt_nonneg _
  intro e
  rw [e] at h0
  linarith

/-! ### non-vacuity of the hypotheses -/

/-- a (ρ, φ, η) momentum object and an (x, y, θ) numpy vector satisfy every hypothesis of `add`, `subtract`, `dot`,
`cross`, `scale` (in both operand orders) -/
example : let a : Vec ℝ := V3 .obj true .rhophi .eta 2 1 (1 / 2)
    let b : Vec ℝ := V3 .np false .xy .theta 1 2 1
    WFV a ∧ WFV b ∧ a.ty.dim = b.ty.dim ∧ TanOKV a ∧ TanOKV b ∧ SinOKV a ∧ SinOKV b ∧ CanonTmpV a ∧ CanonTmpV b ∧
      RepAdd a b ∧ RepAdd b a ∧ RepSub a b ∧ RepSub b a ∧ SubCausal a b ∧ ThetaRangeV a ∧ ThetaRangeV b := by
  intro a b
  exact ⟨⟨by simp [a], rfl⟩, ⟨by simp [b], rfl⟩, rfl, trivial, Spec.tanOK_one .theta, (fun h => by cases h),
    (fun h => by cases h), trivial, trivial, fun _ => Or.inl rfl, fun _ => Or.inl rfl, fun _ => Or.inl rfl,
    fun _ => Or.inl rfl, (fun h => by cases h), trivial,
    show (0 : ℝ) ≤ 1 ∧ (1 : ℝ) ≤ π from ⟨by norm_num, by linarith [two_le_pi]⟩⟩

/-- the same pair satisfies the additional hypotheses of the regular forms -/
example : let a : Vec ℝ := V3 .obj true .rhophi .eta 2 1 (1 / 2)
    let b : Vec ℝ := V3 .np false .xy .theta 1 2 1
    SinOKAll a ∧ SinOKAll b ∧ DotEtaV a b ∧ DotEtaV b a := by
  intro a b
  exact ⟨trivial, Spec.sinOK_one .theta, trivial, trivial⟩

/-- two (ρ, φ, θ, τ)-stored 4D vectors (the result is declared in (ρ, φ, θ, τ) again): the hypotheses of `add` / `dot`,
including representability of the sum off the z axis -/
example : let a : Vec ℝ := V4 .obj true .rhophi .theta .tau 2 1 1 3
    let b : Vec ℝ := V4 .obj true .rhophi .theta .tau 1 (1 / 2) 1 1
    WFV a ∧ WFV b ∧ a.ty.dim = b.ty.dim ∧ TanOKV a ∧ TanOKV b ∧ SinOKV a ∧ SinOKV b ∧ CanonTmpV a ∧ CanonTmpV b ∧
      RepAdd a b ∧ ThetaRangeV a ∧ (a.ty.tmp = some .tau → (0 : ℝ) ≤ 2) := by
  intro a b
  have hpi : (1 : ℝ) < π := by linarith [two_le_pi]
  have hs1 : 0 < sin 1 := L.sin_one_pos
  have hs2 : 0 < sin (1 / 2) := sin_pos_of_pos_of_lt_pi (by norm_num) (by linarith)
  refine ⟨⟨by simp [a], rfl⟩, ⟨by simp [b], rfl⟩, rfl, Spec.tanOK_one .theta, Spec.tanOK_one .theta, fun _ => hs1.ne',
    fun _ => hs1.ne', show (0 : ℝ) ≤ 3 by norm_num, show (0 : ℝ) ≤ 1 by norm_num, fun _ => Or.inr ?_,
    show (0 : ℝ) ≤ 1 ∧ (1 : ℝ) ≤ π from ⟨by norm_num, hpi.le⟩, fun _ => by norm_num⟩
  show 0 < (2 * cos 1 + 1 * cos (1 / 2)) ^ 2 + (2 * sin 1 + 1 * sin (1 / 2)) ^ 2
  have : 0 < 2 * sin 1 + 1 * sin (1 / 2) := by linarith
  positivity

/-- a t-stored minus a τ-stored 4D vector: `SubCausal` is only a condition for τ,τ pairs -/
example : SubCausal (V4 .obj false .xy .z .t 1 2 3 4) (V4 .obj false .rhophi .eta .tau 1 2 3 4) := fun h => by cases h

/-- `unit`: a polar 2D vector with `ρ = 2` -/
example : UnitOK (V2 .obj false .rhophi 2 1) := show (0 : ℝ) < 2 by norm_num

end C11M
end VR
