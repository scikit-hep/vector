/-
C02 — every operation computes its documented definition.

Statements at the all-Cartesian key `k₀` (`(xy)`, `(xy, z)`, `(xy, z, t)`), where every operand is representable and the
denotation map is the identity: `eval k₀ … = Spec.op …` with the definition written out on Cartesian components
(metric (−,−,−,+), active right-handed rotations, `deltaphi ∈ [−π, π)`, …).  They are re-exports of the refinement
theorems of `VectorModel/Refine/*.lean` at `k₀` (the refinement theorems themselves are the same statements for ALL keys,
on the denotations), of `Props/C10.lean` for the Euler / axis / quaternion rotations, and — for the non-Cartesian
accessors `x = ρ cos φ`, `z = ρ cot θ = ρ sinh η`, `t = √(τ² + |p|²)` — of the accessor refinements for all keys.
-/
import VectorModel.Refine.Planar
import VectorModel.Refine.SpatialZ
import VectorModel.Refine.SpatialAcc
import VectorModel.Refine.SpatialBin
import VectorModel.Refine.SpatialRot
import VectorModel.Refine.LorentzAcc
import VectorModel.Refine.LorentzBin
import VectorModel.Props.C10

namespace VR
open VK Spec Real

/-- a 3×3 matrix applied to a Cartesian vector (row-major) -/
def Spec.mat3 (xx xy xz yx yy yz zx zy zz : ℝ) (p : ℝ × ℝ × ℝ) : ℝ × ℝ × ℝ :=
  (xx * p.1 + xy * p.2.1 + xz * p.2.2, yx * p.1 + yy * p.2.1 + yz * p.2.2, zx * p.1 + zy * p.2.1 + zz * p.2.2)

/-! ## the coordinate accessors, ALL keys: the documented relations between the coordinate systems -/

theorem c02_planar_x_polar (r p : ℝ) : planar_x.eval .rhophi r p = r * cos p := rfl
theorem c02_planar_y_polar (r p : ℝ) : planar_y.eval .rhophi r p = r * sin p := rfl
theorem c02_planar_rho (x y : ℝ) : planar_rho.eval .xy x y = sqrt (x ^ 2 + y ^ 2) := rfl
theorem c02_planar_rho2 (x y : ℝ) : planar_rho2.eval .xy x y = x ^ 2 + y ^ 2 := rfl
theorem c02_planar_phi (x y : ℝ) : planar_phi.eval .xy x y = P.arctan2 y x := rfl
theorem c02_planar_phi_range (x y : ℝ) : -π < planar_phi.eval .xy x y ∧ planar_phi.eval .xy x y ≤ π :=
  ⟨Complex.neg_pi_lt_arg _, Complex.arg_le_pi _⟩
theorem c02_planar_phi_polar (x y : ℝ) :
    planar_rho.eval .xy x y * cos (planar_phi.eval .xy x y) = x
      ∧ planar_rho.eval .xy x y * sin (planar_phi.eval .xy x y) = y :=
  ⟨L.sqrt_mul_cos_arctan2 x y, L.sqrt_mul_sin_arctan2 x y⟩
theorem c02_planar_x_all (k : Az) (a b : ℝ) : planar_x.eval k a b = xOf k a b := refine_planar_x k a b
theorem c02_planar_y_all (k : Az) (a b : ℝ) : planar_y.eval k a b = yOf k a b := refine_planar_y k a b
theorem c02_planar_rho_all (k : Az) (a b : ℝ) : planar_rho.eval k a b = rhoOf k a b := refine_planar_rho k a b

/-- `z = ρ cot θ = ρ sinh η` (θ storage: wherever `cos θ ≠ 0`, the code divides by `tan θ`) -/
theorem c02_spatial_z_theta (k0 : Az) (a b th : ℝ) (h : cos th ≠ 0) :
    spatial_z.eval k0 .theta a b th = rhoOf k0 a b * (cos th / sin th) :=
  refine_spatial_z k0 .theta a b th h
theorem c02_spatial_z_eta (k0 : Az) (a b e : ℝ) : spatial_z.eval k0 .eta a b e = rhoOf k0 a b * sinh e :=
  refine_spatial_z k0 .eta a b e trivial
theorem c02_lorentz_t_tau (k0 : Az) (k1 : Lon) (a b c tau : ℝ) (h : CanonLon k0 k1 a b c) (hd : 0 ≤ tau) :
    lorentz_t.eval k0 k1 .tau a b c tau = sqrt (tau ^ 2 + mag2Of k0 k1 a b c) := by
  rw [refine_lorentz_t k0 k1 .tau a b c tau h hd]; cases k0 <;> cases k1 <;> rfl

/-! ## 2D at the Cartesian key -/

theorem c02_planar_dot (x1 y1 x2 y2 : ℝ) : planar_dot.eval .xy .xy x1 y1 x2 y2 = x1 * x2 + y1 * y2 :=
  refine_planar_dot .xy .xy x1 y1 x2 y2

theorem c02_planar_add (x1 y1 x2 y2 : ℝ) : planar_add.eval .xy .xy x1 y1 x2 y2 = (x1 + x2, y1 + y2) :=
  Option.some.inj (refine_planar_add .xy .xy x1 y1 x2 y2)

theorem c02_planar_subtract (x1 y1 x2 y2 : ℝ) : planar_subtract.eval .xy .xy x1 y1 x2 y2 = (x1 - x2, y1 - y2) :=
  Option.some.inj (refine_planar_subtract .xy .xy x1 y1 x2 y2)

theorem c02_planar_scale (f x y : ℝ) : planar_scale.eval .xy f x y = (f * x, f * y) :=
  Option.some.inj (refine_planar_scale .xy f x y)

/-- `rotateZ` is the active (counter-clockwise) rotation by `ang` -/
theorem c02_planar_rotateZ (ang x y : ℝ) :
    planar_rotateZ.eval .xy ang x y = (x * cos ang - y * sin ang, x * sin ang + y * cos ang) :=
  Option.some.inj (refine_planar_rotateZ .xy ang x y)

theorem c02_planar_transform2D (xx xy yx yy x y : ℝ) :
    planar_transform2D.eval .xy xx xy yx yy x y = (xx * x + xy * y, yx * x + yy * y) :=
  Option.some.inj (refine_planar_transform2D .xy xx xy yx yy x y)

theorem c02_planar_unit (x y : ℝ) (h : 0 < x ^ 2 + y ^ 2) :
    planar_unit.eval .xy x y = (x / sqrt (x ^ 2 + y ^ 2), y / sqrt (x ^ 2 + y ^ 2)) :=
  Option.some.inj (refine_planar_unit .xy x y (Real.sqrt_pos.mpr h))

theorem c02_planar_deltaphi (k0 k1 : Az) (a0 a1 a2 a3 : ℝ) :
    (-π ≤ planar_deltaphi.eval k0 k1 a0 a1 a2 a3 ∧ planar_deltaphi.eval k0 k1 a0 a1 a2 a3 < π) ∧
      ∃ n : ℤ, planar_deltaphi.eval k0 k1 a0 a1 a2 a3
        = planar_phi.eval k0 a0 a1 - planar_phi.eval k1 a2 a3 - n * (2 * π) :=
  refine_planar_deltaphi k0 k1 a0 a1 a2 a3

example : (0 : ℝ) < 3 ^ 2 + 4 ^ 2 := by norm_num

/-! ## 3D accessors at the Cartesian key -/

theorem c02_spatial_z (x y z : ℝ) : spatial_z.eval .xy .z x y z = z := rfl

theorem c02_spatial_mag2 (x y z : ℝ) : spatial_mag2.eval .xy .z x y z = x ^ 2 + y ^ 2 + z ^ 2 :=
  refine_spatial_mag2 .xy .z x y z trivial

theorem c02_spatial_mag (x y z : ℝ) : spatial_mag.eval .xy .z x y z = sqrt (x ^ 2 + y ^ 2 + z ^ 2) :=
  refine_spatial_mag .xy .z x y z trivial trivial

theorem c02_spatial_costheta (x y z : ℝ) (h : 0 < x ^ 2 + y ^ 2 + z ^ 2) :
    spatial_costheta.eval .xy .z x y z = z / sqrt (x ^ 2 + y ^ 2 + z ^ 2) :=
  refine_spatial_costheta .xy .z x y z ⟨trivial, trivial⟩ h

theorem c02_spatial_theta (x y z : ℝ) (h : 0 < x ^ 2 + y ^ 2 + z ^ 2) :
    spatial_theta.eval .xy .z x y z = arccos (z / sqrt (x ^ 2 + y ^ 2 + z ^ 2)) :=
  refine_spatial_theta .xy .z x y z ⟨trivial, trivial⟩ h

theorem c02_spatial_cottheta (x y z : ℝ) (h : 0 < x ^ 2 + y ^ 2) :
    spatial_cottheta.eval .xy .z x y z = z / sqrt (x ^ 2 + y ^ 2) :=
  refine_spatial_cottheta .xy .z x y z (Real.sqrt_pos.mpr h) trivial

theorem c02_spatial_eta (x y z : ℝ) (h : 0 < x ^ 2 + y ^ 2) :
    spatial_eta.eval .xy .z x y z = arsinh (z / sqrt (x ^ 2 + y ^ 2)) :=
  refine_spatial_eta .xy .z x y z (Real.sqrt_pos.mpr h) trivial

theorem c02_spatial_theta_roundtrip (k0 : Az) (k1 : Lon) (a b c : ℝ) (hr : 0 < rhoOf k0 a b) :
    rhoOf k0 a b * (cos (spatial_theta.eval k0 k1 a b c) / sin (spatial_theta.eval k0 k1 a b c)) = zOf k0 k1 a b c :=
  refine_spatial_theta_zOf k0 k1 a b c hr
theorem c02_spatial_eta_roundtrip (k0 : Az) (k1 : Lon) (a b c : ℝ) (hr : 0 < rhoOf k0 a b)
    (h : CanonLon k0 k1 a b c) :
    rhoOf k0 a b * sinh (spatial_eta.eval k0 k1 a b c) = zOf k0 k1 a b c :=
  refine_spatial_eta_zOf k0 k1 a b c hr h

/-! ## 3D operations at the Cartesian key -/

theorem c02_spatial_dot (x1 y1 z1 x2 y2 z2 : ℝ) :
    spatial_dot.eval .xy .z .xy .z x1 y1 z1 x2 y2 z2 = x1 * x2 + y1 * y2 + z1 * z2 :=
  refine_spatial_dot .xy .z .xy .z x1 y1 z1 x2 y2 z2 trivial trivial

theorem c02_spatial_cross (x1 y1 z1 x2 y2 z2 : ℝ) :
    spatial_cross.eval .xy .z .xy .z x1 y1 z1 x2 y2 z2 = (y1 * z2 - z1 * y2, z1 * x2 - x1 * z2, x1 * y2 - y1 * x2) :=
  Option.some.inj (refine_spatial_cross .xy .z .xy .z x1 y1 z1 x2 y2 z2 trivial trivial)

theorem c02_spatial_add (x1 y1 z1 x2 y2 z2 : ℝ) :
    spatial_add.eval .xy .z .xy .z x1 y1 z1 x2 y2 z2 = (x1 + x2, y1 + y2, z1 + z2) :=
  Option.some.inj (refine_spatial_add .xy .z .xy .z x1 y1 z1 x2 y2 z2 trivial trivial (Or.inl rfl))

theorem c02_spatial_subtract (x1 y1 z1 x2 y2 z2 : ℝ) :
    spatial_subtract.eval .xy .z .xy .z x1 y1 z1 x2 y2 z2 = (x1 - x2, y1 - y2, z1 - z2) :=
  Option.some.inj (refine_spatial_subtract .xy .z .xy .z x1 y1 z1 x2 y2 z2 trivial trivial (Or.inl rfl))

theorem c02_spatial_scale (f x y z : ℝ) : spatial_scale.eval .xy .z f x y z = (f * x, f * y, f * z) :=
  Option.some.inj (refine_spatial_scale .xy .z f x y z trivial)

theorem c02_spatial_unit (x y z : ℝ) (h : 0 < x ^ 2 + y ^ 2 + z ^ 2) :
    spatial_unit.eval .xy .z x y z
      = (1 / sqrt (x ^ 2 + y ^ 2 + z ^ 2) * x, 1 / sqrt (x ^ 2 + y ^ 2 + z ^ 2) * y,
         1 / sqrt (x ^ 2 + y ^ 2 + z ^ 2) * z) :=
  Option.some.inj (refine_spatial_unit .xy .z x y z ⟨trivial, trivial⟩ h)

/-- `rotateX` / `rotateY`: active right-handed rotations about the x / y axis -/
theorem c02_spatial_rotateX (ang x y z : ℝ) :
    spatial_rotateX.eval .xy .z ang x y z = (x, y * cos ang - z * sin ang, y * sin ang + z * cos ang) :=
  refine_spatial_rotateX_cart ang x y z

theorem c02_spatial_rotateY (ang x y z : ℝ) :
    spatial_rotateY.eval .xy .z ang x y z = (x * cos ang + z * sin ang, y, -x * sin ang + z * cos ang) :=
  refine_spatial_rotateY_cart ang x y z

theorem c02_spatial_transform3D (xx xy xz yx yy yz zx zy zz x y z : ℝ) :
    spatial_transform3D.eval .xy .z xx xy xz yx yy yz zx zy zz x y z
      = mat3 xx xy xz yx yy yz zx zy zz (x, y, z) :=
  Option.some.inj (refine_spatial_transform3D_interp .xy .z xx xy xz yx yy yz zx zy zz x y z trivial)

/-- `rotate_quaternion`: the matrix of `v ↦ q v q̄` for `q = u + i î + j ĵ + k k̂` (ROOT's convention) -/
theorem c02_spatial_rotate_quaternion (u i j k x y z : ℝ) :
    spatial_rotate_quaternion.eval .xy .z u i j k x y z
      = mat3 (u * u + i * i - j * j - k * k) (2 * (i * j - u * k)) (2 * (u * j + i * k))
             (2 * (i * j + u * k)) (u * u - i * i + j * j - k * k) (2 * (j * k - u * i))
             (2 * (i * k - u * j)) (2 * (j * k + u * i)) (u * u - i * i - j * j + k * k) (x, y, z) := rfl

/-- `rotate_axis`: Rodrigues' formula about the normalised axis `(ux, uy, uz) / |u|` -/
theorem c02_spatial_rotate_axis (ang ux uy uz x y z : ℝ) (_h : 0 < ux ^ 2 + uy ^ 2 + uz ^ 2) :
    spatial_rotate_axis.eval .xy .z .xy .z ang ux uy uz x y z
      = Spec10.rod (ux / sqrt (ux ^ 2 + uy ^ 2 + uz ^ 2)) (uy / sqrt (ux ^ 2 + uy ^ 2 + uz ^ 2))
          (uz / sqrt (ux ^ 2 + uy ^ 2 + uz ^ 2)) (cos ang) (sin ang) x y z :=
  c10_rotate_axis_eq_rod ang ux uy uz x y z

/-- `rotate_axis` with a unit-quaternion spelling: `q = (cos(a/2), n sin(a/2))` -/
theorem c02_spatial_rotate_quaternion_axis (a n1 n2 n3 x y z : ℝ) (hn : n1 ^ 2 + n2 ^ 2 + n3 ^ 2 = 1) :
    spatial_rotate_quaternion.eval .xy .z (cos (a / 2)) (n1 * sin (a / 2)) (n2 * sin (a / 2)) (n3 * sin (a / 2)) x y z
      = spatial_rotate_axis.eval .xy .z .xy .z a n1 n2 n3 x y z :=
  c10_quaternion_eq_rotate_axis_unit a n1 n2 n3 x y z hn

/-- `rotate_euler(φ, θ, ψ, order = o₁o₂o₃) v = R_{o₁}(−ψ) (R_{o₂}(−θ) (R_{o₃}(−φ) v))` (ROOT's convention) -/
theorem c02_spatial_rotate_euler (o : Ord) (phi theta psi x y z : ℝ) :
    spatial_rotate_euler.eval .xy .z o phi theta psi x y z
      = Spec10.R (Spec10.axes o).1 (-psi) (Spec10.R (Spec10.axes o).2.1 (-theta)
          (Spec10.R (Spec10.axes o).2.2 (-phi) (x, y, z))) :=
  c10_euler_eval o phi theta psi x y z

/-! ## 3D delta functions at the Cartesian key -/

theorem c02_spatial_deltaeta (x1 y1 z1 x2 y2 z2 : ℝ) (h1 : 0 < x1 ^ 2 + y1 ^ 2) (h2 : 0 < x2 ^ 2 + y2 ^ 2) :
    spatial_deltaeta.eval .xy .z .xy .z x1 y1 z1 x2 y2 z2
      = arsinh (z1 / sqrt (x1 ^ 2 + y1 ^ 2)) - arsinh (z2 / sqrt (x2 ^ 2 + y2 ^ 2)) :=
  refine_spatial_deltaeta .xy .z .xy .z x1 y1 z1 x2 y2 z2 (Real.sqrt_pos.mpr h1) (Real.sqrt_pos.mpr h2) trivial trivial

theorem c02_spatial_deltaR2 (k0 : Az) (k1 : Lon) (k2 : Az) (k3 : Lon) (a b c d e f : ℝ) :
    spatial_deltaR2.eval k0 k1 k2 k3 a b c d e f
      = planar_deltaphi.eval k0 k2 a b d e ^ 2 + spatial_deltaeta.eval k0 k1 k2 k3 a b c d e f ^ 2 :=
  spatial_deltaR2_eval_eq k0 k1 k2 k3 a b c d e f

theorem c02_spatial_deltaR (k0 : Az) (k1 : Lon) (k2 : Az) (k3 : Lon) (a b c d e f : ℝ) :
    spatial_deltaR.eval k0 k1 k2 k3 a b c d e f = sqrt (spatial_deltaR2.eval k0 k1 k2 k3 a b c d e f) :=
  refine_spatial_deltaR k0 k1 k2 k3 a b c d e f

theorem c02_spatial_deltaR2_cart (x1 y1 z1 x2 y2 z2 : ℝ) (h1 : 0 < x1 ^ 2 + y1 ^ 2) (h2 : 0 < x2 ^ 2 + y2 ^ 2) :
    spatial_deltaR2.eval .xy .z .xy .z x1 y1 z1 x2 y2 z2
      = (P.mod (P.arctan2 y1 x1 - P.arctan2 y2 x2 + π) (2 * π) - π) ^ 2
        + (arsinh (z1 / sqrt (x1 ^ 2 + y1 ^ 2)) - arsinh (z2 / sqrt (x2 ^ 2 + y2 ^ 2))) ^ 2 :=
  refine_spatial_deltaR2 .xy .z .xy .z x1 y1 z1 x2 y2 z2 (Real.sqrt_pos.mpr h1) (Real.sqrt_pos.mpr h2) trivial trivial

theorem c02_spatial_deltaangle (x1 y1 z1 x2 y2 z2 : ℝ) :
    spatial_deltaangle.eval .xy .z .xy .z x1 y1 z1 x2 y2 z2
      = arccos (max (-1) (min 1 ((x1 * x2 + y1 * y2 + z1 * z2)
          / sqrt (x1 ^ 2 + y1 ^ 2 + z1 ^ 2) / sqrt (x2 ^ 2 + y2 ^ 2 + z2 ^ 2)))) :=
  refine_spatial_deltaangle .xy .z .xy .z x1 y1 z1 x2 y2 z2 trivial trivial trivial trivial
    (fun h => nomatch h) (fun h => nomatch h)

/-! ## 4D accessors at the Cartesian key -/

theorem c02_lorentz_t (x y z t : ℝ) : lorentz_t.eval .xy .z .t x y z t = t := rfl
theorem c02_lorentz_t2 (x y z t : ℝ) : lorentz_t2.eval .xy .z .t x y z t = t ^ 2 := rfl

theorem c02_lorentz_tau2 (x y z t : ℝ) : lorentz_tau2.eval .xy .z .t x y z t = t ^ 2 - (x ^ 2 + y ^ 2 + z ^ 2) :=
  refine_lorentz_tau2 .xy .z .t x y z t trivial trivial

theorem c02_lorentz_tau (x y z t : ℝ) :
    lorentz_tau.eval .xy .z .t x y z t
      = Real.sign (t ^ 2 - (x ^ 2 + y ^ 2 + z ^ 2)) * sqrt |t ^ 2 - (x ^ 2 + y ^ 2 + z ^ 2)| :=
  refine_lorentz_tau .xy .z .t x y z t trivial trivial

theorem c02_lorentz_tau_timelike (x y z t : ℝ) (h : 0 < t ^ 2 - (x ^ 2 + y ^ 2 + z ^ 2)) :
    lorentz_tau.eval .xy .z .t x y z t = sqrt (t ^ 2 - (x ^ 2 + y ^ 2 + z ^ 2)) :=
  refine_lorentz_tau_pos .xy .z .t x y z t trivial trivial h

theorem c02_lorentz_beta (x y z t : ℝ) (ht : t ≠ 0) :
    lorentz_beta.eval .xy .z .t x y z t = sqrt (x ^ 2 + y ^ 2 + z ^ 2) / t :=
  refine_lorentz_beta .xy .z .t x y z t ⟨trivial, trivial⟩ trivial ht

theorem c02_lorentz_gamma (x y z t : ℝ) (h : 0 < t ^ 2 - (x ^ 2 + y ^ 2 + z ^ 2)) :
    lorentz_gamma.eval .xy .z .t x y z t = t / sqrt (t ^ 2 - (x ^ 2 + y ^ 2 + z ^ 2)) :=
  refine_lorentz_gamma .xy .z .t x y z t trivial trivial h

theorem c02_lorentz_rapidity (x y z t : ℝ) (h : |z| < t) :
    lorentz_rapidity.eval .xy .z .t x y z t = 1 / 2 * Real.log ((t + z) / (t - z)) :=
  refine_lorentz_rapidity .xy .z .t x y z t trivial trivial trivial h

theorem c02_lorentz_Et2 (x y z t : ℝ) (h : 0 < x ^ 2 + y ^ 2 + z ^ 2) :
    lorentz_Et2.eval .xy .z .t x y z t = t ^ 2 * (x ^ 2 + y ^ 2) / (x ^ 2 + y ^ 2 + z ^ 2) := by
  have e := refine_lorentz_Et2 .xy .z .t x y z t trivial trivial h
  have r : rhoOf .xy x y ^ 2 = x ^ 2 + y ^ 2 := L.sq_sqrt_sumsq x y
  rw [r] at e
  exact e

theorem c02_lorentz_Et (x y z t : ℝ) (h : 0 < x ^ 2 + y ^ 2 + z ^ 2) (ht : 0 ≤ t) :
    lorentz_Et.eval .xy .z .t x y z t = sqrt (t ^ 2 * (x ^ 2 + y ^ 2) / (x ^ 2 + y ^ 2 + z ^ 2)) := by
  have e := refine_lorentz_Et .xy .z .t x y z t ⟨trivial, trivial⟩ trivial h ht
  have r : rhoOf .xy x y ^ 2 = x ^ 2 + y ^ 2 := L.sq_sqrt_sumsq x y
  rw [r] at e
  exact e

theorem c02_lorentz_Mt2 (x y z t : ℝ) : lorentz_Mt2.eval .xy .z .t x y z t = t ^ 2 - z ^ 2 :=
  refine_lorentz_Mt2 .xy .z .t x y z t trivial trivial

theorem c02_lorentz_Mt (x y z t : ℝ) (h : 0 ≤ t ^ 2 - z ^ 2) :
    lorentz_Mt.eval .xy .z .t x y z t = sqrt (t ^ 2 - z ^ 2) :=
  refine_lorentz_Mt .xy .z .t x y z t trivial trivial h

theorem c02_lorentz_to_beta3 (x y z t : ℝ) (ht : t ≠ 0) :
    lorentz_to_beta3.eval .xy .z .t x y z t = (x / t, y / t, z / t) :=
  Option.some.inj (refine_lorentz_to_beta3_ne_zero .xy .z .t x y z t trivial trivial ht (fun _ => Or.inl rfl))

/-! ## 4D operations at the Cartesian key -/

/-- the Minkowski product, metric (−,−,−,+) -/
theorem c02_lorentz_dot (x1 y1 z1 t1 x2 y2 z2 t2 : ℝ) :
    lorentz_dot.eval .xy .z .t .xy .z .t x1 y1 z1 t1 x2 y2 z2 t2 = t1 * t2 - x1 * x2 - y1 * y2 - z1 * z2 :=
  refine_lorentz_dot .xy .z .t .xy .z .t x1 y1 z1 t1 x2 y2 z2 t2 trivial trivial trivial trivial trivial trivial

theorem c02_lorentz_add (x1 y1 z1 t1 x2 y2 z2 t2 : ℝ) :
    lorentz_add.eval .xy .z .t .xy .z .t x1 y1 z1 t1 x2 y2 z2 t2 = (x1 + x2, y1 + y2, z1 + z2, t1 + t2) :=
  Option.some.inj (refine_lorentz_add .xy .z .t .xy .z .t x1 y1 z1 t1 x2 y2 z2 t2
    trivial trivial trivial trivial trivial trivial (Or.inl rfl))

theorem c02_lorentz_subtract (x1 y1 z1 t1 x2 y2 z2 t2 : ℝ) :
    lorentz_subtract.eval .xy .z .t .xy .z .t x1 y1 z1 t1 x2 y2 z2 t2 = (x1 - x2, y1 - y2, z1 - z2, t1 - t2) :=
  Option.some.inj (refine_lorentz_subtract .xy .z .t .xy .z .t x1 y1 z1 t1 x2 y2 z2 t2
    trivial trivial trivial trivial trivial trivial (Or.inl rfl) (fun h => nomatch h))

theorem c02_lorentz_scale (f x y z t : ℝ) : lorentz_scale.eval .xy .z .t f x y z t = (f * x, f * y, f * z, f * t) :=
  Option.some.inj (refine_lorentz_scale_partial .xy .z .t f x y z t trivial (fun h => nomatch h))

theorem c02_lorentz_unit (x y z t : ℝ) (h : t ^ 2 - (x ^ 2 + y ^ 2 + z ^ 2) ≠ 0) :
    lorentz_unit.eval .xy .z .t x y z t
      = smul4 (1 / sqrt |t ^ 2 - (x ^ 2 + y ^ 2 + z ^ 2)|) (x, y, z, t) :=
  Option.some.inj (refine_lorentz_unit .xy .z .t x y z t trivial trivial h)

theorem c02_lorentz_transform4D (xx xy xz xt yx yy yz yt zx zy zz zt tx ty tz tt x y z t : ℝ) :
    lorentz_transform4D.eval .xy .z .t xx xy xz xt yx yy yz yt zx zy zz zt tx ty tz tt x y z t
      = transform4 xx xy xz xt yx yy yz yt zx zy zz zt tx ty tz tt (x, y, z, t) :=
  Option.some.inj (refine_lorentz_transform4D .xy .z .t xx xy xz xt yx yy yz yt zx zy zz zt tx ty tz tt x y z t
    trivial trivial trivial)

/-! ## boosts at the Cartesian key: `x' = γ x + βγ t`, `t' = βγ x + γ t`, `γ = 1/√(1 − β²)` -/

theorem c02_lorentz_boostX_beta (β x y z t : ℝ) (hβ : |β| < 1) :
    lorentz_boostX_beta.eval .xy .z .t β x y z t
      = boostX (1 / sqrt (1 - β ^ 2)) (β * (1 / sqrt (1 - β ^ 2))) (x, y, z, t) := by
  rw [← L.rpow_neg_half (L.one_sub_sq_pos hβ)]
  exact Option.some.inj (refine_lorentz_boostX_beta_spec .xy .z .t β x y z t trivial trivial trivial hβ)

theorem c02_lorentz_boostY_beta (β x y z t : ℝ) (hβ : |β| < 1) :
    lorentz_boostY_beta.eval .xy .z .t β x y z t
      = boostY (1 / sqrt (1 - β ^ 2)) (β * (1 / sqrt (1 - β ^ 2))) (x, y, z, t) := by
  rw [← L.rpow_neg_half (L.one_sub_sq_pos hβ)]
  exact Option.some.inj (refine_lorentz_boostY_beta_spec .xy .z .t β x y z t trivial trivial trivial hβ)

theorem c02_lorentz_boostZ_beta (β x y z t : ℝ) (hβ : |β| < 1) :
    lorentz_boostZ_beta.eval .xy .z .t β x y z t
      = boostZ (1 / sqrt (1 - β ^ 2)) (β * (1 / sqrt (1 - β ^ 2))) (x, y, z, t) := by
  rw [← L.rpow_neg_half (L.one_sub_sq_pos hβ)]
  exact Option.some.inj (refine_lorentz_boostZ_beta_spec .xy .z .t β x y z t trivial trivial trivial hβ)

/-- `boost*_gamma(γ)`: `|γ|` is the Lorentz factor, the sign of `γ` the direction (`βγ = sign(γ) √(γ² − 1)`) -/
theorem c02_lorentz_boostX_gamma (γ x y z t : ℝ) (hγ : 1 ≤ |γ|) :
    lorentz_boostX_gamma.eval .xy .z .t γ x y z t
      = boostX |γ| (P.copysign (sqrt (|γ| ^ 2 - 1)) γ) (x, y, z, t) :=
  Option.some.inj (refine_lorentz_boostX_gamma_spec .xy .z .t γ x y z t trivial trivial trivial hγ)

theorem c02_lorentz_boostY_gamma (γ x y z t : ℝ) (hγ : 1 ≤ |γ|) :
    lorentz_boostY_gamma.eval .xy .z .t γ x y z t
      = boostY |γ| (P.copysign (sqrt (|γ| ^ 2 - 1)) γ) (x, y, z, t) :=
  Option.some.inj (refine_lorentz_boostY_gamma_spec .xy .z .t γ x y z t trivial trivial trivial hγ)

theorem c02_lorentz_boostZ_gamma (γ x y z t : ℝ) (hγ : 1 ≤ |γ|) :
    lorentz_boostZ_gamma.eval .xy .z .t γ x y z t
      = boostZ |γ| (P.copysign (sqrt (|γ| ^ 2 - 1)) γ) (x, y, z, t) :=
  Option.some.inj (refine_lorentz_boostZ_gamma_spec .xy .z .t γ x y z t trivial trivial trivial hγ)

/-- general boost by the velocity `β⃗`: `γ = 1/√(1 − |β|²)`, `u = γ β⃗`, `p' = p + (u·p/(γ+1) + t) u`, `t' = u·p + γ t` -/
theorem c02_lorentz_boost_beta3 (x y z t bx by' bz : ℝ) (_h : bx ^ 2 + by' ^ 2 + bz ^ 2 < 1) :
    lorentz_boost_beta3.eval .xy .z .t .xy .z x y z t bx by' bz
      = boostU (1 / sqrt (1 - (bx ^ 2 + by' ^ 2 + bz ^ 2))) (1 / sqrt (1 - (bx ^ 2 + by' ^ 2 + bz ^ 2)) * bx)
          (1 / sqrt (1 - (bx ^ 2 + by' ^ 2 + bz ^ 2)) * by') (1 / sqrt (1 - (bx ^ 2 + by' ^ 2 + bz ^ 2)) * bz)
          (x, y, z, t) :=
  refine_lorentz_boost_beta3_cart_t x y z t bx by' bz

/-- general boost by the four-velocity `p₂ / M` of a time-like momentum `p₂`, `M = √(t₂² − |p₂|²)` -/
theorem c02_lorentz_boost_p4 (x1 y1 z1 t1 x2 y2 z2 t2 : ℝ) (hM : 0 < t2 ^ 2 - (x2 ^ 2 + y2 ^ 2 + z2 ^ 2)) :
    lorentz_boost_p4.eval .xy .z .t .xy .z .t x1 y1 z1 t1 x2 y2 z2 t2
      = boostU (t2 / sqrt (t2 ^ 2 - (x2 ^ 2 + y2 ^ 2 + z2 ^ 2))) (x2 / sqrt (t2 ^ 2 - (x2 ^ 2 + y2 ^ 2 + z2 ^ 2)))
          (y2 / sqrt (t2 ^ 2 - (x2 ^ 2 + y2 ^ 2 + z2 ^ 2))) (z2 / sqrt (t2 ^ 2 - (x2 ^ 2 + y2 ^ 2 + z2 ^ 2)))
          (x1, y1, z1, t1) :=
  refine_lorentz_boost_p4_cart_t x1 y1 z1 t1 x2 y2 z2 t2 hM

theorem c02_lorentz_deltaRapidityPhi2 (x1 y1 z1 t1 x2 y2 z2 t2 : ℝ) (h1 : |z1| < t1) (h2 : |z2| < t2) :
    lorentz_deltaRapidityPhi2.eval .xy .z .t .xy .z .t x1 y1 z1 t1 x2 y2 z2 t2
      = planar_deltaphi.eval .xy .xy x1 y1 x2 y2 ^ 2
        + (1 / 2 * Real.log ((t1 + z1) / (t1 - z1)) - 1 / 2 * Real.log ((t2 + z2) / (t2 - z2))) ^ 2 :=
  refine_lorentz_deltaRapidityPhi2 .xy .z .t .xy .z .t x1 y1 z1 t1 x2 y2 z2 t2
    trivial trivial trivial trivial trivial trivial h1 h2

theorem c02_lorentz_deltaRapidityPhi (k0 : Az) (k1 : Lon) (k2 : Tmp) (k3 : Az) (k4 : Lon) (k5 : Tmp)
    (a0 a1 a2 a3 a4 a5 a6 a7 : ℝ) :
    lorentz_deltaRapidityPhi.eval k0 k1 k2 k3 k4 k5 a0 a1 a2 a3 a4 a5 a6 a7
      = sqrt (lorentz_deltaRapidityPhi2.eval k0 k1 k2 k3 k4 k5 a0 a1 a2 a3 a4 a5 a6 a7) :=
  lorentz_deltaRapidityPhi_eval_eq k0 k1 k2 k3 k4 k5 a0 a1 a2 a3 a4 a5 a6 a7

example : |(1 / 2 : ℝ)| < 1 ∧ (1 : ℝ) ≤ |(-2)| ∧ (0 : ℝ) < 2 ^ 2 - (1 ^ 2 + 0 ^ 2 + 0 ^ 2) ∧ |(1 : ℝ)| < 2 := by
  refine ⟨?_, ?_, by norm_num, ?_⟩
  · rw [abs_of_pos] <;> norm_num
  · rw [abs_of_neg] <;> norm_num
  · rw [abs_of_pos] <;> norm_num

end VR
