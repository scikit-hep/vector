/-
C14 — "Momentum names are exact synonyms of the geometric names" (glue part).

Theorems about the hand-written glue model (`VectorModel/Glue/Core.lean`, `Methods.lean`): the synonym tables of the
string layer (`momAccOfName`, `setterOfName`), the public `call` through a momentum spelling, assignment through a
momentum spelling (`stepOfSet`), and `dispatch`: the flavor (`mom`) of the operands never changes a number.
All statements hold for every scalar type `S`, truth type `B`, compute layer `ev`, constants `K` and arithmetic `A`.
-/
import VectorModel.Lemmas.Glue

namespace VG
open VK

namespace C14

/-- the documented synonyms: (momentum spelling, generic name) -/
def synonyms : List (String × String) :=
  [("px", "x"), ("py", "y"), ("pt", "rho"), ("pt2", "rho2"), ("pz", "z"), ("pseudorapidity", "eta"),
   ("p", "mag"), ("p2", "mag2"),
   ("E", "t"), ("e", "t"), ("energy", "t"), ("E2", "t2"), ("e2", "t2"), ("energy2", "t2"),
   ("M", "tau"), ("m", "tau"), ("mass", "tau"), ("M2", "tau2"), ("m2", "tau2"), ("mass2", "tau2"),
   ("et", "Et"), ("transverse_energy", "Et"), ("et2", "Et2"), ("transverse_energy2", "Et2"),
   ("mt", "Mt"), ("transverse_mass", "Mt"), ("mt2", "Mt2"), ("transverse_mass2", "Mt2")]

/-- the documented setter synonyms -/
def setterSynonyms : List (String × String) :=
  [("px", "x"), ("py", "y"), ("pt", "rho"), ("pz", "z"), ("E", "t"), ("e", "t"), ("energy", "t"),
   ("M", "tau"), ("m", "tau"), ("mass", "tau")]

def genericName : Acc → String
  | .x => "x" | .y => "y" | .rho => "rho" | .rho2 => "rho2" | .phi => "phi"
  | .z => "z" | .theta => "theta" | .eta => "eta" | .costheta => "costheta" | .cottheta => "cottheta"
  | .mag => "mag" | .mag2 => "mag2" | .t => "t" | .t2 => "t2" | .tau => "tau" | .tau2 => "tau2" | .beta => "beta"
  | .gamma => "gamma" | .rapidity => "rapidity" | .Et => "Et" | .Et2 => "Et2" | .Mt => "Mt" | .Mt2 => "Mt2"

end C14
open C14

/-! ### 1. the accessor synonym table -/

/-- every momentum spelling resolves to the accessor of its documented generic name -/
theorem c14_acc_synonyms :
    momAccOfName "px" = accOfName "x" ∧ momAccOfName "py" = accOfName "y" ∧
    momAccOfName "pt" = accOfName "rho" ∧ momAccOfName "pt2" = accOfName "rho2" ∧
    momAccOfName "pz" = accOfName "z" ∧ momAccOfName "pseudorapidity" = accOfName "eta" ∧
    momAccOfName "p" = accOfName "mag" ∧ momAccOfName "p2" = accOfName "mag2" ∧
    momAccOfName "E" = accOfName "t" ∧ momAccOfName "e" = accOfName "t" ∧ momAccOfName "energy" = accOfName "t" ∧
    momAccOfName "E2" = accOfName "t2" ∧ momAccOfName "e2" = accOfName "t2" ∧ momAccOfName "energy2" = accOfName "t2" ∧
    momAccOfName "M" = accOfName "tau" ∧ momAccOfName "m" = accOfName "tau" ∧ momAccOfName "mass" = accOfName "tau" ∧
    momAccOfName "M2" = accOfName "tau2" ∧ momAccOfName "m2" = accOfName "tau2" ∧
    momAccOfName "mass2" = accOfName "tau2" ∧
    momAccOfName "et" = accOfName "Et" ∧ momAccOfName "transverse_energy" = accOfName "Et" ∧
    momAccOfName "et2" = accOfName "Et2" ∧ momAccOfName "transverse_energy2" = accOfName "Et2" ∧
    momAccOfName "mt" = accOfName "Mt" ∧ momAccOfName "transverse_mass" = accOfName "Mt" ∧
    momAccOfName "mt2" = accOfName "Mt2" ∧ momAccOfName "transverse_mass2" = accOfName "Mt2" := by
  decide +kernel

theorem c14_acc_synonyms_table :
    ∀ p ∈ synonyms, (accOfName p.2).isSome ∧ momAccOfName p.1 = accOfName p.2 := by decide +kernel

/-- `synonyms` lists ALL momentum spellings: a name that `momAccOfName` resolves is in the table -/
theorem c14_acc_synonyms_complete (n : String) (a : Acc) (h : momAccOfName n = some a) :
    (n, genericName a) ∈ synonyms := by
  unfold momAccOfName at h
  split at h <;> first | (cases h; decide +kernel) | cases h

theorem c14_accOfName_genericName (a : Acc) : accOfName (genericName a) = some a := by
  cases a <;> decide +kernel

theorem c14_mom_has_generic (n : String) (a : Acc) (h : momAccOfName n = some a) :
    ∃ g, accOfName g = some a ∧ (n, g) ∈ synonyms :=
  ⟨genericName a, c14_accOfName_genericName a, c14_acc_synonyms_complete n a h⟩

private theorem synonyms_not_generic : ∀ p ∈ synonyms, accOfName p.1 = none := by decide +kernel

private theorem toTable_not_generic : ∀ e ∈ toTable, accOfName e.1 = none := by decide +kernel

/-- `call` tries `momAccOfName`, then `toTable`, then `accOfName`: a generic accessor name is caught by neither of the first two -/
theorem c14_generic_not_mom (g : String) (a : Acc) (h : accOfName g = some a) :
    momAccOfName g = none ∧ toTable.find? (·.1 == g) = none := by
  constructor
  · cases hm : momAccOfName g with
    | none => rfl
    | some b =>
      have := synonyms_not_generic _ (c14_acc_synonyms_complete g b hm)
      rw [h] at this
      cases this
  · cases hf : toTable.find? (·.1 == g) with
    | none => rfl
    | some e =>
      have := toTable_not_generic e (List.mem_of_find?_eq_some hf)
      rw [show e.1 = g by simpa using List.find?_some hf, h] at this
      cases this

/-! ### 2. reading through a momentum spelling -/

section
variable {S B : Type}

theorem c14_call_mom (ev : Ev S B) (K : Consts S) (A : Arith S) (n : String) (a : Acc) (v : Vec S)
    (args : List (Arg S)) (hn : momAccOfName n = some a) (hm : v.ty.mom = true) :
    call ev K A n v args =
      if v.ty.dim < a.need then .error .attributeError else if !args.isEmpty then .error .typeError
      else getAcc ev a v := by
  unfold call
  simp only [hn, hm]
  simp

/-- a momentum spelling does not exist on a geometric (non-momentum) vector -/
theorem c14_call_mom_on_geometric (ev : Ev S B) (K : Consts S) (A : Arith S) (n : String) (a : Acc) (v : Vec S)
    (args : List (Arg S)) (hn : momAccOfName n = some a) (hm : v.ty.mom = false) :
    call ev K A n v args = .error .attributeError := by
  unfold call
  simp only [hn, hm]
  simp

theorem c14_call_generic (ev : Ev S B) (K : Consts S) (A : Arith S) (g : String) (a : Acc) (v : Vec S)
    (args : List (Arg S)) (hg : accOfName g = some a) :
    call ev K A g v args =
      if args.isEmpty then getAcc ev a v
      else if v.ty.dim < a.need || (a.momOnly && !v.ty.mom) then .error .attributeError else .error .typeError := by
  obtain ⟨h1, h2⟩ := c14_generic_not_mom g a hg
  unfold call
  simp only [h1, h2, hg]

/-- **synonymy of the accessors**: on a momentum vector a momentum spelling and a generic name of the same accessor are
the same call — same value, same error, for any argument list and any dimension -/
theorem c14_call_synonym (ev : Ev S B) (K : Consts S) (A : Arith S) (n g : String) (a : Acc) (v : Vec S)
    (args : List (Arg S)) (hn : momAccOfName n = some a) (hg : accOfName g = some a) (hm : v.ty.mom = true) :
    call ev K A n v args = call ev K A g v args := by
  rw [c14_call_mom ev K A n a v args hn hm, c14_call_generic ev K A g a v args hg]
  by_cases hd : v.ty.dim < a.need
  · cases args <;> simp [hd, getAcc]
  · cases args <;> simp [hd, hm]

theorem c14_call_synonym_getAcc (ev : Ev S B) (K : Consts S) (A : Arith S) (n g : String) (a : Acc) (v : Vec S)
    (hn : momAccOfName n = some a) (hg : accOfName g = some a) (hm : v.ty.mom = true) (hd : a.need ≤ v.ty.dim) :
    call ev K A n v [] = getAcc ev a v ∧ call ev K A g v [] = getAcc ev a v := by
  rw [c14_call_mom ev K A n a v [] hn hm, c14_call_generic ev K A g a v [] hg]
  have : ¬ v.ty.dim < a.need := by omega
  simp [this]

theorem c14_call_synonyms_table (ev : Ev S B) (K : Consts S) (A : Arith S) (v : Vec S) (args : List (Arg S))
    (hm : v.ty.mom = true) : ∀ p ∈ synonyms, call ev K A p.1 v args = call ev K A p.2 v args := by
  intro p hp
  obtain ⟨h1, h2⟩ := c14_acc_synonyms_table p hp
  obtain ⟨a, ha⟩ := Option.isSome_iff_exists.mp h1
  exact c14_call_synonym ev K A p.1 p.2 a v args (h2.trans ha) ha hm

/-- e.g. `v.px = v.x`, `v.pt = v.rho`, `v.E = v.t`, `v.mass = v.tau` -/
theorem c14_call_examples (ev : Ev S B) (K : Consts S) (A : Arith S) (v : Vec S) (hm : v.ty.mom = true) :
    call ev K A "px" v [] = call ev K A "x" v [] ∧ call ev K A "py" v [] = call ev K A "y" v [] ∧
    call ev K A "pt" v [] = call ev K A "rho" v [] ∧ call ev K A "pz" v [] = call ev K A "z" v [] ∧
    call ev K A "E" v [] = call ev K A "t" v [] ∧ call ev K A "energy" v [] = call ev K A "t" v [] ∧
    call ev K A "M" v [] = call ev K A "tau" v [] ∧ call ev K A "mass" v [] = call ev K A "tau" v [] ∧
    call ev K A "transverse_energy" v [] = call ev K A "Et" v [] := by
  have h := c14_call_synonyms_table ev K A v [] hm
  exact ⟨h ("px", "x") (by decide +kernel), h ("py", "y") (by decide +kernel), h ("pt", "rho") (by decide +kernel),
    h ("pz", "z") (by decide +kernel), h ("E", "t") (by decide +kernel), h ("energy", "t") (by decide +kernel),
    h ("M", "tau") (by decide +kernel), h ("mass", "tau") (by decide +kernel),
    h ("transverse_energy", "Et") (by decide +kernel)⟩

/-! ### 3. assigning through a momentum spelling -/

theorem c14_setter_synonyms :
    setterOfName true "px" = setterOfName true "x" ∧ setterOfName true "py" = setterOfName true "y" ∧
    setterOfName true "pt" = setterOfName true "rho" ∧ setterOfName true "pz" = setterOfName true "z" ∧
    setterOfName true "E" = setterOfName true "t" ∧ setterOfName true "e" = setterOfName true "t" ∧
    setterOfName true "energy" = setterOfName true "t" ∧ setterOfName true "M" = setterOfName true "tau" ∧
    setterOfName true "m" = setterOfName true "tau" ∧ setterOfName true "mass" = setterOfName true "tau" := by
  decide +kernel

theorem c14_setter_synonyms_table :
    ∀ p ∈ setterSynonyms, (setterOfName true p.2).isSome ∧ setterOfName true p.1 = setterOfName true p.2 ∧
      setterOfName false p.1 = none := by decide +kernel

theorem c14_setter_synonyms_sub : ∀ p ∈ setterSynonyms, p ∈ synonyms := by decide +kernel

/-- `isReadOnlyProp` only looks at the dimension and the flavor of the type -/
private def roByDim (d : Nat) (mom : Bool) (name : String) : Bool :=
  let hasAcc (a : Acc) : Bool := d ≥ a.need && (!a.momOnly || mom)
  (match accOfName name with | some a => hasAcc a | none => false)
  || (mom && (match momAccOfName name with | some a => hasAcc a | none => false))
  || name == "neg2D" || (name == "neg3D" && d ≥ 3) || (name == "neg4D" && d ≥ 4)

private theorem isReadOnlyProp_eq (ty : VT) (name : String) : isReadOnlyProp ty name = roByDim ty.dim ty.mom name := rfl

private theorem roByDim_syn : ∀ d ∈ [2, 3, 4], ∀ p ∈ setterSynonyms, roByDim d true p.1 = roByDim d true p.2 := by
  decide +kernel

private theorem dim_mem (ty : VT) : ty.dim ∈ [2, 3, 4] := by
  rcases ty.dim_cases with h | h | h <;> simp [h]

/-- assignment through a momentum spelling is the same step as assignment through the generic name, on every momentum
type (whatever its dimension) -/
theorem c14_stepOfSet_synonym (ty : VT) (hm : ty.mom = true) (a : S) :
    ∀ p ∈ setterSynonyms, stepOfSet ty p.1 a = stepOfSet ty p.2 a := by
  intro p hp
  obtain ⟨h1, h2, h3⟩ := c14_setter_synonyms_table p hp
  unfold stepOfSet
  rw [hm, h2, isReadOnlyProp_eq, isReadOnlyProp_eq, hm, roByDim_syn _ (dim_mem ty) p hp]

theorem c14_stepOfSet_examples (ty : VT) (hm : ty.mom = true) (a : S) :
    stepOfSet ty "px" a = stepOfSet ty "x" a ∧ stepOfSet ty "py" a = stepOfSet ty "y" a ∧
    stepOfSet ty "pt" a = stepOfSet ty "rho" a ∧ stepOfSet ty "pz" a = stepOfSet ty "z" a ∧
    stepOfSet ty "E" a = stepOfSet ty "t" a ∧ stepOfSet ty "e" a = stepOfSet ty "t" a ∧
    stepOfSet ty "energy" a = stepOfSet ty "t" a ∧ stepOfSet ty "M" a = stepOfSet ty "tau" a ∧
    stepOfSet ty "m" a = stepOfSet ty "tau" a ∧ stepOfSet ty "mass" a = stepOfSet ty "tau" a := by
  have h := c14_stepOfSet_synonym ty hm a
  exact ⟨h ("px", "x") (by decide +kernel), h ("py", "y") (by decide +kernel), h ("pt", "rho") (by decide +kernel),
    h ("pz", "z") (by decide +kernel), h ("E", "t") (by decide +kernel), h ("e", "t") (by decide +kernel),
    h ("energy", "t") (by decide +kernel), h ("M", "tau") (by decide +kernel), h ("m", "tau") (by decide +kernel),
    h ("mass", "tau") (by decide +kernel)⟩

end

/-! ### 4. the flavor never changes a number -/

section
variable {S B : Type}

def setMom (b : Bool) (v : Vec S) : Vec S := { v with ty := { v.ty with mom := b } }

def Res.unmom : Res S B → Res S B
  | .vec v => .vec (setMom false v)
  | r => r

@[simp] theorem c14_setMom_c (b : Bool) (v : Vec S) : (setMom b v).c = v.c := rfl
@[simp] theorem c14_setMom_be (b : Bool) (v : Vec S) : (setMom b v).ty.be = v.ty.be := rfl
@[simp] theorem c14_setMom_az (b : Bool) (v : Vec S) : (setMom b v).ty.az = v.ty.az := rfl
@[simp] theorem c14_setMom_lon (b : Bool) (v : Vec S) : (setMom b v).ty.lon = v.ty.lon := rfl
@[simp] theorem c14_setMom_tmp (b : Bool) (v : Vec S) : (setMom b v).ty.tmp = v.ty.tmp := rfl
@[simp] theorem c14_setMom_mom (b : Bool) (v : Vec S) : (setMom b v).ty.mom = b := rfl
@[simp] theorem c14_setMom_dim (b : Bool) (v : Vec S) : (setMom b v).ty.dim = v.ty.dim := rfl
@[simp] theorem c14_setMom_setMom (b b' : Bool) (v : Vec S) : setMom b (setMom b' v) = setMom b v := rfl
theorem c14_setMom_self (v : Vec S) : setMom v.ty.mom v = v := rfl

theorem c14_setMom_false_eq_iff (v w : Vec S) :
    setMom false v = setMom false w ↔
      v.c = w.c ∧ v.ty.be = w.ty.be ∧ v.ty.az = w.ty.az ∧ v.ty.lon = w.ty.lon ∧ v.ty.tmp = w.ty.tmp := by
  obtain ⟨⟨be, mom, az, lon, tmp⟩, c⟩ := v
  obtain ⟨⟨be', mom', az', lon', tmp'⟩, c'⟩ := w
  simp [setMom]
  constructor <;> (intro h; simp [h])

private theorem operandKey_setMom (b : Bool) (v : Vec S) (n : Nat) : operandKey (setMom b v) n = operandKey v n := rfl

/-- the handler is chosen by backend priority only -/
theorem c14_handlerOf_setMom (b : Bool) (vs : List (Vec S)) :
    handlerOf (vs.map (setMom b)) = (handlerOf vs).map (setMom b) :=
  handlerOf_map (setMom b) (fun _ => rfl) vs

private theorem wrapVec_self_setMom (b : Bool) (h : Vec S) (be : Backend) (mom : Bool) (raw : List S) (parts : List RP) :
    wrapVec (setMom b h) be mom raw parts = wrapVec h be mom raw parts := rfl

private theorem wrapVec_unmom (h : Vec S) (be : Backend) (mom mom' : Bool) (raw : List S) (parts : List RP) :
    (wrapVec h be mom raw parts).map (setMom false) = (wrapVec h be mom' raw parts).map (setMom false) := by
  unfold wrapVec
  split <;> (try split) <;> rfl

private theorem map_vec_unmom (e : Except Err (Vec S)) :
    (e.map (Res.vec (B := B))).map Res.unmom = (e.map (setMom false)).map Res.vec := by
  cases e <;> rfl

/-- `_wrap_result`: the flavor of the handler and the flavor given to the result influence only the `mom` flag of a
vector result -/
theorem c14_wrapResult_flavor (b : Bool) (h : Vec S) (be : Backend) (mom mom' : Bool) (out : Out S B) (ret : Ret) :
    (wrapResult (setMom b h) be mom out ret).map Res.unmom = (wrapResult h be mom' out ret).map Res.unmom := by
  unfold wrapResult
  split
  · rfl
  · rfl
  · rename_i parts raw
    rw [wrapVec_self_setMom, map_vec_unmom, map_vec_unmom, wrapVec_unmom h be mom mom']
  · rfl

theorem c14_dispatch_forget (ev : Ev S B) (m : ModuleId) (sc : List S) (ord : Option Ord) (ops counted : List (Vec S)) :
    (dispatch ev m sc ord (ops.map (setMom false)) (counted.map (setMom false))).map Res.unmom =
      (dispatch ev m sc ord ops counted).map Res.unmom := by
  have := dispatch_natural (ev := ev) (ev' := ev) (setMom false) id id Res.unmom Res.unmom m sc ord ops counted
    (fun v n => by cases h : operandKey v n <;> simp [operandKey_setMom, h])
    (fun k a => by cases h : ev m k a <;> simp [h]) fun out ret => by
      rw [c14_handlerOf_setMom]
      cases handlerOf counted with
      | none => rfl
      | some h => exact (c14_wrapResult_flavor false h h.ty.be _ _ out ret).symm
  simpa using this.symm

/-- **the flavor never changes a number**: two `dispatch` calls whose operands differ only in their `mom` flags have the
same outcome — the same error, the same scalar, the same truth value, or vectors that differ at most in `ty.mom` -/
theorem c14_dispatch_flavor (ev : Ev S B) (m : ModuleId) (sc : List S) (ord : Option Ord)
    (ops ops' counted counted' : List (Vec S)) (hops : ops.map (setMom false) = ops'.map (setMom false))
    (hc : counted.map (setMom false) = counted'.map (setMom false)) :
    (dispatch ev m sc ord ops counted).map Res.unmom = (dispatch ev m sc ord ops' counted').map Res.unmom := by
  rw [← c14_dispatch_forget ev m sc ord ops counted, ← c14_dispatch_forget ev m sc ord ops' counted', hops, hc]

/-- re-labelling the operands one by one (`flags`) satisfies the hypothesis of `c14_dispatch_flavor` -/
theorem c14_zipWith_setMom (flags : List Bool) (vs : List (Vec S)) (h : vs.length ≤ flags.length) :
    (List.zipWith setMom flags vs).map (setMom false) = vs.map (setMom false) := by
  induction vs generalizing flags with
  | nil => cases flags <;> rfl
  | cons v vs ih =>
    cases flags with
    | nil => simp at h
    | cons b flags =>
      simp only [List.zipWith_cons_cons, List.map_cons, c14_setMom_setMom]
      rw [ih flags (by simpa using h)]

theorem c14_unmom_eq {x y : Except Err (Res S B)} (h : x.map Res.unmom = y.map Res.unmom) :
    (∀ e, x = .error e → y = .error e) ∧ (∀ s, x = .ok (.scalar s) → y = .ok (.scalar s)) ∧
    (∀ b, x = .ok (.truth b) → y = .ok (.truth b)) ∧
    ∀ r, x = .ok (.vec r) → ∃ r', y = .ok (.vec r') ∧ setMom false r' = setMom false r := by
  rcases x with e | s | b | r <;> rcases y with e' | s' | b' | r' <;>
    simp only [Except.map, Res.unmom, Except.ok.injEq, Except.error.injEq, Res.scalar.injEq, Res.truth.injEq,
      Res.vec.injEq, reduceCtorEq] at h <;>
    simp [h]

theorem c14_dispatch_flavor_scalar (ev : Ev S B) (m : ModuleId) (sc : List S) (ord : Option Ord)
    (ops ops' counted counted' : List (Vec S)) (hops : ops.map (setMom false) = ops'.map (setMom false))
    (hc : counted.map (setMom false) = counted'.map (setMom false)) (s : S)
    (h : dispatch ev m sc ord ops counted = .ok (.scalar s)) : dispatch ev m sc ord ops' counted' = .ok (.scalar s) :=
  (c14_unmom_eq (c14_dispatch_flavor ev m sc ord ops ops' counted counted' hops hc)).2.1 s h

theorem c14_dispatch_flavor_truth (ev : Ev S B) (m : ModuleId) (sc : List S) (ord : Option Ord)
    (ops ops' counted counted' : List (Vec S)) (hops : ops.map (setMom false) = ops'.map (setMom false))
    (hc : counted.map (setMom false) = counted'.map (setMom false)) (b : B)
    (h : dispatch ev m sc ord ops counted = .ok (.truth b)) : dispatch ev m sc ord ops' counted' = .ok (.truth b) :=
  (c14_unmom_eq (c14_dispatch_flavor ev m sc ord ops ops' counted counted' hops hc)).2.2.1 b h

theorem c14_dispatch_flavor_error (ev : Ev S B) (m : ModuleId) (sc : List S) (ord : Option Ord)
    (ops ops' counted counted' : List (Vec S)) (hops : ops.map (setMom false) = ops'.map (setMom false))
    (hc : counted.map (setMom false) = counted'.map (setMom false)) (e : Err)
    (h : dispatch ev m sc ord ops counted = .error e) : dispatch ev m sc ord ops' counted' = .error e :=
  (c14_unmom_eq (c14_dispatch_flavor ev m sc ord ops ops' counted counted' hops hc)).1 e h

theorem c14_dispatch_flavor_vec (ev : Ev S B) (m : ModuleId) (sc : List S) (ord : Option Ord)
    (ops ops' counted counted' : List (Vec S)) (hops : ops.map (setMom false) = ops'.map (setMom false))
    (hc : counted.map (setMom false) = counted'.map (setMom false)) (r : Vec S)
    (h : dispatch ev m sc ord ops counted = .ok (.vec r)) :
    ∃ r', dispatch ev m sc ord ops' counted' = .ok (.vec r') ∧ r'.c = r.c ∧ r'.ty.be = r.ty.be ∧ r'.ty.az = r.ty.az ∧
      r'.ty.lon = r.ty.lon ∧ r'.ty.tmp = r.ty.tmp := by
  obtain ⟨r', h', e⟩ := (c14_unmom_eq (c14_dispatch_flavor ev m sc ord ops ops' counted counted' hops hc)).2.2.2 r h
  exact ⟨r', h', (c14_setMom_false_eq_iff r' r).mp e⟩

/-- the flavor of a vector result: momentum iff some counted operand is momentum -/
theorem c14_dispatch_result_mom (ev : Ev S B) (m : ModuleId) (sc : List S) (ord : Option Ord)
    (ops counted : List (Vec S)) (r : Vec S) (h : dispatch ev m sc ord ops counted = .ok (.vec r)) :
    r.ty.mom = counted.any (·.ty.mom) := by
  obtain ⟨-, -, -, out, ret, hd, -, -, -, hw⟩ := (dispatch_ok_iff ..).mp h
  obtain ⟨raw, parts, -, -, hv⟩ := wrapResult_ok_vec _ _ _ _ _ _ hw
  exact (wrapTy_be_mom (wrapVec_ty hv)).2

/-- e.g. a binary operation on `(v, w)` and on `(setMom b₁ v, setMom b₂ w)` -/
example (ev : Ev S B) (m : ModuleId) (v w : Vec S) (b₁ b₂ : Bool) :
    (dispatch ev m [] none [setMom b₁ v, setMom b₂ w] [setMom b₁ v, setMom b₂ w]).map Res.unmom =
      (dispatch ev m [] none [v, w] [v, w]).map Res.unmom :=
  c14_dispatch_flavor ev m [] none _ _ _ _ rfl rfl

theorem c14_getAcc_flavor (ev : Ev S B) (a : Acc) (ha : a.momOnly = false) (b : Bool) (v : Vec S) :
    (getAcc ev a (setMom b v)).map Res.unmom = (getAcc ev a v).map Res.unmom := by
  unfold getAcc
  simp only [ha, c14_setMom_dim, Bool.false_and, Bool.or_false]
  by_cases hd : v.ty.dim < a.need
  · simp [hd]
  · simp only [hd, decide_false, Bool.false_eq_true, if_false]
    exact c14_dispatch_flavor ev a.mod [] none [setMom b v] [v] [setMom b v] [v] rfl rfl

theorem c14_scaleN_flavor (ev : Ev S B) (n : Nat) (f : S) (b : Bool) (v : Vec S) :
    (scaleN ev n f (setMom b v)).map Res.unmom = (scaleN ev n f v).map Res.unmom := by
  unfold scaleN
  simp only [c14_setMom_dim]
  by_cases hd : v.ty.dim < n
  · simp [hd]
  · simp only [hd, if_false]
    exact c14_dispatch_flavor ev (scaleMod n) [f] none [setMom b v] [v] [setMom b v] [v] rfl rfl

/-! the hypotheses are satisfiable -/

example : momAccOfName "pt" = some .rho ∧ accOfName "rho" = some .rho := ⟨rfl, rfl⟩
example (ev : Ev S B) (K : Consts S) (A : Arith S) (a b c d : S) :
    call ev K A "mass" ⟨⟨.obj, true, .xy, some .z, some .t⟩, [a, b, c, d]⟩ [] =
      call ev K A "tau" ⟨⟨.obj, true, .xy, some .z, some .t⟩, [a, b, c, d]⟩ [] :=
  c14_call_synonym ev K A "mass" "tau" .tau _ [] rfl rfl rfl
example (a : S) : stepOfSet ⟨.obj, true, .rhophi, some .eta, none⟩ "pt" a = Step.set .rho a := rfl
example (a b : S) : setMom false (⟨⟨.obj, true, .xy, none, none⟩, [a, b]⟩ : Vec S) = ⟨⟨.obj, false, .xy, none, none⟩, [a, b]⟩ :=
  rfl

end

end VG
