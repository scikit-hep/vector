/-
C04 — "Coordinate conversions and dimension changes lose nothing" (glue part).

Theorems about the hand-written glue model (`VectorModel/Glue/Methods.lean`): `toDim` (`to_Vector2D/3D/4D`, `to_2D/3D/4D`,
`like`), `toSystem` (`to_xy`, `to_rhophiztau`, …), the table `toTable` of the 40 `to_<system>` conversions, and the public
methods as `call` finds them by name: each is `toSystem` or `toDimS` at the target of its name (`c04_call_to`, `c04_call_toDim`).
All statements hold for every scalar type `S`, truth type `B` and compute layer `ev`; the only facts about the compute
layer that are needed (the nine identity accessors) are the explicit hypothesis `IdLaws ev` (shared with
`Props/C15.lean`, as are `WF` / `WFV`), which is proved for the generated executable copy (`c15_idLaws_exec`).
-/
import VectorModel.Props.C15Exec

namespace VG
open VK

section
variable {S B : Type}

/-! ### 1. `toDim`: same dimension and projections -/

theorem c04_toDim_same (z : S) (v : Vec S) : toDim z v.ty.dim v [] [] 0 = .ok v := by
  simp [toDim]

/-- `like` / `to_ND` with the own dimension: also as an equation in `d` -/
theorem c04_toDim_same' (z : S) (v : Vec S) (d : Nat) (hd : d = v.ty.dim) : toDim z d v [] [] 0 = .ok v := by
  subst hd; exact c04_toDim_same z v

/-- projection to fewer dimensions: the type keeps `be`, `mom`, the stored systems of the retained groups, the dropped
groups become `none`; the coordinates are the first `target` stored coordinates, bit for bit -/
theorem c04_toDim_project (z : S) (v : Vec S) (hv : WFV v) (target : Nat) (h2 : 2 ≤ target) (hlt : target < v.ty.dim) :
    toDim z target v [] [] 0 =
      .ok ⟨{ v.ty with lon := if target < 3 then none else v.ty.lon, tmp := none }, v.c.take target⟩ := by
  rcases c15_wfv_cases hv with ⟨be, mom, az, a, b, rfl⟩ | ⟨be, mom, az, l, a, b, c, rfl⟩ |
      ⟨be, mom, az, l, tm, a, b, c, d, rfl⟩
  · exact absurd hlt (Nat.not_lt.2 h2)
  · obtain rfl : target = 2 := Nat.le_antisymm (Nat.le_of_lt_succ hlt) h2
    rfl
  · obtain rfl | rfl : target = 2 ∨ target = 3 := by have : target < 4 := hlt; omega
    · rfl
    · rfl

/-! ### 2. `toDim`: embeddings into more dimensions -/

/-- 2D → 3D: both stored coordinates retained, the third coordinate is the keyword's value in the keyword's coordinate
type, or `zeroF` as a `z` -/
theorem c04_toDim_2_to_3 (z : S) (v : Vec S) (hv : WFV v) (hd : v.ty.dim = 2) (lk : Option (Lon × S)) :
    toDim z 3 v lk.toList [] 0 =
      .ok ⟨{ v.ty with lon := some ((lk.map (·.1)).getD .z), tmp := none }, v.c ++ [(lk.map (·.2)).getD z]⟩ := by
  rcases c15_wfv_cases hv with ⟨be, mom, az, a, b, rfl⟩ | ⟨be, mom, az, l, a, b, c, rfl⟩ |
      ⟨be, mom, az, l, tm, a, b, c, d, rfl⟩
  · cases lk <;> rfl
  · cases hd
  · cases hd

/-- 2D → 4D: both stored coordinates retained; longitudinal and temporal coordinates from the keywords (in the
keywords' coordinate types) or `zeroF` as `z` resp. `t` -/
theorem c04_toDim_2_to_4 (z : S) (v : Vec S) (hv : WFV v) (hd : v.ty.dim = 2) (lk : Option (Lon × S))
    (tk : Option (Tmp × S)) :
    toDim z 4 v lk.toList tk.toList 0 =
      .ok ⟨{ v.ty with lon := some ((lk.map (·.1)).getD .z), tmp := some ((tk.map (·.1)).getD .t) },
           v.c ++ [(lk.map (·.2)).getD z] ++ [(tk.map (·.2)).getD z]⟩ := by
  rcases c15_wfv_cases hv with ⟨be, mom, az, a, b, rfl⟩ | ⟨be, mom, az, l, a, b, c, rfl⟩ |
      ⟨be, mom, az, l, tm, a, b, c, d, rfl⟩
  · cases lk <;> cases tk <;> rfl
  · cases hd
  · cases hd

/-- 3D → 4D: the three stored coordinates and the longitudinal system retained; the temporal coordinate is the keyword's
value in the keyword's type, or `zeroF` as a `t` -/
theorem c04_toDim_3_to_4 (z : S) (v : Vec S) (hv : WFV v) (hd : v.ty.dim = 3) (tk : Option (Tmp × S)) :
    toDim z 4 v [] tk.toList 0 =
      .ok ⟨{ v.ty with tmp := some ((tk.map (·.1)).getD .t) }, v.c ++ [(tk.map (·.2)).getD z]⟩ := by
  rcases c15_wfv_cases hv with ⟨be, mom, az, a, b, rfl⟩ | ⟨be, mom, az, l, a, b, c, rfl⟩ |
      ⟨be, mom, az, l, tm, a, b, c, d, rfl⟩
  · cases hd
  · cases tk <;> rfl
  · cases hd

theorem c04_toDim_ok (z : S) (v r : Vec S) (target : Nat) (lonKw : List (Lon × S)) (tmpKw : List (Tmp × S)) (o : Nat)
    (h : toDim z target v lonKw tmpKw o = .ok r) :
    r = v ∧ target = v.ty.dim ∨
    ∃ (l : Lon) (tm : Tmp) (a b : S), r =
      ⟨{ v.ty with lon := if target < 3 then none else some (v.ty.lon.getD l),
                   tmp := if target < 4 then none else some (v.ty.tmp.getD tm) },
       v.azEl ++ (if target < 3 then [] else if v.ty.lon.isSome then v.lonEl else [a]) ++
         (if target < 4 then [] else if v.ty.tmp.isSome then v.tmpEl else [b])⟩ :=
  toDim_ok z v r target lonKw tmpKw o h

/-- every successful dimension change keeps backend, flavor and azimuthal system and has the requested dimension -/
theorem c04_toDim_ty (z : S) (v r : Vec S) (target : Nat) (h2 : 2 ≤ target) (h4 : target ≤ 4) (lonKw : List (Lon × S))
    (tmpKw : List (Tmp × S)) (o : Nat) (h : toDim z target v lonKw tmpKw o = .ok r) :
    r.ty.be = v.ty.be ∧ r.ty.mom = v.ty.mom ∧ r.ty.az = v.ty.az ∧ r.ty.dim = target :=
  toDim_ty z v r target (by omega) lonKw tmpKw o h

/-- every successful dimension change keeps the coordinates of the groups present on both sides, bit for bit, and their
coordinate systems: all stored coordinates for an embedding, the first `target` ones for a projection -/
theorem c04_toDim_retained (z : S) (v r : Vec S) (hv : WFV v) (target : Nat) (h2 : 2 ≤ target) (h4 : target ≤ 4)
    (lonKw : List (Lon × S)) (tmpKw : List (Tmp × S)) (o : Nat) (h : toDim z target v lonKw tmpKw o = .ok r) :
    r.c.take (min target v.ty.dim) = v.c.take (min target v.ty.dim) ∧
    (3 ≤ target → v.ty.lon.isSome → r.ty.lon = v.ty.lon) ∧ (4 ≤ target → v.ty.tmp.isSome → r.ty.tmp = v.ty.tmp) := by
  obtain ⟨rfl, rfl⟩ | ⟨l, tm, a, b, rfl⟩ := c04_toDim_ok z v r target lonKw tmpKw o h
  · exact ⟨rfl, fun _ _ => rfl, fun _ _ => rfl⟩
  · refine ⟨?_, fun h3 hl => ?_, fun h4' ht => ?_⟩
    · obtain rfl | rfl | rfl : target = 2 ∨ target = 3 ∨ target = 4 := by omega
      all_goals
        rcases c15_wfv_cases hv with ⟨be, mom, az, a, b, rfl⟩ | ⟨be, mom, az, l, a, b, c, rfl⟩ |
          ⟨be, mom, az, l, tm, a, b, c, d, rfl⟩ <;> rfl
    · obtain ⟨l, hl⟩ := Option.isSome_iff_exists.1 hl
      simp only [hl, if_neg (Nat.not_lt.2 h3), Option.getD_some]
    · obtain ⟨tm, ht⟩ := Option.isSome_iff_exists.1 ht
      simp only [ht, if_neg (Nat.not_lt.2 h4'), Option.getD_some]

/-- an embedding retains ALL stored coordinates as a prefix of the result -/
theorem c04_toDim_embed_prefix (z : S) (v r : Vec S) (hv : WFV v) (target : Nat) (hd : v.ty.dim ≤ target) (h4 : target ≤ 4)
    (lonKw : List (Lon × S)) (tmpKw : List (Tmp × S)) (o : Nat) (h : toDim z target v lonKw tmpKw o = .ok r) :
    r.c.take v.ty.dim = v.c := by
  have h2 : 2 ≤ target := by have := v.ty.dim_cases; omega
  have := (c04_toDim_retained z v r hv target h2 h4 lonKw tmpKw o h).1
  rw [Nat.min_eq_right hd] at this
  rw [this, ← hv.2, List.take_length]

/-! #### rejected keyword combinations -/

/-- what `toDim` rejects: an unknown keyword; a longitudinal (temporal) keyword where no longitudinal (temporal)
coordinate is imputed; two keywords of one group -/
theorem c04_toDim_typeError (z : S) (target : Nat) (v : Vec S) (lonKw : List (Lon × S)) (tmpKw : List (Tmp × S))
    (o : Nat)
    (h : 0 < o ∨ (lonKw ≠ [] ∧ (v.ty.dim ≠ 2 ∨ target < 3)) ∨ (tmpKw ≠ [] ∧ (3 < v.ty.dim ∨ target ≠ 4)) ∨
      1 < lonKw.length ∨ 1 < tmpKw.length) :
    toDim z target v lonKw tmpKw o = .error .typeError := by
  unfold toDim
  dsimp only
  rcases h with h | ⟨h, h'⟩ | ⟨h, h'⟩ | h | h
  · rw [if_pos (by simp [h])]
  · rw [if_pos (by simp [h, h'])]
  · rw [if_pos (by simp [h, h'])]
  · split
    · rfl
    · rw [if_pos (by simp [h])]
  · split
    · rfl
    · rw [if_pos (by simp [h])]

theorem c04_toDim_unknown_kw (z : S) (v : Vec S) (target : Nat) (lonKw : List (Lon × S)) (tmpKw : List (Tmp × S))
    (o : Nat) (ho : 0 < o) : toDim z target v lonKw tmpKw o = .error .typeError :=
  c04_toDim_typeError z target v lonKw tmpKw o (.inl ho)

theorem c04_toDim_two_lon_kw (z : S) (v : Vec S) (target : Nat) (k1 k2 : Lon × S) (lonKw : List (Lon × S))
    (tmpKw : List (Tmp × S)) (o : Nat) : toDim z target v (k1 :: k2 :: lonKw) tmpKw o = .error .typeError :=
  c04_toDim_typeError z target v _ tmpKw o (.inr (.inr (.inr (.inl (Nat.le_add_left 2 _)))))

theorem c04_toDim_two_tmp_kw (z : S) (v : Vec S) (target : Nat) (k1 k2 : Tmp × S) (lonKw : List (Lon × S))
    (tmpKw : List (Tmp × S)) (o : Nat) : toDim z target v lonKw (k1 :: k2 :: tmpKw) o = .error .typeError :=
  c04_toDim_typeError z target v lonKw _ o (.inr (.inr (.inr (.inr (Nat.le_add_left 2 _)))))

theorem c04_toDim_lon_kw_present (z : S) (v : Vec S) (target : Nat) (hl : v.ty.lon.isSome) (k : Lon × S)
    (lonKw : List (Lon × S)) (tmpKw : List (Tmp × S)) (o : Nat) :
    toDim z target v (k :: lonKw) tmpKw o = .error .typeError :=
  c04_toDim_typeError z target v _ tmpKw o
    (.inr (.inl ⟨List.cons_ne_nil _ _, .inl (by unfold VT.dim; rw [hl, if_pos rfl]; omega)⟩))

theorem c04_toDim_tmp_kw_present (z : S) (v : Vec S) (hw : WF v.ty) (target : Nat) (ht : v.ty.tmp.isSome) (k : Tmp × S)
    (lonKw : List (Lon × S)) (tmpKw : List (Tmp × S)) (o : Nat) :
    toDim z target v lonKw (k :: tmpKw) o = .error .typeError :=
  c04_toDim_typeError z target v lonKw _ o
    (.inr (.inr (.inl ⟨List.cons_ne_nil _ _, .inl ((VT.tmp_isSome_iff hw).1 ht)⟩)))

/-- a keyword for a group that the target dimension does not have is a `TypeError` (e.g. `to_Vector3D(t=…)`) -/
theorem c04_toDim_kw_not_needed (z : S) (v : Vec S) (k : Tmp × S) (lonKw : List (Lon × S)) (tmpKw : List (Tmp × S))
    (o : Nat) (target : Nat) (ht : target ≠ 4) : toDim z target v lonKw (k :: tmpKw) o = .error .typeError :=
  c04_toDim_typeError z target v lonKw _ o (.inr (.inr (.inl ⟨List.cons_ne_nil _ _, .inr ht⟩)))

/-! ### 3. `toSystem` -/

/-- `to_<system>()` on the system the vector is already stored in returns the vector unchanged: same type, the stored
coordinates bit for bit (keywords are not consulted) -/
theorem c04_toSystem_id (ev : Ev S B) (hI : IdLaws ev) (z : S) (v : Vec S) (hv : WFV v) (kl kt : Option S) :
    toSystem ev z v v.ty.az v.ty.lon v.ty.tmp kl kt = .ok v := by
  rcases c15_wfv_cases hv with ⟨be, mom, az, a, b, rfl⟩ | ⟨be, mom, az, l, a, b, c, rfl⟩ |
      ⟨be, mom, az, l, tm, a, b, c, d, rfl⟩ <;>
    simp only [toSystem, c15_mapM_getS_az hI, c15_getS_lon hI, c15_getS_tmp hI] <;> rfl

theorem c04_toSystem_id' (ev : Ev S B) (hI : IdLaws ev) (z : S) (v : Vec S) (hv : WFV v) (az : Az) (lon : Option Lon)
    (tmp : Option Tmp) (haz : v.ty.az = az) (hlon : v.ty.lon = lon) (htmp : v.ty.tmp = tmp) (kl kt : Option S) :
    toSystem ev z v az lon tmp kl kt = .ok v := by
  subst haz hlon htmp; exact c04_toSystem_id ev hI z v hv kl kt

theorem c04_wf_coords (v : Vec S) (hv : WFV v) : v.azEl ++ v.lonEl ++ v.tmpEl = v.c := by
  rcases c15_wfv_cases hv with ⟨be, mom, az, a, b, rfl⟩ | ⟨be, mom, az, l, a, b, c, rfl⟩ |
      ⟨be, mom, az, l, tm, a, b, c, d, rfl⟩ <;> rfl

private theorem mapM_two {α : Type} (f : α → Except Err S) (a b : α) (l : List S) (h : [a, b].mapM f = .ok l) :
    ∃ x y, l = [x, y] := by
  simp only [List.mapM_cons, List.mapM_nil] at h
  cases hx : f a with
  | error e => rw [hx] at h; cases h
  | ok x =>
    cases hy : f b with
    | error e => rw [hx, hy] at h; cases h
    | ok y => rw [hx, hy] at h; cases h; exact ⟨x, y, rfl⟩

/-- imputation of the longitudinal coordinate, for ANY azimuthal target system: `to_<az><lon>(…)` on a 2D vector gives a 3D
vector of the requested type whose third coordinate is the keyword's value, or `zeroF` without keyword -/
theorem c04_toSystem_impute_lon (ev : Ev S B) (z : S) (v r : Vec S) (hd : v.ty.dim = 2) (az : Az) (l : Lon)
    (kl : Option S) (h : toSystem ev z v az (some l) none kl none = .ok r) :
    r.ty = { v.ty with az := az, lon := some l, tmp := none } ∧ r.c.length = 3 ∧ r.c[2]? = some (kl.getD z) := by
  simp only [toSystem, hd] at h
  cases hm : List.mapM (fun n : CName => getS ev n.acc v) (azCNames az) with
  | error e => rw [hm] at h; cases h
  | ok azv =>
    obtain ⟨x, y, rfl⟩ : ∃ x y, azv = [x, y] := by
      cases az <;> exact mapM_two _ _ _ _ hm
    rw [hm] at h
    cases h
    simp

/-- imputation of the temporal coordinate, for ANY target system: `to_<az><lon><tmp>(…)` on a 2D or 3D vector gives a 4D
vector of the requested type whose fourth coordinate is the temporal keyword's value, or `zeroF`; on a 2D vector the third
coordinate is the longitudinal keyword's value, or `zeroF` -/
theorem c04_toSystem_impute_tmp (ev : Ev S B) (z : S) (v r : Vec S) (hd : v.ty.dim ≤ 3) (az : Az) (l : Lon) (tm : Tmp)
    (kl kt : Option S) (h : toSystem ev z v az (some l) (some tm) kl kt = .ok r) :
    r.ty = { v.ty with az := az, lon := some l, tmp := some tm } ∧ r.c.length = 4 ∧ r.c[3]? = some (kt.getD z) ∧
      (v.ty.dim = 2 → r.c[2]? = some (kl.getD z)) := by
  have hd' : v.ty.dim = 2 ∨ v.ty.dim = 3 := by have := v.ty.dim_cases; omega
  simp only [toSystem] at h
  cases hm : List.mapM (fun n : CName => getS ev n.acc v) (azCNames az) with
  | error e => rw [hm] at h; cases h
  | ok azv =>
    obtain ⟨x, y, rfl⟩ : ∃ x y, azv = [x, y] := by
      cases az <;> exact mapM_two _ _ _ _ hm
    rw [hm] at h
    rcases hd' with hd' | hd'
    · simp only [hd'] at h
      cases h
      simp
    · simp only [hd'] at h
      cases hl : getS ev (lonCName l).acc v with
      | error e => simp [hl] at h; cases h
      | ok s =>
        simp [hl] at h
        cases h
        simp [hd']

/-- imputation on the stored system: `to_<az><lon>(kw)` on a 2D vector stored as `az` keeps both stored coordinates bit for
bit and appends the keyword's value (or `zeroF`) -/
theorem c04_toSystem_embed_2_to_3 (ev : Ev S B) (hI : IdLaws ev) (z : S) (v : Vec S) (hv : WFV v) (hd : v.ty.dim = 2)
    (l : Lon) (kl kt : Option S) :
    toSystem ev z v v.ty.az (some l) none kl kt = .ok ⟨{ v.ty with lon := some l, tmp := none }, v.c ++ [kl.getD z]⟩ := by
  rcases c15_wfv_cases hv with ⟨be, mom, az, a, b, rfl⟩ | ⟨be, mom, az, l, a, b, c, rfl⟩ |
      ⟨be, mom, az, l, tm, a, b, c, d, rfl⟩
  · simp only [toSystem, c15_mapM_getS_az hI]; rfl
  · cases hd
  · cases hd

/-- … to 4D: both keywords (or `zeroF`) appended -/
theorem c04_toSystem_embed_2_to_4 (ev : Ev S B) (hI : IdLaws ev) (z : S) (v : Vec S) (hv : WFV v) (hd : v.ty.dim = 2)
    (l : Lon) (tm : Tmp) (kl kt : Option S) :
    toSystem ev z v v.ty.az (some l) (some tm) kl kt =
      .ok ⟨{ v.ty with lon := some l, tmp := some tm }, v.c ++ [kl.getD z] ++ [kt.getD z]⟩ := by
  rcases c15_wfv_cases hv with ⟨be, mom, az, a, b, rfl⟩ | ⟨be, mom, az, l, a, b, c, rfl⟩ |
      ⟨be, mom, az, l, tm, a, b, c, d, rfl⟩
  · simp only [toSystem, c15_mapM_getS_az hI]; rfl
  · cases hd
  · cases hd

/-- 3D vector in its stored system to 4D: the three stored coordinates bit for bit, the temporal keyword (or `zeroF`)
appended -/
theorem c04_toSystem_embed_3_to_4 (ev : Ev S B) (hI : IdLaws ev) (z : S) (v : Vec S) (hv : WFV v) (hd : v.ty.dim = 3)
    (tm : Tmp) (kl kt : Option S) :
    toSystem ev z v v.ty.az v.ty.lon (some tm) kl kt = .ok ⟨{ v.ty with tmp := some tm }, v.c ++ [kt.getD z]⟩ := by
  rcases c15_wfv_cases hv with ⟨be, mom, az, a, b, rfl⟩ | ⟨be, mom, az, l, a, b, c, rfl⟩ |
      ⟨be, mom, az, l, tm, a, b, c, d, rfl⟩
  · cases hd
  · simp only [toSystem, c15_mapM_getS_az hI, c15_getS_lon hI]; rfl
  · cases hd

/-! ### 4. the table of the 40 `to_<system>` conversions -/

/-- target system of a `to_<system>` method name -/
def C04.toTarget (n : String) : Option (Az × Option Lon × Option Tmp) :=
  (toTable.find? (·.1 == n)).map fun e => (e.2.1, e.2.2.1, e.2.2.2.1)

/-- (generic name, momentum-spelled name) of the 20 coordinate systems -/
def C04.toPairs : List (String × String) :=
  [("to_xy", "to_pxpy"), ("to_rhophi", "to_ptphi"),
   ("to_xyz", "to_pxpypz"), ("to_xytheta", "to_pxpytheta"), ("to_xyeta", "to_pxpyeta"),
   ("to_rhophiz", "to_ptphipz"), ("to_rhophitheta", "to_ptphitheta"), ("to_rhophieta", "to_ptphieta"),
   ("to_xyzt", "to_pxpypzenergy"), ("to_xyztau", "to_pxpypzmass"),
   ("to_xythetat", "to_pxpythetaenergy"), ("to_xythetatau", "to_pxpythetamass"),
   ("to_xyetat", "to_pxpyetaenergy"), ("to_xyetatau", "to_pxpyetamass"),
   ("to_rhophizt", "to_ptphipzenergy"), ("to_rhophiztau", "to_ptphipzmass"),
   ("to_rhophithetat", "to_ptphithetaenergy"), ("to_rhophithetatau", "to_ptphithetamass"),
   ("to_rhophietat", "to_ptphietaenergy"), ("to_rhophietatau", "to_ptphietamass")]

/-- the 20 coordinate systems, in the order of `toPairs`: 2D, 3D, 4D -/
def C04.systems : List (Az × Option Lon × Option Tmp) :=
  (Az.all.map fun a => (a, none, none)) ++ (Az.all.flatMap fun a => Lon.all.map fun l => (a, some l, none)) ++
    Az.all.flatMap fun a => Lon.all.flatMap fun l => Tmp.all.map fun tm => (a, some l, some tm)

/-- the table, names and target systems: the i-th pair of names, each with the i-th coordinate system -/
theorem c04_toTable_eq :
    toTable.map (fun e => (e.1, e.2.1, e.2.2.1, e.2.2.2.1)) =
      (C04.toPairs.zip C04.systems).flatMap fun ps => [(ps.1.1, ps.2), (ps.1.2, ps.2)] := by
  decide +kernel

theorem c04_toTable_length : toTable.length = 40 := by decide

theorem c04_toTable_names_nodup : (toTable.map (·.1)).Nodup := by decide +kernel

theorem c04_toTable_names_eq : toTable.map (·.1) = C04.toPairs.flatMap fun p => [p.1, p.2] := by
  have h := congrArg (List.map Prod.fst) c04_toTable_eq
  rw [List.map_map, List.map_flatMap] at h
  rw [← List.map_fst_zip (l₁ := C04.toPairs) (l₂ := C04.systems) (by decide), List.flatMap_map]
  exact h

theorem c04_find?_key {β : Type} :
    ∀ {l : List (String × β)}, (l.map (·.1)).Nodup → ∀ {e}, e ∈ l → l.find? (·.1 == e.1) = some e
  | x :: l, hn, e, he => by
    rw [List.map_cons, List.nodup_cons] at hn
    rcases List.mem_cons.1 he with rfl | he
    · simp
    · have hx : x.1 ≠ e.1 := fun h => hn.1 (h ▸ List.mem_map_of_mem he)
      simp [hx, c04_find?_key hn.2 he]

/-- the table lookups: both names of the i-th pair convert to the i-th coordinate system (the names being distinct, a
name finds its own entry) -/
theorem c04_toTarget_toPairs :
    ∀ ps ∈ C04.toPairs.zip C04.systems, C04.toTarget ps.1.1 = some ps.2 ∧ C04.toTarget ps.1.2 = some ps.2 := by
  intro ps hps
  have key : ∀ n, (n, ps.2) ∈ toTable.map (fun e => (e.1, e.2.1, e.2.2.1, e.2.2.2.1)) →
      C04.toTarget n = some ps.2 := by
    intro n hn
    obtain ⟨e, he, h⟩ := List.mem_map.1 hn
    obtain ⟨rfl, h2⟩ := Prod.mk.inj h
    rw [C04.toTarget, c04_find?_key c04_toTable_names_nodup he, Option.map_some, h2]
  rw [c04_toTable_eq] at key
  exact ⟨key _ (List.mem_flatMap.2 ⟨ps, hps, .head _⟩), key _ (List.mem_flatMap.2 ⟨ps, hps, .tail _ (.head _)⟩)⟩

/-- the 40 names are exactly the 20 generic and the 20 momentum spellings of `toPairs` -/
theorem c04_toTable_names :
    (∀ n ∈ toTable.map (·.1), n ∈ C04.toPairs.map (·.1) ++ C04.toPairs.map (·.2)) ∧
    (∀ n ∈ C04.toPairs.map (·.1) ++ C04.toPairs.map (·.2), n ∈ toTable.map (·.1)) := by
  have h : ∀ n, n ∈ toTable.map (·.1) ↔ n ∈ C04.toPairs.map (·.1) ++ C04.toPairs.map (·.2) := by
    intro n
    simp only [c04_toTable_names_eq, List.mem_flatMap, List.mem_append, List.mem_map, List.mem_cons, List.not_mem_nil,
      or_false, exists_or, and_or_left, eq_comm]
  exact ⟨fun n => (h n).1, fun n => (h n).2⟩

/-- a momentum-spelled conversion has the same target system as its generic counterpart -/
theorem c04_toTable_synonyms :
    ∀ p ∈ C04.toPairs, (C04.toTarget p.1).isSome ∧ C04.toTarget p.2 = C04.toTarget p.1 := by
  intro p hp
  rw [← List.map_fst_zip (l₁ := C04.toPairs) (l₂ := C04.systems) (by decide)] at hp
  obtain ⟨ps, hps, rfl⟩ := List.mem_map.1 hp
  obtain ⟨h1, h2⟩ := c04_toTarget_toPairs ps hps
  rw [h1, h2]
  exact ⟨rfl, rfl⟩

/-- the 20 generic names reach all 20 coordinate systems (2 azimuthal × (1 + 3 + 3·2)) -/
theorem c04_toTable_complete :
    ∀ az ∈ Az.all, ∀ lt ∈ [(none, none)] ++ Lon.all.map (fun l => (some l, none)) ++
        Lon.all.flatMap (fun l => Tmp.all.map fun tm => (some l, some tm)),
      ∃ p ∈ C04.toPairs, C04.toTarget p.1 = some (az, lt.1, lt.2) := by
  intro az haz lt hlt
  have hs : (az, lt.1, lt.2) ∈ C04.systems := by revert az lt; decide
  rw [← List.map_snd_zip (l₁ := C04.toPairs) (l₂ := C04.systems) (by decide)] at hs
  obtain ⟨ps, hps, h⟩ := List.mem_map.1 hs
  exact ⟨ps.1, (List.of_mem_zip hps).1, h ▸ (c04_toTarget_toPairs ps hps).1⟩

/-- the keywords of a table entry name the entry's longitudinal / temporal coordinate type (and are empty when the target
has no such group) -/
def C04.kwOk (e : String × Az × Option Lon × Option Tmp × String × String) : Bool :=
  (match e.2.2.1 with | some l => lonOfKw e.2.2.2.2.1 == some l | none => e.2.2.2.2.1 == "") &&
  (match e.2.2.2.1 with | some tm => tmpOfKw e.2.2.2.2.2 == some tm | none => e.2.2.2.2.2 == "")

/-- the keyword accepted by every conversion (generic or momentum-spelled) names the coordinate type of the target -/
theorem c04_toTable_keywords : ∀ e ∈ toTable, C04.kwOk e = true := by decide +kernel

/-! ### 5. the public methods (string layer) -/

/-- no `to_<system>` name is a momentum spelling of an accessor (`call` looks those up first) -/
theorem c04_toTable_not_mom : ∀ e ∈ toTable, momAccOfName e.1 = none := by decide +kernel

/-- a `to_<system>()` call without arguments is `toSystem` with the table's target and no keyword -/
theorem c04_call_to (ev : Ev S B) (K : Consts S) (A : Arith S) (n : String) (v : Vec S)
    (e : String × Az × Option Lon × Option Tmp × String × String) (he : toTable.find? (·.1 == n) = some e) :
    call ev K A n v [] = (toSystem ev K.zeroF v e.2.1 e.2.2.1 e.2.2.2.1 none none).map .vec := by
  have hn : e.1 = n := by simpa using List.find?_some he
  have hm : momAccOfName n = none := hn ▸ c04_toTable_not_mom e (List.mem_of_find?_eq_some he)
  obtain ⟨n', az, lon, tmp, kl, kt⟩ := e
  unfold call
  simp only [hm, he]
  simp [kwargs]

/-- `v.to_<system>()` for the system `v` is stored in (generic or momentum spelling) returns `v` -/
theorem c04_call_to_id (ev : Ev S B) (hI : IdLaws ev) (K : Consts S) (A : Arith S) (n : String) (v : Vec S) (hv : WFV v)
    (hn : C04.toTarget n = some (v.ty.az, v.ty.lon, v.ty.tmp)) : call ev K A n v [] = .ok (.vec v) := by
  unfold C04.toTarget at hn
  cases he : toTable.find? (·.1 == n) with
  | none => simp [he] at hn
  | some e =>
    obtain ⟨n', az, lon, tmp, kl, kt⟩ := e
    simp [he] at hn
    obtain ⟨rfl, rfl, rfl⟩ := hn
    rw [c04_call_to ev K A n v _ he]
    simp [c04_toSystem_id ev hI K.zeroF v hv]
    rfl

/-- the dimension-changing methods are `toDim` with the target dimension of their name; `like(o)` is `toDim` with the
dimension of `o` and no keywords -/
theorem c04_call_toDim (ev : Ev S B) (K : Consts S) (A : Arith S) (v o : Vec S) (args : List (Arg S)) :
    call ev K A "to_Vector2D" v args = toDimS K 2 v (kwargs args) ∧
    call ev K A "to_Vector3D" v args = toDimS K 3 v (kwargs args) ∧
    call ev K A "to_Vector4D" v args = toDimS K 4 v (kwargs args) ∧
    call ev K A "to_2D" v args = toDimS K 2 v (kwargs args) ∧
    call ev K A "to_3D" v args = toDimS K 3 v (kwargs args) ∧
    call ev K A "to_4D" v args = toDimS K 4 v (kwargs args) ∧
    call ev K A "like" v [.v o] = (toDim K.zeroF o.ty.dim v [] [] 0).map .vec :=
  ⟨rfl, rfl, rfl, rfl, rfl, rfl, rfl⟩

/-- `v.like(o)` for `o` of the dimension of `v` returns `v` -/
theorem c04_call_like_same (ev : Ev S B) (K : Consts S) (A : Arith S) (v o : Vec S) (h : o.ty.dim = v.ty.dim) :
    call ev K A "like" v [.v o] = .ok (.vec v) := by
  rw [(c04_call_toDim ev K A v o []).2.2.2.2.2.2, h, c04_toDim_same]; rfl

/-- the keyword classes of the dimension-changing conversions: the momentum spellings name the same coordinate type -/
theorem c04_kw_classes :
    lonOfKw "z" = some .z ∧ lonOfKw "pz" = some .z ∧ lonOfKw "theta" = some .theta ∧ lonOfKw "eta" = some .eta ∧
    tmpOfKw "t" = some .t ∧ tmpOfKw "e" = some .t ∧ tmpOfKw "E" = some .t ∧ tmpOfKw "energy" = some .t ∧
    tmpOfKw "tau" = some .tau ∧ tmpOfKw "m" = some .tau ∧ tmpOfKw "M" = some .tau ∧ tmpOfKw "mass" = some .tau := by
  decide

/-- `to_Vector4D(pz=a, mass=b)` on a 2D vector, through the string layer -/
theorem c04_toDimS_example (K : Consts S) (v : Vec S) (hv : WFV v) (hd : v.ty.dim = 2) (a b : S) :
    toDimS (B := B) K 4 v [("pz", a), ("mass", b)] =
      .ok (.vec ⟨{ v.ty with lon := some .z, tmp := some .tau }, v.c ++ [a] ++ [b]⟩) :=
  congrArg (Except.map Res.vec) (c04_toDim_2_to_4 K.zeroF v hv hd (some (.z, a)) (some (.tau, b)))

/-- … an unknown keyword is rejected -/
theorem c04_toDimS_unknown (K : Consts S) (v : Vec S) (target : Nat) (a : S) :
    toDimS (B := B) K target v [("foo", a)] = .error .typeError :=
  congrArg (Except.map Res.vec) (c04_toDim_unknown_kw K.zeroF v target [] [] 1 (Nat.le_refl 1))

end

/-! ### 6. the generated executable compute layer -/

section
open VE
variable {S : Type} [Scalar S]

theorem c04_toSystem_id_exec (z : S) (v : Vec S) (hv : WFV v) (kl kt : Option S) :
    toSystem (fun m k a => Compute.eval (S := S) m k a) z v v.ty.az v.ty.lon v.ty.tmp kl kt = .ok v :=
  c04_toSystem_id _ c15_idLaws_exec z v hv kl kt

end

/-! ### 7. the hypotheses are satisfiable -/

section
variable {S : Type}

example (a b c d : S) : WFV (⟨⟨.obj, true, .rhophi, some .eta, some .tau⟩, [a, b, c, d]⟩ : Vec S) :=
  ⟨fun _ => rfl, rfl⟩
example (a b : S) : WFV (⟨⟨.obj, false, .xy, none, none⟩, [a, b]⟩ : Vec S) := ⟨(fun h => nomatch h), rfl⟩

/-- `Vector2D(x=a, y=b).to_Vector4D(eta=c, tau=d)` -/
example (z a b c d : S) :
    toDim z 4 ⟨⟨.obj, false, .xy, none, none⟩, [a, b]⟩ [(.eta, c)] [(.tau, d)] 0 =
      .ok ⟨⟨.obj, false, .xy, some .eta, some .tau⟩, [a, b, c, d]⟩ :=
  c04_toDim_2_to_4 z ⟨⟨.obj, false, .xy, none, none⟩, [a, b]⟩ ⟨(fun h => nomatch h), rfl⟩ rfl (some (.eta, c)) (some (.tau, d))

/-- `MomentumObject4D(pt=a, phi=b, eta=c, mass=d).to_Vector3D()` -/
example (z a b c d : S) :
    toDim z 3 ⟨⟨.obj, true, .rhophi, some .eta, some .tau⟩, [a, b, c, d]⟩ [] [] 0 =
      .ok ⟨⟨.obj, true, .rhophi, some .eta, none⟩, [a, b, c]⟩ :=
  c04_toDim_project z ⟨⟨.obj, true, .rhophi, some .eta, some .tau⟩, [a, b, c, d]⟩ ⟨fun _ => rfl, rfl⟩ 3 (by omega)
    (by simp [VT.dim])

end
end VG
