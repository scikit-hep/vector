/-
C01 — coordinate independence.

For every operation with a scalar or vector result and for EVERY coordinate-system key `k`, the value computed by the
generated model of the variant found under `k` — interpreted through the DECLARED result type `ret k` for vector
results — equals the value computed by the all-Cartesian variant (`k₀ = (xy)`, `(xy, z)`, `(xy, z, t)`) on the Cartesian
components `xOf / yOf / zOf / tOf` of the vectors the operands denote.

All theorems are corollaries of the refinement theorems in `VectorModel/Refine/*.lean` (both sides equal `Spec.op` of the
denotations; at `k₀` the denotation map is the identity).  Hypotheses: the operands are representable (`Canon…`), `TanOK`
(`cos θ ≠ 0`: the code divides by `tan θ`), `SinOK` (`sin θ ≠ 0`), the exact result is representable in the declared
result system (`Representable3`, and for `subtract` of two τ-stored vectors a future-directed causal difference), and
the natural domain of the quantity (`0 < ρ`, `0 < |p|`, time-like, …).

`…_partial` theorems need a hypothesis that C01 does not grant (genuine key-dependence of the code, witnessed in
`VectorModel/Findings/C01.lean`): `Et` and `to_beta3` for `t < 0`, `scale` of a τ-stored vector by a negative factor.
-/
import VectorModel.Refine.Planar
import VectorModel.Refine.SpatialZ
import VectorModel.Refine.SpatialAcc
import VectorModel.Refine.SpatialBin
import VectorModel.Refine.SpatialRot
import VectorModel.Refine.LorentzAcc
import VectorModel.Refine.LorentzBin

namespace VR
open VK Spec Real

/-! ### helpers: the denotation map is the identity at the Cartesian key -/

private theorem rhoOf_cart_sq (k : Az) (a b : ℝ) :
    rhoOf .xy (xOf k a b) (yOf k a b) ^ 2 = rhoOf k a b ^ 2 := by
  show sqrt (xOf k a b ^ 2 + yOf k a b ^ 2) ^ 2 = rhoOf k a b ^ 2
  rw [L.sq_sqrt_sumsq, Spec.sq_xOf_add_sq_yOf]

private theorem rep3_cart_add (p : ℝ × ℝ × ℝ) : Representable3 (spatial_add.ret .xy .z .xy .z) p := Or.inl rfl
private theorem rep3_cart_sub (p : ℝ × ℝ × ℝ) : Representable3 (spatial_subtract.ret .xy .z .xy .z) p := Or.inl rfl

/-! ## 2D -/

theorem c01_planar_x (k : Az) (a b : ℝ) : planar_x.eval k a b = planar_x.eval .xy (xOf k a b) (yOf k a b) :=
  refine_planar_x k a b

theorem c01_planar_y (k : Az) (a b : ℝ) : planar_y.eval k a b = planar_y.eval .xy (xOf k a b) (yOf k a b) :=
  refine_planar_y k a b

/-- `rho`: needs `0 ≤ ρ` for polar storage (the Cartesian variant returns `√(x²+y²) ≥ 0`) -/
theorem c01_planar_rho (k : Az) (a b : ℝ) (h : Canon2 k a b) :
    planar_rho.eval k a b = planar_rho.eval .xy (xOf k a b) (yOf k a b) := by
  rw [refine_planar_rho, refine_planar_rho, Spec.rhoOf_xy_cart (Spec.rhoOf_nonneg h)]

theorem c01_planar_rho2 (k : Az) (a b : ℝ) :
    planar_rho2.eval k a b = planar_rho2.eval .xy (xOf k a b) (yOf k a b) := by
  rw [refine_planar_rho2, refine_planar_rho2]; rfl

/-- `phi`: off the origin and with the stored φ in `(-π, π]` -/
theorem c01_planar_phi (k : Az) (a b : ℝ) (h : 0 < rhoOf k a b) (hp : CanonPhi k a b) :
    planar_phi.eval k a b = planar_phi.eval .xy (xOf k a b) (yOf k a b) :=
  refine_planar_phi k a b h hp

theorem c01_planar_dot (k0 k1 : Az) (a0 a1 a2 a3 : ℝ) :
    planar_dot.eval k0 k1 a0 a1 a2 a3
      = planar_dot.eval .xy .xy (xOf k0 a0 a1) (yOf k0 a0 a1) (xOf k1 a2 a3) (yOf k1 a2 a3) := by
  rw [refine_planar_dot, refine_planar_dot]; rfl

theorem c01_planar_add (k0 k1 : Az) (a0 a1 a2 a3 : ℝ) :
    interp2 (planar_add.ret k0 k1) (planar_add.eval k0 k1 a0 a1 a2 a3)
      = interp2 (planar_add.ret .xy .xy)
          (planar_add.eval .xy .xy (xOf k0 a0 a1) (yOf k0 a0 a1) (xOf k1 a2 a3) (yOf k1 a2 a3)) := by
  rw [refine_planar_add, refine_planar_add]; rfl

theorem c01_planar_subtract (k0 k1 : Az) (a0 a1 a2 a3 : ℝ) :
    interp2 (planar_subtract.ret k0 k1) (planar_subtract.eval k0 k1 a0 a1 a2 a3)
      = interp2 (planar_subtract.ret .xy .xy)
          (planar_subtract.eval .xy .xy (xOf k0 a0 a1) (yOf k0 a0 a1) (xOf k1 a2 a3) (yOf k1 a2 a3)) := by
  rw [refine_planar_subtract, refine_planar_subtract]; rfl

theorem c01_planar_scale (k : Az) (f a b : ℝ) :
    interp2 (planar_scale.ret k) (planar_scale.eval k f a b)
      = interp2 (planar_scale.ret .xy) (planar_scale.eval .xy f (xOf k a b) (yOf k a b)) := by
  rw [refine_planar_scale, refine_planar_scale]; rfl

theorem c01_planar_rotateZ (k : Az) (ang a b : ℝ) :
    interp2 (planar_rotateZ.ret k) (planar_rotateZ.eval k ang a b)
      = interp2 (planar_rotateZ.ret .xy) (planar_rotateZ.eval .xy ang (xOf k a b) (yOf k a b)) := by
  rw [refine_planar_rotateZ, refine_planar_rotateZ]; rfl

theorem c01_planar_transform2D (k : Az) (xx xy yx yy a b : ℝ) :
    interp2 (planar_transform2D.ret k) (planar_transform2D.eval k xx xy yx yy a b)
      = interp2 (planar_transform2D.ret .xy) (planar_transform2D.eval .xy xx xy yx yy (xOf k a b) (yOf k a b)) := by
  rw [refine_planar_transform2D, refine_planar_transform2D]; rfl

theorem c01_planar_unit (k : Az) (a b : ℝ) (h : 0 < rhoOf k a b) :
    interp2 (planar_unit.ret k) (planar_unit.eval k a b)
      = interp2 (planar_unit.ret .xy) (planar_unit.eval .xy (xOf k a b) (yOf k a b)) := by
  have e := Spec.rhoOf_xy_cart h.le
  have hR := refine_planar_unit .xy (xOf k a b) (yOf k a b) (by rw [e]; exact h)
  rw [refine_planar_unit k a b h, hR, e]; rfl

/-- `deltaphi`: off the origin (the stored φ need not be canonical, `rectify` is 2π-periodic) -/
theorem c01_planar_deltaphi (k0 k1 : Az) (a0 a1 a2 a3 : ℝ) (h0 : 0 < rhoOf k0 a0 a1) (h1 : 0 < rhoOf k1 a2 a3) :
    planar_deltaphi.eval k0 k1 a0 a1 a2 a3
      = planar_deltaphi.eval .xy .xy (xOf k0 a0 a1) (yOf k0 a0 a1) (xOf k1 a2 a3) (yOf k1 a2 a3) :=
  refine_spatial_deltaphi_key k0 k1 a0 a1 a2 a3 h0 h1

example : 0 < rhoOf .rhophi 2 1 ∧ CanonPhi .rhophi 2 1 ∧ Canon2 .rhophi 2 1 := by
  refine ⟨by norm_num [rhoOf], ⟨?_, ?_⟩, by norm_num [Canon2]⟩ <;> linarith [Real.one_le_pi_div_two, Real.pi_pos]

/-! ## 3D accessors -/

theorem c01_spatial_z (k0 : Az) (k1 : Lon) (a b c : ℝ) (h : TanOK k1 c) :
    spatial_z.eval k0 k1 a b c = spatial_z.eval .xy .z (xOf k0 a b) (yOf k0 a b) (zOf k0 k1 a b c) :=
  refine_spatial_z k0 k1 a b c h

theorem c01_spatial_mag2 (k0 : Az) (k1 : Lon) (a b c : ℝ) (h : SinOK k1 c) :
    spatial_mag2.eval k0 k1 a b c = spatial_mag2.eval .xy .z (xOf k0 a b) (yOf k0 a b) (zOf k0 k1 a b c) := by
  rw [refine_spatial_mag2 k0 k1 a b c h, refine_spatial_mag2 .xy .z _ _ _ trivial]; rfl

theorem c01_spatial_mag (k0 : Az) (k1 : Lon) (a b c : ℝ) (h2 : Canon2 k0 a b) (h : SinOK k1 c) :
    spatial_mag.eval k0 k1 a b c = spatial_mag.eval .xy .z (xOf k0 a b) (yOf k0 a b) (zOf k0 k1 a b c) := by
  rw [refine_spatial_mag k0 k1 a b c h2 h, refine_spatial_mag .xy .z _ _ _ trivial trivial]; rfl

theorem c01_spatial_costheta (k0 : Az) (k1 : Lon) (a b c : ℝ) (h : Canon3 k0 k1 a b c)
    (hm : 0 < mag2Of k0 k1 a b c) :
    spatial_costheta.eval k0 k1 a b c
      = spatial_costheta.eval .xy .z (xOf k0 a b) (yOf k0 a b) (zOf k0 k1 a b c) := by
  have hR := refine_spatial_costheta .xy .z (xOf k0 a b) (yOf k0 a b) (zOf k0 k1 a b c) ⟨trivial, trivial⟩ hm
  rw [refine_spatial_costheta k0 k1 a b c h hm, hR]; rfl

theorem c01_spatial_theta (k0 : Az) (k1 : Lon) (a b c : ℝ) (h : Canon3 k0 k1 a b c)
    (hm : 0 < mag2Of k0 k1 a b c) :
    spatial_theta.eval k0 k1 a b c
      = spatial_theta.eval .xy .z (xOf k0 a b) (yOf k0 a b) (zOf k0 k1 a b c) := by
  have hR := refine_spatial_theta .xy .z (xOf k0 a b) (yOf k0 a b) (zOf k0 k1 a b c) ⟨trivial, trivial⟩ hm
  rw [refine_spatial_theta k0 k1 a b c h hm, hR]; rfl

theorem c01_spatial_cottheta (k0 : Az) (k1 : Lon) (a b c : ℝ) (hr : 0 < rhoOf k0 a b) (ht : TanOK k1 c) :
    spatial_cottheta.eval k0 k1 a b c
      = spatial_cottheta.eval .xy .z (xOf k0 a b) (yOf k0 a b) (zOf k0 k1 a b c) := by
  have e := Spec.rhoOf_xy_cart hr.le
  have hR := refine_spatial_cottheta .xy .z (xOf k0 a b) (yOf k0 a b) (zOf k0 k1 a b c) (by rw [e]; exact hr) trivial
  rw [refine_spatial_cottheta k0 k1 a b c hr ht, hR, e]; rfl

theorem c01_spatial_eta (k0 : Az) (k1 : Lon) (a b c : ℝ) (hr : 0 < rhoOf k0 a b) (h : CanonLon k0 k1 a b c) :
    spatial_eta.eval k0 k1 a b c
      = spatial_eta.eval .xy .z (xOf k0 a b) (yOf k0 a b) (zOf k0 k1 a b c) :=
  refine_spatial_eta_key k0 k1 a b c hr h

example (k1 : Lon) : Canon3 .xy k1 3 4 1 ∧ 0 < mag2Of .xy k1 3 4 1 ∧ 0 < rhoOf .xy 3 4 ∧ TanOK k1 1 ∧ SinOK k1 1 := by
  have hr : 0 < rhoOf .xy 3 4 := L.sqrt_sumsq_pos (Or.inl (by norm_num))
  have hm : 0 < mag2Of .xy k1 3 4 1 := by rw [Spec.mag2Of_eq]; positivity
  have hc : CanonLon .xy k1 3 4 1 := by
    cases k1
    · trivial
    · exact ⟨hr, one_pos, by linarith [two_le_pi]⟩
    · exact hr
  refine ⟨⟨trivial, hc⟩, hm, hr, ?_, Spec.SinOK_of_canonLon hc⟩
  cases k1
  · trivial
  · exact Spec.tanOK_one .theta
  · trivial

/-! ## 3D binary and vector-valued operations -/

theorem c01_spatial_dot (k0 : Az) (k1 : Lon) (k2 : Az) (k3 : Lon) (a0 a1 a2 a3 a4 a5 : ℝ)
    (h1 : TanOK k1 a2) (h2 : TanOK k3 a5) :
    spatial_dot.eval k0 k1 k2 k3 a0 a1 a2 a3 a4 a5
      = spatial_dot.eval .xy .z .xy .z (xOf k0 a0 a1) (yOf k0 a0 a1) (zOf k0 k1 a0 a1 a2)
          (xOf k2 a3 a4) (yOf k2 a3 a4) (zOf k2 k3 a3 a4 a5) := by
  rw [refine_spatial_dot k0 k1 k2 k3 a0 a1 a2 a3 a4 a5 h1 h2, refine_spatial_dot .xy .z .xy .z _ _ _ _ _ _ trivial trivial]
  rfl

theorem c01_spatial_cross (k0 : Az) (k1 : Lon) (k2 : Az) (k3 : Lon) (a0 a1 a2 a3 a4 a5 : ℝ)
    (h1 : TanOK k1 a2) (h2 : TanOK k3 a5) :
    interp3 (spatial_cross.ret k0 k1 k2 k3) (spatial_cross.eval k0 k1 k2 k3 a0 a1 a2 a3 a4 a5)
      = interp3 (spatial_cross.ret .xy .z .xy .z)
          (spatial_cross.eval .xy .z .xy .z (xOf k0 a0 a1) (yOf k0 a0 a1) (zOf k0 k1 a0 a1 a2)
            (xOf k2 a3 a4) (yOf k2 a3 a4) (zOf k2 k3 a3 a4 a5)) := by
  rw [refine_spatial_cross k0 k1 k2 k3 a0 a1 a2 a3 a4 a5 h1 h2,
    refine_spatial_cross .xy .z .xy .z _ _ _ _ _ _ trivial trivial]
  rfl

/-- `add`: the exact sum must be representable in the declared result system (off the z axis for θ/η results) -/
theorem c01_spatial_add (k0 : Az) (k1 : Lon) (k2 : Az) (k3 : Lon) (a0 a1 a2 a3 a4 a5 : ℝ)
    (h1 : TanOK k1 a2) (h2 : TanOK k3 a5)
    (hrep : Representable3 (spatial_add.ret k0 k1 k2 k3) (add3 (cart3 k0 k1 a0 a1 a2) (cart3 k2 k3 a3 a4 a5))) :
    interp3 (spatial_add.ret k0 k1 k2 k3) (spatial_add.eval k0 k1 k2 k3 a0 a1 a2 a3 a4 a5)
      = interp3 (spatial_add.ret .xy .z .xy .z)
          (spatial_add.eval .xy .z .xy .z (xOf k0 a0 a1) (yOf k0 a0 a1) (zOf k0 k1 a0 a1 a2)
            (xOf k2 a3 a4) (yOf k2 a3 a4) (zOf k2 k3 a3 a4 a5)) := by
  rw [refine_spatial_add k0 k1 k2 k3 a0 a1 a2 a3 a4 a5 h1 h2 hrep,
    refine_spatial_add .xy .z .xy .z _ _ _ _ _ _ trivial trivial (rep3_cart_add _)]
  rfl

theorem c01_spatial_subtract (k0 : Az) (k1 : Lon) (k2 : Az) (k3 : Lon) (a0 a1 a2 a3 a4 a5 : ℝ)
    (h1 : TanOK k1 a2) (h2 : TanOK k3 a5)
    (hrep : Representable3 (spatial_subtract.ret k0 k1 k2 k3) (sub3 (cart3 k0 k1 a0 a1 a2) (cart3 k2 k3 a3 a4 a5))) :
    interp3 (spatial_subtract.ret k0 k1 k2 k3) (spatial_subtract.eval k0 k1 k2 k3 a0 a1 a2 a3 a4 a5)
      = interp3 (spatial_subtract.ret .xy .z .xy .z)
          (spatial_subtract.eval .xy .z .xy .z (xOf k0 a0 a1) (yOf k0 a0 a1) (zOf k0 k1 a0 a1 a2)
            (xOf k2 a3 a4) (yOf k2 a3 a4) (zOf k2 k3 a3 a4 a5)) := by
  rw [refine_spatial_subtract k0 k1 k2 k3 a0 a1 a2 a3 a4 a5 h1 h2 hrep,
    refine_spatial_subtract .xy .z .xy .z _ _ _ _ _ _ trivial trivial (rep3_cart_sub _)]
  rfl

/-- `scale`, any factor; the stored θ must lie in `[0, π]` (implied by `CanonLon`) -/
theorem c01_spatial_scale (k0 : Az) (k1 : Lon) (f a b c : ℝ) (h : ThetaRange k1 c) :
    interp3 (spatial_scale.ret k0 k1) (spatial_scale.eval k0 k1 f a b c)
      = interp3 (spatial_scale.ret .xy .z)
          (spatial_scale.eval .xy .z f (xOf k0 a b) (yOf k0 a b) (zOf k0 k1 a b c)) := by
  rw [refine_spatial_scale k0 k1 f a b c h, refine_spatial_scale .xy .z f _ _ _ trivial]; rfl

theorem c01_spatial_unit (k0 : Az) (k1 : Lon) (a b c : ℝ) (h : Canon3 k0 k1 a b c) (hm : 0 < mag2Of k0 k1 a b c) :
    interp3 (spatial_unit.ret k0 k1) (spatial_unit.eval k0 k1 a b c)
      = interp3 (spatial_unit.ret .xy .z)
          (spatial_unit.eval .xy .z (xOf k0 a b) (yOf k0 a b) (zOf k0 k1 a b c)) := by
  have hR := refine_spatial_unit .xy .z (xOf k0 a b) (yOf k0 a b) (zOf k0 k1 a b c) ⟨trivial, trivial⟩ hm
  rw [refine_spatial_unit k0 k1 a b c h hm, hR]; rfl

/-! ## 3D rotations and linear transformations (all declared results are Cartesian) -/

theorem c01_spatial_rotateX (k0 : Az) (k1 : Lon) (ang a b c : ℝ) (h : TanOK k1 c) :
    interp3 (spatial_rotateX.ret k0 k1) (spatial_rotateX.eval k0 k1 ang a b c)
      = interp3 (spatial_rotateX.ret .xy .z)
          (spatial_rotateX.eval .xy .z ang (xOf k0 a b) (yOf k0 a b) (zOf k0 k1 a b c)) := by
  rw [refine_spatial_rotateX_ret k0 k1, refine_spatial_rotateX_key k0 k1 ang a b c h]; rfl

theorem c01_spatial_rotateY (k0 : Az) (k1 : Lon) (ang a b c : ℝ) (h : TanOK k1 c) :
    interp3 (spatial_rotateY.ret k0 k1) (spatial_rotateY.eval k0 k1 ang a b c)
      = interp3 (spatial_rotateY.ret .xy .z)
          (spatial_rotateY.eval .xy .z ang (xOf k0 a b) (yOf k0 a b) (zOf k0 k1 a b c)) := by
  rw [refine_spatial_rotateY_ret k0 k1, refine_spatial_rotateY_key k0 k1 ang a b c h]; rfl

theorem c01_spatial_rotate_axis (k0 : Az) (k1 : Lon) (k2 : Az) (k3 : Lon) (ang a b c d e f : ℝ)
    (h1 : TanOK k1 c) (h2 : TanOK k3 f) :
    interp3 (spatial_rotate_axis.ret k0 k1 k2 k3) (spatial_rotate_axis.eval k0 k1 k2 k3 ang a b c d e f)
      = interp3 (spatial_rotate_axis.ret .xy .z .xy .z)
          (spatial_rotate_axis.eval .xy .z .xy .z ang (xOf k0 a b) (yOf k0 a b) (zOf k0 k1 a b c)
            (xOf k2 d e) (yOf k2 d e) (zOf k2 k3 d e f)) := by
  rw [refine_spatial_rotate_axis_ret k0 k1 k2 k3, refine_spatial_rotate_axis k0 k1 k2 k3 ang a b c d e f h1 h2]; rfl

theorem c01_spatial_rotate_euler (k0 : Az) (k1 : Lon) (o : Ord) (phi theta psi a b c : ℝ) (h : TanOK k1 c) :
    interp3 (spatial_rotate_euler.ret k0 k1 o) (spatial_rotate_euler.eval k0 k1 o phi theta psi a b c)
      = interp3 (spatial_rotate_euler.ret .xy .z o)
          (spatial_rotate_euler.eval .xy .z o phi theta psi (xOf k0 a b) (yOf k0 a b) (zOf k0 k1 a b c)) := by
  rw [refine_spatial_rotate_euler_ret k0 k1 o, refine_spatial_rotate_euler k0 k1 o phi theta psi a b c h,
    refine_spatial_rotate_euler_ret .xy .z o]

theorem c01_spatial_rotate_quaternion (k0 : Az) (k1 : Lon) (u i j k a b c : ℝ) (h : TanOK k1 c) :
    interp3 (spatial_rotate_quaternion.ret k0 k1) (spatial_rotate_quaternion.eval k0 k1 u i j k a b c)
      = interp3 (spatial_rotate_quaternion.ret .xy .z)
          (spatial_rotate_quaternion.eval .xy .z u i j k (xOf k0 a b) (yOf k0 a b) (zOf k0 k1 a b c)) := by
  rw [refine_spatial_rotate_quaternion_ret k0 k1, refine_spatial_rotate_quaternion k0 k1 u i j k a b c h]; rfl

theorem c01_spatial_transform3D (k0 : Az) (k1 : Lon) (xx xy xz yx yy yz zx zy zz a b c : ℝ) (h : TanOK k1 c) :
    interp3 (spatial_transform3D.ret k0 k1) (spatial_transform3D.eval k0 k1 xx xy xz yx yy yz zx zy zz a b c)
      = interp3 (spatial_transform3D.ret .xy .z)
          (spatial_transform3D.eval .xy .z xx xy xz yx yy yz zx zy zz (xOf k0 a b) (yOf k0 a b) (zOf k0 k1 a b c)) := by
  rw [refine_spatial_transform3D_ret k0 k1, refine_spatial_transform3D k0 k1 xx xy xz yx yy yz zx zy zz a b c h]; rfl

/-! ## 3D delta functions (re-exports of the `…_key` refinement theorems) -/

theorem c01_spatial_deltaeta (k0 : Az) (k1 : Lon) (k2 : Az) (k3 : Lon) (a b c d e f : ℝ)
    (hr1 : 0 < rhoOf k0 a b) (hr2 : 0 < rhoOf k2 d e) (h1 : CanonLon k0 k1 a b c) (h2 : CanonLon k2 k3 d e f) :
    spatial_deltaeta.eval k0 k1 k2 k3 a b c d e f
      = spatial_deltaeta.eval .xy .z .xy .z (xOf k0 a b) (yOf k0 a b) (zOf k0 k1 a b c)
          (xOf k2 d e) (yOf k2 d e) (zOf k2 k3 d e f) :=
  refine_spatial_deltaeta_key k0 k1 k2 k3 a b c d e f hr1 hr2 h1 h2

theorem c01_spatial_deltaR2 (k0 : Az) (k1 : Lon) (k2 : Az) (k3 : Lon) (a b c d e f : ℝ)
    (hr1 : 0 < rhoOf k0 a b) (hr2 : 0 < rhoOf k2 d e) (h1 : CanonLon k0 k1 a b c) (h2 : CanonLon k2 k3 d e f) :
    spatial_deltaR2.eval k0 k1 k2 k3 a b c d e f
      = spatial_deltaR2.eval .xy .z .xy .z (xOf k0 a b) (yOf k0 a b) (zOf k0 k1 a b c)
          (xOf k2 d e) (yOf k2 d e) (zOf k2 k3 d e f) :=
  refine_spatial_deltaR2_key k0 k1 k2 k3 a b c d e f hr1 hr2 h1 h2

theorem c01_spatial_deltaR (k0 : Az) (k1 : Lon) (k2 : Az) (k3 : Lon) (a b c d e f : ℝ)
    (hr1 : 0 < rhoOf k0 a b) (hr2 : 0 < rhoOf k2 d e) (h1 : CanonLon k0 k1 a b c) (h2 : CanonLon k2 k3 d e f) :
    spatial_deltaR.eval k0 k1 k2 k3 a b c d e f
      = spatial_deltaR.eval .xy .z .xy .z (xOf k0 a b) (yOf k0 a b) (zOf k0 k1 a b c)
          (xOf k2 d e) (yOf k2 d e) (zOf k2 k3 d e f) :=
  refine_spatial_deltaR_key k0 k1 k2 k3 a b c d e f hr1 hr2 h1 h2

theorem c01_spatial_deltaangle (k0 : Az) (k1 : Lon) (k2 : Az) (k3 : Lon) (a b c d e f : ℝ)
    (hc1 : Canon3 k0 k1 a b c) (hc2 : Canon3 k2 k3 d e f) (ht1 : TanOK k1 c) (ht2 : TanOK k3 f) :
    spatial_deltaangle.eval k0 k1 k2 k3 a b c d e f
      = spatial_deltaangle.eval .xy .z .xy .z (xOf k0 a b) (yOf k0 a b) (zOf k0 k1 a b c)
          (xOf k2 d e) (yOf k2 d e) (zOf k2 k3 d e f) :=
  refine_spatial_deltaangle_canon k0 k1 k2 k3 a b c d e f hc1 hc2 ht1 ht2

example : 0 < rhoOf .xy 3 4 ∧ 0 < rhoOf .rhophi 2 7 ∧ CanonLon .xy .theta 3 4 1 ∧ CanonLon .rhophi .eta 2 7 (-1)
    ∧ TanOK .theta 1 ∧ ThetaRange .theta 1 := by
  have h : 0 < rhoOf .xy 3 4 := L.sqrt_sumsq_pos (Or.inl (by norm_num))
  have h' : 0 < rhoOf .rhophi 2 7 := by norm_num [rhoOf]
  exact ⟨h, h', ⟨h, one_pos, by linarith [two_le_pi]⟩, h', Spec.tanOK_one .theta,
    ⟨by norm_num, by linarith [two_le_pi]⟩⟩

/-! ## 4D accessors (`k₀ = (xy, z, t)`) -/

theorem c01_lorentz_t (k0 : Az) (k1 : Lon) (k2 : Tmp) (a b c d : ℝ) (h : CanonLon k0 k1 a b c) (hd : CanonTmp k2 d) :
    lorentz_t.eval k0 k1 k2 a b c d
      = lorentz_t.eval .xy .z .t (xOf k0 a b) (yOf k0 a b) (zOf k0 k1 a b c) (tOf k0 k1 k2 a b c d) :=
  refine_lorentz_t k0 k1 k2 a b c d h hd

theorem c01_lorentz_t2 (k0 : Az) (k1 : Lon) (k2 : Tmp) (a b c d : ℝ) (h : CanonLon k0 k1 a b c) (hd : CanonTmp k2 d) :
    lorentz_t2.eval k0 k1 k2 a b c d
      = lorentz_t2.eval .xy .z .t (xOf k0 a b) (yOf k0 a b) (zOf k0 k1 a b c) (tOf k0 k1 k2 a b c d) :=
  refine_lorentz_t2 k0 k1 k2 a b c d h hd

theorem c01_lorentz_tau2 (k0 : Az) (k1 : Lon) (k2 : Tmp) (a b c d : ℝ) (h : CanonLon k0 k1 a b c) (hd : CanonTmp k2 d) :
    lorentz_tau2.eval k0 k1 k2 a b c d
      = lorentz_tau2.eval .xy .z .t (xOf k0 a b) (yOf k0 a b) (zOf k0 k1 a b c) (tOf k0 k1 k2 a b c d) := by
  rw [refine_lorentz_tau2 k0 k1 k2 a b c d h hd, refine_lorentz_tau2 .xy .z .t _ _ _ _ trivial trivial]; rfl

theorem c01_lorentz_tau (k0 : Az) (k1 : Lon) (k2 : Tmp) (a b c d : ℝ) (h : CanonLon k0 k1 a b c) (hd : CanonTmp k2 d) :
    lorentz_tau.eval k0 k1 k2 a b c d
      = lorentz_tau.eval .xy .z .t (xOf k0 a b) (yOf k0 a b) (zOf k0 k1 a b c) (tOf k0 k1 k2 a b c d) := by
  rw [refine_lorentz_tau k0 k1 k2 a b c d h hd, refine_lorentz_tau .xy .z .t _ _ _ _ trivial trivial]; rfl

theorem c01_lorentz_beta (k0 : Az) (k1 : Lon) (k2 : Tmp) (a b c d : ℝ) (h : Canon3 k0 k1 a b c) (hd : CanonTmp k2 d)
    (ht : tOf k0 k1 k2 a b c d ≠ 0) :
    lorentz_beta.eval k0 k1 k2 a b c d
      = lorentz_beta.eval .xy .z .t (xOf k0 a b) (yOf k0 a b) (zOf k0 k1 a b c) (tOf k0 k1 k2 a b c d) := by
  have hR := refine_lorentz_beta .xy .z .t (xOf k0 a b) (yOf k0 a b) (zOf k0 k1 a b c) (tOf k0 k1 k2 a b c d)
    ⟨trivial, trivial⟩ trivial ht
  rw [refine_lorentz_beta k0 k1 k2 a b c d h hd ht, hR]; rfl

theorem c01_lorentz_gamma (k0 : Az) (k1 : Lon) (k2 : Tmp) (a b c d : ℝ) (h : CanonLon k0 k1 a b c) (hd : CanonTmp k2 d)
    (hs : 0 < tOf k0 k1 k2 a b c d ^ 2 - mag2Of k0 k1 a b c) :
    lorentz_gamma.eval k0 k1 k2 a b c d
      = lorentz_gamma.eval .xy .z .t (xOf k0 a b) (yOf k0 a b) (zOf k0 k1 a b c) (tOf k0 k1 k2 a b c d) := by
  have hR := refine_lorentz_gamma .xy .z .t (xOf k0 a b) (yOf k0 a b) (zOf k0 k1 a b c) (tOf k0 k1 k2 a b c d)
    trivial trivial hs
  rw [refine_lorentz_gamma k0 k1 k2 a b c d h hd hs, hR]; rfl

theorem c01_lorentz_rapidity (k0 : Az) (k1 : Lon) (k2 : Tmp) (a b c d : ℝ) (h : CanonLon k0 k1 a b c)
    (htan : TanOK k1 c) (hd : CanonTmp k2 d) (hz : |zOf k0 k1 a b c| < tOf k0 k1 k2 a b c d) :
    lorentz_rapidity.eval k0 k1 k2 a b c d
      = lorentz_rapidity.eval .xy .z .t (xOf k0 a b) (yOf k0 a b) (zOf k0 k1 a b c) (tOf k0 k1 k2 a b c d) := by
  have hR := refine_lorentz_rapidity .xy .z .t (xOf k0 a b) (yOf k0 a b) (zOf k0 k1 a b c) (tOf k0 k1 k2 a b c d)
    trivial trivial trivial hz
  rw [refine_lorentz_rapidity k0 k1 k2 a b c d h htan hd hz, hR]; rfl

theorem c01_lorentz_Et2 (k0 : Az) (k1 : Lon) (k2 : Tmp) (a b c d : ℝ) (h : CanonLon k0 k1 a b c) (hd : CanonTmp k2 d)
    (hm : 0 < mag2Of k0 k1 a b c) :
    lorentz_Et2.eval k0 k1 k2 a b c d
      = lorentz_Et2.eval .xy .z .t (xOf k0 a b) (yOf k0 a b) (zOf k0 k1 a b c) (tOf k0 k1 k2 a b c d) := by
  have hR := refine_lorentz_Et2 .xy .z .t (xOf k0 a b) (yOf k0 a b) (zOf k0 k1 a b c) (tOf k0 k1 k2 a b c d)
    trivial trivial hm
  rw [refine_lorentz_Et2 k0 k1 k2 a b c d h hd hm, hR, rhoOf_cart_sq]; rfl

/-- `Et`: only for `0 ≤ t` — for `t < 0` the variants disagree (`Findings/C01.lean`, `lorentz_Et_neg_t_key_dependent`) -/
theorem c01_lorentz_Et_partial (k0 : Az) (k1 : Lon) (k2 : Tmp) (a b c d : ℝ) (h : Canon3 k0 k1 a b c)
    (hd : CanonTmp k2 d) (hm : 0 < mag2Of k0 k1 a b c) (ht : 0 ≤ tOf k0 k1 k2 a b c d) :
    lorentz_Et.eval k0 k1 k2 a b c d
      = lorentz_Et.eval .xy .z .t (xOf k0 a b) (yOf k0 a b) (zOf k0 k1 a b c) (tOf k0 k1 k2 a b c d) := by
  have hR := refine_lorentz_Et .xy .z .t (xOf k0 a b) (yOf k0 a b) (zOf k0 k1 a b c) (tOf k0 k1 k2 a b c d)
    ⟨trivial, trivial⟩ trivial hm ht
  rw [refine_lorentz_Et k0 k1 k2 a b c d h hd hm ht, hR, rhoOf_cart_sq]; rfl

theorem c01_lorentz_Mt2 (k0 : Az) (k1 : Lon) (k2 : Tmp) (a b c d : ℝ) (htan : TanOK k1 c) (hd : CanonTmp k2 d) :
    lorentz_Mt2.eval k0 k1 k2 a b c d
      = lorentz_Mt2.eval .xy .z .t (xOf k0 a b) (yOf k0 a b) (zOf k0 k1 a b c) (tOf k0 k1 k2 a b c d) := by
  rw [refine_lorentz_Mt2 k0 k1 k2 a b c d htan hd, refine_lorentz_Mt2 .xy .z .t _ _ _ _ trivial trivial]; rfl

theorem c01_lorentz_Mt (k0 : Az) (k1 : Lon) (k2 : Tmp) (a b c d : ℝ) (htan : TanOK k1 c) (hd : CanonTmp k2 d)
    (hs : 0 ≤ tOf k0 k1 k2 a b c d ^ 2 - zOf k0 k1 a b c ^ 2) :
    lorentz_Mt.eval k0 k1 k2 a b c d
      = lorentz_Mt.eval .xy .z .t (xOf k0 a b) (yOf k0 a b) (zOf k0 k1 a b c) (tOf k0 k1 k2 a b c d) := by
  have hR := refine_lorentz_Mt .xy .z .t (xOf k0 a b) (yOf k0 a b) (zOf k0 k1 a b c) (tOf k0 k1 k2 a b c d)
    trivial trivial hs
  rw [refine_lorentz_Mt k0 k1 k2 a b c d htan hd hs, hR]; rfl

/-- `to_beta3`: only for `0 < t` (C01 grants `t ≠ 0`) — for `t < 0` the `(x, y, θ/η)` variants return the wrong
hemisphere (`Findings/C01.lean`, `lorentz_to_beta3_neg_t_fails`) -/
theorem c01_lorentz_to_beta3_partial (k0 : Az) (k1 : Lon) (k2 : Tmp) (a b c d : ℝ) (h : CanonLon k0 k1 a b c)
    (hd : CanonTmp k2 d) (ht : 0 < tOf k0 k1 k2 a b c d) :
    interp3 (lorentz_to_beta3.ret k0 k1 k2) (lorentz_to_beta3.eval k0 k1 k2 a b c d)
      = interp3 (lorentz_to_beta3.ret .xy .z .t)
          (lorentz_to_beta3.eval .xy .z .t (xOf k0 a b) (yOf k0 a b) (zOf k0 k1 a b c) (tOf k0 k1 k2 a b c d)) := by
  have hR := refine_lorentz_to_beta3_partial .xy .z .t (xOf k0 a b) (yOf k0 a b) (zOf k0 k1 a b c)
    (tOf k0 k1 k2 a b c d) trivial trivial ht
  rw [refine_lorentz_to_beta3_partial k0 k1 k2 a b c d h hd ht, hR]; rfl

example : Canon3 .rhophi .eta 1 0 0 ∧ CanonTmp .t 2 ∧ tOf .rhophi .eta .t 1 0 0 2 ≠ 0
    ∧ 0 < tOf .rhophi .eta .t 1 0 0 2 ^ 2 - mag2Of .rhophi .eta 1 0 0
    ∧ |zOf .rhophi .eta 1 0 0| < tOf .rhophi .eta .t 1 0 0 2 ∧ 0 < mag2Of .rhophi .eta 1 0 0 := by
  simp [Canon3, Canon2, CanonLon, CanonTmp, tOf, mag2Of, xOf, yOf, zOf, rhoOf]

/-! ## 4D binary and vector-valued operations -/

theorem c01_lorentz_dot (k0 : Az) (k1 : Lon) (k2 : Tmp) (k3 : Az) (k4 : Lon) (k5 : Tmp)
    (a0 a1 a2 a3 a4 a5 a6 a7 : ℝ) (h1 : TanOK k1 a2) (h2 : TanOK k4 a6) (hs1 : SinOK k1 a2) (hs2 : SinOK k4 a6)
    (hd1 : CanonTmp k2 a3) (hd2 : CanonTmp k5 a7) :
    lorentz_dot.eval k0 k1 k2 k3 k4 k5 a0 a1 a2 a3 a4 a5 a6 a7
      = lorentz_dot.eval .xy .z .t .xy .z .t (xOf k0 a0 a1) (yOf k0 a0 a1) (zOf k0 k1 a0 a1 a2) (tOf k0 k1 k2 a0 a1 a2 a3)
          (xOf k3 a4 a5) (yOf k3 a4 a5) (zOf k3 k4 a4 a5 a6) (tOf k3 k4 k5 a4 a5 a6 a7) := by
  rw [refine_lorentz_dot k0 k1 k2 k3 k4 k5 a0 a1 a2 a3 a4 a5 a6 a7 h1 h2 hs1 hs2 hd1 hd2,
    refine_lorentz_dot .xy .z .t .xy .z .t _ _ _ _ _ _ _ _ trivial trivial trivial trivial trivial trivial]
  rfl

/-- `add`: the exact spatial sum must be representable in the declared result system (the temporal part always is) -/
theorem c01_lorentz_add (k0 : Az) (k1 : Lon) (k2 : Tmp) (k3 : Az) (k4 : Lon) (k5 : Tmp) (a0 a1 a2 a3 a4 a5 a6 a7 : ℝ)
    (h1 : TanOK k1 a2) (h2 : TanOK k4 a6) (hs1 : SinOK k1 a2) (hs2 : SinOK k4 a6)
    (hd1 : CanonTmp k2 a3) (hd2 : CanonTmp k5 a7)
    (hrep : Representable3 (spatial_add.ret k0 k1 k3 k4) (add3 (cart3 k0 k1 a0 a1 a2) (cart3 k3 k4 a4 a5 a6))) :
    interp4 (lorentz_add.ret k0 k1 k2 k3 k4 k5) (lorentz_add.eval k0 k1 k2 k3 k4 k5 a0 a1 a2 a3 a4 a5 a6 a7)
      = interp4 (lorentz_add.ret .xy .z .t .xy .z .t)
          (lorentz_add.eval .xy .z .t .xy .z .t (xOf k0 a0 a1) (yOf k0 a0 a1) (zOf k0 k1 a0 a1 a2) (tOf k0 k1 k2 a0 a1 a2 a3)
            (xOf k3 a4 a5) (yOf k3 a4 a5) (zOf k3 k4 a4 a5 a6) (tOf k3 k4 k5 a4 a5 a6 a7)) := by
  rw [refine_lorentz_add k0 k1 k2 k3 k4 k5 a0 a1 a2 a3 a4 a5 a6 a7 h1 h2 hs1 hs2 hd1 hd2 hrep,
    refine_lorentz_add .xy .z .t .xy .z .t _ _ _ _ _ _ _ _ trivial trivial trivial trivial trivial trivial (rep3_cart_add _)]
  rfl

/-- `subtract`: as `add`; for two τ-stored operands the exact difference must be representable in τ storage
(future-directed and causal) -/
theorem c01_lorentz_subtract (k0 : Az) (k1 : Lon) (k2 : Tmp) (k3 : Az) (k4 : Lon) (k5 : Tmp)
    (a0 a1 a2 a3 a4 a5 a6 a7 : ℝ)
    (h1 : TanOK k1 a2) (h2 : TanOK k4 a6) (hs1 : SinOK k1 a2) (hs2 : SinOK k4 a6)
    (hd1 : CanonTmp k2 a3) (hd2 : CanonTmp k5 a7)
    (hrep : Representable3 (spatial_subtract.ret k0 k1 k3 k4) (sub3 (cart3 k0 k1 a0 a1 a2) (cart3 k3 k4 a4 a5 a6)))
    (hc : k2 = .tau → k5 = .tau →
      0 ≤ tOf k0 k1 k2 a0 a1 a2 a3 - tOf k3 k4 k5 a4 a5 a6 a7 ∧
      (xOf k0 a0 a1 - xOf k3 a4 a5) ^ 2 + (yOf k0 a0 a1 - yOf k3 a4 a5) ^ 2 + (zOf k0 k1 a0 a1 a2 - zOf k3 k4 a4 a5 a6) ^ 2
        ≤ (tOf k0 k1 k2 a0 a1 a2 a3 - tOf k3 k4 k5 a4 a5 a6 a7) ^ 2) :
    interp4 (lorentz_subtract.ret k0 k1 k2 k3 k4 k5) (lorentz_subtract.eval k0 k1 k2 k3 k4 k5 a0 a1 a2 a3 a4 a5 a6 a7)
      = interp4 (lorentz_subtract.ret .xy .z .t .xy .z .t)
          (lorentz_subtract.eval .xy .z .t .xy .z .t (xOf k0 a0 a1) (yOf k0 a0 a1) (zOf k0 k1 a0 a1 a2)
            (tOf k0 k1 k2 a0 a1 a2 a3) (xOf k3 a4 a5) (yOf k3 a4 a5) (zOf k3 k4 a4 a5 a6) (tOf k3 k4 k5 a4 a5 a6 a7)) := by
  rw [refine_lorentz_subtract k0 k1 k2 k3 k4 k5 a0 a1 a2 a3 a4 a5 a6 a7 h1 h2 hs1 hs2 hd1 hd2 hrep hc,
    refine_lorentz_subtract .xy .z .t .xy .z .t _ _ _ _ _ _ _ _ trivial trivial trivial trivial trivial trivial
      (rep3_cart_sub _) (fun h => nomatch h)]
  rfl

/-- `scale`: for τ storage only for `0 ≤ f` (`Findings/C01.lean`, `refine_lorentz_scale_defect`: a τ-stored vector scaled
by a negative factor gets `τ·f < 0`, which does not denote `f·(p, t)`) -/
theorem c01_lorentz_scale_partial (k0 : Az) (k1 : Lon) (k2 : Tmp) (f a b c d : ℝ) (h : ThetaRange k1 c)
    (hf : k2 = .tau → 0 ≤ f) :
    interp4 (lorentz_scale.ret k0 k1 k2) (lorentz_scale.eval k0 k1 k2 f a b c d)
      = interp4 (lorentz_scale.ret .xy .z .t)
          (lorentz_scale.eval .xy .z .t f (xOf k0 a b) (yOf k0 a b) (zOf k0 k1 a b c) (tOf k0 k1 k2 a b c d)) := by
  rw [refine_lorentz_scale_partial k0 k1 k2 f a b c d h hf,
    refine_lorentz_scale_partial .xy .z .t f _ _ _ _ trivial (fun h => nomatch h)]
  rfl

/-- `unit`: not light-like -/
theorem c01_lorentz_unit (k0 : Az) (k1 : Lon) (k2 : Tmp) (a b c d : ℝ) (hs : SinOK k1 c) (hd : CanonTmp k2 d)
    (hm : tOf k0 k1 k2 a b c d ^ 2 - mag2Of k0 k1 a b c ≠ 0) :
    interp4 (lorentz_unit.ret k0 k1 k2) (lorentz_unit.eval k0 k1 k2 a b c d)
      = interp4 (lorentz_unit.ret .xy .z .t)
          (lorentz_unit.eval .xy .z .t (xOf k0 a b) (yOf k0 a b) (zOf k0 k1 a b c) (tOf k0 k1 k2 a b c d)) := by
  have hR := refine_lorentz_unit .xy .z .t (xOf k0 a b) (yOf k0 a b) (zOf k0 k1 a b c) (tOf k0 k1 k2 a b c d)
    trivial trivial hm
  rw [refine_lorentz_unit k0 k1 k2 a b c d hs hd hm, hR]; rfl

theorem c01_lorentz_transform4D (k0 : Az) (k1 : Lon) (k2 : Tmp)
    (xx xy xz xt yx yy yz yt zx zy zz zt tx ty tz tt a b c d : ℝ)
    (h : TanOK k1 c) (hs : SinOK k1 c) (hd : CanonTmp k2 d) :
    interp4 (lorentz_transform4D.ret k0 k1 k2)
        (lorentz_transform4D.eval k0 k1 k2 xx xy xz xt yx yy yz yt zx zy zz zt tx ty tz tt a b c d)
      = interp4 (lorentz_transform4D.ret .xy .z .t)
        (lorentz_transform4D.eval .xy .z .t xx xy xz xt yx yy yz yt zx zy zz zt tx ty tz tt
          (xOf k0 a b) (yOf k0 a b) (zOf k0 k1 a b c) (tOf k0 k1 k2 a b c d)) := by
  rw [refine_lorentz_transform4D k0 k1 k2 _ _ _ _ _ _ _ _ _ _ _ _ _ _ _ _ a b c d h hs hd]
  rfl

/-! ## boosts
For τ-stored operands the boost must be physical (`|β| < 1`, `1 ≤ |γ|`, time-like boost momentum): the τ-variants return
the STORED τ, which denotes the boosted time only because a Lorentz boost preserves the invariant mass. -/

theorem c01_lorentz_boostX_beta (k0 : Az) (k1 : Lon) (k2 : Tmp) (β a b c d : ℝ)
    (h : TanOK k1 c) (hs : SinOK k1 c) (hd : CanonTmp k2 d) (hβ : k2 = .tau → |β| < 1) :
    interp4 (lorentz_boostX_beta.ret k0 k1 k2) (lorentz_boostX_beta.eval k0 k1 k2 β a b c d)
      = interp4 (lorentz_boostX_beta.ret .xy .z .t)
          (lorentz_boostX_beta.eval .xy .z .t β (xOf k0 a b) (yOf k0 a b) (zOf k0 k1 a b c) (tOf k0 k1 k2 a b c d)) :=
  (lorentz_boostX_beta_form β).spec k0 k1 k2 a b c d ⟨h, hs⟩ hd fun e => boostX_isBoost (L.gam_beta (hβ e))

theorem c01_lorentz_boostY_beta (k0 : Az) (k1 : Lon) (k2 : Tmp) (β a b c d : ℝ)
    (h : TanOK k1 c) (hs : SinOK k1 c) (hd : CanonTmp k2 d) (hβ : k2 = .tau → |β| < 1) :
    interp4 (lorentz_boostY_beta.ret k0 k1 k2) (lorentz_boostY_beta.eval k0 k1 k2 β a b c d)
      = interp4 (lorentz_boostY_beta.ret .xy .z .t)
          (lorentz_boostY_beta.eval .xy .z .t β (xOf k0 a b) (yOf k0 a b) (zOf k0 k1 a b c) (tOf k0 k1 k2 a b c d)) :=
  (lorentz_boostY_beta_form β).spec k0 k1 k2 a b c d ⟨h, hs⟩ hd fun e => boostY_isBoost (L.gam_beta (hβ e))

theorem c01_lorentz_boostZ_beta (k0 : Az) (k1 : Lon) (k2 : Tmp) (β a b c d : ℝ)
    (h : TanOK k1 c) (hs : SinOK k1 c) (hd : CanonTmp k2 d) (hβ : k2 = .tau → |β| < 1) :
    interp4 (lorentz_boostZ_beta.ret k0 k1 k2) (lorentz_boostZ_beta.eval k0 k1 k2 β a b c d)
      = interp4 (lorentz_boostZ_beta.ret .xy .z .t)
          (lorentz_boostZ_beta.eval .xy .z .t β (xOf k0 a b) (yOf k0 a b) (zOf k0 k1 a b c) (tOf k0 k1 k2 a b c d)) :=
  (lorentz_boostZ_beta_form β).spec k0 k1 k2 a b c d ⟨h, hs⟩ hd fun e => boostZ_isBoost (L.gam_beta (hβ e))

theorem c01_lorentz_boostX_gamma (k0 : Az) (k1 : Lon) (k2 : Tmp) (γ a b c d : ℝ)
    (h : TanOK k1 c) (hs : SinOK k1 c) (hd : CanonTmp k2 d) (hγ : k2 = .tau → 1 ≤ |γ|) :
    interp4 (lorentz_boostX_gamma.ret k0 k1 k2) (lorentz_boostX_gamma.eval k0 k1 k2 γ a b c d)
      = interp4 (lorentz_boostX_gamma.ret .xy .z .t)
          (lorentz_boostX_gamma.eval .xy .z .t γ (xOf k0 a b) (yOf k0 a b) (zOf k0 k1 a b c) (tOf k0 k1 k2 a b c d)) :=
  (lorentz_boostX_gamma_form γ).spec k0 k1 k2 a b c d ⟨h, hs⟩ hd fun e => boostX_isBoost (L.gam_gamma (hγ e))

theorem c01_lorentz_boostY_gamma (k0 : Az) (k1 : Lon) (k2 : Tmp) (γ a b c d : ℝ)
    (h : TanOK k1 c) (hs : SinOK k1 c) (hd : CanonTmp k2 d) (hγ : k2 = .tau → 1 ≤ |γ|) :
    interp4 (lorentz_boostY_gamma.ret k0 k1 k2) (lorentz_boostY_gamma.eval k0 k1 k2 γ a b c d)
      = interp4 (lorentz_boostY_gamma.ret .xy .z .t)
          (lorentz_boostY_gamma.eval .xy .z .t γ (xOf k0 a b) (yOf k0 a b) (zOf k0 k1 a b c) (tOf k0 k1 k2 a b c d)) :=
  (lorentz_boostY_gamma_form γ).spec k0 k1 k2 a b c d ⟨h, hs⟩ hd fun e => boostY_isBoost (L.gam_gamma (hγ e))

theorem c01_lorentz_boostZ_gamma (k0 : Az) (k1 : Lon) (k2 : Tmp) (γ a b c d : ℝ)
    (h : TanOK k1 c) (hs : SinOK k1 c) (hd : CanonTmp k2 d) (hγ : k2 = .tau → 1 ≤ |γ|) :
    interp4 (lorentz_boostZ_gamma.ret k0 k1 k2) (lorentz_boostZ_gamma.eval k0 k1 k2 γ a b c d)
      = interp4 (lorentz_boostZ_gamma.ret .xy .z .t)
          (lorentz_boostZ_gamma.eval .xy .z .t γ (xOf k0 a b) (yOf k0 a b) (zOf k0 k1 a b c) (tOf k0 k1 k2 a b c d)) :=
  (lorentz_boostZ_gamma_form γ).spec k0 k1 k2 a b c d ⟨h, hs⟩ hd fun e => boostZ_isBoost (L.gam_gamma (hγ e))

theorem c01_lorentz_boost_beta3 (k0 : Az) (k1 : Lon) (k2 : Tmp) (k3 : Az) (k4 : Lon) (a0 a1 a2 a3 a4 a5 a6 : ℝ)
    (h1 : TanOK k1 a2) (h2 : TanOK k4 a6) (hd : CanonTmp k2 a3) (hβ : k2 = .tau → mag2Of k3 k4 a4 a5 a6 < 1) :
    interp4 (lorentz_boost_beta3.ret k0 k1 k2 k3 k4) (lorentz_boost_beta3.eval k0 k1 k2 k3 k4 a0 a1 a2 a3 a4 a5 a6)
      = interp4 (lorentz_boost_beta3.ret .xy .z .t .xy .z)
          (lorentz_boost_beta3.eval .xy .z .t .xy .z (xOf k0 a0 a1) (yOf k0 a0 a1) (zOf k0 k1 a0 a1 a2)
            (tOf k0 k1 k2 a0 a1 a2 a3) (xOf k3 a4 a5) (yOf k3 a4 a5) (zOf k3 k4 a4 a5 a6)) :=
  refine_lorentz_boost_beta3_cart k0 k1 k2 k3 k4 a0 a1 a2 a3 a4 a5 a6 h1 h2 hd hβ

theorem c01_lorentz_boost_p4 (k0 : Az) (k1 : Lon) (k2 : Tmp) (k3 : Az) (k4 : Lon) (k5 : Tmp)
    (a0 a1 a2 a3 a4 a5 a6 a7 : ℝ) (h1 : TanOK k1 a2) (h2 : TanOK k4 a6) (hs2 : SinOK k4 a6)
    (hd1 : CanonTmp k2 a3) (hd2 : CanonTmp k5 a7)
    (hp : k2 = .tau → 0 < tOf k3 k4 k5 a4 a5 a6 a7 ^ 2 - mag2Of k3 k4 a4 a5 a6 ∧ 0 < tOf k3 k4 k5 a4 a5 a6 a7) :
    interp4 (lorentz_boost_p4.ret k0 k1 k2 k3 k4 k5) (lorentz_boost_p4.eval k0 k1 k2 k3 k4 k5 a0 a1 a2 a3 a4 a5 a6 a7)
      = interp4 (lorentz_boost_p4.ret .xy .z .t .xy .z .t)
          (lorentz_boost_p4.eval .xy .z .t .xy .z .t (xOf k0 a0 a1) (yOf k0 a0 a1) (zOf k0 k1 a0 a1 a2)
            (tOf k0 k1 k2 a0 a1 a2 a3) (xOf k3 a4 a5) (yOf k3 a4 a5) (zOf k3 k4 a4 a5 a6) (tOf k3 k4 k5 a4 a5 a6 a7)) :=
  refine_lorentz_boost_p4_cart k0 k1 k2 k3 k4 k5 a0 a1 a2 a3 a4 a5 a6 a7 h1 h2 hs2 hd1 hd2 hp

/-! ## deltaRapidityPhi / deltaRapidityPhi2 -/

theorem c01_lorentz_deltaRapidityPhi2 (k0 : Az) (k1 : Lon) (k2 : Tmp) (k3 : Az) (k4 : Lon) (k5 : Tmp)
    (a0 a1 a2 a3 a4 a5 a6 a7 : ℝ)
    (h1 : TanOK k1 a2) (h2 : TanOK k4 a6) (hs1 : SinOK k1 a2) (hs2 : SinOK k4 a6)
    (hd1 : CanonTmp k2 a3) (hd2 : CanonTmp k5 a7)
    (hz1 : |zOf k0 k1 a0 a1 a2| < tOf k0 k1 k2 a0 a1 a2 a3) (hz2 : |zOf k3 k4 a4 a5 a6| < tOf k3 k4 k5 a4 a5 a6 a7)
    (hr1 : 0 < rhoOf k0 a0 a1) (hr2 : 0 < rhoOf k3 a4 a5) :
    lorentz_deltaRapidityPhi2.eval k0 k1 k2 k3 k4 k5 a0 a1 a2 a3 a4 a5 a6 a7
      = lorentz_deltaRapidityPhi2.eval .xy .z .t .xy .z .t (xOf k0 a0 a1) (yOf k0 a0 a1) (zOf k0 k1 a0 a1 a2)
          (tOf k0 k1 k2 a0 a1 a2 a3) (xOf k3 a4 a5) (yOf k3 a4 a5) (zOf k3 k4 a4 a5 a6) (tOf k3 k4 k5 a4 a5 a6 a7) := by
  have hR := refine_lorentz_deltaRapidityPhi2 .xy .z .t .xy .z .t (xOf k0 a0 a1) (yOf k0 a0 a1) (zOf k0 k1 a0 a1 a2)
    (tOf k0 k1 k2 a0 a1 a2 a3) (xOf k3 a4 a5) (yOf k3 a4 a5) (zOf k3 k4 a4 a5 a6) (tOf k3 k4 k5 a4 a5 a6 a7)
    trivial trivial trivial trivial trivial trivial hz1 hz2
  rw [refine_lorentz_deltaRapidityPhi2 k0 k1 k2 k3 k4 k5 a0 a1 a2 a3 a4 a5 a6 a7 h1 h2 hs1 hs2 hd1 hd2 hz1 hz2, hR,
    refine_spatial_deltaphi_key k0 k3 a0 a1 a4 a5 hr1 hr2]
  rfl

theorem c01_lorentz_deltaRapidityPhi (k0 : Az) (k1 : Lon) (k2 : Tmp) (k3 : Az) (k4 : Lon) (k5 : Tmp)
    (a0 a1 a2 a3 a4 a5 a6 a7 : ℝ)
    (h1 : TanOK k1 a2) (h2 : TanOK k4 a6) (hs1 : SinOK k1 a2) (hs2 : SinOK k4 a6)
    (hd1 : CanonTmp k2 a3) (hd2 : CanonTmp k5 a7)
    (hz1 : |zOf k0 k1 a0 a1 a2| < tOf k0 k1 k2 a0 a1 a2 a3) (hz2 : |zOf k3 k4 a4 a5 a6| < tOf k3 k4 k5 a4 a5 a6 a7)
    (hr1 : 0 < rhoOf k0 a0 a1) (hr2 : 0 < rhoOf k3 a4 a5) :
    lorentz_deltaRapidityPhi.eval k0 k1 k2 k3 k4 k5 a0 a1 a2 a3 a4 a5 a6 a7
      = lorentz_deltaRapidityPhi.eval .xy .z .t .xy .z .t (xOf k0 a0 a1) (yOf k0 a0 a1) (zOf k0 k1 a0 a1 a2)
          (tOf k0 k1 k2 a0 a1 a2 a3) (xOf k3 a4 a5) (yOf k3 a4 a5) (zOf k3 k4 a4 a5 a6) (tOf k3 k4 k5 a4 a5 a6 a7) := by
  rw [lorentz_deltaRapidityPhi_eval_eq, lorentz_deltaRapidityPhi_eval_eq,
    c01_lorentz_deltaRapidityPhi2 k0 k1 k2 k3 k4 k5 a0 a1 a2 a3 a4 a5 a6 a7 h1 h2 hs1 hs2 hd1 hd2 hz1 hz2 hr1 hr2]

example : TanOK .theta 1 ∧ SinOK .theta 1 ∧ CanonTmp .tau 2 ∧ |zOf .xy .z 0 0 1| < tOf .xy .z .t 0 0 1 2
    ∧ |(1 / 2 : ℝ)| < 1 ∧ (1 : ℝ) ≤ |(-2)| ∧ mag2Of .xy .z (1 / 2) 0 0 < 1 := by
  refine ⟨Spec.tanOK_one .theta, Spec.sinOK_one .theta, ?_, ?_, ?_, ?_, ?_⟩
  · show (0 : ℝ) ≤ 2; norm_num
  · norm_num [zOf, tOf]
  · rw [abs_of_pos] <;> norm_num
  · rw [abs_of_neg] <;> norm_num
  · norm_num [mag2Of, xOf, yOf, zOf]

end VR
