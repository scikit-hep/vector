/-
Regular refinement: for EVERY compute module `<m>` (82 modules) one theorem

    regular_<m> : <m>.evalDom keys… args…  ∧  <conclusion of the module's main refinement theorem>

under the UNION of the hypotheses of the refinement theorem (`refine_<m>` / `refine_<m>_spec` / `refine_<m>_interp`,
`c12_…_isclose_same`, `c13_…_iff…`) and of the regularity theorem (`dom_<m>` / `dom_<m>_partial`).  On these hypotheses the
real code applies no partial primitive (`/`, `sqrt`, `tan`, `log`, `arccos`, `%`, `**`) at a singular point, so the second
conjunct does not hold "by accident" through Lean's totalised arithmetic (`x / 0 = 0`, `tan (π/2) = 0`, …).  For 66 modules
the second conjunct says that the computed value is the specified one (`Spec.*` of the denotations).  For the other 16 it
says less: `rotate_quaternion`, `rotate_euler`, `rotate_axis` equal their own Cartesian key on the denotations (C01 only);
the nine `is_*` predicates are the documented threshold on the generated `dot` and `rho` / `mag` (an unfolding);
`isclose` is characterised for operands of the same system only; `planar_deltaphi` lies in `[-π, π)` and is congruent to
the difference of the generated `planar_phi`.  Each proof is `⟨dom_…, refine_…⟩`; no new mathematics.

The table at the end of the file lists, per module, what regularity needed beyond the refinement hypotheses.
-/
import VectorModel.Dom.Basic
import VectorModel.Dom.Planar
import VectorModel.Dom.SpatialBin
import VectorModel.Dom.SpatialRot
import VectorModel.Dom.LorentzAcc
import VectorModel.Dom.LorentzBin
import VectorModel.Dom.LorentzBoost
import VectorModel.Refine.Planar
import VectorModel.Refine.SpatialZ
import VectorModel.Refine.SpatialAcc
import VectorModel.Refine.SpatialBin
import VectorModel.Refine.SpatialRot
import VectorModel.Refine.LorentzAcc
import VectorModel.Refine.LorentzBin
import VectorModel.Refine.Equal
import VectorModel.Props.C12
import VectorModel.Props.C13

namespace VR
open VK Spec Real

/-! ## planar (19 modules) -/

theorem regular_planar_x (k : Az) (a b : ℝ) :
    planar_x.evalDom k a b ∧ planar_x.eval k a b = xOf k a b :=
  ⟨dom_planar_x k a b, refine_planar_x k a b⟩

theorem regular_planar_y (k : Az) (a b : ℝ) :
    planar_y.evalDom k a b ∧ planar_y.eval k a b = yOf k a b :=
  ⟨dom_planar_y k a b, refine_planar_y k a b⟩

theorem regular_planar_rho (k : Az) (a b : ℝ) :
    planar_rho.evalDom k a b ∧ planar_rho.eval k a b = rhoOf k a b :=
  ⟨dom_planar_rho k a b, refine_planar_rho k a b⟩

theorem regular_planar_rho2 (k : Az) (a b : ℝ) :
    planar_rho2.evalDom k a b ∧ planar_rho2.eval k a b = xOf k a b ^ 2 + yOf k a b ^ 2 :=
  ⟨dom_planar_rho2 k a b, refine_planar_rho2 k a b⟩

theorem regular_planar_phi (k : Az) (a b : ℝ) (h : 0 < rhoOf k a b) (hp : CanonPhi k a b) :
    planar_phi.evalDom k a b ∧ planar_phi.eval k a b = P.arctan2 (yOf k a b) (xOf k a b) :=
  ⟨dom_planar_phi k a b h hp, refine_planar_phi k a b h hp⟩

theorem regular_planar_dot (k0 k1 : Az) (a0 a1 a2 a3 : ℝ) :
    planar_dot.evalDom k0 k1 a0 a1 a2 a3 ∧
    planar_dot.eval k0 k1 a0 a1 a2 a3 = dot2 (cart2 k0 a0 a1) (cart2 k1 a2 a3) :=
  ⟨dom_planar_dot k0 k1 a0 a1 a2 a3, refine_planar_dot k0 k1 a0 a1 a2 a3⟩

theorem regular_planar_add (k0 k1 : Az) (a0 a1 a2 a3 : ℝ) :
    planar_add.evalDom k0 k1 a0 a1 a2 a3 ∧
    interp2 (planar_add.ret k0 k1) (planar_add.eval k0 k1 a0 a1 a2 a3)
      = some (add2 (cart2 k0 a0 a1) (cart2 k1 a2 a3)) :=
  ⟨dom_planar_add k0 k1 a0 a1 a2 a3, refine_planar_add k0 k1 a0 a1 a2 a3⟩

theorem regular_planar_subtract (k0 k1 : Az) (a0 a1 a2 a3 : ℝ) :
    planar_subtract.evalDom k0 k1 a0 a1 a2 a3 ∧
    interp2 (planar_subtract.ret k0 k1) (planar_subtract.eval k0 k1 a0 a1 a2 a3)
      = some (sub2 (cart2 k0 a0 a1) (cart2 k1 a2 a3)) :=
  ⟨dom_planar_subtract k0 k1 a0 a1 a2 a3, refine_planar_subtract k0 k1 a0 a1 a2 a3⟩

theorem regular_planar_scale (k : Az) (f a b : ℝ) :
    planar_scale.evalDom k f a b ∧
    interp2 (planar_scale.ret k) (planar_scale.eval k f a b) = some (smul2 f (cart2 k a b)) :=
  ⟨dom_planar_scale k f a b, refine_planar_scale k f a b⟩

theorem regular_planar_rotateZ (k : Az) (ang a b : ℝ) :
    planar_rotateZ.evalDom k ang a b ∧
    interp2 (planar_rotateZ.ret k) (planar_rotateZ.eval k ang a b) = some (rotZ2 ang (cart2 k a b)) :=
  ⟨dom_planar_rotateZ k ang a b, refine_planar_rotateZ k ang a b⟩

theorem regular_planar_transform2D (k : Az) (xx xy yx yy a b : ℝ) :
    planar_transform2D.evalDom k xx xy yx yy a b ∧
    interp2 (planar_transform2D.ret k) (planar_transform2D.eval k xx xy yx yy a b)
      = some (xx * xOf k a b + xy * yOf k a b, yx * xOf k a b + yy * yOf k a b) :=
  ⟨dom_planar_transform2D k xx xy yx yy a b, refine_planar_transform2D k xx xy yx yy a b⟩

theorem regular_planar_unit (k : Az) (a b : ℝ) (h : 0 < rhoOf k a b) :
    planar_unit.evalDom k a b ∧
    interp2 (planar_unit.ret k) (planar_unit.eval k a b)
      = some (xOf k a b / rhoOf k a b, yOf k a b / rhoOf k a b) :=
  ⟨dom_planar_unit k a b h, refine_planar_unit k a b h⟩

theorem regular_planar_deltaphi (k0 k1 : Az) (a0 a1 a2 a3 : ℝ) :
    planar_deltaphi.evalDom k0 k1 a0 a1 a2 a3 ∧
    (let d := planar_deltaphi.eval k0 k1 a0 a1 a2 a3
     (-π ≤ d ∧ d < π) ∧ ∃ n : ℤ, d = planar_phi.eval k0 a0 a1 - planar_phi.eval k1 a2 a3 - n * (2 * π)) :=
  ⟨dom_planar_deltaphi k0 k1 a0 a1 a2 a3, refine_planar_deltaphi k0 k1 a0 a1 a2 a3⟩

theorem regular_planar_equal (k0 k1 : Az) (a0 a1 a2 a3 : ℝ) (h : planar_equal.eval k0 k1 a0 a1 a2 a3) :
    planar_equal.evalDom k0 k1 a0 a1 a2 a3 ∧ cart2 k0 a0 a1 = cart2 k1 a2 a3 :=
  ⟨dom_planar_equal k0 k1 a0 a1 a2 a3 h, refine_planar_equal k0 k1 a0 a1 a2 a3 h⟩

theorem regular_planar_not_equal (k0 k1 : Az) (a0 a1 a2 a3 : ℝ) (h : ¬ cart2 k0 a0 a1 = cart2 k1 a2 a3) :
    planar_not_equal.evalDom k0 k1 a0 a1 a2 a3 ∧ planar_not_equal.eval k0 k1 a0 a1 a2 a3 :=
  ⟨dom_planar_not_equal k0 k1 a0 a1 a2 a3 h, refine_planar_not_equal k0 k1 a0 a1 a2 a3 h⟩

/-- same-system characterisation (`c12_planar_isclose_same`) -/
theorem regular_planar_isclose (k : Az) (r t e a0 a1 b0 b1 : ℝ) :
    planar_isclose.evalDom k k r t e a0 a1 b0 b1 ∧
    (planar_isclose.eval k k r t e a0 a1 b0 b1 ↔
      (|a0 - b0| ≤ t + r * |b0| ∧ |a1 - b1| ≤ t + r * |b1|)) :=
  ⟨dom_planar_isclose k k r t e a0 a1 b0 b1, c12_planar_isclose_same k r t e a0 a1 b0 b1⟩

theorem regular_planar_is_parallel (k0 k1 : Az) (tol a0 a1 b0 b1 : ℝ) :
    planar_is_parallel.evalDom k0 k1 tol a0 a1 b0 b1 ∧
    (planar_is_parallel.eval k0 k1 tol a0 a1 b0 b1 ↔
      planar_dot.eval k0 k1 a0 a1 b0 b1 > (1 - |tol|) * planar_rho.eval k0 a0 a1 * planar_rho.eval k1 b0 b1) :=
  ⟨dom_planar_is_parallel k0 k1 tol a0 a1 b0 b1, c13_planar_is_parallel_iff k0 k1 tol a0 a1 b0 b1⟩

theorem regular_planar_is_antiparallel (k0 k1 : Az) (tol a0 a1 b0 b1 : ℝ) :
    planar_is_antiparallel.evalDom k0 k1 tol a0 a1 b0 b1 ∧
    (planar_is_antiparallel.eval k0 k1 tol a0 a1 b0 b1 ↔
      planar_dot.eval k0 k1 a0 a1 b0 b1 < (|tol| - 1) * planar_rho.eval k0 a0 a1 * planar_rho.eval k1 b0 b1) :=
  ⟨dom_planar_is_antiparallel k0 k1 tol a0 a1 b0 b1, c13_planar_is_antiparallel_iff k0 k1 tol a0 a1 b0 b1⟩

theorem regular_planar_is_perpendicular (k0 k1 : Az) (tol a0 a1 b0 b1 : ℝ) :
    planar_is_perpendicular.evalDom k0 k1 tol a0 a1 b0 b1 ∧
    (planar_is_perpendicular.eval k0 k1 tol a0 a1 b0 b1 ↔
      |planar_dot.eval k0 k1 a0 a1 b0 b1| < |tol| * planar_rho.eval k0 a0 a1 * planar_rho.eval k1 b0 b1) :=
  ⟨dom_planar_is_perpendicular k0 k1 tol a0 a1 b0 b1, c13_planar_is_perpendicular_iff k0 k1 tol a0 a1 b0 b1⟩

/-- non-vacuity (`regular_planar_phi`, polar storage `ρ = 2, φ = 1`) -/
example : 0 < rhoOf .rhophi 2 1 ∧ CanonPhi .rhophi 2 1 :=
  ⟨by norm_num [rhoOf], by linarith [Real.pi_pos], by linarith [Real.two_le_pi]⟩

/-! ## spatial accessors (7 modules) -/

theorem regular_spatial_z (k0 : Az) (k1 : Lon) (a b c : ℝ) (h : TanOK k1 c) (hs : SinOK k1 c) :
    spatial_z.evalDom k0 k1 a b c ∧ spatial_z.eval k0 k1 a b c = zOf k0 k1 a b c :=
  ⟨dom_spatial_z_partial k0 k1 a b c h hs, refine_spatial_z k0 k1 a b c h⟩

theorem regular_spatial_mag2 (k0 : Az) (k1 : Lon) (a b c : ℝ) (h : SinOK k1 c) :
    spatial_mag2.evalDom k0 k1 a b c ∧ spatial_mag2.eval k0 k1 a b c = mag2Of k0 k1 a b c :=
  ⟨dom_spatial_mag2 k0 k1 a b c h, refine_spatial_mag2 k0 k1 a b c h⟩

theorem regular_spatial_mag (k0 : Az) (k1 : Lon) (a b c : ℝ) (h2 : Canon2 k0 a b) (h : SinOK k1 c) :
    spatial_mag.evalDom k0 k1 a b c ∧ spatial_mag.eval k0 k1 a b c = sqrt (mag2Of k0 k1 a b c) :=
  ⟨dom_spatial_mag k0 k1 a b c h2 h, refine_spatial_mag k0 k1 a b c h2 h⟩

theorem regular_spatial_costheta (k0 : Az) (k1 : Lon) (a b c : ℝ) (h : Canon3 k0 k1 a b c)
    (hm : 0 < mag2Of k0 k1 a b c) :
    spatial_costheta.evalDom k0 k1 a b c ∧
    spatial_costheta.eval k0 k1 a b c = zOf k0 k1 a b c / sqrt (mag2Of k0 k1 a b c) :=
  ⟨dom_spatial_costheta k0 k1 a b c h hm, refine_spatial_costheta k0 k1 a b c h hm⟩

theorem regular_spatial_theta (k0 : Az) (k1 : Lon) (a b c : ℝ) (h : Canon3 k0 k1 a b c)
    (hm : 0 < mag2Of k0 k1 a b c) :
    spatial_theta.evalDom k0 k1 a b c ∧
    spatial_theta.eval k0 k1 a b c = arccos (zOf k0 k1 a b c / sqrt (mag2Of k0 k1 a b c)) :=
  ⟨dom_spatial_theta k0 k1 a b c h hm, refine_spatial_theta k0 k1 a b c h hm⟩

theorem regular_spatial_cottheta (k0 : Az) (k1 : Lon) (a b c : ℝ) (hr : 0 < rhoOf k0 a b) (ht : TanOK k1 c)
    (hs : SinOK k1 c) (he : k1 = .eta → c ≠ 0) :
    spatial_cottheta.evalDom k0 k1 a b c ∧
    spatial_cottheta.eval k0 k1 a b c = zOf k0 k1 a b c / rhoOf k0 a b :=
  ⟨dom_spatial_cottheta_partial k0 k1 a b c hr ht hs he, refine_spatial_cottheta k0 k1 a b c hr ht⟩

theorem regular_spatial_eta (k0 : Az) (k1 : Lon) (a b c : ℝ) (hr : 0 < rhoOf k0 a b)
    (h : CanonLon k0 k1 a b c) :
    spatial_eta.evalDom k0 k1 a b c ∧
    spatial_eta.eval k0 k1 a b c = arsinh (zOf k0 k1 a b c / rhoOf k0 a b) :=
  ⟨dom_spatial_eta k0 k1 a b c h hr, refine_spatial_eta k0 k1 a b c hr h⟩

/-- non-vacuity (`regular_spatial_cottheta`, key `(rhophi, theta)`, `ρ = 1, φ = 0, θ = 1`) -/
example : 0 < rhoOf .rhophi 1 0 ∧ TanOK .theta 1 ∧ SinOK .theta 1 ∧ ((Lon.theta = .eta) → (1 : ℝ) ≠ 0) :=
  ⟨by norm_num [rhoOf], Spec.tanOK_one .theta,
   Spec.sinOK_one .theta, fun _ => one_ne_zero⟩

/-! ## spatial binary / vector-valued (16 modules) -/

theorem regular_spatial_dot (k0 : Az) (k1 : Lon) (k2 : Az) (k3 : Lon) (a0 a1 a2 a3 a4 a5 : ℝ)
    (h1 : TanOK k1 a2) (h2 : TanOK k3 a5) (hs1 : SinOK k1 a2) (hs2 : SinOK k3 a5)
    (he : DotEtaOK k0 k1 k2 k3 a2 a5) :
    spatial_dot.evalDom k0 k1 k2 k3 a0 a1 a2 a3 a4 a5 ∧
    spatial_dot.eval k0 k1 k2 k3 a0 a1 a2 a3 a4 a5 = dot3 (cart3 k0 k1 a0 a1 a2) (cart3 k2 k3 a3 a4 a5) :=
  ⟨dom_spatial_dot_partial k0 k1 k2 k3 a0 a1 a2 a3 a4 a5 h1 h2 hs1 hs2 he,
   refine_spatial_dot k0 k1 k2 k3 a0 a1 a2 a3 a4 a5 h1 h2⟩

theorem regular_spatial_cross (k0 : Az) (k1 : Lon) (k2 : Az) (k3 : Lon) (a0 a1 a2 a3 a4 a5 : ℝ)
    (h1 : TanOK k1 a2) (h2 : TanOK k3 a5) (hs1 : SinOK k1 a2) (hs2 : SinOK k3 a5) :
    spatial_cross.evalDom k0 k1 k2 k3 a0 a1 a2 a3 a4 a5 ∧
    interp3 (spatial_cross.ret k0 k1 k2 k3) (spatial_cross.eval k0 k1 k2 k3 a0 a1 a2 a3 a4 a5)
      = some (cross3 (cart3 k0 k1 a0 a1 a2) (cart3 k2 k3 a3 a4 a5)) :=
  ⟨dom_spatial_cross_partial k0 k1 k2 k3 a0 a1 a2 a3 a4 a5 h1 h2 hs1 hs2,
   refine_spatial_cross k0 k1 k2 k3 a0 a1 a2 a3 a4 a5 h1 h2⟩

theorem regular_spatial_scale (k0 : Az) (k1 : Lon) (f a b c : ℝ) (h : ThetaRange k1 c) :
    spatial_scale.evalDom k0 k1 f a b c ∧
    interp3 (spatial_scale.ret k0 k1) (spatial_scale.eval k0 k1 f a b c) = some (smul3 f (cart3 k0 k1 a b c)) :=
  ⟨dom_spatial_scale k0 k1 f a b c h, refine_spatial_scale k0 k1 f a b c h⟩

theorem regular_spatial_add (k0 : Az) (k1 : Lon) (k2 : Az) (k3 : Lon) (a0 a1 a2 a3 a4 a5 : ℝ)
    (h1 : TanOK k1 a2) (h2 : TanOK k3 a5)
    (hrep : Representable3 (spatial_add.ret k0 k1 k2 k3) (add3 (cart3 k0 k1 a0 a1 a2) (cart3 k2 k3 a3 a4 a5)))
    (hs1 : SinOK k1 a2) (hs2 : SinOK k3 a5) :
    spatial_add.evalDom k0 k1 k2 k3 a0 a1 a2 a3 a4 a5 ∧
    interp3 (spatial_add.ret k0 k1 k2 k3) (spatial_add.eval k0 k1 k2 k3 a0 a1 a2 a3 a4 a5)
      = some (add3 (cart3 k0 k1 a0 a1 a2) (cart3 k2 k3 a3 a4 a5)) :=
  ⟨dom_spatial_add_partial k0 k1 k2 k3 a0 a1 a2 a3 a4 a5 h1 h2 hrep hs1 hs2,
   refine_spatial_add k0 k1 k2 k3 a0 a1 a2 a3 a4 a5 h1 h2 hrep⟩

theorem regular_spatial_subtract (k0 : Az) (k1 : Lon) (k2 : Az) (k3 : Lon) (a0 a1 a2 a3 a4 a5 : ℝ)
    (h1 : TanOK k1 a2) (h2 : TanOK k3 a5)
    (hrep : Representable3 (spatial_subtract.ret k0 k1 k2 k3) (sub3 (cart3 k0 k1 a0 a1 a2) (cart3 k2 k3 a3 a4 a5)))
    (hs1 : SinOK k1 a2) (hs2 : SinOK k3 a5) :
    spatial_subtract.evalDom k0 k1 k2 k3 a0 a1 a2 a3 a4 a5 ∧
    interp3 (spatial_subtract.ret k0 k1 k2 k3) (spatial_subtract.eval k0 k1 k2 k3 a0 a1 a2 a3 a4 a5)
      = some (sub3 (cart3 k0 k1 a0 a1 a2) (cart3 k2 k3 a3 a4 a5)) :=
  ⟨dom_spatial_subtract_partial k0 k1 k2 k3 a0 a1 a2 a3 a4 a5 h1 h2 hrep hs1 hs2,
   refine_spatial_subtract k0 k1 k2 k3 a0 a1 a2 a3 a4 a5 h1 h2 hrep⟩

theorem regular_spatial_unit (k0 : Az) (k1 : Lon) (a b c : ℝ) (h : Canon3 k0 k1 a b c) (hm : 0 < mag2Of k0 k1 a b c) :
    spatial_unit.evalDom k0 k1 a b c ∧
    interp3 (spatial_unit.ret k0 k1) (spatial_unit.eval k0 k1 a b c)
      = some (smul3 (1 / sqrt (mag2Of k0 k1 a b c)) (cart3 k0 k1 a b c)) :=
  ⟨dom_spatial_unit k0 k1 a b c h hm, refine_spatial_unit k0 k1 a b c h hm⟩

theorem regular_spatial_deltaangle (k0 : Az) (k1 : Lon) (k2 : Az) (k3 : Lon) (a b c d e f : ℝ)
    (hc1 : Canon2 k0 a b) (hc2 : Canon2 k2 d e) (ht1 : TanOK k1 c) (ht2 : TanOK k3 f)
    (hs1 : k1 = .theta → sin c ≠ 0) (hs2 : k3 = .theta → sin f ≠ 0)
    (hm1 : 0 < mag2Of k0 k1 a b c) (hm2 : 0 < mag2Of k2 k3 d e f) (he : DotEtaOK k0 k1 k2 k3 c f) :
    spatial_deltaangle.evalDom k0 k1 k2 k3 a b c d e f ∧
    spatial_deltaangle.eval k0 k1 k2 k3 a b c d e f
      = arccos (max (-1) (min 1 (dot3 (cart3 k0 k1 a b c) (cart3 k2 k3 d e f)
          / sqrt (mag2Of k0 k1 a b c) / sqrt (mag2Of k2 k3 d e f)))) :=
  ⟨dom_spatial_deltaangle_partial k0 k1 k2 k3 a b c d e f hc1 hc2 ht1 ht2 hs1 hs2 hm1 hm2 he,
   refine_spatial_deltaangle k0 k1 k2 k3 a b c d e f hc1 hc2 ht1 ht2 hs1 hs2⟩

theorem regular_spatial_deltaeta (k0 : Az) (k1 : Lon) (k2 : Az) (k3 : Lon) (a b c d e f : ℝ)
    (hr1 : 0 < rhoOf k0 a b) (hr2 : 0 < rhoOf k2 d e)
    (h1 : CanonLon k0 k1 a b c) (h2 : CanonLon k2 k3 d e f) :
    spatial_deltaeta.evalDom k0 k1 k2 k3 a b c d e f ∧
    spatial_deltaeta.eval k0 k1 k2 k3 a b c d e f
      = arsinh (zOf k0 k1 a b c / rhoOf k0 a b) - arsinh (zOf k2 k3 d e f / rhoOf k2 d e) :=
  ⟨dom_spatial_deltaeta k0 k1 k2 k3 a b c d e f hr1 hr2 h1 h2,
   refine_spatial_deltaeta k0 k1 k2 k3 a b c d e f hr1 hr2 h1 h2⟩

theorem regular_spatial_deltaR2 (k0 : Az) (k1 : Lon) (k2 : Az) (k3 : Lon) (a b c d e f : ℝ)
    (hr1 : 0 < rhoOf k0 a b) (hr2 : 0 < rhoOf k2 d e)
    (h1 : CanonLon k0 k1 a b c) (h2 : CanonLon k2 k3 d e f) :
    spatial_deltaR2.evalDom k0 k1 k2 k3 a b c d e f ∧
    spatial_deltaR2.eval k0 k1 k2 k3 a b c d e f
      = (P.mod (P.arctan2 (yOf k0 a b) (xOf k0 a b) - P.arctan2 (yOf k2 d e) (xOf k2 d e) + π) (2 * π) - π) ^ 2
        + (arsinh (zOf k0 k1 a b c / rhoOf k0 a b) - arsinh (zOf k2 k3 d e f / rhoOf k2 d e)) ^ 2 :=
  ⟨dom_spatial_deltaR2 k0 k1 k2 k3 a b c d e f hr1 hr2 h1 h2,
   refine_spatial_deltaR2 k0 k1 k2 k3 a b c d e f hr1 hr2 h1 h2⟩

/-- `refine_spatial_deltaR` (`deltaR = √deltaR2`, no hypotheses) composed with `refine_spatial_deltaR2`, so that the
conclusion is in terms of the specification -/
theorem regular_spatial_deltaR (k0 : Az) (k1 : Lon) (k2 : Az) (k3 : Lon) (a b c d e f : ℝ)
    (hr1 : 0 < rhoOf k0 a b) (hr2 : 0 < rhoOf k2 d e)
    (h1 : CanonLon k0 k1 a b c) (h2 : CanonLon k2 k3 d e f) :
    spatial_deltaR.evalDom k0 k1 k2 k3 a b c d e f ∧
    spatial_deltaR.eval k0 k1 k2 k3 a b c d e f
      = sqrt ((P.mod (P.arctan2 (yOf k0 a b) (xOf k0 a b) - P.arctan2 (yOf k2 d e) (xOf k2 d e) + π) (2 * π) - π) ^ 2
        + (arsinh (zOf k0 k1 a b c / rhoOf k0 a b) - arsinh (zOf k2 k3 d e f / rhoOf k2 d e)) ^ 2) :=
  ⟨dom_spatial_deltaR k0 k1 k2 k3 a b c d e f hr1 hr2 h1 h2, by
    rw [refine_spatial_deltaR k0 k1 k2 k3 a b c d e f, refine_spatial_deltaR2 k0 k1 k2 k3 a b c d e f hr1 hr2 h1 h2]⟩

theorem regular_spatial_equal (k0 : Az) (k1 : Lon) (k2 : Az) (k3 : Lon) (a0 a1 a2 a3 a4 a5 : ℝ)
    (c1 : Canon3 k0 k1 a0 a1 a2) (c2 : Canon3 k2 k3 a3 a4 a5) (t1 : TanOK k1 a2) (t2 : TanOK k3 a5)
    (h : spatial_equal.eval k0 k1 k2 k3 a0 a1 a2 a3 a4 a5) :
    spatial_equal.evalDom k0 k1 k2 k3 a0 a1 a2 a3 a4 a5 ∧
    cart3 k0 k1 a0 a1 a2 = cart3 k2 k3 a3 a4 a5 :=
  ⟨dom_spatial_equal k0 k1 k2 k3 a0 a1 a2 a3 a4 a5 c1 c2 t1 t2 h,
   refine_spatial_equal k0 k1 k2 k3 a0 a1 a2 a3 a4 a5 c1 c2 t1 t2 h⟩

theorem regular_spatial_not_equal (k0 : Az) (k1 : Lon) (k2 : Az) (k3 : Lon) (a0 a1 a2 a3 a4 a5 : ℝ)
    (c1 : Canon3 k0 k1 a0 a1 a2) (c2 : Canon3 k2 k3 a3 a4 a5) (t1 : TanOK k1 a2) (t2 : TanOK k3 a5)
    (h : ¬ cart3 k0 k1 a0 a1 a2 = cart3 k2 k3 a3 a4 a5) :
    spatial_not_equal.evalDom k0 k1 k2 k3 a0 a1 a2 a3 a4 a5 ∧
    spatial_not_equal.eval k0 k1 k2 k3 a0 a1 a2 a3 a4 a5 :=
  ⟨dom_spatial_not_equal k0 k1 k2 k3 a0 a1 a2 a3 a4 a5 c1 c2 t1 t2 h,
   refine_spatial_not_equal k0 k1 k2 k3 a0 a1 a2 a3 a4 a5 c1 c2 t1 t2 h⟩

/-- same-system characterisation (`c12_spatial_isclose_same`) -/
theorem regular_spatial_isclose (k0 : Az) (k1 : Lon) (r t e a0 a1 a2 b0 b1 b2 : ℝ) :
    spatial_isclose.evalDom k0 k1 k0 k1 r t e a0 a1 a2 b0 b1 b2 ∧
    (spatial_isclose.eval k0 k1 k0 k1 r t e a0 a1 a2 b0 b1 b2 ↔
      (|a0 - b0| ≤ t + r * |b0| ∧ |a1 - b1| ≤ t + r * |b1| ∧ |a2 - b2| ≤ t + r * |b2|)) :=
  ⟨dom_spatial_isclose_same k0 k1 r t e a0 a1 a2 b0 b1 b2, c12_spatial_isclose_same k0 k1 r t e a0 a1 a2 b0 b1 b2⟩

theorem regular_spatial_is_parallel (k0 : Az) (k1 : Lon) (k2 : Az) (k3 : Lon) (tol a0 a1 a2 b0 b1 b2 : ℝ)
    (h1 : TanOK k1 a2) (h2 : TanOK k3 b2) (hs1 : SinOK k1 a2) (hs2 : SinOK k3 b2) (he : DotEtaOK k0 k1 k2 k3 a2 b2) :
    spatial_is_parallel.evalDom k0 k1 k2 k3 tol a0 a1 a2 b0 b1 b2 ∧
    (spatial_is_parallel.eval k0 k1 k2 k3 tol a0 a1 a2 b0 b1 b2 ↔
      spatial_dot.eval k0 k1 k2 k3 a0 a1 a2 b0 b1 b2 >
        (1 - |tol|) * spatial_mag.eval k0 k1 a0 a1 a2 * spatial_mag.eval k2 k3 b0 b1 b2) :=
  ⟨dom_spatial_is_parallel_partial k0 k1 k2 k3 tol a0 a1 a2 b0 b1 b2 h1 h2 hs1 hs2 he,
   c13_spatial_is_parallel_iff k0 k1 k2 k3 tol a0 a1 a2 b0 b1 b2⟩

theorem regular_spatial_is_antiparallel (k0 : Az) (k1 : Lon) (k2 : Az) (k3 : Lon) (tol a0 a1 a2 b0 b1 b2 : ℝ)
    (h1 : TanOK k1 a2) (h2 : TanOK k3 b2) (hs1 : SinOK k1 a2) (hs2 : SinOK k3 b2) (he : DotEtaOK k0 k1 k2 k3 a2 b2) :
    spatial_is_antiparallel.evalDom k0 k1 k2 k3 tol a0 a1 a2 b0 b1 b2 ∧
    (spatial_is_antiparallel.eval k0 k1 k2 k3 tol a0 a1 a2 b0 b1 b2 ↔
      spatial_dot.eval k0 k1 k2 k3 a0 a1 a2 b0 b1 b2 <
        (|tol| - 1) * spatial_mag.eval k0 k1 a0 a1 a2 * spatial_mag.eval k2 k3 b0 b1 b2) :=
  ⟨dom_spatial_is_antiparallel_partial k0 k1 k2 k3 tol a0 a1 a2 b0 b1 b2 h1 h2 hs1 hs2 he,
   c13_spatial_is_antiparallel_iff k0 k1 k2 k3 tol a0 a1 a2 b0 b1 b2⟩

theorem regular_spatial_is_perpendicular (k0 : Az) (k1 : Lon) (k2 : Az) (k3 : Lon) (tol a0 a1 a2 b0 b1 b2 : ℝ)
    (h1 : TanOK k1 a2) (h2 : TanOK k3 b2) (hs1 : SinOK k1 a2) (hs2 : SinOK k3 b2) (he : DotEtaOK k0 k1 k2 k3 a2 b2) :
    spatial_is_perpendicular.evalDom k0 k1 k2 k3 tol a0 a1 a2 b0 b1 b2 ∧
    (spatial_is_perpendicular.eval k0 k1 k2 k3 tol a0 a1 a2 b0 b1 b2 ↔
      |spatial_dot.eval k0 k1 k2 k3 a0 a1 a2 b0 b1 b2| <
        |tol| * spatial_mag.eval k0 k1 a0 a1 a2 * spatial_mag.eval k2 k3 b0 b1 b2) :=
  ⟨dom_spatial_is_perpendicular_partial k0 k1 k2 k3 tol a0 a1 a2 b0 b1 b2 h1 h2 hs1 hs2 he,
   c13_spatial_is_perpendicular_iff k0 k1 k2 k3 tol a0 a1 a2 b0 b1 b2⟩

/-- non-vacuity (`regular_spatial_dot`, key `rhophi_eta × rhophi_theta`, `η₁ = 1`, `θ₂ = 1`: the key that needs `η ≠ 0`) -/
example : TanOK .eta 1 ∧ TanOK .theta 1 ∧ SinOK .eta 1 ∧ SinOK .theta 1 ∧ DotEtaOK .rhophi .eta .rhophi .theta 1 1 :=
  ⟨trivial, Spec.tanOK_one .theta, trivial, Spec.sinOK_one .theta,
    one_ne_zero⟩

/-! ## spatial rotations / transforms (6 modules) -/

theorem regular_spatial_rotateX (k0 : Az) (k1 : Lon) (ang a b c : ℝ) (h : TanOK k1 c)
    (hs : k1 = .theta → sin c ≠ 0) :
    spatial_rotateX.evalDom k0 k1 ang a b c ∧
    interp3 (spatial_rotateX.ret k0 k1) (spatial_rotateX.eval k0 k1 ang a b c)
      = some (rotX ang (cart3 k0 k1 a b c)) :=
  ⟨dom_spatial_rotateX_partial k0 k1 ang a b c h hs, refine_spatial_rotateX k0 k1 ang a b c h⟩

theorem regular_spatial_rotateY (k0 : Az) (k1 : Lon) (ang a b c : ℝ) (h : TanOK k1 c)
    (hs : k1 = .theta → sin c ≠ 0) :
    spatial_rotateY.evalDom k0 k1 ang a b c ∧
    interp3 (spatial_rotateY.ret k0 k1) (spatial_rotateY.eval k0 k1 ang a b c)
      = some (rotY ang (cart3 k0 k1 a b c)) :=
  ⟨dom_spatial_rotateY_partial k0 k1 ang a b c h hs, refine_spatial_rotateY k0 k1 ang a b c h⟩

theorem regular_spatial_rotate_quaternion (k0 : Az) (k1 : Lon) (u i j k a b c : ℝ) (h : TanOK k1 c)
    (hs : k1 = .theta → sin c ≠ 0) :
    spatial_rotate_quaternion.evalDom k0 k1 u i j k a b c ∧
    spatial_rotate_quaternion.eval k0 k1 u i j k a b c
      = spatial_rotate_quaternion.eval .xy .z u i j k (xOf k0 a b) (yOf k0 a b) (zOf k0 k1 a b c) :=
  ⟨dom_spatial_rotate_quaternion_partial k0 k1 u i j k a b c h hs,
   refine_spatial_rotate_quaternion k0 k1 u i j k a b c h⟩

theorem regular_spatial_transform3D (k0 : Az) (k1 : Lon) (xx xy xz yx yy yz zx zy zz a b c : ℝ)
    (h : TanOK k1 c) (hs : k1 = .theta → sin c ≠ 0) :
    spatial_transform3D.evalDom k0 k1 xx xy xz yx yy yz zx zy zz a b c ∧
    interp3 (spatial_transform3D.ret k0 k1) (spatial_transform3D.eval k0 k1 xx xy xz yx yy yz zx zy zz a b c)
      = some (xx * xOf k0 a b + xy * yOf k0 a b + xz * zOf k0 k1 a b c,
              yx * xOf k0 a b + yy * yOf k0 a b + yz * zOf k0 k1 a b c,
              zx * xOf k0 a b + zy * yOf k0 a b + zz * zOf k0 k1 a b c) :=
  ⟨dom_spatial_transform3D_partial k0 k1 xx xy xz yx yy yz zx zy zz a b c h hs,
   refine_spatial_transform3D_interp k0 k1 xx xy xz yx yy yz zx zy zz a b c h⟩

theorem regular_spatial_rotate_euler (k0 : Az) (k1 : Lon) (o : Ord) (phi theta psi a b c : ℝ)
    (h : TanOK k1 c) (hs : k1 = .theta → sin c ≠ 0) :
    spatial_rotate_euler.evalDom k0 k1 o phi theta psi a b c ∧
    spatial_rotate_euler.eval k0 k1 o phi theta psi a b c
      = spatial_rotate_euler.eval .xy .z o phi theta psi (xOf k0 a b) (yOf k0 a b) (zOf k0 k1 a b c) :=
  ⟨dom_spatial_rotate_euler_partial k0 k1 o phi theta psi a b c h hs,
   refine_spatial_rotate_euler k0 k1 o phi theta psi a b c h⟩

theorem regular_spatial_rotate_axis (k0 : Az) (k1 : Lon) (k2 : Az) (k3 : Lon) (ang a b c d e f : ℝ)
    (h1 : TanOK k1 c) (h2 : TanOK k3 f)
    (hu : 0 < mag2Of k0 k1 a b c) (hs1 : k1 = .theta → sin c ≠ 0) (hs2 : k3 = .theta → sin f ≠ 0) :
    spatial_rotate_axis.evalDom k0 k1 k2 k3 ang a b c d e f ∧
    spatial_rotate_axis.eval k0 k1 k2 k3 ang a b c d e f
      = spatial_rotate_axis.eval .xy .z .xy .z ang (xOf k0 a b) (yOf k0 a b) (zOf k0 k1 a b c)
          (xOf k2 d e) (yOf k2 d e) (zOf k2 k3 d e f) :=
  ⟨dom_spatial_rotate_axis_partial k0 k1 k2 k3 ang a b c d e f h1 h2 hu hs1 hs2,
   refine_spatial_rotate_axis k0 k1 k2 k3 ang a b c d e f h1 h2⟩

/-- non-vacuity (`regular_spatial_rotate_axis`, η-stored axis `(ρ, φ, η) = (2, 1, 0)`, θ-stored vector with `θ = 1`) -/
example : TanOK .eta 0 ∧ TanOK .theta 1 ∧ 0 < mag2Of .rhophi .eta 2 1 0 ∧ ((Lon.eta = .theta) → sin (0 : ℝ) ≠ 0)
    ∧ ((Lon.theta = .theta) → sin (1 : ℝ) ≠ 0) := by
  refine ⟨trivial, Spec.tanOK_one .theta, ?_, (fun h => by cases h),
    fun _ => Spec.sinOK_one .theta⟩
  simp only [mag2Of, xOf, yOf, zOf, rhoOf, sinh_zero, mul_zero]
  linarith [cos_sq_add_sin_sq (1 : ℝ)]

/-! ## lorentz accessors, predicates and unary vector-valued modules (18 modules) -/

theorem regular_lorentz_t2 (k0 : Az) (k1 : Lon) (k2 : Tmp) (a b c d : ℝ)
    (h : CanonLon k0 k1 a b c) (hd : CanonTmp k2 d) :
    lorentz_t2.evalDom k0 k1 k2 a b c d ∧ lorentz_t2.eval k0 k1 k2 a b c d = tOf k0 k1 k2 a b c d ^ 2 :=
  ⟨dom_lorentz_t2 k0 k1 k2 a b c d h hd, refine_lorentz_t2 k0 k1 k2 a b c d h hd⟩

theorem regular_lorentz_t (k0 : Az) (k1 : Lon) (k2 : Tmp) (a b c d : ℝ)
    (h : CanonLon k0 k1 a b c) (hd : CanonTmp k2 d) :
    lorentz_t.evalDom k0 k1 k2 a b c d ∧ lorentz_t.eval k0 k1 k2 a b c d = tOf k0 k1 k2 a b c d :=
  ⟨dom_lorentz_t k0 k1 k2 a b c d h hd, refine_lorentz_t k0 k1 k2 a b c d h hd⟩

theorem regular_lorentz_tau2 (k0 : Az) (k1 : Lon) (k2 : Tmp) (a b c d : ℝ)
    (h : CanonLon k0 k1 a b c) (hd : CanonTmp k2 d) :
    lorentz_tau2.evalDom k0 k1 k2 a b c d ∧
    lorentz_tau2.eval k0 k1 k2 a b c d = tOf k0 k1 k2 a b c d ^ 2 - mag2Of k0 k1 a b c :=
  ⟨dom_lorentz_tau2 k0 k1 k2 a b c d h hd, refine_lorentz_tau2 k0 k1 k2 a b c d h hd⟩

theorem regular_lorentz_tau (k0 : Az) (k1 : Lon) (k2 : Tmp) (a b c d : ℝ)
    (h : CanonLon k0 k1 a b c) (hd : CanonTmp k2 d) :
    lorentz_tau.evalDom k0 k1 k2 a b c d ∧
    lorentz_tau.eval k0 k1 k2 a b c d
      = Real.sign (tOf k0 k1 k2 a b c d ^ 2 - mag2Of k0 k1 a b c)
        * sqrt |tOf k0 k1 k2 a b c d ^ 2 - mag2Of k0 k1 a b c| :=
  ⟨dom_lorentz_tau k0 k1 k2 a b c d h hd, refine_lorentz_tau k0 k1 k2 a b c d h hd⟩

theorem regular_lorentz_beta (k0 : Az) (k1 : Lon) (k2 : Tmp) (a b c d : ℝ)
    (h : Canon3 k0 k1 a b c) (hd : CanonTmp k2 d) (ht : tOf k0 k1 k2 a b c d ≠ 0) :
    lorentz_beta.evalDom k0 k1 k2 a b c d ∧
    lorentz_beta.eval k0 k1 k2 a b c d = sqrt (mag2Of k0 k1 a b c) / tOf k0 k1 k2 a b c d :=
  ⟨dom_lorentz_beta k0 k1 k2 a b c d h hd ht, refine_lorentz_beta k0 k1 k2 a b c d h hd ht⟩

theorem regular_lorentz_gamma (k0 : Az) (k1 : Lon) (k2 : Tmp) (a b c d : ℝ)
    (h : CanonLon k0 k1 a b c) (hd : CanonTmp k2 d)
    (hs : 0 < tOf k0 k1 k2 a b c d ^ 2 - mag2Of k0 k1 a b c) :
    lorentz_gamma.evalDom k0 k1 k2 a b c d ∧
    lorentz_gamma.eval k0 k1 k2 a b c d
      = tOf k0 k1 k2 a b c d / sqrt (tOf k0 k1 k2 a b c d ^ 2 - mag2Of k0 k1 a b c) :=
  ⟨dom_lorentz_gamma k0 k1 k2 a b c d h hd hs, refine_lorentz_gamma k0 k1 k2 a b c d h hd hs⟩

theorem regular_lorentz_rapidity (k0 : Az) (k1 : Lon) (k2 : Tmp) (a b c d : ℝ)
    (h : CanonLon k0 k1 a b c) (htan : TanOK k1 c) (hd : CanonTmp k2 d)
    (hz : |zOf k0 k1 a b c| < tOf k0 k1 k2 a b c d) :
    lorentz_rapidity.evalDom k0 k1 k2 a b c d ∧
    lorentz_rapidity.eval k0 k1 k2 a b c d
      = 1 / 2 * Real.log ((tOf k0 k1 k2 a b c d + zOf k0 k1 a b c) / (tOf k0 k1 k2 a b c d - zOf k0 k1 a b c)) :=
  ⟨dom_lorentz_rapidity k0 k1 k2 a b c d h htan hd hz, refine_lorentz_rapidity k0 k1 k2 a b c d h htan hd hz⟩

theorem regular_lorentz_Et2 (k0 : Az) (k1 : Lon) (k2 : Tmp) (a b c d : ℝ)
    (h : CanonLon k0 k1 a b c) (hd : CanonTmp k2 d) (hm : 0 < mag2Of k0 k1 a b c) :
    lorentz_Et2.evalDom k0 k1 k2 a b c d ∧
    lorentz_Et2.eval k0 k1 k2 a b c d
      = tOf k0 k1 k2 a b c d ^ 2 * rhoOf k0 a b ^ 2 / mag2Of k0 k1 a b c :=
  ⟨dom_lorentz_Et2 k0 k1 k2 a b c d h hd hm, refine_lorentz_Et2 k0 k1 k2 a b c d h hd hm⟩

theorem regular_lorentz_Et (k0 : Az) (k1 : Lon) (k2 : Tmp) (a b c d : ℝ)
    (h : Canon3 k0 k1 a b c) (hd : CanonTmp k2 d) (hm : 0 < mag2Of k0 k1 a b c)
    (ht : 0 ≤ tOf k0 k1 k2 a b c d) :
    lorentz_Et.evalDom k0 k1 k2 a b c d ∧
    lorentz_Et.eval k0 k1 k2 a b c d
      = sqrt (tOf k0 k1 k2 a b c d ^ 2 * rhoOf k0 a b ^ 2 / mag2Of k0 k1 a b c) :=
  ⟨dom_lorentz_Et k0 k1 k2 a b c d h hd hm ht, refine_lorentz_Et k0 k1 k2 a b c d h hd hm ht⟩

theorem regular_lorentz_Mt2 (k0 : Az) (k1 : Lon) (k2 : Tmp) (a b c d : ℝ)
    (htan : TanOK k1 c) (hd : CanonTmp k2 d) (hsin : k2 = .t → SinOK k1 c) :
    lorentz_Mt2.evalDom k0 k1 k2 a b c d ∧
    lorentz_Mt2.eval k0 k1 k2 a b c d = tOf k0 k1 k2 a b c d ^ 2 - zOf k0 k1 a b c ^ 2 :=
  ⟨dom_lorentz_Mt2_partial k0 k1 k2 a b c d htan hd hsin, refine_lorentz_Mt2 k0 k1 k2 a b c d htan hd⟩

theorem regular_lorentz_Mt (k0 : Az) (k1 : Lon) (k2 : Tmp) (a b c d : ℝ)
    (htan : TanOK k1 c) (hd : CanonTmp k2 d)
    (hs : 0 ≤ tOf k0 k1 k2 a b c d ^ 2 - zOf k0 k1 a b c ^ 2) (hsin : k2 = .t → SinOK k1 c) :
    lorentz_Mt.evalDom k0 k1 k2 a b c d ∧
    lorentz_Mt.eval k0 k1 k2 a b c d = sqrt (tOf k0 k1 k2 a b c d ^ 2 - zOf k0 k1 a b c ^ 2) :=
  ⟨dom_lorentz_Mt_partial k0 k1 k2 a b c d htan hd hs hsin, refine_lorentz_Mt k0 k1 k2 a b c d htan hd hs⟩

theorem regular_lorentz_is_timelike (k0 : Az) (k1 : Lon) (k2 : Tmp) (tol a0 a1 a2 a3 : ℝ)
    (hθ : k1 = .theta → Real.sin a2 ≠ 0 ∧ Real.cos a2 ≠ 0) (htau : CanonTmp k2 a3) :
    lorentz_is_timelike.evalDom k0 k1 k2 tol a0 a1 a2 a3 ∧
    (lorentz_is_timelike.eval k0 k1 k2 tol a0 a1 a2 a3 ↔
      lorentz_dot.eval k0 k1 k2 k0 k1 k2 a0 a1 a2 a3 a0 a1 a2 a3 > |tol|) :=
  ⟨dom_lorentz_is_timelike k0 k1 k2 tol a0 a1 a2 a3 hθ htau, c13_is_timelike_iff_dot k0 k1 k2 tol a0 a1 a2 a3⟩

theorem regular_lorentz_is_lightlike (k0 : Az) (k1 : Lon) (k2 : Tmp) (tol a0 a1 a2 a3 : ℝ)
    (hθ : k1 = .theta → Real.sin a2 ≠ 0 ∧ Real.cos a2 ≠ 0) (htau : CanonTmp k2 a3) :
    lorentz_is_lightlike.evalDom k0 k1 k2 tol a0 a1 a2 a3 ∧
    (lorentz_is_lightlike.eval k0 k1 k2 tol a0 a1 a2 a3 ↔
      |lorentz_dot.eval k0 k1 k2 k0 k1 k2 a0 a1 a2 a3 a0 a1 a2 a3| < |tol|) :=
  ⟨dom_lorentz_is_lightlike k0 k1 k2 tol a0 a1 a2 a3 hθ htau, c13_is_lightlike_iff_dot k0 k1 k2 tol a0 a1 a2 a3⟩

theorem regular_lorentz_is_spacelike (k0 : Az) (k1 : Lon) (k2 : Tmp) (tol a0 a1 a2 a3 : ℝ)
    (hθ : k1 = .theta → Real.sin a2 ≠ 0 ∧ Real.cos a2 ≠ 0) (htau : CanonTmp k2 a3) :
    lorentz_is_spacelike.evalDom k0 k1 k2 tol a0 a1 a2 a3 ∧
    (lorentz_is_spacelike.eval k0 k1 k2 tol a0 a1 a2 a3 ↔
      lorentz_dot.eval k0 k1 k2 k0 k1 k2 a0 a1 a2 a3 a0 a1 a2 a3 < -|tol|) :=
  ⟨dom_lorentz_is_spacelike k0 k1 k2 tol a0 a1 a2 a3 hθ htau, c13_is_spacelike_iff_dot k0 k1 k2 tol a0 a1 a2 a3⟩

theorem regular_lorentz_to_beta3 (k0 : Az) (k1 : Lon) (k2 : Tmp) (a b c d : ℝ)
    (h : CanonLon k0 k1 a b c) (hd : CanonTmp k2 d) (ht : tOf k0 k1 k2 a b c d ≠ 0)
    (hpos : k0 = .xy → k1 = .z ∨ 0 < tOf k0 k1 k2 a b c d) :
    lorentz_to_beta3.evalDom k0 k1 k2 a b c d ∧
    interp3 (lorentz_to_beta3.ret k0 k1 k2) (lorentz_to_beta3.eval k0 k1 k2 a b c d)
      = some (xOf k0 a b / tOf k0 k1 k2 a b c d, yOf k0 a b / tOf k0 k1 k2 a b c d,
          zOf k0 k1 a b c / tOf k0 k1 k2 a b c d) :=
  ⟨dom_lorentz_to_beta3 k0 k1 k2 a b c d h hd ht hpos,
   refine_lorentz_to_beta3_ne_zero k0 k1 k2 a b c d h hd ht hpos⟩

theorem regular_lorentz_unit (k0 : Az) (k1 : Lon) (k2 : Tmp) (a b c d : ℝ) (hs : SinOK k1 c) (hd : CanonTmp k2 d)
    (hm : tOf k0 k1 k2 a b c d ^ 2 - mag2Of k0 k1 a b c ≠ 0) :
    lorentz_unit.evalDom k0 k1 k2 a b c d ∧
    interp4 (lorentz_unit.ret k0 k1 k2) (lorentz_unit.eval k0 k1 k2 a b c d)
      = some (smul4 (1 / sqrt |tOf k0 k1 k2 a b c d ^ 2 - mag2Of k0 k1 a b c|) (cart4 k0 k1 k2 a b c d)) :=
  ⟨dom_lorentz_unit k0 k1 k2 a b c d hs hd hm, refine_lorentz_unit k0 k1 k2 a b c d hs hd hm⟩

theorem regular_lorentz_scale (k0 : Az) (k1 : Lon) (k2 : Tmp) (f a b c d : ℝ) (h : ThetaRange k1 c)
    (hf : k2 = .tau → 0 ≤ f) :
    lorentz_scale.evalDom k0 k1 k2 f a b c d ∧
    interp4 (lorentz_scale.ret k0 k1 k2) (lorentz_scale.eval k0 k1 k2 f a b c d)
      = some (smul4 f (cart4 k0 k1 k2 a b c d)) :=
  ⟨dom_lorentz_scale k0 k1 k2 f a b c d h hf, refine_lorentz_scale_partial k0 k1 k2 f a b c d h hf⟩

theorem regular_lorentz_transform4D (k0 : Az) (k1 : Lon) (k2 : Tmp)
    (xx xy xz xt yx yy yz yt zx zy zz zt tx ty tz tt a b c d : ℝ)
    (h : TanOK k1 c) (hs : SinOK k1 c) (hd : CanonTmp k2 d) :
    lorentz_transform4D.evalDom k0 k1 k2 xx xy xz xt yx yy yz yt zx zy zz zt tx ty tz tt a b c d ∧
    interp4 (lorentz_transform4D.ret k0 k1 k2)
        (lorentz_transform4D.eval k0 k1 k2 xx xy xz xt yx yy yz yt zx zy zz zt tx ty tz tt a b c d)
      = some (transform4 xx xy xz xt yx yy yz yt zx zy zz zt tx ty tz tt (cart4 k0 k1 k2 a b c d)) :=
  ⟨dom_lorentz_transform4D k0 k1 k2 xx xy xz xt yx yy yz yt zx zy zz zt tx ty tz tt a b c d h hs hd,
   refine_lorentz_transform4D k0 k1 k2 xx xy xz xt yx yy yz yt zx zy zz zt tx ty tz tt a b c d h hs hd⟩

/-- non-vacuity (`regular_lorentz_Mt`, key `(xy, theta, t)`, `(x, y, θ, t) = (1, 0, 1, 3)`: the key that needs `sin θ ≠ 0`) -/
example : TanOK .theta 1 ∧ CanonTmp .t 3 ∧ 0 ≤ tOf .xy .theta .t 1 0 1 3 ^ 2 - zOf .xy .theta 1 0 1 ^ 2
    ∧ (Tmp.t = .t → SinOK .theta 1) := by
  have hs : 0 < sin (1 : ℝ) := L.sin_one_pos
  refine ⟨Spec.tanOK_one .theta, trivial, ?_, fun _ => hs.ne'⟩
  -- `z = ρ cot θ` with `ρ = 1`, and `cot² 1 ≤ 9` because `cos 1 ≤ 5/9`
  have h2 : cos (1 : ℝ) ^ 2 ≤ (5 / 9) ^ 2 := pow_le_pow_left₀ cos_one_pos.le cos_one_le 2
  have hr : sqrt ((1 : ℝ) ^ 2 + 0 ^ 2) = 1 := by norm_num
  simp only [tOf, zOf, rhoOf, hr, one_mul]
  rw [div_pow, sub_nonneg, div_le_iff₀ (pow_pos hs 2)]
  linarith [cos_sq_add_sin_sq (1 : ℝ)]

/-! ## lorentz binary (8 modules, 144 keys each) -/

theorem regular_lorentz_dot (k0 : Az) (k1 : Lon) (k2 : Tmp) (k3 : Az) (k4 : Lon) (k5 : Tmp)
    (a0 a1 a2 a3 a4 a5 a6 a7 : ℝ) (h1 : TanOK k1 a2) (h2 : TanOK k4 a6) (hs1 : SinOK k1 a2) (hs2 : SinOK k4 a6)
    (hd1 : CanonTmp k2 a3) (hd2 : CanonTmp k5 a7) (he : LB.DotEtaOK k0 k1 k3 k4 a2 a6) :
    lorentz_dot.evalDom k0 k1 k2 k3 k4 k5 a0 a1 a2 a3 a4 a5 a6 a7 ∧
    lorentz_dot.eval k0 k1 k2 k3 k4 k5 a0 a1 a2 a3 a4 a5 a6 a7
      = mdot (cart4 k0 k1 k2 a0 a1 a2 a3) (cart4 k3 k4 k5 a4 a5 a6 a7) :=
  ⟨dom_lorentz_dot_partial k0 k1 k2 k3 k4 k5 a0 a1 a2 a3 a4 a5 a6 a7 h1 h2 hs1 hs2 hd1 hd2 he,
   refine_lorentz_dot k0 k1 k2 k3 k4 k5 a0 a1 a2 a3 a4 a5 a6 a7 h1 h2 hs1 hs2 hd1 hd2⟩

theorem regular_lorentz_add (k0 : Az) (k1 : Lon) (k2 : Tmp) (k3 : Az) (k4 : Lon) (k5 : Tmp) (a0 a1 a2 a3 a4 a5 a6 a7 : ℝ)
    (h1 : TanOK k1 a2) (h2 : TanOK k4 a6) (hs1 : SinOK k1 a2) (hs2 : SinOK k4 a6)
    (hd1 : CanonTmp k2 a3) (hd2 : CanonTmp k5 a7)
    (hrep : Representable3 (spatial_add.ret k0 k1 k3 k4) (add3 (cart3 k0 k1 a0 a1 a2) (cart3 k3 k4 a4 a5 a6))) :
    lorentz_add.evalDom k0 k1 k2 k3 k4 k5 a0 a1 a2 a3 a4 a5 a6 a7 ∧
    interp4 (lorentz_add.ret k0 k1 k2 k3 k4 k5) (lorentz_add.eval k0 k1 k2 k3 k4 k5 a0 a1 a2 a3 a4 a5 a6 a7)
      = some (add4 (cart4 k0 k1 k2 a0 a1 a2 a3) (cart4 k3 k4 k5 a4 a5 a6 a7)) :=
  ⟨dom_lorentz_add k0 k1 k2 k3 k4 k5 a0 a1 a2 a3 a4 a5 a6 a7 h1 h2 hs1 hs2 hd1 hd2 hrep,
   refine_lorentz_add k0 k1 k2 k3 k4 k5 a0 a1 a2 a3 a4 a5 a6 a7 h1 h2 hs1 hs2 hd1 hd2 hrep⟩

theorem regular_lorentz_subtract (k0 : Az) (k1 : Lon) (k2 : Tmp) (k3 : Az) (k4 : Lon) (k5 : Tmp)
    (a0 a1 a2 a3 a4 a5 a6 a7 : ℝ)
    (h1 : TanOK k1 a2) (h2 : TanOK k4 a6) (hs1 : SinOK k1 a2) (hs2 : SinOK k4 a6)
    (hd1 : CanonTmp k2 a3) (hd2 : CanonTmp k5 a7)
    (hrep : Representable3 (spatial_subtract.ret k0 k1 k3 k4) (sub3 (cart3 k0 k1 a0 a1 a2) (cart3 k3 k4 a4 a5 a6)))
    (hc : k2 = .tau → k5 = .tau →
      0 ≤ tOf k0 k1 k2 a0 a1 a2 a3 - tOf k3 k4 k5 a4 a5 a6 a7 ∧
      (xOf k0 a0 a1 - xOf k3 a4 a5) ^ 2 + (yOf k0 a0 a1 - yOf k3 a4 a5) ^ 2 + (zOf k0 k1 a0 a1 a2 - zOf k3 k4 a4 a5 a6) ^ 2
        ≤ (tOf k0 k1 k2 a0 a1 a2 a3 - tOf k3 k4 k5 a4 a5 a6 a7) ^ 2) :
    lorentz_subtract.evalDom k0 k1 k2 k3 k4 k5 a0 a1 a2 a3 a4 a5 a6 a7 ∧
    interp4 (lorentz_subtract.ret k0 k1 k2 k3 k4 k5) (lorentz_subtract.eval k0 k1 k2 k3 k4 k5 a0 a1 a2 a3 a4 a5 a6 a7)
      = some (sub4 (cart4 k0 k1 k2 a0 a1 a2 a3) (cart4 k3 k4 k5 a4 a5 a6 a7)) :=
  ⟨dom_lorentz_subtract k0 k1 k2 k3 k4 k5 a0 a1 a2 a3 a4 a5 a6 a7 h1 h2 hs1 hs2 hd1 hd2 hrep hc,
   refine_lorentz_subtract k0 k1 k2 k3 k4 k5 a0 a1 a2 a3 a4 a5 a6 a7 h1 h2 hs1 hs2 hd1 hd2 hrep hc⟩

theorem regular_lorentz_equal (k0 : Az) (k1 : Lon) (k2 : Tmp) (k3 : Az) (k4 : Lon) (k5 : Tmp)
    (a0 a1 a2 a3 a4 a5 a6 a7 : ℝ)
    (c1 : Canon4 k0 k1 k2 a0 a1 a2 a3) (c2 : Canon4 k3 k4 k5 a4 a5 a6 a7) (t1 : TanOK k1 a2) (t2 : TanOK k4 a6)
    (h : lorentz_equal.eval k0 k1 k2 k3 k4 k5 a0 a1 a2 a3 a4 a5 a6 a7) :
    lorentz_equal.evalDom k0 k1 k2 k3 k4 k5 a0 a1 a2 a3 a4 a5 a6 a7 ∧
    cart4 k0 k1 k2 a0 a1 a2 a3 = cart4 k3 k4 k5 a4 a5 a6 a7 :=
  ⟨dom_lorentz_equal k0 k1 k2 k3 k4 k5 a0 a1 a2 a3 a4 a5 a6 a7 c1 c2 t1 t2 h,
   refine_lorentz_equal k0 k1 k2 k3 k4 k5 a0 a1 a2 a3 a4 a5 a6 a7 c1 c2 t1 t2 h⟩

theorem regular_lorentz_not_equal (k0 : Az) (k1 : Lon) (k2 : Tmp) (k3 : Az) (k4 : Lon) (k5 : Tmp)
    (a0 a1 a2 a3 a4 a5 a6 a7 : ℝ)
    (c1 : Canon4 k0 k1 k2 a0 a1 a2 a3) (c2 : Canon4 k3 k4 k5 a4 a5 a6 a7) (t1 : TanOK k1 a2) (t2 : TanOK k4 a6)
    (h : ¬ cart4 k0 k1 k2 a0 a1 a2 a3 = cart4 k3 k4 k5 a4 a5 a6 a7) :
    lorentz_not_equal.evalDom k0 k1 k2 k3 k4 k5 a0 a1 a2 a3 a4 a5 a6 a7 ∧
    lorentz_not_equal.eval k0 k1 k2 k3 k4 k5 a0 a1 a2 a3 a4 a5 a6 a7 :=
  ⟨dom_lorentz_not_equal k0 k1 k2 k3 k4 k5 a0 a1 a2 a3 a4 a5 a6 a7 c1 c2 t1 t2 h,
   refine_lorentz_not_equal k0 k1 k2 k3 k4 k5 a0 a1 a2 a3 a4 a5 a6 a7 c1 c2 t1 t2 h⟩

/-- same-system characterisation (`c12_lorentz_isclose_same`) -/
theorem regular_lorentz_isclose (k0 : Az) (k1 : Lon) (k2 : Tmp) (r t e a0 a1 a2 a3 b0 b1 b2 b3 : ℝ) :
    lorentz_isclose.evalDom k0 k1 k2 k0 k1 k2 r t e a0 a1 a2 a3 b0 b1 b2 b3 ∧
    (lorentz_isclose.eval k0 k1 k2 k0 k1 k2 r t e a0 a1 a2 a3 b0 b1 b2 b3 ↔
      (|a0 - b0| ≤ t + r * |b0| ∧ |a1 - b1| ≤ t + r * |b1| ∧ |a2 - b2| ≤ t + r * |b2| ∧
        |a3 - b3| ≤ t + r * |b3|)) :=
  ⟨dom_lorentz_isclose_same k0 k1 k2 r t e a0 a1 a2 a3 b0 b1 b2 b3,
   c12_lorentz_isclose_same k0 k1 k2 r t e a0 a1 a2 a3 b0 b1 b2 b3⟩

theorem regular_lorentz_deltaRapidityPhi2 (k0 : Az) (k1 : Lon) (k2 : Tmp) (k3 : Az) (k4 : Lon) (k5 : Tmp)
    (a0 a1 a2 a3 a4 a5 a6 a7 : ℝ)
    (h1 : TanOK k1 a2) (h2 : TanOK k4 a6) (hs1 : SinOK k1 a2) (hs2 : SinOK k4 a6)
    (hd1 : CanonTmp k2 a3) (hd2 : CanonTmp k5 a7)
    (hz1 : |zOf k0 k1 a0 a1 a2| < tOf k0 k1 k2 a0 a1 a2 a3) (hz2 : |zOf k3 k4 a4 a5 a6| < tOf k3 k4 k5 a4 a5 a6 a7) :
    lorentz_deltaRapidityPhi2.evalDom k0 k1 k2 k3 k4 k5 a0 a1 a2 a3 a4 a5 a6 a7 ∧
    lorentz_deltaRapidityPhi2.eval k0 k1 k2 k3 k4 k5 a0 a1 a2 a3 a4 a5 a6 a7
      = planar_deltaphi.eval k0 k3 a0 a1 a4 a5 ^ 2
        + (rapidityOf (cart4 k0 k1 k2 a0 a1 a2 a3) - rapidityOf (cart4 k3 k4 k5 a4 a5 a6 a7)) ^ 2 :=
  ⟨dom_lorentz_deltaRapidityPhi2 k0 k1 k2 k3 k4 k5 a0 a1 a2 a3 a4 a5 a6 a7 h1 h2 hs1 hs2 hd1 hd2 hz1 hz2,
   refine_lorentz_deltaRapidityPhi2 k0 k1 k2 k3 k4 k5 a0 a1 a2 a3 a4 a5 a6 a7 h1 h2 hs1 hs2 hd1 hd2 hz1 hz2⟩

theorem regular_lorentz_deltaRapidityPhi (k0 : Az) (k1 : Lon) (k2 : Tmp) (k3 : Az) (k4 : Lon) (k5 : Tmp)
    (a0 a1 a2 a3 a4 a5 a6 a7 : ℝ)
    (h1 : TanOK k1 a2) (h2 : TanOK k4 a6) (hs1 : SinOK k1 a2) (hs2 : SinOK k4 a6)
    (hd1 : CanonTmp k2 a3) (hd2 : CanonTmp k5 a7)
    (hz1 : |zOf k0 k1 a0 a1 a2| < tOf k0 k1 k2 a0 a1 a2 a3) (hz2 : |zOf k3 k4 a4 a5 a6| < tOf k3 k4 k5 a4 a5 a6 a7) :
    lorentz_deltaRapidityPhi.evalDom k0 k1 k2 k3 k4 k5 a0 a1 a2 a3 a4 a5 a6 a7 ∧
    lorentz_deltaRapidityPhi.eval k0 k1 k2 k3 k4 k5 a0 a1 a2 a3 a4 a5 a6 a7
      = sqrt (planar_deltaphi.eval k0 k3 a0 a1 a4 a5 ^ 2
        + (rapidityOf (cart4 k0 k1 k2 a0 a1 a2 a3) - rapidityOf (cart4 k3 k4 k5 a4 a5 a6 a7)) ^ 2) :=
  ⟨dom_lorentz_deltaRapidityPhi k0 k1 k2 k3 k4 k5 a0 a1 a2 a3 a4 a5 a6 a7 h1 h2 hs1 hs2 hd1 hd2 hz1 hz2,
   refine_lorentz_deltaRapidityPhi k0 k1 k2 k3 k4 k5 a0 a1 a2 a3 a4 a5 a6 a7 h1 h2 hs1 hs2 hd1 hd2 hz1 hz2⟩

/-- non-vacuity (`regular_lorentz_dot`, key `(rhophi, eta, tau) × (rhophi, theta, t)`, `η₁ = 1`, `τ₁ = 2`, `θ₂ = 1`, `t₂ = 5`) -/
example : TanOK .eta 1 ∧ TanOK .theta 1 ∧ SinOK .eta 1 ∧ SinOK .theta 1 ∧ CanonTmp .tau 2 ∧ CanonTmp .t 5
    ∧ LB.DotEtaOK .rhophi .eta .rhophi .theta 1 1 :=
  ⟨trivial, Spec.tanOK_one .theta, trivial, Spec.sinOK_one .theta,
    (by show (0 : ℝ) ≤ 2; norm_num), trivial, one_ne_zero⟩

/-! ## boosts (8 modules) -/

theorem regular_lorentz_boostX_beta (k0 : Az) (k1 : Lon) (k2 : Tmp) (β a b c d : ℝ)
    (h : TanOK k1 c) (hs : SinOK k1 c) (hd : CanonTmp k2 d) (hβ : |β| < 1) :
    lorentz_boostX_beta.evalDom k0 k1 k2 β a b c d ∧
    interp4 (lorentz_boostX_beta.ret k0 k1 k2) (lorentz_boostX_beta.eval k0 k1 k2 β a b c d)
      = some (boostX (P.rpow (1 - β ^ 2) (-0.5)) (β * P.rpow (1 - β ^ 2) (-0.5)) (cart4 k0 k1 k2 a b c d)) :=
  ⟨dom_lorentz_boostX_beta k0 k1 k2 β a b c d h hs hd hβ, refine_lorentz_boostX_beta_spec k0 k1 k2 β a b c d h hs hd hβ⟩

theorem regular_lorentz_boostY_beta (k0 : Az) (k1 : Lon) (k2 : Tmp) (β a b c d : ℝ)
    (h : TanOK k1 c) (hs : SinOK k1 c) (hd : CanonTmp k2 d) (hβ : |β| < 1) :
    lorentz_boostY_beta.evalDom k0 k1 k2 β a b c d ∧
    interp4 (lorentz_boostY_beta.ret k0 k1 k2) (lorentz_boostY_beta.eval k0 k1 k2 β a b c d)
      = some (boostY (P.rpow (1 - β ^ 2) (-0.5)) (β * P.rpow (1 - β ^ 2) (-0.5)) (cart4 k0 k1 k2 a b c d)) :=
  ⟨dom_lorentz_boostY_beta k0 k1 k2 β a b c d h hs hd hβ, refine_lorentz_boostY_beta_spec k0 k1 k2 β a b c d h hs hd hβ⟩

theorem regular_lorentz_boostZ_beta (k0 : Az) (k1 : Lon) (k2 : Tmp) (β a b c d : ℝ)
    (h : TanOK k1 c) (hs : SinOK k1 c) (hd : CanonTmp k2 d) (hβ : |β| < 1) :
    lorentz_boostZ_beta.evalDom k0 k1 k2 β a b c d ∧
    interp4 (lorentz_boostZ_beta.ret k0 k1 k2) (lorentz_boostZ_beta.eval k0 k1 k2 β a b c d)
      = some (boostZ (P.rpow (1 - β ^ 2) (-0.5)) (β * P.rpow (1 - β ^ 2) (-0.5)) (cart4 k0 k1 k2 a b c d)) :=
  ⟨dom_lorentz_boostZ_beta k0 k1 k2 β a b c d h hs hd hβ, refine_lorentz_boostZ_beta_spec k0 k1 k2 β a b c d h hs hd hβ⟩

theorem regular_lorentz_boostX_gamma (k0 : Az) (k1 : Lon) (k2 : Tmp) (γ a b c d : ℝ)
    (h : TanOK k1 c) (hs : SinOK k1 c) (hd : CanonTmp k2 d) (hγ : 1 ≤ |γ|) :
    lorentz_boostX_gamma.evalDom k0 k1 k2 γ a b c d ∧
    interp4 (lorentz_boostX_gamma.ret k0 k1 k2) (lorentz_boostX_gamma.eval k0 k1 k2 γ a b c d)
      = some (boostX |γ| (P.copysign (sqrt (|γ| ^ 2 - 1)) γ) (cart4 k0 k1 k2 a b c d)) :=
  ⟨dom_lorentz_boostX_gamma k0 k1 k2 γ a b c d h hs hd hγ, refine_lorentz_boostX_gamma_spec k0 k1 k2 γ a b c d h hs hd hγ⟩

theorem regular_lorentz_boostY_gamma (k0 : Az) (k1 : Lon) (k2 : Tmp) (γ a b c d : ℝ)
    (h : TanOK k1 c) (hs : SinOK k1 c) (hd : CanonTmp k2 d) (hγ : 1 ≤ |γ|) :
    lorentz_boostY_gamma.evalDom k0 k1 k2 γ a b c d ∧
    interp4 (lorentz_boostY_gamma.ret k0 k1 k2) (lorentz_boostY_gamma.eval k0 k1 k2 γ a b c d)
      = some (boostY |γ| (P.copysign (sqrt (|γ| ^ 2 - 1)) γ) (cart4 k0 k1 k2 a b c d)) :=
  ⟨dom_lorentz_boostY_gamma k0 k1 k2 γ a b c d h hs hd hγ, refine_lorentz_boostY_gamma_spec k0 k1 k2 γ a b c d h hs hd hγ⟩

theorem regular_lorentz_boostZ_gamma (k0 : Az) (k1 : Lon) (k2 : Tmp) (γ a b c d : ℝ)
    (h : TanOK k1 c) (hs : SinOK k1 c) (hd : CanonTmp k2 d) (hγ : 1 ≤ |γ|) :
    lorentz_boostZ_gamma.evalDom k0 k1 k2 γ a b c d ∧
    interp4 (lorentz_boostZ_gamma.ret k0 k1 k2) (lorentz_boostZ_gamma.eval k0 k1 k2 γ a b c d)
      = some (boostZ |γ| (P.copysign (sqrt (|γ| ^ 2 - 1)) γ) (cart4 k0 k1 k2 a b c d)) :=
  ⟨dom_lorentz_boostZ_gamma k0 k1 k2 γ a b c d h hs hd hγ, refine_lorentz_boostZ_gamma_spec k0 k1 k2 γ a b c d h hs hd hγ⟩

theorem regular_lorentz_boost_beta3 (k0 : Az) (k1 : Lon) (k2 : Tmp) (k3 : Az) (k4 : Lon) (a0 a1 a2 a3 a4 a5 a6 : ℝ)
    (h1 : TanOK k1 a2) (h2 : TanOK k4 a6) (hd : CanonTmp k2 a3) (hβ : mag2Of k3 k4 a4 a5 a6 < 1)
    (hs1 : SinOK k1 a2) (hs2 : SinOK k4 a6) :
    lorentz_boost_beta3.evalDom k0 k1 k2 k3 k4 a0 a1 a2 a3 a4 a5 a6 ∧
    interp4 (lorentz_boost_beta3.ret k0 k1 k2 k3 k4) (lorentz_boost_beta3.eval k0 k1 k2 k3 k4 a0 a1 a2 a3 a4 a5 a6)
      = some (boostU (1 / sqrt (1 - mag2Of k3 k4 a4 a5 a6)) (1 / sqrt (1 - mag2Of k3 k4 a4 a5 a6) * xOf k3 a4 a5)
          (1 / sqrt (1 - mag2Of k3 k4 a4 a5 a6) * yOf k3 a4 a5) (1 / sqrt (1 - mag2Of k3 k4 a4 a5 a6) * zOf k3 k4 a4 a5 a6)
          (cart4 k0 k1 k2 a0 a1 a2 a3)) :=
  ⟨dom_lorentz_boost_beta3_partial k0 k1 k2 k3 k4 a0 a1 a2 a3 a4 a5 a6 h1 h2 hd hβ hs1 hs2,
   refine_lorentz_boost_beta3_spec k0 k1 k2 k3 k4 a0 a1 a2 a3 a4 a5 a6 h1 h2 hd hβ⟩

theorem regular_lorentz_boost_p4 (k0 : Az) (k1 : Lon) (k2 : Tmp) (k3 : Az) (k4 : Lon) (k5 : Tmp)
    (a0 a1 a2 a3 a4 a5 a6 a7 : ℝ) (h1 : TanOK k1 a2) (h2 : TanOK k4 a6) (hs2 : SinOK k4 a6)
    (hd1 : CanonTmp k2 a3) (hd2 : CanonTmp k5 a7)
    (hm : 0 < tOf k3 k4 k5 a4 a5 a6 a7 ^ 2 - mag2Of k3 k4 a4 a5 a6) (ht : 0 < tOf k3 k4 k5 a4 a5 a6 a7)
    (hs1 : SinOK k1 a2) :
    lorentz_boost_p4.evalDom k0 k1 k2 k3 k4 k5 a0 a1 a2 a3 a4 a5 a6 a7 ∧
    interp4 (lorentz_boost_p4.ret k0 k1 k2 k3 k4 k5) (lorentz_boost_p4.eval k0 k1 k2 k3 k4 k5 a0 a1 a2 a3 a4 a5 a6 a7)
      = some (boostU (tOf k3 k4 k5 a4 a5 a6 a7 / sqrt (tOf k3 k4 k5 a4 a5 a6 a7 ^ 2 - mag2Of k3 k4 a4 a5 a6))
          (xOf k3 a4 a5 / sqrt (tOf k3 k4 k5 a4 a5 a6 a7 ^ 2 - mag2Of k3 k4 a4 a5 a6))
          (yOf k3 a4 a5 / sqrt (tOf k3 k4 k5 a4 a5 a6 a7 ^ 2 - mag2Of k3 k4 a4 a5 a6))
          (zOf k3 k4 a4 a5 a6 / sqrt (tOf k3 k4 k5 a4 a5 a6 a7 ^ 2 - mag2Of k3 k4 a4 a5 a6))
          (cart4 k0 k1 k2 a0 a1 a2 a3)) :=
  ⟨dom_lorentz_boost_p4_partial k0 k1 k2 k3 k4 k5 a0 a1 a2 a3 a4 a5 a6 a7 h1 h2 hs2 hd1 hd2 hm ht hs1,
   refine_lorentz_boost_p4_spec k0 k1 k2 k3 k4 k5 a0 a1 a2 a3 a4 a5 a6 a7 h1 h2 hs2 hd1 hd2 hm ht⟩

/-- non-vacuity (`regular_lorentz_boost_beta3`, θ-stored τ-vector `(·, ·, θ = 1, τ = 1)` boosted by the Cartesian velocity
`β = (1/2, 0, 0)`) -/
example : TanOK .theta 1 ∧ TanOK .z 0 ∧ CanonTmp .tau 1 ∧ mag2Of .xy .z (1 / 2) 0 0 < 1 ∧ SinOK .theta 1 ∧ SinOK .z 0 :=
  ⟨Spec.tanOK_one .theta, trivial, (by show (0 : ℝ) ≤ 1; norm_num), by norm_num [mag2Of, xOf, yOf, zOf],
    Spec.sinOK_one .theta, trivial⟩

/-!
## Table: what regularity (H') needed beyond the refinement hypotheses (H)

"same" = `regular_<m>` has exactly the hypotheses of the refinement theorem.  `SinOK k c` is `sin c ≠ 0` for θ storage
(`True` otherwise); `TanOK k c` is `cos c ≠ 0` for θ storage; `DotEtaOK` is `η ≠ 0` for the η operand of the key pairs
`rhophi_eta × rhophi_theta` and `rhophi_theta × rhophi_eta`.

| module                      | refinement theorem                     | H' vs H |
|-----------------------------|----------------------------------------|---------|
| planar_x, y, rho, rho2      | refine_planar_…                        | same (no hypotheses) |
| planar_phi                  | refine_planar_phi                      | same |
| planar_dot, add, subtract   | refine_planar_…                        | same (no hypotheses) |
| planar_scale, rotateZ, transform2D, deltaphi | refine_planar_…       | same (no hypotheses) |
| planar_unit                 | refine_planar_unit                     | same (`0 < ρ`) |
| planar_equal, not_equal     | refine_planar_equal / _not_equal       | same |
| planar_isclose              | c12_planar_isclose_same                | same (no hypotheses; regular for all key pairs) |
| planar_is_parallel, is_antiparallel, is_perpendicular | c13_planar_is_…_iff | same (no hypotheses) |
| spatial_z                   | refine_spatial_z                       | + SinOK for θ keys (`ρ / tan θ` at θ = 0, π) |
| spatial_mag2, mag           | refine_spatial_mag2 / _mag             | same (SinOK already in H) |
| spatial_costheta, theta     | refine_spatial_costheta / _theta       | same (`Canon3`, `0 < |p|²`) |
| spatial_cottheta            | refine_spatial_cottheta                | + SinOK for θ keys; + η ≠ 0 for η keys (`1 / tan (2 arctan e^{-η})`) |
| spatial_eta                 | refine_spatial_eta                     | same |
| spatial_dot                 | refine_spatial_dot                     | + SinOK for θ operands; + η ≠ 0 for the ρφη×ρφθ / ρφθ×ρφη keys |
| spatial_cross               | refine_spatial_cross                   | + SinOK for θ operands |
| spatial_scale               | refine_spatial_scale                   | same |
| spatial_add, subtract       | refine_spatial_add / _subtract         | + SinOK for θ operands |
| spatial_unit                | refine_spatial_unit                    | same |
| spatial_deltaangle          | refine_spatial_deltaangle              | + operands ≠ 0 (`0 < |p₁|²`, `0 < |p₂|²`, all keys); + η ≠ 0 for the ρφη×ρφθ keys |
| spatial_deltaeta, deltaR2   | refine_spatial_deltaeta / _deltaR2     | same |
| spatial_deltaR              | refine_spatial_deltaR ∘ refine_spatial_deltaR2 | hypotheses of `refine_spatial_deltaR2` (`refine_spatial_deltaR` alone, `= √deltaR2`, has none: + `0 < ρ`, `CanonLon` for both operands) |
| spatial_equal, not_equal    | refine_spatial_equal / _not_equal      | same |
| spatial_isclose             | c12_spatial_isclose_same               | same (no hypotheses, same-system keys; mixed keys need `Canon3`, `TanOK`: `dom_spatial_isclose_partial`) |
| spatial_is_parallel, is_antiparallel, is_perpendicular | c13_spatial_is_…_iff | + TanOK and SinOK for θ operands; + η ≠ 0 for the ρφη×ρφθ keys (H is empty) |
| spatial_rotateX, rotateY    | refine_spatial_rotateX / Y             | + sin θ ≠ 0 for θ keys |
| spatial_rotate_quaternion, rotate_euler | refine_spatial_rotate_…    | + sin θ ≠ 0 for θ keys |
| spatial_transform3D         | refine_spatial_transform3D_interp      | + sin θ ≠ 0 for θ keys |
| spatial_rotate_axis         | refine_spatial_rotate_axis             | + axis ≠ 0 (`0 < |u|²`, all keys); + sin θ ≠ 0 for θ-stored axis / vector |
| lorentz_t2, t, tau2, tau    | refine_lorentz_…                       | same |
| lorentz_beta, gamma, rapidity | refine_lorentz_…                     | same |
| lorentz_Et2, Et             | refine_lorentz_Et2 / _Et               | same |
| lorentz_Mt2, Mt             | refine_lorentz_Mt2 / _Mt               | + SinOK for the `(·, θ, t)` keys (`z = ρ / tan θ`) |
| lorentz_is_timelike, is_lightlike, is_spacelike | c13_is_…_iff_dot   | + `sin θ ≠ 0 ∧ cos θ ≠ 0` for θ keys, `0 ≤ τ` for τ keys (H is empty; these are the hypotheses of `c13_causal_classes_t_keys` / `_tau_keys`) |
| lorentz_to_beta3            | refine_lorentz_to_beta3_ne_zero        | same |
| lorentz_unit                | refine_lorentz_unit                    | same |
| lorentz_scale               | refine_lorentz_scale_partial           | same |
| lorentz_transform4D         | refine_lorentz_transform4D             | same (SinOK already in H) |
| lorentz_dot                 | refine_lorentz_dot                     | + η ≠ 0 for the `(ρφ, η, ·) × (ρφ, θ, ·)` / `(ρφ, θ, ·) × (ρφ, η, ·)` keys |
| lorentz_add, subtract       | refine_lorentz_add / _subtract         | same (SinOK already in H) |
| lorentz_equal, not_equal    | refine_lorentz_equal / _not_equal      | same |
| lorentz_isclose             | c12_lorentz_isclose_same               | same (no hypotheses, same-system keys; mixed keys need `Canon4`, `TanOK`: `dom_lorentz_isclose_partial`) |
| lorentz_deltaRapidityPhi2, deltaRapidityPhi | refine_lorentz_…       | same |
| lorentz_boostX/Y/Z_beta, boostX/Y/Z_gamma | refine_lorentz_boost…_spec | same (SinOK already in H) |
| lorentz_boost_beta3         | refine_lorentz_boost_beta3_spec        | + SinOK for a θ-stored vector and a θ-stored velocity |
| lorentz_boost_p4            | refine_lorentz_boost_p4_spec           | + SinOK for a θ-stored FIRST operand (booster already has it) |
-/

end VR
