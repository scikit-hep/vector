/-
Property C18, layout driver — what `Driver/Layout.lean` prints is covered by theorems.

The driver prints, for every request, the S-expression of `Layout.shape` of the model's result (`r`/`s`/`b` = a leaf,
`_` = a missing value, `[ … ]` = a list).  This file defines that rendering as a TOTAL function (`Layout.structure`,
`Layout.render`: the driver calls it) and the BROADCAST structure of two operands (`Layout.bcast`).  The structure of a
result depends on the operands' structures only (`c18l_zipWith_shape`); what the driver prints for unary requests, for two
vector operands, for array-valued scalar arguments and for secondary vector operands (`boost_p4`, …) follows
(`c18l_unary_structure`, `c18l_zipWith_structure` and its instances).  The laws of `bcast` are those the generator of
`harness/layout.py` relies on: a single record / object / number is neutral, a missing value on either side wins, `bcast`
is idempotent and commutative, and a plain number as scalar argument makes the scalar lifting `arrayUnary`.

Which lemma about the structure of a two-operand result: the general one is `c18_zipWith_shape_bcast` (`Props/C18`, for every
`f`), restated with `Layout.bcast` as `c18l_zipWith_shape`; `c18_zipWith_shape` is its reading for operands of EQUAL structure
and `c18_arrayBinary_shape` that reading after `sequence`; `c18l_zipWith_structure` is the general one after `sequence`, with what
is printed, and `c18l_binary_structure`, `c18l_scalar_structure`, `c18l_secondary_structure` are its instances at the driver's
three liftings.  `c18l_shape_unit`, `c18l_shape_shape`, `c18l_bcast_self` are `c18_map_id`, `c18_map_shape`, `c18_bcast_self`
at structures.
-/
import VectorModel.Props.C18

namespace VG
open VK

/-! ### the rendering -/

mutual
/-- S-expression of a structure: `leaf` for a leaf, `_` for a missing value, `[ … ]` for a list -/
def Layout.structure (leaf : String) : Layout Unit → String
  | .leaf _ => leaf
  | .none => "_"
  | .list xs => "[" ++ " ".intercalate (Layout.structureL leaf xs) ++ "]"
def Layout.structureL (leaf : String) : List (Layout Unit) → List String
  | [] => []
  | x :: xs => Layout.structure leaf x :: Layout.structureL leaf xs
end

/-- what the driver prints for an array -/
def Layout.render {α : Type} (leaf : String) (l : Layout α) : String := l.shape.structure leaf

def Layout.bcast (a b : Layout Unit) : Layout Unit := Layout.zipWith (fun _ _ => ()) a b

example : (Layout.list [.list [.leaf 1, .leaf 2], .list [], .list [.leaf 3, .none, .leaf 4]]).render "r"
    = "[[r r] [] [r _ r]]" := by decide

section
variable {α β γ : Type}

theorem c18l_shape_shape (l : Layout α) : l.shape.shape = l.shape := c18_map_shape _ l

theorem c18l_render_shape (leaf : String) (l : Layout α) : l.shape.render leaf = l.render leaf := by
  simp only [Layout.render, c18l_shape_shape]

theorem c18l_render_congr (leaf : String) (a : Layout α) (b : Layout β) (h : a.shape = b.shape) :
    a.render leaf = b.render leaf := by
  simp only [Layout.render, h]

/-! ### the broadcast law -/

theorem c18l_shape_unit (l : Layout Unit) : l.shape = l := c18_map_id l

/-- the structure of the result of an operation on two broadcast arrays depends only on the operands' structures -/
theorem c18l_zipWith_shape (f : α → β → γ) :
    ∀ (a : Layout α) (b : Layout β), (Layout.zipWith f a b).shape = Layout.bcast a.shape b.shape :=
  c18_zipWith_shape_bcast f

theorem c18l_zipWithL_shape (f : α → β → γ) :
    ∀ (xs : List (Layout α)) (ys : List (Layout β)),
      Layout.mapL (fun _ => ()) (Layout.zipWithL f xs ys) =
        Layout.zipWithL (fun _ _ => ()) (Layout.mapL (fun _ => ()) xs) (Layout.mapL (fun _ => ()) ys) :=
  fun xs ys => Layout.list.inj (c18l_zipWith_shape f (.list xs) (.list ys))

/-- a record-level operation lifted over two broadcast arrays: when it succeeds, the result has the broadcast structure -/
theorem c18l_zipWith_structure {ε : Type} (op : α → β → Except ε γ) (a : Layout α) (b : Layout β) (out : Layout γ)
    (leaf : String) (h : (Layout.zipWith op a b).sequence = .ok out) :
    out.shape = Layout.bcast a.shape b.shape ∧
    out.render leaf = (Layout.bcast a.shape b.shape).structure leaf := by
  have h1 : out.shape = Layout.bcast a.shape b.shape := by
    rw [c18_sequence_shape _ _ h, c18l_zipWith_shape]
  exact ⟨h1, by simp only [Layout.render, h1]⟩

/-! ### laws of `bcast` -/

/-- a single record / object vector / plain number is neutral on the left … -/
theorem c18l_bcast_leaf_left (u : Unit) (s : Layout α) : Layout.bcast (.leaf u) s.shape = s.shape := by
  simp only [Layout.bcast, c18_zipWith_leaf_left]
  exact c18_map_shape _ s

/-- … and on the right -/
theorem c18l_bcast_leaf_right (s : Layout α) (u : Unit) : Layout.bcast s.shape (.leaf u) = s.shape := by
  simp only [Layout.bcast, c18_zipWith_leaf_right]
  exact c18_map_shape _ s

theorem c18l_bcast_self (s : Layout α) : Layout.bcast s.shape s.shape = s.shape := c18_bcast_self s.shape

/-- a missing value on either side gives a missing value -/
theorem c18l_bcast_none_left (b : Layout Unit) : Layout.bcast .none b = .none := by
  cases b <;> simp [Layout.bcast, Layout.zipWith]

theorem c18l_bcast_none_right (a : Layout Unit) : Layout.bcast a .none = .none := by
  cases a <;> simp [Layout.bcast, Layout.zipWith]

theorem c18l_bcast_comm : ∀ a b : Layout Unit, Layout.bcast a b = Layout.bcast b a := by
  intro a
  induction a using Layout.ind with
  | none => intro b; rw [c18l_bcast_none_left, c18l_bcast_none_right]
  | leaf a => intro b; simp only [Layout.bcast, c18_zipWith_leaf_left, c18_zipWith_leaf_right]
  | list xs ih =>
    intro b
    cases b with
    | none => rw [c18l_bcast_none_left, c18l_bcast_none_right]
    | leaf b => simp only [Layout.bcast, c18_zipWith_leaf_left, c18_zipWith_leaf_right]
    | list ys =>
      simp only [Layout.bcast, Layout.zipWith, Layout.zipWithL_eq]
      exact congrArg _ ((zipWith_congr_left ih).trans List.zipWith_comm.symm)

theorem c18l_bcastL_comm : ∀ xs ys : List (Layout Unit),
    Layout.zipWithL (fun _ _ => ()) xs ys = Layout.zipWithL (fun _ _ => ()) ys xs :=
  fun xs ys => Layout.list.inj (c18l_bcast_comm (.list xs) (.list ys))

end

/-! ### what the driver prints -/

section
variable {S B : Type}

/-- no second operand: the printed structure of the result is the printed structure of the operand -/
theorem c18l_unary_structure (f : Vec S → Except Err (Res S B)) (a : Layout (Rec S)) (out : Layout (RRes S B))
    (leaf : String) (h : arrayUnary f a = .ok out) : out.render leaf = a.render leaf :=
  c18l_render_congr leaf out a (c18_arrayUnary_shape f a out h)

/-- two vector operands on an equal footing: the printed structure is the broadcast structure of the operands -/
theorem c18l_binary_structure (f : Vec S → Vec S → Except Err (Res S B)) (a b : Layout (Rec S))
    (out : Layout (RRes S B)) (leaf : String) (h : arrayBinary f a b = .ok out) :
    out.shape = Layout.bcast a.shape b.shape ∧
    out.render leaf = (Layout.bcast a.shape b.shape).structure leaf :=
  c18l_zipWith_structure (binaryOp f) a b out leaf h

/-- … in particular: equal structures give that structure, a single record / object gives the array's structure -/
theorem c18l_binary_structure_same (f : Vec S → Vec S → Except Err (Res S B)) (a b : Layout (Rec S))
    (out : Layout (RRes S B)) (leaf : String) (hs : a.shape = b.shape) (h : arrayBinary f a b = .ok out) :
    out.render leaf = a.render leaf :=
  c18l_render_congr leaf out a (c18_arrayBinary_shape f a b out hs h).1

theorem c18l_binary_structure_record_right (f : Vec S → Vec S → Except Err (Res S B)) (a : Layout (Rec S))
    (b : Rec S) (out : Layout (RRes S B)) (leaf : String) (h : arrayBinary f a (.leaf b) = .ok out) :
    out.render leaf = a.render leaf :=
  c18l_render_congr leaf out a (c18_arrayBinary_shape_broadcast f a b out h)

theorem c18l_binary_structure_record_left (f : Vec S → Vec S → Except Err (Res S B)) (a : Rec S)
    (b : Layout (Rec S)) (out : Layout (RRes S B)) (leaf : String) (h : arrayBinary f (.leaf a) b = .ok out) :
    out.render leaf = b.render leaf := by
  refine c18l_render_congr leaf out b ?_
  rw [c18_sequence_shape _ _ h, c18_zipWith_leaf_shape]

/-- the driver's lifting of an array-valued scalar argument (`rotateZ(angles)`, `scale(factors)`, boosts):
`g s` = the method with the scalar `s` -/
theorem c18l_scalar_structure (g : S → Vec S → Except Err (Res S B)) (a : Layout (Rec S)) (arg : Layout S)
    (out : Layout (RRes S B)) (leaf : String)
    (h : (Layout.zipWith (fun r s => unaryOp (g s) r) a arg).sequence = .ok out) :
    out.shape = Layout.bcast a.shape arg.shape ∧
    out.render leaf = (Layout.bcast a.shape arg.shape).structure leaf :=
  c18l_zipWith_structure _ a arg out leaf h

/-- a plain number as the argument: the lifting is `arrayUnary` of the method with that number -/
theorem c18l_scalar_number (g : S → Vec S → Except Err (Res S B)) (a : Layout (Rec S)) (s : S) :
    (Layout.zipWith (fun r s => unaryOp (g s) r) a (.leaf s)).sequence = arrayUnary (g s) a := by
  rw [c18_zipWith_leaf_right]
  rfl

/-- the driver's lifting of a SECONDARY vector operand (`boost_p4`, `boost_beta3`, `rotate_axis`: `num_vecargs = 1`):
`op a b` = the record-level operation (any) -/
theorem c18l_secondary_structure (op : Rec S → Rec S → Except Err (RRes S B)) (a b : Layout (Rec S))
    (out : Layout (RRes S B)) (leaf : String) (h : (Layout.zipWith op a b).sequence = .ok out) :
    out.shape = Layout.bcast a.shape b.shape ∧
    out.render leaf = (Layout.bcast a.shape b.shape).structure leaf :=
  c18l_zipWith_structure op a b out leaf h

/-- the fields the driver prints for a unary / scalar-argument request: the operand's non-coordinate fields -/
theorem c18l_unary_extras (f : Vec S → Except Err (Res S B)) (r r' : Rec S) (h : unaryOp f r = .ok (.vrec r')) :
    r'.extra.map (·.1) = (carry r.extra).map (·.1) := by
  rw [(c18_unary_fields f r r' h).2.1]

/-- … and for a request with two vectors on an equal footing: none -/
theorem c18l_binary_extras (f : Vec S → Vec S → Except Err (Res S B)) (a b : Rec S) (res : RRes S B)
    (h : binaryOp f a b = .ok res) : res.extra.map (·.1) = [] := by
  rw [c18_binary_no_extra f a b res h]; rfl

/-- the hypotheses are satisfiable: a flat array against a jagged one, a missing record on the left, a missing
list on the right -/
example :
    Layout.bcast (Layout.list [.leaf (), .none, .leaf ()]) (.list [.list [.leaf (), .leaf ()], .list [], .none])
      = .list [.list [.leaf (), .leaf ()], .none, .none] := by
  simp [Layout.bcast, Layout.zipWith, Layout.zipWithL, Layout.map, Layout.mapL]

end
end VG
