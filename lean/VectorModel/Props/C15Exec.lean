/-
Property C15 on the generated executable compute layer: `execEv`, the generated `Compute.eval` as the glue sees it, satisfies
the identity laws `IdLaws` of `Props/C15.lean` at every `[Scalar S]` (`c15_idLaws_exec`).  Then examples on a Cartesian 4D
vector `ex4`: evaluations of `setC`, `run`, `iopResult` and `step` at `execEv`, `c15_readback` at `execEv`, and three that hold
for an arbitrary compute layer `ev` (instances of `c15_run_inv` and `c15_run_iop_ty`; `setC` on an ill-formed type).
-/
import VectorModel.Props.C15
import VectorModel.Gen.Exec.All

namespace VG
open VK

/-! ### the generated executable compute layer satisfies the identity laws -/

section
open VE
variable {S : Type} [Scalar S]

/-- the generated executable copy of the compute layer, as the glue sees it -/
def execEv (S : Type) [Scalar S] : Ev S (VE.B S) := fun m k a => Compute.eval (S := S) m k a

/-- `IdLaws` holds for the generated compute layer at EVERY scalar type (the identity accessors are `rfl` there) -/
theorem c15_idLaws_exec : IdLaws (execEv S) where
  x _ _ := rfl
  y _ _ := rfl
  rho _ _ := rfl
  phi _ _ := rfl
  z az _ _ _ := by cases az <;> rfl
  theta az _ _ _ := by cases az <;> rfl
  eta az _ _ _ := by cases az <;> rfl
  t az lon _ _ _ _ := by cases az <;> cases lon <;> rfl
  tau az lon _ _ _ _ := by cases az <;> cases lon <;> rfl

/-! ### examples: `ex4` meets the hypotheses of `Props/C15.lean`; evaluations at `execEv`; instances of its theorems -/

def ex4 (x y z t : S) : Vec S := ⟨{ mom := true, az := .xy, lon := some .z, tmp := some .t }, [x, y, z, t]⟩

example (x y z t : S) : WFV (ex4 x y z t) := ⟨fun _ => rfl, rfl⟩
example (x y z t : S) (c : CName) : c.hasGroup (ex4 x y z t).ty := by cases c <;> simp [CName.hasGroup, CName.grp, ex4]

/-- assigning `rho` on the Cartesian vector re-stores the azimuthal group as (rho, phi), phi read through its accessor -/
example (x y z t a : S) :
    setC (execEv S) .rho a (ex4 x y z t) =
      .ok ⟨{ mom := true, az := .rhophi, lon := some .z, tmp := some .t }, [a, planar_phi.xy x y, z, t]⟩ := rfl

example (x y z t a : S) (v' : Vec S) (h : setC (execEv S) .rho a (ex4 x y z t) = .ok v') :
    getS (execEv S) .rho v' = .ok a :=
  c15_readback (c := .rho) c15_idLaws_exec ⟨fun _ => rfl, rfl⟩ trivial h

/-- a three-step history: `v.x = a; v.tau = m; v.rho2 = …` (read-only: raises, state kept) -/
example (x y z t a m : S) (K : Consts S) (A : Arith S) :
    run (execEv S) K A (ex4 x y z t) [.set .x a, .set .tau m, .setReadOnly] =
      [ (⟨{ mom := true, az := .xy, lon := some .z, tmp := some .t }, [a, y, z, t]⟩, none),
        (⟨{ mom := true, az := .xy, lon := some .z, tmp := some .tau }, [a, y, z, m]⟩, none),
        (⟨{ mom := true, az := .xy, lon := some .z, tmp := some .tau }, [a, y, z, m]⟩, some .attributeError) ] := by
  rfl

example {B : Type} (ev : Ev S B) (K : Consts S) (A : Arith S) (x y z t a f : S) (o : Vec S) :
    ∀ r ∈ run ev K A (ex4 x y z t) [.set .phi a, .iopS .mul f, .iopV .add o],
      r.1.ty.be = .obj ∧ r.1.ty.mom = true ∧ r.1.ty.dim = 4 ∧ WFV r.1 :=
  c15_run_inv _ (v := ex4 x y z t) ⟨fun _ => rfl, rfl⟩

example {B : Type} (ev : Ev S B) (K : Consts S) (A : Arith S) (x y z t f g : S) (o : Vec S) :
    (runFinal ev K A (ex4 x y z t) [.iopS .mul f, .iopV .sub o, .iopS .div g]).ty = (ex4 x y z t).ty :=
  (c15_run_iop_ty _ _ (by simp [Step.isIop])).2

/-- `v *= f` on the generated compute layer: the functional result `v * f`, and the object afterwards -/
example (x y z t f : S) (K : Consts S) (A : Arith S) :
    iopResult (execEv S) K A (ex4 x y z t) (.iopS .mul f) = .ok (.vec (ex4 (x * f) (y * f) (z * f) (t * f))) ∧
    step (execEv S) K A (ex4 x y z t) (.iopS .mul f) = (ex4 (x * f) (y * f) (z * f) (t * f), none) :=
  ⟨by rfl, by rfl⟩

/-- `v *= o` (a vector) raises TypeError and leaves the object unchanged -/
example (x y z t : S) (o : Vec S) (K : Consts S) (A : Arith S) :
    step (execEv S) K A (ex4 x y z t) (.iopV .mul o) = (ex4 x y z t, some .typeError) := rfl

/-- well-formedness is needed for the dimension invariant: on the (unreachable) type with a temporal but no
longitudinal coordinate, `v.z = a` would add a group -/
example {B : Type} (ev : Ev S B) (x y t a : S) :
    ∃ v', setC ev .z a ⟨{ mom := false, az := .xy, lon := none, tmp := some .t }, [x, y, t]⟩ = .ok v' ∧
      v'.ty.dim = 4 := ⟨_, rfl, rfl⟩

end
end VG
