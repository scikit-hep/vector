/-
Equality, closeness, norm operators, linear transforms, `deltaRapidityPhi` and `like` at the level of PUBLIC METHODS
(glue ∘ compute), prefix `c12m_`.

The glue model is instantiated at `S := ℝ`, `B := Prop` with the generated REAL compute layer `evR`
(`Props/EvReal.lean`).  A call is reduced to the generated `<module>.eval k… coords` for ARBITRARY key variables,
backends and flavors (technique of `Props/MethodBin.lean`: `dispatch_pair` / `dispatch_single`, no 144-fold case split;
`C11M.sameDim_truth` does it once for `equal`, `not_equal`, `isclose`); the `c12m_*` theorems then transfer the all-keys theorems
of `Props/C12.lean`, `Refine/Equal.lean`, `Refine/Planar.lean`, `Refine/SpatialRot.lean`, `Refine/LorentzBin.lean`.
-/
import VectorModel.Props.C01Method
import VectorModel.Props.MethodBin
import VectorModel.Props.MethodLorentz
import VectorModel.Props.MethodConv
import VectorModel.Props.C12
import VectorModel.Refine.Equal

set_option linter.constructorNameAsVariable false

namespace VR
namespace C12M
open VK VG Spec Real C01M
open C11M (BinDom dispatch_pair_scalar dispatch_single call_bin9)

/-! ## 0. same-dimension predicates: evaluation into `BinDom` -/

/-- a relation between the answers of two same-dimension predicates that holds for all keys and coordinates, dimension by
dimension, holds between their answers on any two operands -/
theorem binDom_rel (R : Prop → Prop → Prop) {d2 e2 : Az → Az → ℝ → ℝ → ℝ → ℝ → Prop}
    {d3 e3 : Az → Lon → Az → Lon → ℝ → ℝ → ℝ → ℝ → ℝ → ℝ → Prop}
    {d4 e4 : Az → Lon → Tmp → Az → Lon → Tmp → ℝ → ℝ → ℝ → ℝ → ℝ → ℝ → ℝ → ℝ → Prop}
    (h2 : ∀ k0 k1 a0 a1 b0 b1, R (d2 k0 k1 a0 a1 b0 b1) (e2 k0 k1 a0 a1 b0 b1))
    (h3 : ∀ k0 k1 k2 k3 a0 a1 a2 b0 b1 b2, R (d3 k0 k1 k2 k3 a0 a1 a2 b0 b1 b2) (e3 k0 k1 k2 k3 a0 a1 a2 b0 b1 b2))
    (h4 : ∀ k0 k1 k2 k3 k4 k5 a0 a1 a2 a3 b0 b1 b2 b3,
      R (d4 k0 k1 k2 k3 k4 k5 a0 a1 a2 a3 b0 b1 b2 b3) (e4 k0 k1 k2 k3 k4 k5 a0 a1 a2 a3 b0 b1 b2 b3))
    (a b : Vec ℝ) : R (BinDom d2 d3 d4 a b) (BinDom e2 e3 e4 a b) := by
  unfold BinDom
  split
  · exact h2 ..
  · exact h3 ..
  · exact h4 ..

/-! ## 1. `equal` / `not_equal` (operators `==` / `!=`) -/

/-- the answer of the compute function behind `equal`, for operands of equal dimension (2D / 3D / 4D) -/
def EqP (a b : Vec ℝ) : Prop := BinDom planar_equal.eval spatial_equal.eval lorentz_equal.eval a b
/-- the answer of the compute function behind `not_equal` -/
def NeP (a b : Vec ℝ) : Prop := BinDom planar_not_equal.eval spatial_not_equal.eval lorentz_not_equal.eval a b

theorem equal_eval (K : Consts ℝ) (A : Arith ℝ) (a b : Vec ℝ) (ha : C01M.WFV a) (hb : C01M.WFV b) (hd : a.ty.dim = b.ty.dim) :
    call evR K A "equal" a [.v b] = .ok (.truth (EqP a b)) :=
  (call_bin9 evR K A a b).1.trans <| C11M.sameDim_truth K .equal rfl [] rfl rfl rfl rfl rfl rfl rfl rfl rfl rfl
    (fun _ _ _ _ _ _ => rfl) (fun _ _ _ _ _ _ _ _ _ _ => rfl) (fun _ _ _ _ _ _ _ _ _ _ _ _ _ _ => rfl) a b ha hb hd

theorem not_equal_eval (K : Consts ℝ) (A : Arith ℝ) (a b : Vec ℝ) (ha : C01M.WFV a) (hb : C01M.WFV b) (hd : a.ty.dim = b.ty.dim) :
    call evR K A "not_equal" a [.v b] = .ok (.truth (NeP a b)) :=
  (call_bin9 evR K A a b).2.1.trans <| C11M.sameDim_truth K .not_equal rfl [] rfl rfl rfl rfl rfl rfl rfl rfl rfl rfl
    (fun _ _ _ _ _ _ => rfl) (fun _ _ _ _ _ _ _ _ _ _ => rfl) (fun _ _ _ _ _ _ _ _ _ _ _ _ _ _ => rfl) a b ha hb hd

/-- **`!=` is the logical negation of `==`**, every storage pairing (4 + 36 + 144), any backends / flavors -/
theorem c12m_ne_iff_not_eq (K : Consts ℝ) (A : Arith ℝ) (a b : Vec ℝ) (ha : C01M.WFV a) (hb : C01M.WFV b)
    (hd : a.ty.dim = b.ty.dim) :
    ∃ p q, call evR K A "not_equal" a [.v b] = .ok (.truth p) ∧ call evR K A "equal" a [.v b] = .ok (.truth q) ∧
      (p ↔ ¬ q) :=
  ⟨_, _, not_equal_eval K A a b ha hb hd, equal_eval K A a b ha hb hd,
    binDom_rel (fun p q => p ↔ ¬ q) c12_planar_ne_iff_not_eq c12_spatial_ne_iff_not_eq c12_lorentz_ne_iff_not_eq a b⟩

/-- the operators `==`, `!=` are the methods (so every theorem of this section is about them too) -/
theorem c12m_operators {S B : Type} (ev : Ev S B) (K : Consts S) (A : Arith S) (a b : Vec S) :
    operator ev K A "eq" a [.v b] = call ev K A "equal" a [.v b] ∧
    operator ev K A "ne" a [.v b] = call ev K A "not_equal" a [.v b] :=
  (C11M.c11m_operators ev K A a b).2.2.2

/-- **`==` is reflexive**, every storage -/
theorem c12m_eq_refl (K : Consts ℝ) (A : Arith ℝ) (a : Vec ℝ) (ha : C01M.WFV a) :
    ∃ q, call evR K A "equal" a [.v a] = .ok (.truth q) ∧ q := by
  refine ⟨_, equal_eval K A a a ha ha rfl, ?_⟩
  rcases wfv_cases ha with ⟨be1, mom1, az1, a0, a1, rfl⟩ | ⟨be1, mom1, az1, l1, a0, a1, a2, rfl⟩ |
    ⟨be1, mom1, az1, l1, t1, a0, a1, a2, a3, rfl⟩
  · exact c12_planar_eq_refl ..
  · exact c12_spatial_eq_refl ..
  · exact c12_lorentz_eq_refl ..

/-- **`==` is symmetric**; the two calls use the DIFFERENT compute variants `(k₁,k₂)` / `(k₂,k₁)` -/
theorem c12m_eq_symm (K : Consts ℝ) (A : Arith ℝ) (a b : Vec ℝ) (ha : C01M.WFV a) (hb : C01M.WFV b) (hd : a.ty.dim = b.ty.dim) :
    ∃ q q', call evR K A "equal" a [.v b] = .ok (.truth q) ∧ call evR K A "equal" b [.v a] = .ok (.truth q') ∧
      (q ↔ q') := by
  refine ⟨_, _, equal_eval K A a b ha hb hd, equal_eval K A b a hb ha hd.symm, ?_⟩
  rcases C11M.wfv_pair ha hb hd with ⟨be1, mom1, az1, a0, a1, be2, mom2, az2, b0, b1, rfl, rfl⟩ |
    ⟨be1, mom1, az1, l1, a0, a1, a2, be2, mom2, az2, l2, b0, b1, b2, rfl, rfl⟩ |
    ⟨be1, mom1, az1, l1, t1, a0, a1, a2, a3, be2, mom2, az2, l2, t2, b0, b1, b2, b3, rfl, rfl⟩
  · exact c12_planar_eq_symm ..
  · exact c12_spatial_eq_symm ..
  · exact c12_lorentz_eq_symm ..

/-- operands stored in the same coordinate system (backends and flavors may differ) -/
def SameSystem (a b : Vec ℝ) : Prop := a.ty.az = b.ty.az ∧ a.ty.lon = b.ty.lon ∧ a.ty.tmp = b.ty.tmp

/-- **same-system operands: `==` ⇔ all stored coordinates equal** -/
theorem c12m_eq_same_system (K : Consts ℝ) (A : Arith ℝ) (a b : Vec ℝ) (ha : C01M.WFV a) (hb : C01M.WFV b) (hs : SameSystem a b) :
    ∃ q, call evR K A "equal" a [.v b] = .ok (.truth q) ∧ (q ↔ a.c = b.c) := by
  have hd : a.ty.dim = b.ty.dim := by simp only [VT.dim, hs.2.1, hs.2.2]
  refine ⟨_, equal_eval K A a b ha hb hd, ?_⟩
  rcases C11M.wfv_pair ha hb hd with ⟨be1, mom1, az1, a0, a1, be2, mom2, az2, b0, b1, rfl, rfl⟩ |
    ⟨be1, mom1, az1, l1, a0, a1, a2, be2, mom2, az2, l2, b0, b1, b2, rfl, rfl⟩ |
    ⟨be1, mom1, az1, l1, t1, a0, a1, a2, a3, be2, mom2, az2, l2, t2, b0, b1, b2, b3, rfl, rfl⟩
  · obtain ⟨rfl, -, -⟩ := hs
    refine (c12_planar_eq_same ..).trans ?_
    simp [c3]
  · obtain ⟨rfl, h2, -⟩ := hs
    cases h2
    refine (c12_spatial_eq_same ..).trans ?_
    simp [c3]
  · obtain ⟨rfl, h2, h3⟩ := hs
    cases h2; cases h3
    refine (c12_lorentz_eq_same ..).trans ?_
    simp [c3, C11M.c4]

/-- representability of the stored coordinates (hypotheses of `Refine/Equal.lean`): 3D `Canon3` (`0 ≤ ρ`; off the z axis and
`0 < θ < π` for θ/η storage) and `cos θ ≠ 0`; 4D in addition `0 ≤ τ` -/
def CanonV (v : Vec ℝ) : Prop :=
  C11M.UnDom (fun _ _ _ => True) (fun k l a b c => Canon3 k l a b c ∧ TanOK l c)
    (fun k l t a b c d => Canon4 k l t a b c d ∧ TanOK l c) v

/-- **soundness of `==` w.r.t. the denotation, every storage pairing**: operands that compare equal denote the same
Cartesian vector; operands denoting different vectors compare `!=`.  ONLY THIS DIRECTION holds (see
`c12m_eq_denote_converse_false`). -/
theorem c12m_eq_denote_partial (K : Consts ℝ) (A : Arith ℝ) (a b : Vec ℝ) (ha : C01M.WFV a) (hb : C01M.WFV b)
    (hd : a.ty.dim = b.ty.dim) (hca : CanonV a) (hcb : CanonV b) :
    ∃ p q, call evR K A "not_equal" a [.v b] = .ok (.truth p) ∧ call evR K A "equal" a [.v b] = .ok (.truth q) ∧
      (q → denote a = denote b) ∧ (denote a ≠ denote b → p) := by
  obtain ⟨p, q, h1, h2, h3⟩ := c12m_ne_iff_not_eq K A a b ha hb hd
  have key : q → denote a = denote b := by
    rw [equal_eval K A a b ha hb hd] at h2
    cases h2
    rcases C11M.wfv_pair ha hb hd with ⟨be1, mom1, az1, a0, a1, be2, mom2, az2, b0, b1, rfl, rfl⟩ |
      ⟨be1, mom1, az1, l1, a0, a1, a2, be2, mom2, az2, l2, b0, b1, b2, rfl, rfl⟩ |
      ⟨be1, mom1, az1, l1, t1, a0, a1, a2, a3, be2, mom2, az2, l2, t2, b0, b1, b2, b3, rfl, rfl⟩
    · intro h
      rw [C11M.denote_V2, C11M.denote_V2, refine_planar_equal az1 az2 a0 a1 b0 b1 h]
    · intro h
      rw [C11M.denote_V3, C11M.denote_V3,
        refine_spatial_equal az1 l1 az2 l2 a0 a1 a2 b0 b1 b2 hca.1 hcb.1 hca.2 hcb.2 h]
    · intro h
      rw [C11M.denote_V4, C11M.denote_V4,
        refine_lorentz_equal az1 l1 t1 az2 l2 t2 a0 a1 a2 a3 b0 b1 b2 b3 hca.1 hcb.1 hca.2 hcb.2 h]
  exact ⟨p, q, h1, h2, key, fun hne => h3.mpr fun hq => hne (key hq)⟩

/-- the converse is FALSE (by design: the comparison is on stored coordinates): the polar 2D vectors `(ρ, φ) = (0, 0)` and
`(0, 1)` are both representable and denote the same point `(0, 0)` but compare `!=` -/
theorem c12m_eq_denote_converse_false (K : Consts ℝ) (A : Arith ℝ) :
    ∃ a b : Vec ℝ, C01M.WFV a ∧ C01M.WFV b ∧ CanonV a ∧ CanonV b ∧ denote a = denote b ∧
      call evR K A "equal" a [.v b] = .ok (.truth (EqP a b)) ∧ ¬ EqP a b := by
  refine ⟨C11M.V2 .obj false .rhophi 0 0, C11M.V2 .obj false .rhophi 0 1, ⟨by simp, rfl⟩, ⟨by simp, rfl⟩, trivial, trivial,
    ?_, equal_eval K A _ _ ⟨by simp, rfl⟩ ⟨by simp, rfl⟩ rfl, ?_⟩
  · simp [denote, xOf, yOf]
  · intro h
    have := ((c12_planar_eq_same .rhophi 0 0 0 1).mp h).2
    norm_num at this

/-- the representability hypothesis `0 ≤ ρ` of `c12m_eq_denote_partial` cannot be dropped: the `(ρ, φ, θ)`-stored vector
`(-1, 0, 1)` compares `==` to the `(x, y, θ)`-stored `(-1, 0, 1)`, but they denote opposite `z`
(method-level form of `refine_spatial_equal_needs_canon2`) -/
theorem c12m_eq_needs_canon (K : Consts ℝ) (A : Arith ℝ) :
    ∃ (a b : Vec ℝ) (q : Prop), C01M.WFV a ∧ C01M.WFV b ∧ call evR K A "equal" a [.v b] = .ok (.truth q) ∧ q ∧
      denote a ≠ denote b := by
  obtain ⟨-, heq, hne⟩ := refine_spatial_equal_needs_canon2
  refine ⟨C11M.V3 .obj false .rhophi .theta (-1) 0 1, C11M.V3 .obj false .xy .theta (-1) 0 1, _, ⟨by simp, rfl⟩,
    ⟨by simp, rfl⟩, equal_eval K A _ _ ⟨by simp, rfl⟩ ⟨by simp, rfl⟩ rfl, heq, fun h => hne ?_⟩
  rw [C11M.denote_V3, C11M.denote_V3] at h
  simp only [C11M.toL3, Option.some.injEq, List.cons.injEq, and_true] at h
  exact Prod.ext h.1 (Prod.ext h.2.1 h.2.2)

/-- **2D: `==` is EXACTLY equality of the denotations when polar operands are stored canonically** (`0 < ρ`, `-π < φ ≤ π`),
all 4 storage pairings.  (For 3D / 4D only the soundness direction `c12m_eq_denote_partial` is proved.) -/
theorem c12m_eq_denote_2D (K : Consts ℝ) (A : Arith ℝ) (a b : Vec ℝ) (ha : C01M.WFV a) (hb : C01M.WFV b)
    (hda : a.ty.dim = 2) (hdb : b.ty.dim = 2) (hpa : Stored2 C04M.PolarOK a) (hpb : Stored2 C04M.PolarOK b) :
    ∃ q, call evR K A "equal" a [.v b] = .ok (.truth q) ∧ (q ↔ denote a = denote b) := by
  refine ⟨_, equal_eval K A a b ha hb (hda.trans hdb.symm), ?_⟩
  rcases wfv_cases ha with ⟨be1, mom1, az1, a0, a1, rfl⟩ | ⟨be1, mom1, az1, l1, a0, a1, a2, rfl⟩ |
    ⟨be1, mom1, az1, l1, t1, a0, a1, a2, a3, rfl⟩ <;> try (simp [VT.dim] at hda; done)
  rcases wfv_cases hb with ⟨be2, mom2, az2, b0, b1, rfl⟩ | ⟨be2, mom2, az2, l2, b0, b1, b2, rfl⟩ |
    ⟨be2, mom2, az2, l2, t2, b0, b1, b2, b3, rfl⟩ <;> try (simp [VT.dim] at hdb; done)
  constructor
  · intro h
    have e := refine_planar_equal az1 az2 a0 a1 b0 b1 h
    rw [C11M.denote_V2, C11M.denote_V2, e]
  · intro h
    simp only [denote, Option.some.injEq, List.cons.injEq, and_true] at h
    obtain ⟨hx, hy⟩ := h
    cases az1 <;> cases az2
    · exact ⟨hx, hy⟩
    · exact ⟨hx, hy⟩
    · exact ⟨hx, hy⟩
    · obtain ⟨r1, p1, p1'⟩ : 0 < a0 ∧ -π < a1 ∧ a1 ≤ π := hpa
      obtain ⟨r2, p2, p2'⟩ : 0 < b0 ∧ -π < b1 ∧ b1 ≤ π := hpb
      have hx' : a0 * cos a1 = b0 * cos b1 := hx
      have hy' : a0 * sin a1 = b0 * sin b1 := hy
      have e1 := L.arctan2_polar r1 p1 p1'
      have e2 := L.arctan2_polar r2 p2 p2'
      rw [hx', hy', e2] at e1
      have hr : a0 ^ 2 = b0 ^ 2 := by
        have : (a0 * cos a1) ^ 2 + (a0 * sin a1) ^ 2 = (b0 * cos b1) ^ 2 + (b0 * sin b1) ^ 2 := by rw [hx', hy']
        linear_combination this - a0 ^ 2 * cos_sq_add_sin_sq a1 + b0 ^ 2 * cos_sq_add_sin_sq b1
      exact ⟨(sq_eq_sq₀ r1.le r2.le).mp hr, e1.symm⟩

/-- e.g. a `(ρ, φ, η, τ)` momentum object against an `(x, y, z, t)` numpy vector -/
example (K : Consts ℝ) (A : Arith ℝ) :
    ∃ p q, call evR K A "not_equal" (C11M.V4 .obj true .rhophi .eta .tau 2 1 1 3) [.v (C11M.V4 .np false .xy .z .t 1 2 3 4)]
        = .ok (.truth p) ∧
      call evR K A "equal" (C11M.V4 .obj true .rhophi .eta .tau 2 1 1 3) [.v (C11M.V4 .np false .xy .z .t 1 2 3 4)]
        = .ok (.truth q) ∧ (p ↔ ¬ q) :=
  c12m_ne_iff_not_eq K A _ _ ⟨by simp, rfl⟩ ⟨by simp, rfl⟩ rfl

example : CanonV (C11M.V4 .obj true .rhophi .eta .tau 2 1 1 3) ∧ CanonV (C11M.V3 .np false .xy .z 1 2 3) := by
  refine ⟨⟨⟨⟨?_, ?_⟩, ?_⟩, trivial⟩, ⟨⟨trivial, trivial⟩, trivial⟩⟩
  · show (0 : ℝ) ≤ 2; norm_num
  · show (0 : ℝ) < 2; norm_num
  · show (0 : ℝ) ≤ 3; norm_num

/-! ## 2. `isclose`

`call … "isclose" a [.v b]` uses the default tolerances `rtol = K.rtol` (`1e-05`), `atol = K.atol` (`1e-08`),
`equal_nan = K.bFalse`; explicit tolerances are the `extra` argument of `VG.binary` (the string layer `VG.call` only models
the default call: the `example` after `c12m_isclose_call` shows `.error .unmodelled` for the four-argument call). -/

/-- the answer of the compute function behind `isclose` with tolerances `rtol = r`, `atol = t`, `equal_nan = e` -/
def IscP (r t e : ℝ) (a b : Vec ℝ) : Prop :=
  BinDom (fun k0 k1 => planar_isclose.eval k0 k1 r t e) (fun k0 k1 k2 k3 => spatial_isclose.eval k0 k1 k2 k3 r t e)
    (fun k0 k1 k2 k3 k4 k5 => lorentz_isclose.eval k0 k1 k2 k3 k4 k5 r t e) a b

/-- **`isclose` evaluated**, default (`extra = []`) or explicit (`extra = [rtol, atol, equal_nan]`) tolerances, every
storage pairing, any backends / flavors -/
theorem c12m_isclose (K : Consts ℝ) (a b : Vec ℝ) (ha : C01M.WFV a) (hb : C01M.WFV b) (hd : a.ty.dim = b.ty.dim)
    (extra : List ℝ) (r t e : ℝ) (hx : (if extra.isEmpty then [K.rtol, K.atol, K.bFalse] else extra) = [r, t, e]) :
    binary evR K .isclose a b extra = .ok (.truth (IscP r t e a b)) :=
  C11M.sameDim_truth K .isclose rfl extra hx rfl rfl rfl rfl rfl rfl rfl rfl rfl
    (fun _ _ _ _ _ _ => rfl) (fun _ _ _ _ _ _ _ _ _ _ => rfl) (fun _ _ _ _ _ _ _ _ _ _ _ _ _ _ => rfl) a b ha hb hd

theorem c12m_isclose_call (K : Consts ℝ) (A : Arith ℝ) (a b : Vec ℝ) (ha : C01M.WFV a) (hb : C01M.WFV b)
    (hd : a.ty.dim = b.ty.dim) (r t e : ℝ) :
    call evR K A "isclose" a [.v b] = .ok (.truth (IscP K.rtol K.atol K.bFalse a b)) ∧
    binary evR K .isclose a b [r, t, e] = .ok (.truth (IscP r t e a b)) :=
  ⟨(call_bin9 evR K A a b).2.2.1.trans (c12m_isclose K a b ha hb hd [] _ _ _ rfl),
    c12m_isclose K a b ha hb hd [r, t, e] r t e rfl⟩

/-- explicit tolerances are NOT modelled by the string layer `VG.call` (only by `VG.binary`) -/
example (K : Consts ℝ) (A : Arith ℝ) (a b : Vec ℝ) (r t e : ℝ) :
    call evR K A "isclose" a [.v b, .sc r, .sc t, .sc e] = .error .unmodelled := by rfl

/-- a wrong number of explicit tolerances is a `TypeError` (no such signature) -/
example (K : Consts ℝ) : binary evR K .isclose (C11M.V2 .obj false .xy 1 2) (C11M.V2 .obj false .xy 1 2) [1] =
    .error .typeError := by rfl

/-- **same-system operands**: `isclose` ⇔ every stored coordinate satisfies `|cᵢ − dᵢ| ≤ atol + rtol·|dᵢ|` -/
theorem c12m_isclose_same_system (r t e : ℝ) (a b : Vec ℝ) (ha : C01M.WFV a) (hb : C01M.WFV b) (hs : SameSystem a b) :
    IscP r t e a b ↔ List.Forall₂ (fun c d => |c - d| ≤ t + r * |d|) a.c b.c := by
  have hd : a.ty.dim = b.ty.dim := by simp only [VT.dim, hs.2.1, hs.2.2]
  rcases C11M.wfv_pair ha hb hd with ⟨be1, mom1, az1, a0, a1, be2, mom2, az2, b0, b1, rfl, rfl⟩ |
    ⟨be1, mom1, az1, l1, a0, a1, a2, be2, mom2, az2, l2, b0, b1, b2, rfl, rfl⟩ |
    ⟨be1, mom1, az1, l1, t1, a0, a1, a2, a3, be2, mom2, az2, l2, t2, b0, b1, b2, b3, rfl, rfl⟩
  · obtain ⟨rfl, -, -⟩ := hs
    refine (c12_planar_isclose_same ..).trans ?_
    simp [c3]
  · obtain ⟨rfl, h2, -⟩ := hs
    cases h2
    refine (c12_spatial_isclose_same ..).trans ?_
    simp [c3]
  · obtain ⟨rfl, h2, h3⟩ := hs
    cases h2; cases h3
    refine (c12_lorentz_isclose_same ..).trans ?_
    simp [c3, C11M.c4]

theorem c12m_isclose_same_system_call (K : Consts ℝ) (A : Arith ℝ) (a b : Vec ℝ) (ha : C01M.WFV a) (hb : C01M.WFV b)
    (hs : SameSystem a b) (r t e : ℝ) :
    (∃ q, call evR K A "isclose" a [.v b] = .ok (.truth q) ∧
      (q ↔ List.Forall₂ (fun c d => |c - d| ≤ K.atol + K.rtol * |d|) a.c b.c)) ∧
    (∃ q, binary evR K .isclose a b [r, t, e] = .ok (.truth q) ∧
      (q ↔ List.Forall₂ (fun c d => |c - d| ≤ t + r * |d|) a.c b.c)) := by
  have hd : a.ty.dim = b.ty.dim := by simp only [VT.dim, hs.2.1, hs.2.2]
  exact ⟨⟨_, (c12m_isclose_call K A a b ha hb hd r t e).1, c12m_isclose_same_system _ _ _ a b ha hb hs⟩,
    ⟨_, (c12m_isclose_call K A a b ha hb hd r t e).2, c12m_isclose_same_system _ _ _ a b ha hb hs⟩⟩

/-- **`isclose` is reflexive** for non-negative tolerances -/
theorem c12m_isclose_refl (r t e : ℝ) (hr : 0 ≤ r) (ht : 0 ≤ t) (a : Vec ℝ) (ha : C01M.WFV a) : IscP r t e a a := by
  rcases wfv_cases ha with ⟨be1, mom1, az1, a0, a1, rfl⟩ | ⟨be1, mom1, az1, l1, a0, a1, a2, rfl⟩ |
    ⟨be1, mom1, az1, l1, t1, a0, a1, a2, a3, rfl⟩
  · exact c12_planar_isclose_refl _ _ _ _ _ _ hr ht
  · exact c12_spatial_isclose_refl _ _ _ _ _ _ _ _ hr ht
  · exact c12_lorentz_isclose_refl _ _ _ _ _ _ _ _ _ _ hr ht

/-- **`==` implies `isclose`**, every storage pairing, non-negative tolerances -/
theorem c12m_isclose_of_eq (r t e : ℝ) (hr : 0 ≤ r) (ht : 0 ≤ t) (a b : Vec ℝ) (h : EqP a b) : IscP r t e a b :=
  binDom_rel (· → ·) (fun _ _ _ _ _ _ => c12_planar_isclose_of_eq _ _ _ _ _ _ _ _ _ hr ht)
    (fun _ _ _ _ _ _ _ _ _ _ => c12_spatial_isclose_of_eq _ _ _ _ _ _ _ _ _ _ _ _ _ hr ht)
    (fun _ _ _ _ _ _ _ _ _ _ _ _ _ _ => c12_lorentz_isclose_of_eq _ _ _ _ _ _ _ _ _ _ _ _ _ _ _ _ _ hr ht) a b h

/-- **`isclose` is monotone in both tolerances**, every storage pairing -/
theorem c12m_isclose_mono (r t r' t' e : ℝ) (hr : r ≤ r') (ht : t ≤ t') (a b : Vec ℝ) (h : IscP r t e a b) :
    IscP r' t' e a b :=
  binDom_rel (· → ·) (fun _ _ _ _ _ _ => c12_planar_isclose_mono _ _ _ _ _ _ _ _ _ _ _ hr ht)
    (fun _ _ _ _ _ _ _ _ _ _ => c12_spatial_isclose_mono _ _ _ _ _ _ _ _ _ _ _ _ _ _ _ hr ht)
    (fun _ _ _ _ _ _ _ _ _ _ _ _ _ _ => c12_lorentz_isclose_mono _ _ _ _ _ _ _ _ _ _ _ _ _ _ _ _ _ _ _ hr ht) a b h

/-- the three laws at the level of the public calls (default tolerances `0 ≤ K.rtol`, `0 ≤ K.atol`, as in the library:
`1e-05`, `1e-08`): `a.isclose(a)`; `a == b → a.isclose(b)`; `a.isclose(b)` with the defaults implies
`isclose` with any larger explicit tolerances -/
theorem c12m_isclose_laws (K : Consts ℝ) (A : Arith ℝ) (hr : 0 ≤ K.rtol) (ht : 0 ≤ K.atol) (a b : Vec ℝ) (ha : C01M.WFV a)
    (hb : C01M.WFV b) (hd : a.ty.dim = b.ty.dim) (r' t' : ℝ) (hr' : K.rtol ≤ r') (ht' : K.atol ≤ t') :
    (∃ c, call evR K A "isclose" a [.v a] = .ok (.truth c) ∧ c) ∧
    (∃ c q c', call evR K A "isclose" a [.v b] = .ok (.truth c) ∧ call evR K A "equal" a [.v b] = .ok (.truth q) ∧
      binary evR K .isclose a b [r', t', K.bFalse] = .ok (.truth c') ∧ (q → c) ∧ (c → c')) :=
  ⟨⟨_, (c12m_isclose_call K A a a ha ha rfl 0 0 0).1, c12m_isclose_refl _ _ _ hr ht a ha⟩,
    ⟨_, _, _, (c12m_isclose_call K A a b ha hb hd 0 0 0).1, equal_eval K A a b ha hb hd,
      (c12m_isclose_call K A a b ha hb hd r' t' K.bFalse).2, c12m_isclose_of_eq _ _ _ hr ht a b,
      c12m_isclose_mono _ _ _ _ _ hr' ht' a b⟩⟩

/-- e.g. two `(x, y)` vectors: `(1, 2)` is close to `(1.000001, 2)` with `rtol = 1e-5`, `atol = 1e-8` -/
example : IscP 1e-5 1e-8 0 (C11M.V2 .obj false .xy 1 2) (C11M.V2 .np true .xy 1.000001 2) := by
  have ha : C01M.WFV (C11M.V2 .obj false .xy (1 : ℝ) 2) := ⟨by simp, rfl⟩
  have hb : C01M.WFV (C11M.V2 .np true .xy (1.000001 : ℝ) 2) := ⟨by simp, rfl⟩
  refine (c12m_isclose_same_system _ _ _ _ _ ha hb ⟨rfl, rfl, rfl⟩).mpr ?_
  simp only [List.forall₂_cons, List.forall₂_nil_right_iff, and_true]
  constructor
  · rw [abs_le]; constructor <;> norm_num [abs_of_pos]
  · norm_num

/-! ## 3. the norm operators `abs(v)`, `v ** p`, `numpy.square / sqrt / cbrt (v)` (property C11, last sentence) -/

/-- the norm of a component list: Euclidean for length 2 / 3; `sign(s)·√|s|`, `s = t² − |p|²`, for length 4 -/
noncomputable def normS : List ℝ → ℝ
  | [x, y] => sqrt (x ^ 2 + y ^ 2)
  | [x, y, z] => sqrt (x ^ 2 + y ^ 2 + z ^ 2)
  | [x, y, z, t] => Real.sign (t ^ 2 - (x ^ 2 + y ^ 2 + z ^ 2)) * sqrt |t ^ 2 - (x ^ 2 + y ^ 2 + z ^ 2)|
  | _ => 0

/-- the squared norm: `x²+y²`, `x²+y²+z²`, `t² − (x²+y²+z²)` -/
def norm2S : List ℝ → ℝ
  | [x, y] => x ^ 2 + y ^ 2
  | [x, y, z] => x ^ 2 + y ^ 2 + z ^ 2
  | [x, y, z, t] => t ^ 2 - (x ^ 2 + y ^ 2 + z ^ 2)
  | _ => 0

/-- hypotheses of the norm accessors on the stored coordinates: `0 ≤ ρ` (polar storage); 3D also `sin θ ≠ 0`;
4D representable longitudinal storage and `0 ≤ τ` -/
def NormOK (v : Vec ℝ) : Prop :=
  C11M.UnDom (fun k a b => Canon2 k a b) (fun k l a b c => Canon2 k a b ∧ SinOK l c)
    (fun k l t a b c d => CanonLon k l a b c ∧ CanonTmp t d) v
/-- hypotheses of the squared-norm accessors: none in 2D; 3D `sin θ ≠ 0`; 4D as `NormOK` -/
def Norm2OK (v : Vec ℝ) : Prop :=
  C11M.UnDom (fun _ _ _ => True) (fun _ l _ _ c => SinOK l c) (fun k l t a b c d => CanonLon k l a b c ∧ CanonTmp t d) v

theorem norm2OK_of_normOK {v : Vec ℝ} (hv : C01M.WFV v) (h : NormOK v) : Norm2OK v := by
  rcases wfv_cases hv with ⟨be, mom, az, a, b, rfl⟩ | ⟨be, mom, az, l, a, b, c, rfl⟩ |
    ⟨be, mom, az, l, t, a, b, c, d, rfl⟩
  · trivial
  · exact h.2
  · exact h

theorem operator_norm {S B : Type} (ev : Ev S B) (K : Consts S) (A : Arith S) (v : Vec S) (p : S) :
    operator ev K A "abs" v [] = getAcc ev (normAcc v.ty.dim) v ∧
    operator ev K A "square" v [] = getAcc ev (norm2Acc v.ty.dim) v ∧
    operator ev K A "pow" v [.sc p] =
      (if A.isTwo p then getAcc ev (norm2Acc v.ty.dim) v
       else match getAcc ev (normAcc v.ty.dim) v with
        | .ok (.scalar s) => .ok (.scalar (A.pow s p))
        | r => r) ∧
    operator ev K A "sqrt" v [] =
      (match getAcc ev (norm2Acc v.ty.dim) v with
        | .ok (.scalar s) => .ok (.scalar (A.pow s A.quarter))
        | r => r) ∧
    operator ev K A "cbrt" v [] =
      (match getAcc ev (norm2Acc v.ty.dim) v with
        | .ok (.scalar s) => .ok (.scalar (A.pow s A.sixth))
        | r => r) := ⟨rfl, rfl, rfl, rfl, rfl⟩

theorem call_getAcc {S B : Type} (ev : Ev S B) (K : Consts S) (A : Arith S) (g : String) (a : Acc) (v : Vec S)
    (hg : accOfName g = some a) : call ev K A g v [] = getAcc ev a v := by
  rw [c14_call_generic ev K A g a v [] hg]; rfl

/-- the accessor behind `abs` (`rho` / `mag` / `tau` by dimension) is the norm of the denotation -/
theorem getAcc_norm (K : Consts ℝ) (A : Arith ℝ) (v : Vec ℝ) (hv : C01M.WFV v) (hc : NormOK v) (p : List ℝ)
    (h : denote v = some p) : getAcc evR (normAcc v.ty.dim) v = .ok (.scalar (normS p)) := by
  rcases wfv_cases hv with ⟨be, mom, az, a, b, rfl⟩ | ⟨be, mom, az, l, a, b, c, rfl⟩ |
    ⟨be, mom, az, l, t, a, b, c, d, rfl⟩
  · cases h
    exact (call_getAcc evR K A "rho" .rho _ rfl).symm.trans (c01m_acc_rho K A _ hv hc _ _ _ rfl)
  · cases h
    exact (call_getAcc evR K A "mag" .mag _ rfl).symm.trans (c01m_acc_mag K A _ hv hc _ _ _ _ rfl)
  · cases h
    exact (call_getAcc evR K A "tau" .tau _ rfl).symm.trans (c09m_acc_tau K A _ hv hc _ _ _ _ rfl)

/-- the accessor behind `square` (`rho2` / `mag2` / `tau2`) is the squared norm of the denotation -/
theorem getAcc_norm2 (K : Consts ℝ) (A : Arith ℝ) (v : Vec ℝ) (hv : C01M.WFV v) (hc : Norm2OK v) (p : List ℝ)
    (h : denote v = some p) : getAcc evR (norm2Acc v.ty.dim) v = .ok (.scalar (norm2S p)) := by
  rcases wfv_cases hv with ⟨be, mom, az, a, b, rfl⟩ | ⟨be, mom, az, l, a, b, c, rfl⟩ |
    ⟨be, mom, az, l, t, a, b, c, d, rfl⟩
  · cases h
    exact (call_getAcc evR K A "rho2" .rho2 _ rfl).symm.trans (c01m_acc_rho2 K A _ hv _ _ _ rfl)
  · cases h
    exact (call_getAcc evR K A "mag2" .mag2 _ rfl).symm.trans (c01m_acc_mag2 K A _ hv hc _ _ _ _ rfl)
  · cases h
    exact (call_getAcc evR K A "tau2" .tau2 _ rfl).symm.trans (c09m_acc_tau2 K A _ hv hc _ _ _ _ rfl)

/-- **`abs(v)`** in every storage (2 + 6 + 12): the norm of the denotation -/
theorem c12m_abs (K : Consts ℝ) (A : Arith ℝ) (v : Vec ℝ) (hv : C01M.WFV v) (hc : NormOK v) (p : List ℝ)
    (h : denote v = some p) : operator evR K A "abs" v [] = .ok (.scalar (normS p)) :=
  (operator_norm evR K A v 0).1.trans (getAcc_norm K A v hv hc p h)

/-- **`numpy.square(v)`**: the squared norm of the denotation -/
theorem c12m_square (K : Consts ℝ) (A : Arith ℝ) (v : Vec ℝ) (hv : C01M.WFV v) (hc : Norm2OK v) (p : List ℝ)
    (h : denote v = some p) : operator evR K A "square" v [] = .ok (.scalar (norm2S p)) :=
  (operator_norm evR K A v 0).2.1.trans (getAcc_norm2 K A v hv hc p h)

/-- **`v ** 2`** (the `other == 2` test of `__pow__` succeeds): the squared norm -/
theorem c12m_pow_two (K : Consts ℝ) (A : Arith ℝ) (v : Vec ℝ) (hv : C01M.WFV v) (hc : Norm2OK v) (p : List ℝ)
    (h : denote v = some p) (q : ℝ) (hq : A.isTwo q = true) :
    operator evR K A "pow" v [.sc q] = .ok (.scalar (norm2S p)) := by
  rw [(operator_norm evR K A v q).2.2.1, if_pos hq]
  exact getAcc_norm2 K A v hv hc p h

/-- **`v ** q`, `q ≠ 2`**: `A.pow norm q`, exactly as the model applies the scalar power -/
theorem c12m_pow (K : Consts ℝ) (A : Arith ℝ) (v : Vec ℝ) (hv : C01M.WFV v) (hc : NormOK v) (p : List ℝ)
    (h : denote v = some p) (q : ℝ) (hq : A.isTwo q = false) :
    operator evR K A "pow" v [.sc q] = .ok (.scalar (A.pow (normS p) q)) := by
  rw [(operator_norm evR K A v q).2.2.1, if_neg (by simp [hq]), getAcc_norm K A v hv hc p h]

/-- **`numpy.sqrt(v)`** = `(norm²) ** 0.25` -/
theorem c12m_sqrt (K : Consts ℝ) (A : Arith ℝ) (v : Vec ℝ) (hv : C01M.WFV v) (hc : Norm2OK v) (p : List ℝ)
    (h : denote v = some p) : operator evR K A "sqrt" v [] = .ok (.scalar (A.pow (norm2S p) A.quarter)) := by
  rw [(operator_norm evR K A v 0).2.2.2.1, getAcc_norm2 K A v hv hc p h]

/-- **`numpy.cbrt(v)`** = `(norm²) ** 0.1666…` -/
theorem c12m_cbrt (K : Consts ℝ) (A : Arith ℝ) (v : Vec ℝ) (hv : C01M.WFV v) (hc : Norm2OK v) (p : List ℝ)
    (h : denote v = some p) : operator evR K A "cbrt" v [] = .ok (.scalar (A.pow (norm2S p) A.sixth)) := by
  rw [(operator_norm evR K A v 0).2.2.2.2, getAcc_norm2 K A v hv hc p h]

/-- **`abs` / `square` of ANY representable 4D vector under the signed-τ reading** (`denoteS` of Props/MethodLorentz.lean:
a τ-stored vector with `τ < 0` is space-like): still `sign(s)·√|s|` resp. `s = t² − |p|²` of the (signed) denotation -/
theorem c12m_abs_signed (K : Consts ℝ) (A : Arith ℝ) (v : Vec ℝ) (hv : C01M.WFV v)
    (hc : Stored4 (fun k l t a b c d => CanonLon k l a b c ∧ CanonTmpS k l t a b c d) v) (x y z t : ℝ)
    (h : denoteS v = some [x, y, z, t]) :
    operator evR K A "abs" v [] = .ok (.scalar (normS [x, y, z, t])) ∧
    operator evR K A "square" v [] = .ok (.scalar (norm2S [x, y, z, t])) := by
  have h' := c09m_acc_signed K A v hv hc x y z t h
  obtain ⟨be, mom, az, l, t0, a, b, c, d, rfl, -⟩ := denoteS_lorentz hv h
  exact ⟨(operator_norm evR K A _ 0).1.trans ((call_getAcc evR K A "tau" .tau _ rfl).symm.trans h'.2.2.2),
    (operator_norm evR K A _ 0).2.1.trans ((call_getAcc evR K A "tau2" .tau2 _ rfl).symm.trans h'.2.2.1)⟩

/-- for a non-negative squared norm (always in 2D / 3D; time-like or light-like in 4D) the norm is its square root -/
theorem normS_eq_sqrt : ∀ p : List ℝ, 0 ≤ norm2S p → normS p = sqrt (norm2S p)
  | [x, y], _ => rfl
  | [x, y, z], _ => rfl
  | [x, y, z, t], h => by
    simp only [normS, norm2S] at h ⊢
    rcases h.eq_or_lt with h0 | h0
    · rw [← h0]; simp
    · rw [Real.sign_of_pos h0, abs_of_pos h0, one_mul]
  | [], _ => by simp [normS, norm2S]
  | [_], _ => by simp [normS, norm2S]
  | _ :: _ :: _ :: _ :: _ :: _, _ => by simp [normS, norm2S]

/-- the real-number arithmetic of the method layer: `1 / f`, `**` = `Real.rpow`, `0.25`, `1/6`, `other == 2` -/
noncomputable def realArith : Arith ℝ :=
  { inv := fun x => 1 / x, pow := Real.rpow, quarter := 1 / 4, sixth := 1 / 6, isTwo := fun p => decide (p = 2) }

/-- **corollary for the concrete arithmetic**: `numpy.sqrt(v) = norm ** (1/2)` and `numpy.cbrt(v) = norm ** (1/3)` when
`0 ≤ norm²`; `v ** 2 = norm²`, `v ** q = norm ** q` (`q ≠ 2`) -/
theorem c12m_norm_real (K : Consts ℝ) (v : Vec ℝ) (hv : C01M.WFV v) (hc : NormOK v) (p : List ℝ)
    (h : denote v = some p) (h0 : 0 ≤ norm2S p) (q : ℝ) (hq : q ≠ 2) :
    operator evR K realArith "sqrt" v [] = .ok (.scalar (normS p ^ (1 / 2 : ℝ))) ∧
    operator evR K realArith "cbrt" v [] = .ok (.scalar (normS p ^ (1 / 3 : ℝ))) ∧
    operator evR K realArith "pow" v [.sc 2] = .ok (.scalar (norm2S p)) ∧
    operator evR K realArith "pow" v [.sc q] = .ok (.scalar (normS p ^ q)) := by
  have hc2 := norm2OK_of_normOK hv hc
  refine ⟨?_, ?_, ?_, ?_⟩
  · rw [c12m_sqrt K realArith v hv hc2 p h, normS_eq_sqrt p h0, Real.sqrt_eq_rpow, ← Real.rpow_mul h0]
    norm_num [realArith]
  · rw [c12m_cbrt K realArith v hv hc2 p h, normS_eq_sqrt p h0, Real.sqrt_eq_rpow, ← Real.rpow_mul h0]
    norm_num [realArith]
  · exact c12m_pow_two K realArith v hv hc2 p h 2 (by simp [realArith])
  · exact c12m_pow K realArith v hv hc p h q (by simp [realArith, hq])

/-- e.g. `abs` of the `(ρ, φ, η, τ)`-stored momentum `(2, 1, 1, 3)` is its stored `τ = 3` — through the denotation -/
example : NormOK (C11M.V4 .obj true .rhophi .eta .tau 2 1 1 3) ∧ NormOK (C11M.V3 .np false .xy .theta 3 4 1) ∧
    NormOK (C11M.V2 .obj false .rhophi 2 1) := by
  refine ⟨⟨?_, ?_⟩, ⟨trivial, ?_⟩, ?_⟩
  · show (0 : ℝ) < 2; norm_num
  · show (0 : ℝ) ≤ 3; norm_num
  · exact Spec.sinOK_one .theta
  · show (0 : ℝ) ≤ 2; norm_num

/-- `abs` of the Cartesian 2D vector `(3, 4)` is `√(3² + 4²)` (`= 5`, next example); of the polar `(2, 1)` it is
`√((2 cos 1)² + (2 sin 1)²)` -/
example (K : Consts ℝ) (A : Arith ℝ) :
    operator evR K A "abs" (C11M.V2 .obj false .xy 3 4) [] = .ok (.scalar (normS [3, 4])) ∧
    operator evR K A "abs" (C11M.V2 .np true .rhophi 2 1) [] = .ok (.scalar (normS [2 * cos 1, 2 * sin 1])) :=
  ⟨c12m_abs K A (C11M.V2 .obj false .xy 3 4) ⟨by simp, rfl⟩ trivial _ rfl,
    c12m_abs K A (C11M.V2 .np true .rhophi 2 1) ⟨by simp, rfl⟩ (show (0 : ℝ) ≤ 2 by norm_num) _ rfl⟩

example : normS [3, 4] = 5 ∧ norm2S [0, 0, 3, 5] = 16 ∧ normS [0, 0, 3, 5] = 4 := by
  refine ⟨?_, by norm_num [norm2S], ?_⟩
  · show sqrt ((3 : ℝ) ^ 2 + 4 ^ 2) = 5
    rw [show (3 : ℝ) ^ 2 + 4 ^ 2 = 5 ^ 2 by norm_num, Real.sqrt_sq (by norm_num)]
  · rw [normS_eq_sqrt _ (by norm_num [norm2S])]
    show sqrt ((5 : ℝ) ^ 2 - (0 ^ 2 + 0 ^ 2 + 3 ^ 2)) = 4
    rw [show (5 : ℝ) ^ 2 - (0 ^ 2 + 0 ^ 2 + 3 ^ 2) = 4 ^ 2 by norm_num, Real.sqrt_sq (by norm_num)]

/-! ## 4. `transform2D`, `transform3D`, `transform4D` -/

def scalarsOf {S : Type} (args : List (Arg S)) : List S :=
  args.filterMap fun a => match a with | .sc s => some s | _ => none

theorem call_transform {S B : Type} (ev : Ev S B) (K : Consts S) (A : Arith S) (v : Vec S) (args : List (Arg S)) :
    (call ev K A "transform2D" v args =
      if v.ty.dim < 2 then .error .attributeError else
      if (scalarsOf args).length != 4 then .error .typeError else
        dispatch ev .planar_transform2D (scalarsOf args) none [v] [v]) ∧
    (call ev K A "transform3D" v args =
      if v.ty.dim < 3 then .error .attributeError else
      if (scalarsOf args).length != 9 then .error .typeError else
        dispatch ev .spatial_transform3D (scalarsOf args) none [v] [v]) ∧
    (call ev K A "transform4D" v args =
      if v.ty.dim < 4 then .error .attributeError else
      if (scalarsOf args).length != 16 then .error .typeError else
        dispatch ev .lorentz_transform4D (scalarsOf args) none [v] [v]) := ⟨rfl, rfl, rfl⟩

/-- **wrong number of scalars → `TypeError`; vector of too low dimension → `AttributeError`** (checked first) — for ALL
operands, any argument list and any compute layer -/
theorem c12m_transform_arity {S B : Type} (ev : Ev S B) (K : Consts S) (A : Arith S) (v : Vec S) (args : List (Arg S)) :
    ((scalarsOf args).length ≠ 4 → call ev K A "transform2D" v args = .error .typeError) ∧
    (v.ty.dim < 3 → call ev K A "transform3D" v args = .error .attributeError) ∧
    (3 ≤ v.ty.dim → (scalarsOf args).length ≠ 9 → call ev K A "transform3D" v args = .error .typeError) ∧
    (v.ty.dim < 4 → call ev K A "transform4D" v args = .error .attributeError) ∧
    (4 ≤ v.ty.dim → (scalarsOf args).length ≠ 16 → call ev K A "transform4D" v args = .error .typeError) := by
  obtain ⟨h2, h3, h4⟩ := call_transform ev K A v args
  have := two_le_dim v.ty
  refine ⟨fun h => ?_, fun h => ?_, fun h h' => ?_, fun h => ?_, fun h h' => ?_⟩
  · rw [h2, if_neg (by omega), if_pos (by simpa using h)]
  · rw [h3, if_pos h]
  · rw [h3, if_neg (by omega), if_pos (by simpa using h')]
  · rw [h4, if_pos h]
  · rw [h4, if_neg (by omega), if_pos (by simpa using h')]

/-- the 2×2, 3×3 matrices acting on Cartesian components (`Spec.transform4` is the 4×4 one) -/
def mat2 (xx xy yx yy : ℝ) (p : ℝ × ℝ) : ℝ × ℝ := (xx * p.1 + xy * p.2, yx * p.1 + yy * p.2)
def mat3 (xx xy xz yx yy yz zx zy zz : ℝ) (p : ℝ × ℝ × ℝ) : ℝ × ℝ × ℝ :=
  (xx * p.1 + xy * p.2.1 + xz * p.2.2, yx * p.1 + yy * p.2.1 + yz * p.2.2, zx * p.1 + zy * p.2.1 + zz * p.2.2)

/-- the raw result of `planar.transform2D` is Cartesian and equals `M · (x, y)` of the denotation, both azimuthal storages -/
theorem transform2D_cart (k : Az) (xx xy yx yy a b : ℝ) :
    planar_transform2D.eval k xx xy yx yy a b = mat2 xx xy yx yy (cart2 k a b) := by
  have h := refine_planar_transform2D k xx xy yx yy a b
  rw [refine_planar_transform2D_ret] at h
  exact Option.some.inj h

theorem transform3D_cart (k : Az) (l : Lon) (xx xy xz yx yy yz zx zy zz a b c : ℝ) (h : TanOK l c) :
    spatial_transform3D.eval k l xx xy xz yx yy yz zx zy zz a b c = mat3 xx xy xz yx yy yz zx zy zz (Spec.cart3 k l a b c) := by
  have h := refine_spatial_transform3D_interp k l xx xy xz yx yy yz zx zy zz a b c h
  rw [refine_spatial_transform3D_ret] at h
  have e : ∀ r : ℝ × ℝ × ℝ, interp3 (.vec [.az .xy, .lon .z]) r = some r := fun _ => rfl
  rw [e] at h
  exact Option.some.inj h

theorem transform4D_cart (k : Az) (l : Lon) (t : Tmp) (xx xy xz xt yx yy yz yt zx zy zz zt tx ty tz tt a b c d : ℝ)
    (h : TanOK l c) (hs : SinOK l c) (hd : CanonTmp t d) :
    lorentz_transform4D.eval k l t xx xy xz xt yx yy yz yt zx zy zz zt tx ty tz tt a b c d =
      transform4 xx xy xz xt yx yy yz yt zx zy zz zt tx ty tz tt (Spec.cart4 k l t a b c d) := by
  have h := refine_lorentz_transform4D k l t xx xy xz xt yx yy yz yt zx zy zz zt tx ty tz tt a b c d h hs hd
  rw [lorentz_transform4D_ret_eq] at h
  have e : ∀ r : ℝ × ℝ × ℝ × ℝ, interp4 (.vec [.az .xy, .lon .z, .tmp .t]) r = some r := fun _ => rfl
  rw [e] at h
  exact Option.some.inj h

/-- `transform2D` on a vector of any dimension: the azimuthal pair is transformed and stored Cartesian, the stored
longitudinal and temporal coordinates are passed through verbatim -/
theorem transform2D_eval (K : Consts ℝ) (A : Arith ℝ) (v : Vec ℝ) (hv : C01M.WFV v) (xx xy yx yy : ℝ) :
    call evR K A "transform2D" v [.sc xx, .sc xy, .sc yx, .sc yy] =
      .ok (.vec ⟨{ v.ty with az := .xy },
        (planar_transform2D.eval v.ty.az xx xy yx yy (c3 v).1 (c3 v).2.1).1 ::
          (planar_transform2D.eval v.ty.az xx xy yx yy (c3 v).1 (c3 v).2.1).2 :: (v.lonEl ++ v.tmpEl)⟩) := by
  rw [(call_transform evR K A _ _).1, if_neg (by have := two_le_dim v.ty; omega)]
  show dispatch evR .planar_transform2D [xx, xy, yx, yy] none [v] [v] = _
  rw [dispatch_single evR .planar_transform2D [xx, xy, yx, yy] v 1 rfl _ _ (operandKey_one hv) _ _ rfl,
    refine_planar_transform2D_ret]
  exact wrap_az v _ _

theorem transform2D_eval2 (K : Consts ℝ) (A : Arith ℝ) (be mom az) (xx xy yx yy a b : ℝ) :
    call evR K A "transform2D" (C11M.V2 be mom az a b) [.sc xx, .sc xy, .sc yx, .sc yy] =
      .ok (.vec (C11M.V2 be mom .xy (planar_transform2D.eval az xx xy yx yy a b).1
        (planar_transform2D.eval az xx xy yx yy a b).2)) :=
  transform2D_eval K A _ ⟨by simp, rfl⟩ ..

/-- **`transform2D(xx, xy, yx, yy)` on 2D, 3D and 4D vectors in every storage**: the result is azimuthally Cartesian, of the
dimension / flavor / backend of `v`; its azimuthal part denotes `M ·` the azimuthal part of `denote v`; on a
HIGHER-dimensional vector the stored longitudinal / temporal coordinates are kept VERBATIM (the documented exception of C01:
for θ/η/τ storage the denoted `z`, `t` change with ρ), so the whole denotation is `M` on the plane only for `z` (and `t`)
storage.  No hypothesis on the stored coordinates. -/
theorem c12m_transform2D (K : Consts ℝ) (A : Arith ℝ) (v : Vec ℝ) (hv : C01M.WFV v) (xx xy yx yy : ℝ) :
    ∃ w, call evR K A "transform2D" v [.sc xx, .sc xy, .sc yx, .sc yy] = .ok (.vec w) ∧
      w.ty = { v.ty with az := .xy } ∧ C01M.WFV w ∧ w.lonEl = v.lonEl ∧ w.tmpEl = v.tmpEl ∧
      (denote w).map (List.take 2) = (denote v).map (fun p => (onPlanar (mat2 xx xy yx yy) p).take 2) ∧
      ((v.ty.lon = none ∨ (v.ty.lon = some .z ∧ v.ty.tmp ≠ some .tau)) →
        denote w = (denote v).map (onPlanar (mat2 xx xy yx yy))) := by
  obtain ⟨x, y, rest, hd⟩ := denote_some hv
  obtain ⟨rest', h1, -, h3, -⟩ := restore_az_denote v .xy
    (planar_transform2D.eval v.ty.az xx xy yx yy (c3 v).1 (c3 v).2.1).1
    (planar_transform2D.eval v.ty.az xx xy yx yy (c3 v).1 (c3 v).2.1).2 x y rest hd
  obtain ⟨w1, w2, w3⟩ := wfv_restore_az hv .xy (planar_transform2D.eval v.ty.az xx xy yx yy (c3 v).1 (c3 v).2.1).1
    (planar_transform2D.eval v.ty.az xx xy yx yy (c3 v).1 (c3 v).2.1).2
  refine ⟨_, transform2D_eval K A v hv xx xy yx yy, rfl, w1, w2, w3, ?_, fun h => ?_⟩
  · rw [h1, hd, transform2D_cart, (denote_planar hd).1, (denote_planar hd).2]; rfl
  · have hτ : v.ty.tmp ≠ some .tau := by
      rcases h with h | h
      · exact fun e => by have := hv.1 (by rw [e]; rfl); simp [h] at this
      · exact h.2
    rw [h1, hd, h3 (by rcases h with h | h <;> simp [h]) (by rcases h with h | h <;> simp [h]) hτ, transform2D_cart,
      (denote_planar hd).1, (denote_planar hd).2]
    rfl

/-- the exception made explicit: the `(x, y, θ)`-stored vector `(1, 0, π/4)` denotes `(1, 0, 1)`; `transform2D(2, 0, 0, 2)`
keeps θ, so the result denotes `(2, 0, 2)`, NOT `M` on the plane with `z` unchanged, `(2, 0, 1)` -/
theorem c12m_transform2D_exception (K : Consts ℝ) (A : Arith ℝ) :
    ∃ v w : Vec ℝ, C01M.WFV v ∧ denote v = some [1, 0, 1] ∧
      call evR K A "transform2D" v [.sc 2, .sc 0, .sc 0, .sc 2] = .ok (.vec w) ∧ denote w = some [2, 0, 2] ∧
      denote w ≠ (denote v).map (onPlanar (mat2 2 0 0 2)) := by
  have h1 : sqrt ((1 : ℝ) ^ 2 + 0 ^ 2) = 1 := by norm_num
  have h2 : sqrt (((2 : ℝ) * 1 + 0 * 0) ^ 2 + (0 * 1 + 2 * 0) ^ 2) = 2 := by
    rw [show ((2 : ℝ) * 1 + 0 * 0) ^ 2 + (0 * 1 + 2 * 0) ^ 2 = 2 ^ 2 by norm_num, Real.sqrt_sq (by norm_num)]
  have dv : denote (C11M.V3 .obj false .xy .theta 1 0 (π / 4)) = some [1, 0, 1] := by
    simp only [denote, xOf, yOf, zOf, rhoOf, h1, cot_pi_div_four, mul_one]
  have dw : denote (C11M.V3 .obj false .xy .theta ((2 : ℝ) * 1 + 0 * 0) (0 * 1 + 2 * 0) (π / 4)) = some [2, 0, 2] := by
    simp only [denote, xOf, yOf, zOf, rhoOf, h2, cot_pi_div_four]; norm_num
  refine ⟨C11M.V3 .obj false .xy .theta 1 0 (π / 4), C11M.V3 .obj false .xy .theta (2 * 1 + 0 * 0) (0 * 1 + 2 * 0) (π / 4),
    ⟨by simp, rfl⟩, dv, ?_, dw, ?_⟩
  · rw [transform2D_eval K A _ ⟨by simp, rfl⟩, transform2D_cart]; rfl
  · rw [dw, dv]
    simp only [Option.map, onPlanar, mat2]
    norm_num

/-- `transform3D` on a 3D or 4D vector: the spatial part is transformed and stored Cartesian, a stored temporal coordinate
(t or τ) is passed through verbatim -/
theorem transform3D_eval (K : Consts ℝ) (A : Arith ℝ) (v : Vec ℝ) (hv : C01M.WFV v) (hd : 3 ≤ v.ty.dim)
    (xx xy xz yx yy yz zx zy zz : ℝ) :
    call evR K A "transform3D" v [.sc xx, .sc xy, .sc xz, .sc yx, .sc yy, .sc yz, .sc zx, .sc zy, .sc zz] =
      .ok (.vec ⟨{ v.ty with az := .xy, lon := some .z },
        (spatial_transform3D.eval v.ty.az (lonOf v) xx xy xz yx yy yz zx zy zz (c3 v).1 (c3 v).2.1 (c3 v).2.2).1 ::
        (spatial_transform3D.eval v.ty.az (lonOf v) xx xy xz yx yy yz zx zy zz (c3 v).1 (c3 v).2.1 (c3 v).2.2).2.1 ::
        (spatial_transform3D.eval v.ty.az (lonOf v) xx xy xz yx yy yz zx zy zz (c3 v).1 (c3 v).2.1 (c3 v).2.2).2.2 ::
          v.tmpEl⟩) := by
  rw [(call_transform evR K A _ _).2.1, if_neg (by omega)]
  show dispatch evR .spatial_transform3D [xx, xy, xz, yx, yy, yz, zx, zy, zz] none [v] [v] = _
  rw [dispatch_single evR .spatial_transform3D [xx, xy, xz, yx, yy, yz, zx, zy, zz] v 2 rfl _ _
      (operandKey_two hv hd) _ _ rfl, refine_spatial_transform3D_ret]
  exact wrap_sp hv hd .xy .z _

/-- **`transform3D` (9 scalars) on 3D and 4D vectors in every storage** (`cos θ ≠ 0` for θ storage): the result is a
Cartesian (`x, y, z`) vector of the dimension / flavor / backend of `v`; its spatial part denotes `M ·` the spatial part of
`denote v`; on a 4D vector the stored temporal coordinate is kept VERBATIM (documented exception of C01: for τ storage the
denoted `t` changes with |p|), so the whole denotation is `M` on space only for 3D vectors and `t` storage -/
theorem c12m_transform3D (K : Consts ℝ) (A : Arith ℝ) (v : Vec ℝ) (hv : C01M.WFV v) (hd : 3 ≤ v.ty.dim) (hT : TanOKV v)
    (xx xy xz yx yy yz zx zy zz : ℝ) :
    ∃ w, call evR K A "transform3D" v [.sc xx, .sc xy, .sc xz, .sc yx, .sc yy, .sc yz, .sc zx, .sc zy, .sc zz]
        = .ok (.vec w) ∧
      w.ty = { v.ty with az := .xy, lon := some .z } ∧ C01M.WFV w ∧ w.tmpEl = v.tmpEl ∧
      (denote w).map (List.take 3) =
        (denote v).map (fun p => (onSpatial (mat3 xx xy xz yx yy yz zx zy zz) p).take 3) ∧
      (v.ty.tmp ≠ some .tau → denote w = (denote v).map (onSpatial (mat3 xx xy xz yx yy yz zx zy zz))) := by
  obtain ⟨hw, htm, x, y, z, rest, rest', h0, h1, h2, -⟩ := restore_sp_denote v hv hd .xy .z
    (spatial_transform3D.eval v.ty.az (lonOf v) xx xy xz yx yy yz zx zy zz (c3 v).1 (c3 v).2.1 (c3 v).2.2).1
    (spatial_transform3D.eval v.ty.az (lonOf v) xx xy xz yx yy yz zx zy zz (c3 v).1 (c3 v).2.1 (c3 v).2.2).2.1
    (spatial_transform3D.eval v.ty.az (lonOf v) xx xy xz yx yy yz zx zy zz (c3 v).1 (c3 v).2.1 (c3 v).2.2).2.2
  obtain ⟨-, hx, hy, hz⟩ := denote_spatial h0
  have hr := transform3D_cart v.ty.az (lonOf v) xx xy xz yx yy yz zx zy zz (c3 v).1 (c3 v).2.1 (c3 v).2.2
    (tanOK_of_tanOKV hv hd hT)
  refine ⟨_, transform3D_eval K A v hv hd xx xy xz yx yy yz zx zy zz, rfl, hw, htm, ?_, fun h => ?_⟩
  · rw [h1, h0, hr, hx, hy, hz]; rfl
  · rw [h1, h0, h2 h, hr, hx, hy, hz]; rfl

theorem transform4D_eval4 (K : Consts ℝ) (A : Arith ℝ) (be mom az l t)
    (xx xy xz xt yx yy yz yt zx zy zz zt tx ty tz tt a b c d : ℝ) :
    call evR K A "transform4D" (C11M.V4 be mom az l t a b c d)
        [.sc xx, .sc xy, .sc xz, .sc xt, .sc yx, .sc yy, .sc yz, .sc yt, .sc zx, .sc zy, .sc zz, .sc zt,
          .sc tx, .sc ty, .sc tz, .sc tt] =
      .ok (.vec (C11M.V4 be mom .xy .z .t
        (lorentz_transform4D.eval az l t xx xy xz xt yx yy yz yt zx zy zz zt tx ty tz tt a b c d).1
        (lorentz_transform4D.eval az l t xx xy xz xt yx yy yz yt zx zy zz zt tx ty tz tt a b c d).2.1
        (lorentz_transform4D.eval az l t xx xy xz xt yx yy yz yt zx zy zz zt tx ty tz tt a b c d).2.2.1
        (lorentz_transform4D.eval az l t xx xy xz xt yx yy yz yt zx zy zz zt tx ty tz tt a b c d).2.2.2)) := by
  rw [(call_transform evR K A _ _).2.2]
  show dispatch evR .lorentz_transform4D [xx, xy, xz, xt, yx, yy, yz, yt, zx, zy, zz, zt, tx, ty, tz, tt] none
    [C11M.V4 be mom az l t a b c d] [C11M.V4 be mom az l t a b c d] = _
  rw [dispatch_single evR .lorentz_transform4D [xx, xy, xz, xt, yx, yy, yz, yt, zx, zy, zz, zt, tx, ty, tz, tt] _ 3 rfl
      [.az az, .lon l, .tmp t] [a, b, c, d] rfl _ _ rfl, lorentz_transform4D_ret_eq]
  rfl

/-- **`transform4D` (16 scalars) on a 4D vector in every storage** (`cos θ ≠ 0`, `sin θ ≠ 0` for θ storage, `0 ≤ τ`):
the result is the Cartesian `(x, y, z, t)` vector denoting `M · denote v` -/
theorem c12m_transform4D (K : Consts ℝ) (A : Arith ℝ) (v : Vec ℝ) (hv : C01M.WFV v) (hd : v.ty.dim = 4) (hc : BoostOK v)
    (xx xy xz xt yx yy yz yt zx zy zz zt tx ty tz tt : ℝ) :
    ∃ w, call evR K A "transform4D" v
        [.sc xx, .sc xy, .sc xz, .sc xt, .sc yx, .sc yy, .sc yz, .sc yt, .sc zx, .sc zy, .sc zz, .sc zt,
          .sc tx, .sc ty, .sc tz, .sc tt] = .ok (.vec w) ∧
      w.ty = { v.ty with az := .xy, lon := some .z, tmp := some .t } ∧ C01M.WFV w ∧
      denote w = (denote v).map (on4 (transform4 xx xy xz xt yx yy yz yt zx zy zz zt tx ty tz tt)) := by
  obtain ⟨be, mom, az, l, t, a, b, c, d, rfl⟩ := wfv4 hv hd
  refine ⟨_, transform4D_eval4 K A be mom az l t xx xy xz xt yx yy yz yt zx zy zz zt tx ty tz tt a b c d, rfl,
    ⟨by simp, rfl⟩, ?_⟩
  obtain ⟨h1, h2, h3⟩ : TanOK l c ∧ SinOK l c ∧ CanonTmp t d := hc
  rw [transform4D_cart az l t _ _ _ _ _ _ _ _ _ _ _ _ _ _ _ _ a b c d h1 h2 h3]
  rfl

/-- the rotation by a quarter turn in the plane applied through `transform2D` to the `(ρ, φ, θ)`-stored vector
`(2, 0, π/4)`: the result is `(x, y, θ) = (0, 2, π/4)` — θ kept verbatim -/
example (K : Consts ℝ) (A : Arith ℝ) :
    call evR K A "transform2D" (C11M.V3 .obj false .rhophi .theta 2 0 (π / 4)) [.sc 0, .sc (-1), .sc 1, .sc 0] =
      .ok (.vec (C11M.V3 .obj false .xy .theta (0 * (2 * cos 0) + (-1) * (2 * sin 0)) (1 * (2 * cos 0) + 0 * (2 * sin 0))
        (π / 4))) := by
  rw [transform2D_eval K A _ ⟨by simp, rfl⟩, transform2D_cart]; rfl

example : TanOKV (C11M.V3 .obj false .rhophi .theta 2 0 (π / 4)) ∧ BoostOK (C11M.V4 .obj true .rhophi .eta .tau 2 1 1 3) := by
  refine ⟨?_, trivial, trivial, ?_⟩
  · show cos (π / 4) ≠ 0
    rw [cos_pi_div_four]; positivity
  · show (0 : ℝ) ≤ 3; norm_num

/-! ## 5. `deltaRapidityPhi`, `deltaRapidityPhi2` (4D × 4D) -/

theorem call_deltaRapidityPhi {S B : Type} (ev : Ev S B) (K : Consts S) (A : Arith S) (v o : Vec S) :
    call ev K A "deltaRapidityPhi" v [.v o] = binary ev K .deltaRapidityPhi v o [] ∧
    call ev K A "deltaRapidityPhi2" v [.v o] = binary ev K .deltaRapidityPhi2 v o [] := ⟨rfl, rfl⟩

/-- **guards**: `AttributeError` on a 2D / 3D `self` (checked first), `TypeError` for an argument that is not 4D — for ALL
operands and any compute layer -/
theorem c12m_deltaRapidityPhi_guard {S B : Type} (ev : Ev S B) (K : Consts S) (A : Arith S) (v o : Vec S) :
    (v.ty.dim < 4 → call ev K A "deltaRapidityPhi" v [.v o] = .error .attributeError ∧
      call ev K A "deltaRapidityPhi2" v [.v o] = .error .attributeError) ∧
    (4 ≤ v.ty.dim → o.ty.dim ≠ 4 → call ev K A "deltaRapidityPhi" v [.v o] = .error .typeError ∧
      call ev K A "deltaRapidityPhi2" v [.v o] = .error .typeError) := by
  obtain ⟨h1, h2⟩ := call_deltaRapidityPhi ev K A v o
  rw [h1, h2]
  refine ⟨fun h => ⟨binary_route_error ev K [] (if_pos h), binary_route_error ev K [] (if_pos h)⟩, fun h h' => ?_⟩
  constructor <;>
    exact binary_route_error ev K [] ((if_neg (Nat.not_lt.2 h)).trans (if_pos (by simpa using h')))

theorem deltaRapidityPhi_eval4 (K : Consts ℝ) (A : Arith ℝ) (be1 mom1 az1 l1 t1 be2 mom2 az2 l2 t2)
    (a0 a1 a2 a3 a4 a5 a6 a7 : ℝ) :
    call evR K A "deltaRapidityPhi" (C11M.V4 be1 mom1 az1 l1 t1 a0 a1 a2 a3) [.v (C11M.V4 be2 mom2 az2 l2 t2 a4 a5 a6 a7)] =
      .ok (.scalar (lorentz_deltaRapidityPhi.eval az1 l1 t1 az2 l2 t2 a0 a1 a2 a3 a4 a5 a6 a7)) := by
  rw [(call_deltaRapidityPhi evR K A _ _).1, binary_route_ok evR K [] (m := .lorentz_deltaRapidityPhi) rfl rfl]
  exact dispatch_pair_scalar .lorentz_deltaRapidityPhi rfl [] _ _ 3 3 rfl [.az az1, .lon l1, .tmp t1]
    [.az az2, .lon l2, .tmp t2] [a0, a1, a2, a3] [a4, a5, a6, a7] rfl rfl rfl

theorem deltaRapidityPhi2_eval4 (K : Consts ℝ) (A : Arith ℝ) (be1 mom1 az1 l1 t1 be2 mom2 az2 l2 t2)
    (a0 a1 a2 a3 a4 a5 a6 a7 : ℝ) :
    call evR K A "deltaRapidityPhi2" (C11M.V4 be1 mom1 az1 l1 t1 a0 a1 a2 a3) [.v (C11M.V4 be2 mom2 az2 l2 t2 a4 a5 a6 a7)] =
      .ok (.scalar (lorentz_deltaRapidityPhi2.eval az1 l1 t1 az2 l2 t2 a0 a1 a2 a3 a4 a5 a6 a7)) := by
  rw [(call_deltaRapidityPhi evR K A _ _).2, binary_route_ok evR K [] (m := .lorentz_deltaRapidityPhi2) rfl rfl]
  exact dispatch_pair_scalar .lorentz_deltaRapidityPhi2 rfl [] _ _ 3 3 rfl [.az az1, .lon l1, .tmp t1]
    [.az az2, .lon l2, .tmp t2] [a0, a1, a2, a3] [a4, a5, a6, a7] rfl rfl rfl

/-- **`deltaRapidityPhi(2)` on 4D × 4D operands, every storage pairing (144), any backends / flavors**:
`Δφ² + Δy²` (resp. its square root) where `Δφ` is the result of the public method `deltaphi` (the difference of the azimuths
rectified to `[-π, π)`; for operands off the z axis it is the one of the DENOTED points) and `y = ½ ln((t+z)/(t−z))` is the
rapidity of the denotation (`Spec.rapidityOf`), for `|z| < t`.
Storage hypotheses: `cos θ ≠ 0`, `sin θ ≠ 0` for θ storage, `0 ≤ τ`. -/
theorem c12m_deltaRapidityPhi (K : Consts ℝ) (A : Arith ℝ) (a b : Vec ℝ) (ha : C01M.WFV a) (hb : C01M.WFV b)
    (hda : a.ty.dim = 4) (hdb : b.ty.dim = 4) (hca : BoostOK a) (hcb : BoostOK b)
    (x₁ y₁ z₁ t₁ x₂ y₂ z₂ t₂ : ℝ) (h₁ : denote a = some [x₁, y₁, z₁, t₁]) (h₂ : denote b = some [x₂, y₂, z₂, t₂])
    (hz₁ : |z₁| < t₁) (hz₂ : |z₂| < t₂) :
    ∃ dphi, call evR K A "deltaphi" a [.v b] = .ok (.scalar dphi) ∧
      call evR K A "deltaRapidityPhi2" a [.v b] =
        .ok (.scalar (dphi ^ 2 + (rapidityOf (x₁, y₁, z₁, t₁) - rapidityOf (x₂, y₂, z₂, t₂)) ^ 2)) ∧
      call evR K A "deltaRapidityPhi" a [.v b] =
        .ok (.scalar (sqrt (dphi ^ 2 + (rapidityOf (x₁, y₁, z₁, t₁) - rapidityOf (x₂, y₂, z₂, t₂)) ^ 2))) ∧
      (Stored2 (fun k a b => 0 < rhoOf k a b) a → Stored2 (fun k a b => 0 < rhoOf k a b) b →
        dphi = planar_deltaphi.eval .xy .xy x₁ y₁ x₂ y₂) := by
  refine ⟨_, C04M.deltaphi_eval K A a b ha hb, ?_⟩
  obtain ⟨be1, mom1, az1, l1, t1, a0, a1, a2, a3, rfl⟩ := wfv4 ha hda
  obtain ⟨be2, mom2, az2, l2, t2, b0, b1, b2, b3, rfl⟩ := wfv4 hb hdb
  simp only [denote, Option.some.injEq, List.cons.injEq, and_true] at h₁ h₂
  obtain ⟨rfl, rfl, rfl, rfl⟩ := h₁
  obtain ⟨rfl, rfl, rfl, rfl⟩ := h₂
  obtain ⟨p1, p2, p3⟩ : TanOK l1 a2 ∧ SinOK l1 a2 ∧ CanonTmp t1 a3 := hca
  obtain ⟨q1, q2, q3⟩ : TanOK l2 b2 ∧ SinOK l2 b2 ∧ CanonTmp t2 b3 := hcb
  refine ⟨?_, ?_, fun hr1 hr2 => ?_⟩
  · rw [deltaRapidityPhi2_eval4,
      refine_lorentz_deltaRapidityPhi2 az1 l1 t1 az2 l2 t2 a0 a1 a2 a3 b0 b1 b2 b3 p1 q1 p2 q2 p3 q3 hz₁ hz₂]
    rfl
  · rw [deltaRapidityPhi_eval4,
      refine_lorentz_deltaRapidityPhi az1 l1 t1 az2 l2 t2 a0 a1 a2 a3 b0 b1 b2 b3 p1 q1 p2 q2 p3 q3 hz₁ hz₂]
    rfl
  · exact refine_spatial_deltaphi_key az1 az2 a0 a1 b0 b1 hr1 hr2

/-- the Cartesian `Δφ`: the difference of the two azimuths `arctan2(y, x)`, rectified to `[-π, π)` -/
example (x₁ y₁ x₂ y₂ : ℝ) : planar_deltaphi.eval .xy .xy x₁ y₁ x₂ y₂ =
    P.mod (P.arctan2 y₁ x₁ - P.arctan2 y₂ x₂ + π) (2 * π) - π := rfl

/-- non-vacuity: the `(x, y, z, t)` vector `(1, 0, 1, 2)` and the `(ρ, φ, η, τ)` momentum `(2, 1, 0, 3)` (`z = 0 < t`) -/
example : let a : Vec ℝ := C11M.V4 .obj false .xy .z .t 1 0 1 2
    let b : Vec ℝ := C11M.V4 .np true .rhophi .eta .tau 2 1 0 3
    C01M.WFV a ∧ C01M.WFV b ∧ BoostOK a ∧ BoostOK b ∧ |zOf .xy .z 1 0 1| < tOf .xy .z .t 1 0 1 2 ∧
      |zOf .rhophi .eta 2 1 0| < tOf .rhophi .eta .tau 2 1 0 3 := by
  intro a b
  refine ⟨⟨by simp [a], rfl⟩, ⟨by simp [b], rfl⟩, ⟨trivial, trivial, trivial⟩, ⟨trivial, trivial, ?_⟩, ?_, ?_⟩
  · show (0 : ℝ) ≤ 3; norm_num
  · norm_num [zOf, tOf]
  · have h : zOf .rhophi .eta 2 1 0 = 0 := by simp [zOf]
    rw [h, abs_zero, tOf_tau_eq]
    positivity

/-! ## 6. `like` -/

theorem call_like {S B : Type} (ev : Ev S B) (K : Consts S) (A : Arith S) (v o : Vec S) :
    call ev K A "like" v [.v o] = toDimS K o.ty.dim v [] := (c04_call_toDim ev K A v o []).2.2.2.2.2.2

/-- **`v.like(o)` is `v.to_Vector{2,3,4}D()` for the dimension of `o`** (no keyword: imputed coordinates are `0.0`) — for
ALL operands and any compute layer; only the dimension of `o` matters, not its coordinate system, flavor or backend -/
theorem c12m_like_eq_to {S B : Type} (ev : Ev S B) (K : Consts S) (A : Arith S) (v o : Vec S) :
    (o.ty.dim = 2 → call ev K A "like" v [.v o] = call ev K A "to_Vector2D" v []) ∧
    (o.ty.dim = 3 → call ev K A "like" v [.v o] = call ev K A "to_Vector3D" v []) ∧
    (o.ty.dim = 4 → call ev K A "like" v [.v o] = call ev K A "to_Vector4D" v []) := by
  obtain ⟨h2, h3, h4, -⟩ := c04_call_toDim ev K A v o []
  exact ⟨fun h => by rw [call_like, h, h2]; rfl, fun h => by rw [call_like, h, h3]; rfl,
    fun h => by rw [call_like, h, h4]; rfl⟩

/-- **`like` in every storage of `v` and for every `o`**: the result has the dimension of `o`, the flavor and backend of
`v`, the retained stored coordinates verbatim, and denotes the PREFIX of `denote v` (projection) resp. its extension by
zeros (`K.zeroF`, stored as `z` / `t`) -/
theorem c12m_like (K : Consts ℝ) (A : Arith ℝ) (v o : Vec ℝ) (hv : C01M.WFV v) :
    ∃ w, call evR K A "like" v [.v o] = .ok (.vec w) ∧ C01M.WFV w ∧ w.ty.dim = o.ty.dim ∧ w.ty.be = v.ty.be ∧
      w.ty.mom = v.ty.mom ∧ w.ty.az = v.ty.az ∧
      denote w = (denote v).map (fun p => (p ++ [K.zeroF, K.zeroF]).take o.ty.dim) := by
  rw [call_like]
  rcases o.ty.dim_cases with h | h | h <;> rw [h] <;>
  rcases wfv_cases hv with ⟨be, mom, az, a, b, rfl⟩ | ⟨be, mom, az, l, a, b, c, rfl⟩ |
    ⟨be, mom, az, l, t, a, b, c, d, rfl⟩ <;>
  exact ⟨_, rfl, ⟨by simp, rfl⟩, rfl, rfl, rfl, rfl, rfl⟩

/-- e.g. a `(ρ, φ)` vector made like a 4D vector: `(ρ, φ, z = 0, t = 0)`; a `(x, y, θ, τ)` vector made like a 2D one: `(x, y)` -/
example (K : Consts ℝ) (A : Arith ℝ) (o : Vec ℝ) (h : o.ty.dim = 4) :
    call evR K A "like" (C11M.V2 .obj false .rhophi 2 1) [.v o] =
      .ok (.vec (C11M.V4 .obj false .rhophi .z .t 2 1 K.zeroF K.zeroF)) := by
  rw [call_like, h]; rfl
example (K : Consts ℝ) (A : Arith ℝ) (o : Vec ℝ) (h : o.ty.dim = 2) :
    call evR K A "like" (C11M.V4 .np true .xy .theta .tau 1 2 3 4) [.v o] = .ok (.vec (C11M.V2 .np true .xy 1 2)) := by
  rw [call_like, h]; rfl

end C12M
end VR
