/-
Properties C19 / C16 on the HEAP model of NumPy vector arrays (`Glue/Heap.lean`): aliasing of views (slices, transposes,
sub-arrays, 0-d views, strided reshapes), detachment of copies (copy / deepcopy / pickle / advanced indices / reshapes that must
copy), type preservation (flavor, dtype names in order, extras), name index = column, elements built BY NAME whatever the
field order, the frame property, pickle / copy / reshape round trips, in-place arithmetic as a write through the reference.
Of in-place arithmetic, `v *= k` (`imap`) has content theorems (`c19h_inplace_rows`, `c19h_iscale_alias`,
`c19h_inplace_rebinds`); `v += w` / `v -= w` (`izip`, `Op.iadd`, `Op.isub`) are covered by the theorems about every operation
(frame, type, invariants) only.

All statements are for every scalar type `α` (the model only moves values) and every state / history.

Theorems about EVERY operation rest on one case analysis of `eval`, `eval_shape`, which classifies its answer (`Answer`):
what a step does to the state (`step_env`: only the target is rebound; `step_heap`: column writes into the addressed rows of
the buffer written into, then at most one new buffer), the frame rule `step_frame` and the C16 frame theorems read off these,
the invariants `WF` and `Good`.  Theorems about ONE operation (`c19h_slice_intro`, `c19h_roundtrip`, `step_getName`, …) unfold
`eval` at that constructor instead: their statements name the exact reindexing or column, which `Answer` gives only as
`∃ ps`.  Histories go through `run_inv`, except `c19h_quiet_buffer`, whose hypothesis `Quiet` depends on the state reached.
The other `cases op` of the file do not look at `eval`: they relate the projections of an operation (`produces`, `copies`,
`writeVar`, `target`, `addressed`) to each other.

The index maps of views are `pick rv.idx (distinct ps)`: `distinct` (`Glue/Heap.lean`) returns `[]` when `ps` repeats a
position, and nothing here proves `sliceAxis0`, `transposePs` or the layouts `kLayout`, `fLayout`, `pickleLayout` duplicate-free
(on purpose, see there: no theorem depends on that arithmetic; the correspondence harness would report a wrong one).  So an
alias theorem says "`w` shows rows `distinct ps` of `v`": the rows the operation selects provided `ps` repeats none.
-/
import VectorModel.Glue.Heap


namespace VH

variable {α : Type}

/-! ### lists -/

private theorem pick_map {β γ : Type} (f : β → γ) (l : List β) (ps : List Nat) : pick (l.map f) ps = (pick l ps).map f := by
  simp only [pick, List.map_filterMap]
  congr 1
  funext i
  simp

private theorem pick_range {β : Type} (l : List β) : pick l (List.range l.length) = l := by
  induction l with
  | nil => rfl
  | cons a l ih =>
    have : pick (a :: l) (List.range (l.length + 1)) = a :: pick l (List.range l.length) := by
      simp only [pick, List.range_succ_eq_map, List.filterMap_cons, List.filterMap_map]
      simp [Function.comp_def]
    simpa [this] using ih

theorem mem_pick {β : Type} {l : List β} {ps : List Nat} {x : β} (h : x ∈ pick l ps) : x ∈ l := by
  simp only [pick, List.mem_filterMap] at h
  obtain ⟨i, _, hi⟩ := h
  exact List.mem_of_getElem? hi

theorem nodup_pick {l ps : List Nat} (hl : l.Nodup) (hps : ps.Nodup) : (pick l ps).Nodup := by
  refine List.Pairwise.filterMap (R := (· ≠ ·)) _ ?_ hps
  intro a a' hne b hb b' hb' hbb
  subst hbb
  have ha : a < l.length := by
    rcases Nat.lt_or_ge a l.length with h | h
    · exact h
    · rw [List.getElem?_eq_none h] at hb; cases hb
  exact hne ((List.getElem?_inj ha hl).mp (hb.trans hb'.symm))

theorem nodup_distinct (ps : List Nat) : (distinct ps).Nodup := by
  unfold distinct
  split
  · assumption
  · exact List.nodup_nil

theorem filterMap_getElem_of_all_some {β γ : Type} (f : β → Option γ) (l : List β) (hall : ∀ x ∈ l, (f x).isSome)
    (j : Nat) : (l.filterMap f)[j]? = (l[j]?).bind f := by
  induction l generalizing j with
  | nil => simp
  | cons a l ih =>
    have ha := hall a (List.mem_cons_self ..)
    obtain ⟨y, hy⟩ := Option.isSome_iff_exists.mp ha
    rw [List.filterMap_cons_some hy]
    cases j with
    | zero => simp [hy]
    | succ j => simpa using ih (fun x hx => hall x (List.mem_cons_of_mem _ hx)) j

theorem filterMap_length_of_all_some {β γ : Type} (f : β → Option γ) (l : List β) (hall : ∀ x ∈ l, (f x).isSome) :
    (l.filterMap f).length = l.length := by
  induction l with
  | nil => rfl
  | cons a l ih =>
    obtain ⟨y, hy⟩ := Option.isSome_iff_exists.mp (hall a (List.mem_cons_self ..))
    rw [List.filterMap_cons_some hy]
    simp [ih (fun x hx => hall x (List.mem_cons_of_mem _ hx))]

/-! ### the environment -/

theorem find_unbind (x w : String) (e : Env) : find x (unbind w e) = if x = w then none else find x e := by
  induction e with
  | nil => simp [unbind, find]
  | cons p e ih =>
    obtain ⟨k, r⟩ := p
    simp only [unbind, List.filter_cons] at ih ⊢
    by_cases hk : k = w
    · subst hk
      simp only [bne_self_eq_false, Bool.false_eq_true, if_false, ih, find]
      by_cases hx : x = k
      · simp [hx]
      · have : ¬ k = x := fun h => hx h.symm
        simp [hx, this]
    · have : (k != w) = true := by simp [hk]
      simp only [this, if_true, find, ih]
      by_cases hx : x = w
      · subst hx; simp [hk]
      · simp [hx]

theorem find_bind (x w : String) (e : Env) (r : Ref) : find x (bind e w r) = if w = x then some r else find x e := by
  simp only [bind, find, find_unbind]
  by_cases h : w = x
  · simp [h]
  · have : ¬ x = w := fun h' => h h'.symm
    simp [h, this]

/-! ### the heap under column writes -/

theorem rowAt_writeCol (h : Heap α) (b : Nat) (idx : List Nat) (p : Nat) (vals : List α) (b' i : Nat) :
    rowAt (writeCol h b idx p vals) b' i =
      if b' = b then (match assoc idx vals i with
        | some x => (rowAt h b' i).set p x
        | none => rowAt h b' i) else rowAt h b' i := by
  simp only [rowAt, writeCol, List.getElem?_mapIdx]
  cases hb : h[b']? with
  | none => simp; split <;> simp
  | some buffer =>
    simp only [Option.map_some, Option.getD_some]
    by_cases hbb : b' = b
    · simp only [hbb, if_true, List.getElem?_mapIdx]
      cases hi : buffer[i]? with
      | none => simp; split <;> simp
      | some rec => simp <;> (try split) <;> simp [*]
    · simp [hbb]

/-- whatever every single column write preserves, a sequence of column writes preserves -/
theorem writeCols_inv {γ : Type} (f : Heap α → γ) (b : Nat) (idx : List Nat) (ws : List (Nat × List α))
    (hf : ∀ h, ∀ w ∈ ws, f (writeCol h b idx w.1 w.2) = f h) (h : Heap α) : f (writeCols h b idx ws) = f h := by
  induction ws generalizing h with
  | nil => rfl
  | cons w ws ih =>
    exact (ih (fun h w' hw' => hf h w' (List.mem_cons_of_mem _ hw')) _).trans (hf h w (List.mem_cons_self ..))

theorem writeCols_length (h : Heap α) (b : Nat) (idx : List Nat) (ws : List (Nat × List α)) :
    (writeCols h b idx ws).length = h.length :=
  writeCols_inv List.length b idx ws (fun h w _ => by simp [writeCol]) h

theorem writeCols_other (h : Heap α) (b : Nat) (idx : List Nat) (ws : List (Nat × List α)) (b' : Nat) (hb : b' ≠ b) :
    (writeCols h b idx ws)[b']? = h[b']? := by
  refine writeCols_inv (·[b']?) b idx ws (fun h w _ => ?_) h
  simp only [writeCol, List.getElem?_mapIdx, hb, if_false]
  cases h[b']? <;> simp

theorem writeCols_buflen (h : Heap α) (b : Nat) (idx : List Nat) (ws : List (Nat × List α)) (b' : Nat) :
    ((writeCols h b idx ws)[b']?).map List.length = (h[b']?).map List.length := by
  refine writeCols_inv (fun h => (h[b']?).map List.length) b idx ws (fun h w _ => ?_) h
  simp only [writeCol, List.getElem?_mapIdx]
  cases h[b']? with
  | none => simp
  | some buffer => by_cases hb : b' = b <;> simp [hb]

theorem assoc_none {β : Type} (idx : List Nat) (vals : List β) (i : Nat) (hi : i ∉ idx) : assoc idx vals i = none := by
  induction idx generalizing vals with
  | nil => cases vals <;> rfl
  | cons j idx ih =>
    cases vals with
    | nil => rfl
    | cons x xs =>
      simp only [List.mem_cons, not_or] at hi
      have : ¬ j = i := fun h => hi.1 h.symm
      simp [assoc, this, ih xs hi.2]

theorem assoc_getElem {β : Type} (idx : List Nat) (vals : List β) (hn : idx.Nodup) (hl : idx.length = vals.length)
    (k : Nat) (hk : k < idx.length) : assoc idx vals idx[k] = some (vals[k]'(hl ▸ hk)) := by
  induction idx generalizing vals k with
  | nil => simp at hk
  | cons i idx ih =>
    cases vals with
    | nil => simp at hl
    | cons x xs =>
      cases k with
      | zero => simp [assoc]
      | succ k =>
        simp only [List.length_cons, Nat.add_lt_add_iff_right] at hk
        simp only [List.nodup_cons] at hn
        have hne : ¬ i = idx[k] := fun h => hn.1 (h ▸ List.getElem_mem hk)
        simp only [List.getElem_cons_succ, assoc, hne, if_false]
        exact ih xs hn.2 (by simpa using hl) k hk

/-- a column write leaves every row outside the addressed ones alone -/
theorem rowAt_writeCols_row (h : Heap α) (b : Nat) (idx : List Nat) (ws : List (Nat × List α)) (b' i : Nat)
    (hi : b' ≠ b ∨ i ∉ idx) : rowAt (writeCols h b idx ws) b' i = rowAt h b' i := by
  refine writeCols_inv (rowAt · b' i) b idx ws (fun h w _ => ?_) h
  rw [rowAt_writeCol]
  rcases hi with hi | hi
  · simp [hi]
  · simp [assoc_none _ _ _ hi]

/-- … never changes the length of a record … -/
theorem rowAt_writeCols_length (h : Heap α) (b : Nat) (idx : List Nat) (ws : List (Nat × List α)) (b' i : Nat) :
    (rowAt (writeCols h b idx ws) b' i).length = (rowAt h b' i).length := by
  refine writeCols_inv (fun h => (rowAt h b' i).length) b idx ws (fun h w _ => ?_) h
  rw [rowAt_writeCol]
  split
  · split <;> simp
  · rfl

/-- … and leaves every field alone that is not one of the written ones -/
theorem rowAt_writeCols_field (h : Heap α) (b : Nat) (idx : List Nat) (ws : List (Nat × List α)) (b' i q : Nat)
    (hq : ∀ w ∈ ws, w.1 ≠ q) : (rowAt (writeCols h b idx ws) b' i)[q]? = (rowAt h b' i)[q]? := by
  refine writeCols_inv (fun h => (rowAt h b' i)[q]?) b idx ws (fun h w hw => ?_) h
  rw [rowAt_writeCol]
  split
  · split
    · rw [List.getElem?_set_ne (hq w hw)]
    · rfl
  · rfl

/-- several column writes at once: each written column holds its values -/
theorem col_after_writes (h : Heap α) (b : Nat) (idx : List Nat) (hn : idx.Nodup) (ws : List (Nat × List α))
    (hd : ws.Pairwise (fun a b => a.1 ≠ b.1)) (p : Nat) (vals : List α) (hm : (p, vals) ∈ ws)
    (hl : idx.length = vals.length) (hrec : ∀ i ∈ idx, p < (rowAt h b i).length) (k : Nat) (hk : k < idx.length) :
    (rowAt (writeCols h b idx ws) b idx[k])[p]? = vals[k]? := by
  induction ws generalizing h with
  | nil => simp at hm
  | cons w ws ih =>
    rw [List.pairwise_cons] at hd
    have hunf : writeCols h b idx (w :: ws) = writeCols (writeCol h b idx w.1 w.2) b idx ws := rfl
    rw [hunf]
    rcases List.mem_cons.mp hm with heq | hm'
    · subst heq
      rw [rowAt_writeCols_field _ _ _ _ _ _ _ (fun w' hw' h' => hd.1 w' hw' h'.symm), rowAt_writeCol]
      simp only [if_true]
      rw [assoc_getElem idx vals hn hl k hk]
      simp only
      rw [List.getElem?_set_self (hrec _ (List.getElem_mem hk)), List.getElem?_eq_getElem]
    · apply ih _ hd.2 hm'
      intro i hi
      have := rowAt_writeCols_length h b idx [w] b i
      simp only [writeCols, List.foldl_cons, List.foldl_nil] at this
      rw [this]
      exact hrec i hi

theorem sees_congr (h h' : Heap α) (r : Ref) (hb : h'[r.buf]? = h[r.buf]?) : sees h' r = sees h r := by
  simp only [sees]
  congr 1
  funext i
  simp only [rowAt, hb]

theorem getElem?_append_one {β : Type} (l : List β) (x : β) (b : Nat) (hb : b < l.length) : (l ++ [x])[b]? = l[b]? :=
  List.getElem?_append_left hb

theorem rowAt_append_old (h t : Heap α) (b i : Nat) (hb : b < h.length) : rowAt (h ++ t) b i = rowAt h b i := by
  simp [rowAt, List.getElem?_append_left hb]

/-- the frame rule on heaps: column writes `ws` into rows `idx` of buffer `b'`, followed by any extension of the heap, change
no length of an existing buffer or record, no other existing buffer, and no existing row other than the addressed ones -/
theorem heap_frame (h : Heap α) (b' : Nat) (idx : List Nat) (ws : List (Nat × List α)) (t : Heap α) (b : Nat)
    (hb : b < h.length) :
    (ws = [] ∨ b' ≠ b → (writeCols h b' idx ws ++ t)[b]? = h[b]?) ∧
    ((writeCols h b' idx ws ++ t)[b]?).map List.length = (h[b]?).map List.length ∧
    ∀ i, (rowAt (writeCols h b' idx ws ++ t) b i).length = (rowAt h b i).length ∧
      (ws = [] ∨ b' ≠ b ∨ i ∉ idx → rowAt (writeCols h b' idx ws ++ t) b i = rowAt h b i) := by
  have hb' : b < (writeCols h b' idx ws).length := by rw [writeCols_length]; exact hb
  simp only [List.getElem?_append_left hb', rowAt_append_old _ _ _ _ hb']
  refine ⟨?_, writeCols_buflen .., fun i => ⟨rowAt_writeCols_length .., ?_⟩⟩
  · rintro (rfl | hne)
    · rfl
    · exact writeCols_other _ _ _ _ _ (Ne.symm hne)
  · rintro (rfl | hne)
    · rfl
    · exact rowAt_writeCols_row _ _ _ _ _ _ (hne.imp_left Ne.symm)

/-! ### allocation of a fresh buffer -/

theorem layoutOr_perm (lay : List Nat) (n : Nat) : IsPerm (layoutOr lay n) n := by
  unfold layoutOr
  split
  · assumption
  · exact ⟨List.length_range, List.nodup_range, fun i hi => List.mem_range.mp hi⟩

/-- the buffer `alloc` makes -/
def freshBuf (lay : List Nat) (recs : List (Record α)) : Buffer α :=
  (List.range recs.length).map fun m => (assoc (layoutOr lay recs.length) recs m).getD []

theorem alloc_eq (s : State α) (w : String) (ty : VTy) (sh lay : List Nat) (recs : List (Record α)) :
    alloc s w ty sh lay recs =
      ⟨s.heap ++ [freshBuf lay recs], bind s.env w ⟨s.heap.length, layoutOr lay recs.length, ty, sh⟩⟩ := rfl

/-- the fresh array shows exactly the records it was allocated for, in their order, whatever the memory layout -/
theorem sees_fresh (h : Heap α) (recs : List (Record α)) (ty : VTy) (sh lay : List Nat) :
    sees (h ++ [freshBuf lay recs]) ⟨h.length, layoutOr lay recs.length, ty, sh⟩ = recs := by
  obtain ⟨h1, h2, h3⟩ := layoutOr_perm lay recs.length
  simp only [sees]
  apply List.ext_getElem
  · simp [h1]
  · intro k hk1 hk2
    simp only [List.length_map] at hk1
    have hlt : (layoutOr lay recs.length)[k] < recs.length := h3 _ (List.getElem_mem hk1)
    simp only [List.getElem_map, rowAt, List.getElem?_append_right (Nat.le_refl _), Nat.sub_self, List.getElem?_cons_zero,
      Option.getD_some, freshBuf, List.getElem?_map, List.getElem?_range hlt, Option.map_some]
    rw [assoc_getElem _ recs h2 h1 k hk1]
    rfl

/-- the state after an allocation: `w` is bound to a reference to the new buffer, which comes after all others, with the
given type and shape, showing exactly `recs` -/
theorem alloc_spec (s : State α) (w : String) (ty : VTy) (sh lay : List Nat) (recs : List (Record α)) :
    ∃ r, find w (alloc s w ty sh lay recs).env = some r ∧ r.buf = s.heap.length ∧ r.ty = ty ∧ r.shape = sh ∧
      r.idx.length = recs.length ∧ sees (alloc s w ty sh lay recs).heap r = recs :=
  ⟨_, by simp [alloc_eq, find_bind], rfl, rfl, rfl, (layoutOr_perm _ _).1, sees_fresh ..⟩

theorem freshBuf_row (lay : List Nat) (recs : List (Record α)) (i : Nat) (hi : i ∈ layoutOr lay recs.length) :
    ((freshBuf lay recs)[i]?).getD [] ∈ recs := by
  obtain ⟨h1, h2, h3⟩ := layoutOr_perm lay recs.length
  obtain ⟨k, hk, rfl⟩ := List.getElem_of_mem hi
  have hlt : (layoutOr lay recs.length)[k] < recs.length := h3 _ (List.getElem_mem hk)
  simp only [freshBuf, List.getElem?_map, List.getElem?_range hlt, Option.map_some, Option.getD_some]
  rw [assoc_getElem _ recs h2 h1 k hk]
  exact List.getElem_mem _

/-! ### field positions -/

theorem pos_eq_none {n : String} {fs : List String} : pos n fs = none ↔ n ∉ fs := by
  induction fs with
  | nil => simp [pos]
  | cons f fs ih =>
    simp only [pos, List.mem_cons, not_or]
    by_cases h : f = n
    · simp [h]
    · have : ¬ n = f := fun h' => h h'.symm
      simp [h, this, ih]

theorem pos_lt {n : String} {fs : List String} {p : Nat} (h : pos n fs = some p) : p < fs.length := by
  induction fs generalizing p with
  | nil => simp [pos] at h
  | cons f fs ih =>
    simp only [pos] at h
    split at h
    · cases h; simp
    · cases hq : pos n fs with
      | none => simp [hq] at h
      | some q => simp [hq] at h; subst h; simp [ih hq]

theorem pos_of_mem {n : String} {fs : List String} (h : n ∈ fs) : ∃ p, pos n fs = some p := by
  cases hp : pos n fs with
  | none => exact absurd h (pos_eq_none.mp hp)
  | some p => exact ⟨p, rfl⟩

theorem mem_coords {ty : VTy} {c : String} (h : c ∈ ty.coords) : c ∈ ty.fields := by
  simp only [VTy.coords, List.mem_filter] at h
  simpa using h.2

theorem coordsOf_all_some (ty : VTy) (rec : Record α) (hrec : rec.length = ty.fields.length) :
    ∀ c ∈ ty.coords, ((pos c ty.fields).bind (rec[·]?)).isSome := by
  intro c hc
  obtain ⟨p, hp⟩ := pos_of_mem (mem_coords hc)
  have hlt : p < rec.length := by rw [hrec]; exact pos_lt hp
  simp [hp, hlt]

theorem coordsOf_length (ty : VTy) (rec : Record α) (hrec : rec.length = ty.fields.length) :
    (coordsOf ty rec).length = ty.coords.length :=
  filterMap_length_of_all_some _ _ (coordsOf_all_some ty rec hrec)

/-! ### the invariants of reachable states -/

/-- every variable points into the heap -/
def WF (s : State α) : Prop := ∀ x r, find x s.env = some r → r.buf < s.heap.length

/-- every variable points into the heap, shows no buffer row twice, and every record it shows has one scalar per field -/
def Good (s : State α) : Prop := ∀ x r, find x s.env = some r →
  r.buf < s.heap.length ∧ r.idx.Nodup ∧ ∀ i ∈ r.idx, (rowAt s.heap r.buf i).length = r.ty.fields.length

theorem Good.wf {s : State α} (hg : Good s) : WF s := fun x r hx => (hg x r hx).1

theorem good_sees {s : State α} (hg : Good s) {v : String} {rv : Ref} (hv : find v s.env = some rv) :
    ∀ rec ∈ sees s.heap rv, rec.length = rv.ty.fields.length := by
  intro rec hrec
  simp only [sees, List.mem_map] at hrec
  obtain ⟨i, hi, rfl⟩ := hrec
  exact (hg v rv hv).2.2 i hi

/-! ### the shape of the answer to every operation -/

/-- the operations that produce an array `w` from an array `v` -/
def Op.produces : Op α → Option (String × String)
  | .slice v w _ _ _ => some (v, w)
  | .mask v w _ => some (v, w)
  | .fancy v w _ => some (v, w)
  | .view v w => some (v, w)
  | .copy v w => some (v, w)
  | .deepcopy v w => some (v, w)
  | .pickle v w => some (v, w)
  | .reshape v w _ => some (v, w)
  | .transpose v w => some (v, w)
  | .sub v w _ _ => some (v, w)
  | _ => none

/-- the operations whose result is ALWAYS a COPY: `v.copy()`, `copy.deepcopy(v)`, a pickle round trip, `v[mask]`, `v[[i, j]]`
(`reshape` copies only when the rows are not strided under the new shape: `c19h_reshape_copy_detached`) -/
def Op.copies : Op α → Option (String × String)
  | .mask v w _ => some (v, w)
  | .fancy v w _ => some (v, w)
  | .copy v w => some (v, w)
  | .deepcopy v w => some (v, w)
  | .pickle v w => some (v, w)
  | _ => none

theorem produces_target {op : Op α} {v w : String} (h : op.produces = some (v, w)) :
    op.target = some w ∧ op.writeVar = none := by
  cases op <;> simp only [Op.produces, Option.some.injEq, Prod.mk.injEq, reduceCtorEq] at h <;>
    exact ⟨congrArg some h.2, rfl⟩

theorem copies_produces {op : Op α} {v w : String} (h : op.copies = some (v, w)) : op.produces = some (v, w) := by
  cases op <;> first | exact h | cases h

/-- the rows of its target's index map a writing operation addresses -/
def addressed (s : State α) : Op α → List Nat
  | .setName v _ _ => match find v s.env with
    | some r => r.idx
    | none => []
  | .setSlice v lo hi _ => match find v s.env with
    | some r => sliceRows r (some lo) (some hi)
    | none => []
  | .setElems v lo hi _ _ _ => match find v s.env with
    | some r => sliceRows r lo hi
    | none => []
  | .imap v _ => match find v s.env with
    | some r => r.idx
    | none => []
  | .izip v _ _ => match find v s.env with
    | some r => r.idx
    | none => []
  | _ => []

/-- what `eval` can answer for an operation: no effect, and then never `ok`; a view of an existing variable's buffer with
that variable's type, bound to the target of an array-producing operation that is not one of the copying ones; a fresh buffer
bound to the target — for an array-producing operation with the source's type and a reindexing of the source's records; column
writes into the buffer of the variable written through, at the addressed rows (a name assignment that writes succeeds); such
writes followed by the rebinding of that variable to a fresh buffer (in-place arithmetic); an unbinding.  In a good state the
records of a fresh buffer are complete. -/
inductive Answer (s : State α) (op : Op α) : Eff α × Out α → Prop
  | none (out : Out α) : out ≠ .ok → Answer s op (.none, out)
  | view (v w : String) (rv r : Ref) : op.produces = some (v, w) → op.copies = none → find v s.env = some rv →
      r.buf = rv.buf → r.ty = rv.ty → (∃ ps, ps.Nodup ∧ r.idx = pick rv.idx ps) → Answer s op (.bindView w r, .ok)
  | fresh (w : String) (ty : VTy) (sh lay : List Nat) (recs : List (Record α)) : op.target = some w → op.writeVar = none →
      (∀ v, op.produces = some (v, w) → ∃ rv, find v s.env = some rv ∧ ty = rv.ty ∧ ∃ ps, recs = pick (sees s.heap rv) ps) →
      (Good s → ∀ rec ∈ recs, rec.length = ty.fields.length) → Answer s op (.bindFresh w ty sh lay recs, .ok)
  | writes (v : String) (r : Ref) (idx : List Nat) (ws : List (Nat × List α)) (out : Out α) : op.writeVar = some v →
      find v s.env = some r → addressed s op = idx → (out = .ok ∨ ∀ name vals, op ≠ .setName v name vals) →
      Answer s op (.writes r.buf idx ws, out)
  | writesFresh (v : String) (r : Ref) (idx : List Nat) (ws : List (Nat × List α)) (ty : VTy) (sh : List Nat)
      (recs : List (Record α)) : op.writeVar = some v → op.target = some v → find v s.env = some r → addressed s op = idx →
      (Good s → ∀ rec ∈ recs, rec.length = ty.fields.length) → Answer s op (.writesFresh r.buf idx ws v ty sh recs, .ok)
  | del (v : String) : op = .del v → Answer s op (.del v, .ok)

theorem answer_copy {s : State α} {op : Op α} {v w : String} {r : Ref} {sh lay : List Nat} {recs : List (Record α)}
    (hr : find v s.env = some r) (hp : op.produces = some (v, w)) (hrecs : ∃ ps, recs = pick (sees s.heap r) ps) :
    Answer s op (.bindFresh w r.ty sh lay recs, .ok) := by
  refine .fresh w _ _ _ _ (produces_target hp).1 (produces_target hp).2 (fun v' h => ?_) (fun hg rec h => ?_)
  · rw [hp] at h; cases h; exact ⟨r, hr, rfl, hrecs⟩
  · obtain ⟨ps, rfl⟩ := hrecs; exact good_sees hg hr rec (mem_pick h)

theorem withVar_shape {s : State α} {op : Op α} {v : String} {k : Ref → Eff α × Out α}
    (h : ∀ r, find v s.env = some r → Answer s op (k r)) : Answer s op (withVar s v k) := by
  unfold withVar
  split
  · exact .none _ nofun
  · exact h _ ‹_›

theorem assignRows_shape {s : State α} {op : Op α} {v : String} {rt : Ref} (tlo thi : Option Int) (rs : Ref)
    (slo shi : Option Int) (hw : op.writeVar = some v) (hr : find v s.env = some rt)
    (ha : addressed s op = sliceRows rt tlo thi) (hn : ∀ name vals, op ≠ .setName v name vals) :
    Answer s op (assignRows s rt tlo thi rs slo shi) := by
  unfold assignRows
  split
  · dsimp only
    split
    · exact .writes v rt _ _ _ hw hr ha (.inr hn)
    · exact .none _ nofun
  · exact .none _ nofun

/-- the column writes of in-place arithmetic: for the dtype names before the first extra field, in order -/
def inplaceWs (r : Ref) (cols : Nat → List α) : List (Nat × List α) :=
  (List.range (coordPrefix r.ty)).map fun p => (p, cols p)

theorem inplace_eq (v : String) (r : Ref) (cols : Nat → List α) (res : List (Record α)) :
    (∃ sh, (inplace v r cols res) =
        (.writesFresh r.buf r.idx (inplaceWs r cols) v ⟨r.ty.mom, r.ty.coords⟩ sh res, .ok)) ∨
      (inplace v r cols res) = (.writes r.buf r.idx (inplaceWs r cols), .err .ValueError) := by
  unfold inplace inplaceWs
  dsimp only
  split
  · left; exact ⟨_, rfl⟩
  · right; rfl

theorem inplace_shape {s : State α} {op : Op α} {v : String} {r : Ref} (cols : Nat → List α) (res : List (Record α))
    (hw : op.writeVar = some v) (ht : op.target = some v) (hr : find v s.env = some r) (ha : addressed s op = r.idx)
    (hn : ∀ name vals, op ≠ .setName v name vals) (hres : Good s → ∀ rec ∈ res, rec.length = r.ty.coords.length) :
    Answer s op (inplace v r cols res) := by
  rcases inplace_eq v r cols res with ⟨sh, h⟩ | h <;> rw [h]
  · exact .writesFresh v r _ _ _ _ _ hw ht hr ha hres
  · exact .writes v r _ _ _ hw hr ha (.inr hn)

theorem eval_shape (s : State α) (op : Op α) : Answer s op (eval s op) := by
  cases op with
  | new v ty sh recs =>
    show Answer s _ (ite _ _ _)
    split
    · rename_i h
      simp only [Bool.and_eq_true, List.all_eq_true, beq_iff_eq] at h
      exact .fresh v ty _ _ recs rfl rfl nofun (fun _ => h.1.2)
    · exact .none _ nofun
  | slice v w lo hi stp =>
    refine withVar_shape fun r hr => ?_
    split
    · exact .none _ nofun
    · split
      · exact .none _ nofun
      · exact .view v w r _ rfl rfl hr rfl rfl ⟨_, nodup_distinct _, rfl⟩
  | view v w =>
    exact withVar_shape fun r hr => .view v w r r rfl rfl hr rfl rfl ⟨_, List.nodup_range, (pick_range r.idx).symm⟩
  | mask v w bits =>
    refine withVar_shape fun r hr => ?_
    split
    · exact .none _ nofun
    · split
      · exact answer_copy hr rfl ⟨_, rfl⟩
      · exact .none _ nofun
  | fancy v w idxs =>
    refine withVar_shape fun r hr => ?_
    split
    · exact .none _ nofun
    · split
      · exact .none _ nofun
      · exact answer_copy hr rfl ⟨_, rfl⟩
  | copy v w => exact withVar_shape fun r hr => answer_copy hr rfl ⟨_, (pick_range _).symm⟩
  | deepcopy v w => exact withVar_shape fun r hr => answer_copy hr rfl ⟨_, (pick_range _).symm⟩
  | pickle v w => exact withVar_shape fun r hr => answer_copy hr rfl ⟨_, (pick_range _).symm⟩
  | reshape v w dims =>
    refine withVar_shape fun r hr => ?_
    split
    · exact .none _ nofun
    · split
      · exact .view v w r _ rfl rfl hr rfl rfl ⟨_, List.nodup_range, (pick_range r.idx).symm⟩
      · exact answer_copy hr rfl ⟨_, (pick_range _).symm⟩
  | transpose v w =>
    exact withVar_shape fun r hr => .view v w r _ rfl rfl hr rfl rfl ⟨_, nodup_distinct _, rfl⟩
  | sub v w is ell =>
    refine withVar_shape fun r hr => ?_
    split
    · exact .none _ nofun
    · split
      · exact .none _ nofun
      · exact .view v w r _ rfl rfl hr rfl rfl ⟨_, nodup_distinct _, rfl⟩
  | intIndex v i =>
    refine withVar_shape fun r hr => ?_
    split
    · exact .none _ nofun
    · split <;> exact .none _ nofun
  | getName v name =>
    refine withVar_shape fun r hr => ?_
    split <;> exact .none _ nofun
  | setName v name vals =>
    refine withVar_shape fun r hr => ?_
    split
    · exact .none _ nofun
    · split
      · exact .none _ nofun
      · exact .writes v r _ _ _ rfl hr (by simp only [addressed, hr]) (.inl rfl)
  | setSlice v lo hi srcLo =>
    exact withVar_shape fun r hr => assignRows_shape _ _ r _ _ rfl hr (by simp only [addressed, hr]) (fun _ _ => nofun)
  | setElems v lo hi w slo shi =>
    exact withVar_shape fun r hr => withVar_shape fun rs _ =>
      assignRows_shape _ _ rs _ _ rfl hr (by simp only [addressed, hr]) (fun _ _ => nofun)
  | imap v f =>
    refine withVar_shape fun r hr => ?_
    split
    · refine inplace_shape _ _ rfl rfl hr (by simp only [addressed, hr]) (fun _ _ => nofun) fun hg rec hrec => ?_
      obtain ⟨rec0, h0, rfl⟩ := List.mem_map.mp hrec
      rw [List.length_map, coordsOf_length _ _ (good_sees hg hr rec0 h0)]
    · exact .none _ nofun
  | izip v w g =>
    refine withVar_shape fun r hr => withVar_shape fun rw hrw => ?_
    split
    · rename_i hcond
      refine inplace_shape _ _ rfl rfl hr (by simp only [addressed, hr]) (fun _ _ => nofun) fun hg rec hrec => ?_
      obtain ⟨k, hk, rfl⟩ := List.getElem_of_mem hrec
      simp only [List.length_zipWith] at hk
      rw [List.getElem_zipWith, List.length_zipWith, coordsOf_length _ _ (good_sees hg hr _ (List.getElem_mem _)),
        coordsOf_length _ _ (good_sees hg hrw _ (List.getElem_mem _)), hcond.2.1, Nat.min_self]
    · exact .none _ nofun
  | del v => exact withVar_shape fun _ _ => .del v rfl
  | dump => exact .none _ nofun

/-! ### one step: environment and heap -/

/-- an operation changes the binding of its target only -/
theorem step_env (s : State α) (op : Op α) :
    (op.target = none → (step s op).1.env = s.env) ∧
      ∀ x, op.target ≠ some x → find x (step s op).1.env = find x s.env := by
  have key : ∀ (w : String) (r : Ref), op.target = some w →
      (op.target = none → bind s.env w r = s.env) ∧ ∀ x, op.target ≠ some x → find x (bind s.env w r) = find x s.env :=
    fun w r ht => ⟨fun h => (by rw [ht] at h; cases h), fun x h => by
      have : ¬ w = x := fun hw => h (hw ▸ ht)
      simp [find_bind, this]⟩
  have hs := eval_shape s op
  simp only [step]
  generalize eval s op = r at hs
  cases hs with
  | none | writes => exact ⟨fun _ => rfl, fun _ _ => rfl⟩
  | view v w rv r hp => exact key w r (produces_target hp).1
  | fresh w ty sh lay recs ht => exact key w _ ht
  | writesFresh v r idx ws ty sh recs _ ht => exact key v _ ht
  | del v hop =>
    subst hop
    exact ⟨nofun, fun x h => by
      have : ¬ x = v := fun hw => h (hw ▸ rfl)
      simp [apply, find_unbind, this]⟩

theorem find_step (s : State α) (op : Op α) (x : String) (h : op.target ≠ some x) :
    find x (step s op).1.env = find x s.env := (step_env s op).2 x h

theorem run_cons (s : State α) (op : Op α) (ops : List (Op α)) : run s (op :: ops) = run (step s op).1 ops := rfl

theorem run_inv {P : State α → Prop} {Q : Op α → Prop} (hstep : ∀ s op, Q op → P s → P (step s op).1)
    (s : State α) (ops : List (Op α)) (hops : ∀ op ∈ ops, Q op) (h : P s) : P (run s ops) := by
  induction ops generalizing s with
  | nil => exact h
  | cons op ops ih =>
    exact ih _ (fun o ho => hops o (List.mem_cons_of_mem _ ho)) (hstep s op (hops op (List.mem_cons_self ..)) h)

/-- … hence a variable no operation of a history targets keeps its `Ref` -/
theorem find_run (x : String) (s : State α) (ops : List (Op α)) (h : ∀ op ∈ ops, op.target ≠ some x) :
    find x (run s ops).env = find x s.env :=
  run_inv (P := fun s' => find x s'.env = find x s.env) (fun s' op hop hs' => (find_step s' op x hop).trans hs') s ops h rfl

/-- what a step does to the heap: column writes into the addressed rows of the buffer the operation writes into, then — only
when the operation has a target — one more buffer -/
theorem step_heap (s : State α) (op : Op α) :
    ∃ b' ws t, (step s op).1.heap = writeCols s.heap b' (addressed s op) ws ++ t ∧
      (ws = [] ∨ writeBuf s op = some b') ∧ (op.target = none → t = []) := by
  have hs := eval_shape s op
  simp only [step]
  generalize eval s op = r at hs
  cases hs with
  | none | view | del => exact ⟨0, [], [], (List.append_nil _).symm, .inl rfl, fun _ => rfl⟩
  | fresh w ty sh lay recs ht => exact ⟨0, [], [freshBuf lay recs], rfl, .inl rfl, fun h => by rw [ht] at h; cases h⟩
  | writes v r idx ws out hv hr ha =>
    exact ⟨r.buf, ws, [], by simp [apply, ha], .inr (by simp [writeBuf, hv, hr]), fun _ => rfl⟩
  | writesFresh v r idx ws ty sh recs hv ht hr ha =>
    exact ⟨r.buf, ws, _, by rw [ha]; rfl, .inr (by simp [writeBuf, hv, hr]), fun h => by rw [ht] at h; cases h⟩

/-- **the frame rule.**  The heap only grows; no existing buffer or record changes its length; a buffer changes only under
an operation that writes into it, and then only in the rows the operation addresses -/
theorem step_frame (s : State α) (op : Op α) :
    s.heap.length ≤ (step s op).1.heap.length ∧
    ∀ b, b < s.heap.length →
      (writeBuf s op ≠ some b → (step s op).1.heap[b]? = s.heap[b]?) ∧
      ((step s op).1.heap[b]?).map List.length = (s.heap[b]?).map List.length ∧
      ∀ i, (rowAt (step s op).1.heap b i).length = (rowAt s.heap b i).length ∧
        (writeBuf s op ≠ some b ∨ i ∉ addressed s op → rowAt (step s op).1.heap b i = rowAt s.heap b i) := by
  obtain ⟨b', ws, t, h, hb', _⟩ := step_heap s op
  rw [h]
  refine ⟨by simp [writeCols_length], fun b hb => ?_⟩
  have hne : writeBuf s op ≠ some b → ws = [] ∨ b' ≠ b := fun hw => hb'.imp_right fun e hbb => hw (hbb ▸ e)
  obtain ⟨h1, h2, h3⟩ := heap_frame s.heap b' (addressed s op) ws t b hb
  exact ⟨fun hw => h1 (hne hw), h2, fun i => ⟨(h3 i).1, fun hw =>
    (h3 i).2 (hw.elim (fun hw => (hne hw).imp_right .inl) fun hi => .inr (.inr hi))⟩⟩

theorem heap_step_length (s : State α) (op : Op α) : s.heap.length ≤ (step s op).1.heap.length := (step_frame s op).1

theorem heap_step_other (s : State α) (op : Op α) (b : Nat) (hb : b < s.heap.length) (hw : writeBuf s op ≠ some b) :
    (step s op).1.heap[b]? = s.heap[b]? := ((step_frame s op).2 b hb).1 hw

theorem wf_empty : WF (State.empty : State α) := by
  intro x r h
  simp [State.empty, find] at h

theorem wf_step (s : State α) (op : Op α) (hwf : WF s) : WF (step s op).1 := by
  have hlen := heap_step_length s op
  have hs := eval_shape s op
  simp only [step] at hlen ⊢
  generalize eval s op = r at hs hlen
  intro x r' hx
  cases hs with
  | none => exact hwf x r' hx
  | view v w rv r _ _ hv hb =>
    simp only [apply, find_bind] at hx
    split at hx
    · cases hx; rw [hb]; exact hwf v rv hv
    · exact hwf x r' hx
  | fresh w ty sh lay recs =>
    simp only [apply, alloc_eq, find_bind] at hx
    simp only [apply, alloc_eq, List.length_append, List.length_singleton]
    split at hx
    · cases hx; simp
    · exact Nat.lt_succ_of_lt (hwf x r' hx)
  | writes => exact Nat.lt_of_lt_of_le (hwf x r' hx) hlen
  | writesFresh v r idx ws ty sh recs =>
    simp only [apply, alloc_eq, find_bind] at hx
    simp only [apply, alloc_eq, List.length_append, List.length_singleton, writeCols_length]
    split at hx
    · cases hx; simp [writeCols_length]
    · exact Nat.lt_succ_of_lt (hwf x r' hx)
  | del v =>
    simp only [apply, find_unbind] at hx
    split at hx
    · cases hx
    · exact hwf x r' hx

theorem wf_run (s : State α) (ops : List (Op α)) (hwf : WF s) : WF (run s ops) :=
  run_inv (Q := fun _ => True) (fun s op _ => wf_step s op) s ops (fun _ _ => trivial) hwf

/-! ### what a variable shows -/

/-- the records variable `v` shows in state `s` (C order of its shape) -/
def seen (s : State α) (v : String) : List (Record α) :=
  match find v s.env with
  | some r => sees s.heap r
  | none => []

/-! ### C19: views, slices, transposes, sub-arrays and (strided) reshapes ALIAS their source -/

/-- `w` shows rows `idx` of what `v` shows, out of the same buffer, with the same vector type -/
def Aliased (s : State α) (v w : String) (idx : List Nat) : Prop :=
  ∃ rv rw, find v s.env = some rv ∧ find w s.env = some rw ∧ rw.buf = rv.buf ∧ rw.ty = rv.ty ∧ rw.idx = pick rv.idx idx

/-- reads through an alias are the reindexing of the reads through the source — in whatever state the heap is -/
theorem c19h_alias_reads {s : State α} {v w : String} {idx : List Nat} (h : Aliased s v w idx) :
    seen s w = pick (seen s v) idx := by
  obtain ⟨rv, rw, hv, hw, hb, _, hi⟩ := h
  simp only [seen, hv, hw, sees, hb, hi, pick_map]

/-- `v[name]` on a live `v` changes nothing and answers with the column at the position of the addressed field -/
theorem step_getName (s : State α) (v name : String) {rv : Ref} (hv : find v s.env = some rv) :
    step s (.getName v name) = (s, match pos (generic rv.ty.mom name) rv.ty.fields with
      | some p => .vals (col p (sees s.heap rv))
      | none => .err .ValueError) := by
  simp only [step, eval, withVar, hv]
  cases pos (generic rv.ty.mom name) rv.ty.fields <;> rfl

theorem getName_vals {s : State α} {v name : String} {rv : Ref} (hv : find v s.env = some rv) {c : List (Option α)} :
    (step s (.getName v name)).2 = .vals c ↔
      ∃ p, pos (generic rv.ty.mom name) rv.ty.fields = some p ∧ c = col p (sees s.heap rv) := by
  rw [step_getName s v name hv]
  split <;> simp [eq_comm, *]

/-- … column by column: what `w[name]` returns is the reindexing of what `v[name]` returns -/
theorem c19h_alias_getName {s : State α} {v w : String} {idx : List Nat} (h : Aliased s v w idx) (name : String)
    (c : List (Option α)) (hc : (step s (.getName v name)).2 = .vals c) :
    (step s (.getName w name)).2 = .vals (pick c idx) := by
  obtain ⟨rv, rw, hv, hw, hb, ht, hi⟩ := h
  obtain ⟨p, hp, rfl⟩ := (getName_vals hv).1 hc
  exact (getName_vals hw).2 ⟨p, ht ▸ hp, by simp only [col, sees, hb, hi, pick_map]⟩

theorem getName_vals_length {s : State α} {v : String} {rv : Ref} (hv : find v s.env = some rv) (name : String)
    (c : List (Option α)) (hc : (step s (.getName v name)).2 = .vals c) : c.length = rv.idx.length := by
  obtain ⟨p, _, rfl⟩ := (getName_vals hv).1 hc
  simp [col, sees]

/-- an operation that binds `w ≠ v` to a view `r` of rows `ps` of `v` makes `w` an alias of these rows of `v` -/
theorem aliased_of_bindView {s : State α} {op : Op α} {v w : String} {rv : Ref} (r : Ref) {ps : List Nat} (hvw : v ≠ w)
    (hv : find v s.env = some rv) (he : (eval s op).1 = .bindView w r) (hb : r.buf = rv.buf) (ht : r.ty = rv.ty)
    (hi : r.idx = pick rv.idx ps) : Aliased (step s op).1 v w ps := by
  refine ⟨rv, r, ?_, ?_, hb, ht, hi⟩ <;> simp [step, he, apply, find_bind, hvw.symm, hv]

/-- `w = v.view(type(v))` makes `w` an alias of all of `v` -/
theorem c19h_view_intro (s : State α) (v w : String) (rv : Ref) (hvw : v ≠ w) (hv : find v s.env = some rv) :
    Aliased (step s (.view v w)).1 v w (List.range rv.idx.length) :=
  aliased_of_bindView rv hvw hv (by simp [eval, withVar, hv]) rfl rfl (pick_range _).symm

/-- `w = v[lo:hi:stp]` makes `w` an alias of rows `distinct ps` of `v`, `ps` the selected blocks (first axis; for a 1-d `v`
the rows `range(len(v))[lo:hi:stp]`): the selected blocks provided `ps` repeats no position (file header) -/
theorem c19h_slice_intro (s : State α) (v w : String) (lo hi stp : Option Int) (rv : Ref) (sh ps : List Nat) (hvw : v ≠ w)
    (hv : find v s.env = some rv) (hps : sliceAxis0 rv.shape lo hi stp = some (sh, ps)) :
    Aliased (step s (.slice v w lo hi stp)).1 v w (distinct ps) := by
  have hne : ¬ rv.shape = [] := by intro h; rw [h] at hps; simp [sliceAxis0] at hps
  exact aliased_of_bindView ⟨rv.buf, pick rv.idx (distinct ps), rv.ty, sh⟩ hvw hv (by simp [eval, withVar, hv, hps, hne])
    rfl rfl rfl

/-- `w = v.T` makes `w` an alias of rows `distinct (transposePs rv.shape)` of `v`: the transposed order of rows provided
`transposePs` repeats no position (file header) -/
theorem c19h_transpose_intro (s : State α) (v w : String) (rv : Ref) (hvw : v ≠ w) (hv : find v s.env = some rv) :
    Aliased (step s (.transpose v w)).1 v w (distinct (transposePs rv.shape)) :=
  aliased_of_bindView ⟨rv.buf, pick rv.idx (distinct (transposePs rv.shape)), rv.ty, rv.shape.reverse⟩ hvw hv
    (by simp [eval, withVar, hv]) rfl rfl rfl

/-- `w = v[i, j]` / `w = v[i, j, ...]` makes `w` an alias of the addressed block of `v` (one row — a 0-d ARRAY — for a full
tuple with Ellipsis): rows `distinct ps`, `ps` the range of positions of the block (file header) -/
theorem c19h_sub_intro (s : State α) (v w : String) (is : List Int) (ell : Bool) (rv : Ref) (o : Nat) (sh : List Nat)
    (hvw : v ≠ w) (hv : find v s.env = some rv) (ho : tupleOffset rv.shape is = some (o, sh))
    (hell : ¬ (is.length = rv.shape.length ∧ ell = false)) :
    Aliased (step s (.sub v w is ell)).1 v w (distinct ((List.range (prod sh)).map (· + o))) :=
  aliased_of_bindView ⟨rv.buf, pick rv.idx (distinct ((List.range (prod sh)).map (· + o))), rv.ty, sh⟩ hvw hv
    (by simp only [eval, withVar, hv, ho, hell, if_false]) rfl rfl rfl

/-- `w = v.reshape(dims)` makes `w` an alias of all of `v`, in the same order, when the rows `v` shows are strided under
the new shape -/
theorem c19h_reshape_intro (s : State α) (v w : String) (dims : List Nat) (rv : Ref) (hvw : v ≠ w)
    (hv : find v s.env = some rv) (hd : prod dims = rv.idx.length) (hst : strided dims rv.idx = true) :
    Aliased (step s (.reshape v w dims)).1 v w (List.range rv.idx.length) :=
  aliased_of_bindView ⟨rv.buf, rv.idx, rv.ty, dims⟩ hvw hv (by simp [eval, withVar, hv, hd, hst]) rfl rfl
    (pick_range _).symm

/-- the alias relation survives every operation that does not rebind (or delete) one of the two variables -/
theorem c19h_alias_step {s : State α} {v w : String} {idx : List Nat} (h : Aliased s v w idx) (op : Op α)
    (hv : op.target ≠ some v) (hw : op.target ≠ some w) : Aliased (step s op).1 v w idx := by
  obtain ⟨rv, rw, h1, h2, h3⟩ := h
  exact ⟨rv, rw, by rw [find_step _ _ _ hv]; exact h1, by rw [find_step _ _ _ hw]; exact h2, h3⟩

/-- … hence every history of such operations -/
theorem c19h_alias_run {s : State α} {v w : String} {idx : List Nat} (h : Aliased s v w idx) (ops : List (Op α))
    (hops : ∀ op ∈ ops, op.target ≠ some v ∧ op.target ≠ some w) : Aliased (run s ops) v w idx :=
  run_inv (P := fun s => Aliased s v w idx) (fun _ op hop hal => c19h_alias_step hal op hop.1 hop.2) s ops hops h

/-- an alias, for ever: in every later state reached without rebinding `v` or `w`, `w` shows the reindexing of what `v`
shows, record by record and column by column -/
theorem c19h_alias_forever {s : State α} {v w : String} {idx : List Nat} (h : Aliased s v w idx) (ops : List (Op α))
    (hops : ∀ op ∈ ops, op.target ≠ some v ∧ op.target ≠ some w) :
    let s' := run s ops
    seen s' w = pick (seen s' v) idx ∧
      ∀ name c, (step s' (.getName v name)).2 = .vals c → (step s' (.getName w name)).2 = .vals (pick c idx) := by
  have hal := c19h_alias_run h ops hops
  exact ⟨c19h_alias_reads hal, fun name c hc => c19h_alias_getName hal name c hc⟩

/-- **C19, aliasing.**  After `w = v.view(type(v))` or `w = v[lo:hi:stp]`, in EVERY later state reached by operations that
do not rebind `v` or `w` — name assignments and slice assignments through `v`, through `w`, through any other alias,
in-place arithmetic through any OTHER alias — the records `w` shows are the reindexing (by `distinct ps`: file header) of the
records `v` shows, and so is every named column. -/
theorem c19h_view_alias (s : State α) (v w : String) (rv : Ref) (hvw : v ≠ w) (hv : find v s.env = some rv)
    (ops : List (Op α)) (hops : ∀ op ∈ ops, op.target ≠ some v ∧ op.target ≠ some w) :
    (let s' := run (step s (.view v w)).1 ops
     seen s' w = seen s' v ∧
       ∀ name c, (step s' (.getName v name)).2 = .vals c → (step s' (.getName w name)).2 = .vals c) ∧
    (∀ lo hi stp sh ps, sliceAxis0 rv.shape lo hi stp = some (sh, ps) →
      let s' := run (step s (.slice v w lo hi stp)).1 ops
      seen s' w = pick (seen s' v) (distinct ps) ∧
        ∀ name c, (step s' (.getName v name)).2 = .vals c →
          (step s' (.getName w name)).2 = .vals (pick c (distinct ps))) := by
  constructor
  · -- all rows of `v`, in order: the reindexing is the identity on lists as long as what `v` shows
    obtain ⟨hsee, hcol⟩ := c19h_alias_forever (c19h_view_intro s v w rv hvw hv) ops hops
    have h1 : find v (run (step s (.view v w)).1 ops).env = some rv := by
      rw [find_run v _ ops (fun o ho => (hops o ho).1), find_step _ _ _ (by simp [Op.target, hvw.symm])]; exact hv
    have hlen : (seen (run (step s (.view v w)).1 ops) v).length = rv.idx.length := by simp [seen, h1, sees]
    refine ⟨by rw [hsee, ← hlen, pick_range], fun name c hc => ?_⟩
    rw [hcol name c hc, ← getName_vals_length h1 name c hc, pick_range]
  · intro lo hi stp sh ps hps
    exact c19h_alias_forever (c19h_slice_intro s v w lo hi stp rv sh ps hvw hv hps) ops hops

/-- **C19, aliasing, n-dimensional.**  The same for `w = v.T`, for `w = v[i, j]` / `w = v[i, j, ...]` (sub-array views and
0-d views) and for `w = v.reshape(dims)` whenever NumPy can reshape without copying: `w` keeps showing the transposed rows /
the addressed block / all rows of `v` (the first two through `distinct`: file header), through every later write. -/
theorem c19h_view_alias_nd (s : State α) (v w : String) (rv : Ref) (hvw : v ≠ w) (hv : find v s.env = some rv)
    (ops : List (Op α)) (hops : ∀ op ∈ ops, op.target ≠ some v ∧ op.target ≠ some w) :
    (let s' := run (step s (.transpose v w)).1 ops
     seen s' w = pick (seen s' v) (distinct (transposePs rv.shape))) ∧
    (∀ is ell o sh, tupleOffset rv.shape is = some (o, sh) → ¬ (is.length = rv.shape.length ∧ ell = false) →
      let s' := run (step s (.sub v w is ell)).1 ops
      seen s' w = pick (seen s' v) (distinct ((List.range (prod sh)).map (· + o)))) ∧
    (∀ dims, prod dims = rv.idx.length → strided dims rv.idx = true →
      let s' := run (step s (.reshape v w dims)).1 ops
      seen s' w = pick (seen s' v) (List.range rv.idx.length)) :=
  ⟨(c19h_alias_forever (c19h_transpose_intro s v w rv hvw hv) ops hops).1,
   fun is ell o sh ho hell => (c19h_alias_forever (c19h_sub_intro s v w is ell rv o sh hvw hv ho hell) ops hops).1,
   fun dims hd hst => (c19h_alias_forever (c19h_reshape_intro s v w dims rv hvw hv hd hst) ops hops).1⟩

/-- in particular: a write (name assignment, slice assignment) through EITHER variable — or through any third alias — is
seen through the other at the corresponding positions, because such writing operations rebind nothing -/
theorem c19h_view_alias_write {s : State α} {v w : String} {idx : List Nat} (h : Aliased s v w idx) (op : Op α)
    (hop : op.target = none) :
    Aliased (step s op).1 v w idx ∧ seen (step s op).1 w = pick (seen (step s op).1 v) idx := by
  have := c19h_alias_step h op (by simp [hop]) (by simp [hop])
  exact ⟨this, c19h_alias_reads this⟩

/-! ### C19: copies are DETACHED -/

/-- no operation of the history writes into buffer `b` (the buffer an operation writes into is the buffer of the variable
it writes through, IN THE STATE it is executed in) -/
def Quiet (b : Nat) : State α → List (Op α) → Prop
  | _, [] => True
  | s, op :: ops => writeBuf s op ≠ some b ∧ Quiet b (step s op).1 ops

/-- a buffer no operation writes into keeps its contents, whatever else happens -/
theorem c19h_quiet_buffer (b : Nat) (s : State α) (ops : List (Op α)) (hb : b < s.heap.length) (hq : Quiet b s ops) :
    (run s ops).heap[b]? = s.heap[b]? := by
  induction ops generalizing s with
  | nil => rfl
  | cons op ops ih =>
    rw [run_cons, ih _ (Nat.lt_of_lt_of_le hb (heap_step_length s op)) hq.2, heap_step_other s op b hb hq.1]

/-- a variable that is not rebound, over a buffer nobody writes into, shows the same records for ever -/
theorem c19h_quiet_seen (x : String) (r : Ref) (s : State α) (ops : List (Op α)) (hx : find x s.env = some r)
    (hb : r.buf < s.heap.length) (hops : ∀ op ∈ ops, op.target ≠ some x) (hq : Quiet r.buf s ops) :
    find x (run s ops).env = some r ∧ seen (run s ops) x = seen s x := by
  have hf : find x (run s ops).env = some r := by rw [find_run x s ops hops]; exact hx
  refine ⟨hf, ?_⟩
  simp only [seen, hf, hx]
  exact sees_congr _ _ _ (c19h_quiet_buffer _ _ _ hb hq)

/-- a copying operation that succeeds allocates -/
theorem copies_eval (s : State α) (op : Op α) (v w : String) (hop : op.copies = some (v, w))
    (hok : (step s op).2 = .ok) : ∃ ty sh lay recs, (eval s op).1 = .bindFresh w ty sh lay recs := by
  obtain ⟨ht, hw⟩ := produces_target (copies_produces hop)
  have hs := eval_shape s op
  simp only [step] at hok
  generalize eval s op = r at hs hok
  cases hs with
  | none out h => exact absurd hok h
  | view _ _ _ _ _ hc => rw [hop] at hc; cases hc
  | fresh w' ty sh lay recs ht' => rw [ht] at ht'; cases ht'; exact ⟨_, _, _, _, rfl⟩
  | writes _ _ _ _ _ hv => rw [hw] at hv; cases hv
  | writesFresh _ _ _ _ _ _ _ hv => rw [hw] at hv; cases hv
  | del _ h => subst h; cases hop

/-- what being detached means.  Whenever an operation allocates (binds its target `w` to a fresh buffer), no other variable,
old or new, points into the new buffer; hence (1) whatever happens later — as long as `w` is not rebound and no operation
writes through `w` or a later-made alias of `w` — `w` shows what it showed; (2) every other variable keeps showing the same
records under every history that does not rebind it and does not write into ITS buffer -/
theorem detached_of_fresh (s : State α) (hwf : WF s) (op : Op α) (w : String) (ty : VTy) (sh lay : List Nat)
    (recs : List (Record α)) (he : (eval s op).1 = .bindFresh w ty sh lay recs) (ops : List (Op α)) :
    let s1 := (step s op).1
    (∃ rw, find w s1.env = some rw ∧
      ((∀ o ∈ ops, o.target ≠ some w) → Quiet rw.buf s1 ops → seen (run s1 ops) w = seen s1 w) ∧
      ∀ u ru, u ≠ w → find u s1.env = some ru → ru.buf ≠ rw.buf) ∧
    ∀ x r, x ≠ w → find x s1.env = some r → (∀ o ∈ ops, o.target ≠ some x) → Quiet r.buf s1 ops →
      seen (run s1 ops) x = seen s1 x := by
  have hs1 : (step s op).1 = alloc s w ty sh lay recs := by simp only [step, he, apply]
  have hold : ∀ x r, x ≠ w → find x (step s op).1.env = some r → find x s.env = some r := by
    intro x r hxw hx
    have hne : ¬ w = x := fun h => hxw h.symm
    simpa [hs1, alloc_eq, find_bind, hne] using hx
  refine ⟨⟨⟨s.heap.length, layoutOr lay recs.length, ty, sh⟩, by simp [hs1, alloc_eq, find_bind], ?_,
    fun u ru hu hf => Nat.ne_of_lt (hwf u ru (hold u ru hu hf))⟩, ?_⟩
  · intro ho hq
    exact (c19h_quiet_seen w _ _ ops (by simp [hs1, alloc_eq, find_bind]) (by simp [hs1, alloc_eq]) ho hq).2
  · intro x r hxw hx ho hq
    have hlt : r.buf < (step s op).1.heap.length :=
      Nat.lt_of_lt_of_le (hwf x r (hold x r hxw hx)) (heap_step_length s op)
    exact (c19h_quiet_seen x r _ ops hx hlt ho hq).2

/-- **C19, detachment.**  After `w = v.copy()` / `copy.deepcopy(v)` / a pickle round trip / `v[mask]` / `v[[i, j]]`:
(1) whatever happens later — as long as `w` is not rebound and no operation writes through `w` or a later-made alias of `w`
(`Quiet`: in particular every write through `v` or through any alias of `v`, old or new, in-place arithmetic included, is
allowed) — `w` shows what it showed right after the copy;
(2) vice versa, every other variable `x` (in particular `v` and each of its aliases) keeps showing the same records under
every history that does not rebind `x` and does not write into `x`'s buffer — in particular under all writes through `w`. -/
theorem c19h_copy_detached (s : State α) (hwf : WF s) (op : Op α) (v w : String) (hop : op.copies = some (v, w))
    (hok : (step s op).2 = .ok) (ops : List (Op α)) :
    let s1 := (step s op).1
    (∃ rw, find w s1.env = some rw ∧
      ((∀ o ∈ ops, o.target ≠ some w) → Quiet rw.buf s1 ops → seen (run s1 ops) w = seen s1 w) ∧
      ∀ u ru, u ≠ w → find u s1.env = some ru → ru.buf ≠ rw.buf) ∧
    ∀ x r, x ≠ w → find x s1.env = some r → (∀ o ∈ ops, o.target ≠ some x) → Quiet r.buf s1 ops →
      seen (run s1 ops) x = seen s1 x := by
  obtain ⟨ty, sh, lay, recs, he⟩ := copies_eval s op v w hop hok
  exact detached_of_fresh s hwf op w ty sh lay recs he ops

/-- … and the same for a `reshape` that has to COPY (the rows `v` shows are not strided under the new shape) -/
theorem c19h_reshape_copy_detached (s : State α) (hwf : WF s) (v w : String) (dims : List Nat) (rv : Ref)
    (hv : find v s.env = some rv) (hd : prod dims = rv.idx.length) (hst : strided dims rv.idx = false) (ops : List (Op α)) :
    let s1 := (step s (.reshape v w dims)).1
    (∃ rw, find w s1.env = some rw ∧
      ((∀ o ∈ ops, o.target ≠ some w) → Quiet rw.buf s1 ops → seen (run s1 ops) w = seen s1 w) ∧
      ∀ u ru, u ≠ w → find u s1.env = some ru → ru.buf ≠ rw.buf) ∧
    ∀ x r, x ≠ w → find x s1.env = some r → (∀ o ∈ ops, o.target ≠ some x) → Quiet r.buf s1 ops →
      seen (run s1 ops) x = seen s1 x :=
  detached_of_fresh s hwf _ w rv.ty dims (List.range rv.idx.length) (sees s.heap rv)
    (by simp [eval, withVar, hv, hd, hst]) ops

/-- one step, stated with the variables: a write through `u` — `v` itself or any alias of `v` (same buffer), a name or slice
assignment or in-place arithmetic — does not change what a variable over ANOTHER buffer shows -/
theorem c19h_detached_write (s : State α) (u w : String) (ru rw : Ref) (op : Op α) (hu : find u s.env = some ru)
    (hw : find w s.env = some rw) (hne : ru.buf ≠ rw.buf) (hlt : rw.buf < s.heap.length) (hop : op.writeVar = some u) :
    seen (step s op).1 w = seen s w := by
  have hq : Quiet rw.buf s [op] := ⟨by simp [writeBuf, hop, hu, hne], trivial⟩
  have huw : u ≠ w := by
    intro h; subst h; rw [hu] at hw; cases hw; exact hne rfl
  have hw' : op.target ≠ some w := by
    cases op <;> simp [Op.writeVar] at hop <;> simp [Op.target] <;> (subst hop; exact huw)
  exact (c19h_quiet_seen w rw s [op] hw hlt (by intro o ho; simp at ho; subst ho; exact hw') hq).2

/-! ### C19: the vector type is preserved -/

/-- what the array-producing operations answer when they succeed: the source is bound, and the target is bound to an array
of the source's vector type showing a reindexing of what the source shows -/
theorem produces_eval (s : State α) (op : Op α) (v w : String) (hop : op.produces = some (v, w))
    (hok : (step s op).2 = .ok) :
    ∃ rv r, find v s.env = some rv ∧ find w (step s op).1.env = some r ∧ r.ty = rv.ty ∧
      ∃ ps, sees (step s op).1.heap r = pick (sees s.heap rv) ps := by
  obtain ⟨ht, hw⟩ := produces_target hop
  have hs := eval_shape s op
  simp only [step] at hok ⊢
  generalize eval s op = e at hs hok
  cases hs with
  | none out h => exact absurd hok h
  | view v' w' rv r hp _ hv hb hty hidx =>
    rw [hop] at hp; cases hp
    obtain ⟨ps, _, hi⟩ := hidx
    exact ⟨rv, r, hv, by simp [apply, find_bind], hty, ps, by simp only [apply, sees, hb, hi, pick_map]⟩
  | fresh w' ty sh lay recs ht' _ hsrc =>
    rw [ht] at ht'; cases ht'
    obtain ⟨rv, hv, rfl, ps, rfl⟩ := hsrc v hop
    obtain ⟨r, hr, _, hty, _, _, hsees⟩ := alloc_spec s w rv.ty sh lay (pick (sees s.heap rv) ps)
    exact ⟨rv, r, hv, hr, hty, ps, hsees⟩
  | writes _ _ _ _ _ hv => rw [hw] at hv; cases hv
  | writesFresh _ _ _ _ _ _ _ hv => rw [hw] at hv; cases hv
  | del _ h => subst h; cases hop

/-- **C19, type preservation.**  Every operation that produces an array from an array (`slice view copy deepcopy pickle mask
fancy reshape transpose sub`) and succeeds binds its target to an array of the SAME flavor, the same dtype field names IN
THE SAME ORDER (extras included), hence the same coordinate system, dimension and class. -/
theorem c19h_type_preserved (s : State α) (op : Op α) (v w : String) (hop : op.produces = some (v, w))
    (hok : (step s op).2 = .ok) :
    ∃ rv rw, find v s.env = some rv ∧ find w (step s op).1.env = some rw ∧ rw.ty = rv.ty ∧ rw.ty.mom = rv.ty.mom ∧
      rw.ty.fields = rv.ty.fields ∧ rw.ty.coords = rv.ty.coords ∧ rw.ty.dim = rv.ty.dim ∧ rw.ty.tag = rv.ty.tag := by
  obtain ⟨rv, r, h1, h4, h3, _⟩ := produces_eval s op v w hop hok
  exact ⟨rv, r, h1, h4, h3, by rw [h3], by rw [h3], by rw [h3], by rw [h3], by rw [h3]⟩

/-- … and a FULL integer tuple returns an element of the array's flavor and coordinate system, built from the record at that
position (Python's negative indices included) BY NAME (`coordsOf`; `c19h_intIndex_by_name`); it changes nothing -/
theorem c19h_type_preserved_intIndex (s : State α) (v : String) (is : List Int) (ty : VTy) (cs : Record α)
    (h : (step s (.intIndex v is)).2 = .elem ty cs) :
    (step s (.intIndex v is)).1 = s ∧
      ∃ rv o sh, find v s.env = some rv ∧ ty = rv.ty ∧ ty.objTag = rv.ty.objTag ∧ tupleOffset rv.shape is = some (o, sh) ∧
        is.length = rv.shape.length ∧ cs = coordsOf rv.ty (((seen s v)[o]?).getD []) := by
  simp only [step, eval, withVar] at h ⊢
  cases hf : find v s.env with
  | none => simp [hf] at h
  | some rv =>
    cases ho : tupleOffset rv.shape is with
    | none => simp [hf, ho] at h
    | some q =>
      obtain ⟨o, sh⟩ := q
      by_cases hfull : is.length = rv.shape.length
      · simp only [hf, ho, hfull, if_true, Out.elem.injEq] at h
        refine ⟨by simp [ho, hfull, apply], rv, o, sh, rfl, h.1.symm, by rw [h.1], ho, hfull, ?_⟩
        simp [seen, hf, h.2]
      · simp [hf, ho, hfull] at h

/-- a PARTIAL integer tuple, and a tuple followed by an Ellipsis, is an ARRAY of the same class (never an element) -/
theorem c19h_partial_index_is_array (s : State α) (v : String) (is : List Int) (rv : Ref) (o : Nat) (sh : List Nat)
    (hv : find v s.env = some rv) (ho : tupleOffset rv.shape is = some (o, sh)) :
    (is.length ≠ rv.shape.length → (step s (.intIndex v is)).2 = .arr rv.ty sh) ∧
    ∀ w, (step s (.sub v w is true)).2 = .ok := by
  constructor
  · intro h; simp [step, eval, withVar, hv, ho, h]
  · intro w; simp [step, eval, withVar, hv, ho]

/-! ### C19: the name index is the column -/

/-- **C19, name index.**  `v[name]` is the column, at the position of the addressed field in the dtype, of the records `v`
shows; the addressed field is `name` itself on a generic array and `_repr_momentum_to_generic[name]` on a momentum array;
nothing changes.  A name addressing no field of the array is a `ValueError`. -/
theorem c19h_getName_column (s : State α) (v name : String) (rv : Ref) (hv : find v s.env = some rv) :
    (step s (.getName v name)).1 = s ∧
    (∀ p, pos (generic rv.ty.mom name) rv.ty.fields = some p →
      (step s (.getName v name)).2 = .vals (col p (seen s v))) ∧
    (generic rv.ty.mom name ∉ rv.ty.fields → (step s (.getName v name)).2 = .err .ValueError) := by
  rw [step_getName s v name hv]
  exact ⟨rfl, fun p hp => by simp only [hp, seen, hv], fun h => by rw [pos_eq_none.mpr h]⟩

/-- every momentum spelling addresses the geometric field (on momentum arrays) … -/
theorem c19h_getName_synonyms :
    generic true "px" = "x" ∧ generic true "py" = "y" ∧ generic true "pt" = "rho" ∧ generic true "pz" = "z" ∧
    generic true "E" = "t" ∧ generic true "e" = "t" ∧ generic true "energy" = "t" ∧
    generic true "M" = "tau" ∧ generic true "m" = "tau" ∧ generic true "mass" = "tau" ∧
    (∀ n ∈ ["x", "y", "rho", "phi", "z", "theta", "eta", "t", "tau"], generic true n = n) ∧
    ∀ n, generic false n = n := by
  refine ⟨rfl, rfl, rfl, rfl, rfl, rfl, rfl, rfl, rfl, rfl, by decide, fun _ => rfl⟩

/-- … so two spellings of the same field return the same column -/
theorem c19h_getName_spelling (s : State α) (v n1 n2 : String) (rv : Ref) (hv : find v s.env = some rv)
    (h : generic rv.ty.mom n1 = generic rv.ty.mom n2) :
    (step s (.getName v n1)).2 = (step s (.getName v n2)).2 := by
  rw [step_getName s v n1 hv, step_getName s v n2 hv, h]

/-- on a GENERIC array a momentum spelling is not a name index -/
theorem c19h_getName_generic (s : State α) (v name : String) (rv : Ref) (hv : find v s.env = some rv)
    (hg : rv.ty.mom = false) (hn : name ∉ rv.ty.fields) : (step s (.getName v name)).2 = .err .ValueError := by
  have := (c19h_getName_column s v name rv hv).2.2
  simp only [generic, hg] at this
  exact this hn


/-! ### C16: the frame property -/

theorem mem_sliceRows {r : Ref} {lo hi : Option Int} {i : Nat} (h : i ∈ sliceRows r lo hi) : i ∈ r.idx := by
  unfold sliceRows at h
  split at h
  · exact mem_pick h
  · simp at h

/-- **C16, non-writing operations** (`new slice view copy deepcopy pickle mask fancy reshape transpose sub intIndex getName
del dump`): the heap is extended at most — every existing buffer keeps its contents — and every variable other than the
operation's target keeps its `Ref`. -/
theorem c19h_frame (s : State α) (op : Op α) (hop : op.writeVar = none) :
    (∃ t, (step s op).1.heap = s.heap ++ t) ∧ (∀ b, b < s.heap.length → (step s op).1.heap[b]? = s.heap[b]?) ∧
      ∀ x, op.target ≠ some x → find x (step s op).1.env = find x s.env := by
  obtain ⟨b', ws, t, h, hws, _⟩ := step_heap s op
  have hnw : writeBuf s op = none := by simp [writeBuf, hop]
  rw [hnw] at hws
  exact ⟨⟨t, by rw [h, hws.resolve_right nofun]; rfl⟩, fun b hb => heap_step_other s op b hb (by simp [hnw]),
    fun x hx => find_step s op x hx⟩

/-- the pure reads (`v[i, j]`, `v[name]`, `dump`) change nothing at all -/
theorem c19h_frame_reads (s : State α) (op : Op α) (hw : op.writeVar = none) (ht : op.target = none) :
    (step s op).1 = s := by
  obtain ⟨b', ws, t, h, hws, ht'⟩ := step_heap s op
  have hnw : writeBuf s op = none := by simp [writeBuf, hw]
  rw [hnw] at hws
  rw [hws.resolve_right nofun, ht' ht] at h
  exact congr (congrArg State.mk (h.trans (List.append_nil _))) ((step_env s op).1 ht)

theorem addressed_mem (s : State α) (op : Op α) (v : String) (hop : op.writeVar = some v) (r : Ref)
    (hr : find v s.env = some r) : ∀ i, i ∈ addressed s op → i ∈ r.idx := by
  intro i hi
  cases op <;> simp only [Op.writeVar, Option.some.injEq, reduceCtorEq] at hop <;> subst hop <;>
    simp only [addressed, hr] at hi
  · exact hi
  · exact mem_sliceRows hi
  · exact mem_sliceRows hi
  · exact hi
  · exact hi

/-- **C16, writing operations that rebind nothing** (`v[name] = …`, `v[lo:hi] = …`): no variable is rebound, no buffer and no
record changes its length, and the only rows that can differ afterwards are the ADDRESSED rows of the buffer of the variable
written through (all rows `v` shows for a name assignment, the rows `v[lo:hi]` shows for a slice assignment) — which are rows
`v` shows.  (In-place arithmetic: `c19h_frame_inplace`.) -/
theorem c19h_frame_write (s : State α) (op : Op α) (v : String) (hop : op.writeVar = some v) (ht : op.target = none) :
    (step s op).1.env = s.env ∧ (step s op).1.heap.length = s.heap.length ∧
    (∀ b : Nat, ((step s op).1.heap[b]?).map List.length = (s.heap[b]?).map List.length) ∧
    (∀ b i, (rowAt (step s op).1.heap b i).length = (rowAt s.heap b i).length) ∧
    (find v s.env = none → (step s op).1 = s) ∧
    ∀ r, find v s.env = some r →
      (∀ b, b ≠ r.buf → (step s op).1.heap[b]? = s.heap[b]?) ∧
      (∀ b i, b ≠ r.buf ∨ i ∉ addressed s op → rowAt (step s op).1.heap b i = rowAt s.heap b i) ∧
      ∀ i, i ∈ addressed s op → i ∈ r.idx := by
  obtain ⟨b', ws, t, h, hws, ht'⟩ := step_heap s op
  rw [ht' ht, List.append_nil] at h
  have haddr := addressed_mem s op v hop
  have henv := (step_env s op).1 ht
  rcases hws with rfl | hws
  · have hs : (step s op).1 = s := congr (congrArg State.mk h) henv
    rw [hs]
    exact ⟨rfl, rfl, fun _ => rfl, fun _ _ => rfl, fun _ => rfl, fun r hr => ⟨fun _ _ => rfl, fun _ _ _ => rfl, haddr r hr⟩⟩
  · rw [h]
    refine ⟨henv, writeCols_length .., fun b => writeCols_buflen .., fun b i => rowAt_writeCols_length .., fun hn => ?_,
      fun r hr => ?_⟩
    · simp [writeBuf, hop, hn] at hws
    · have : b' = r.buf := by simpa [writeBuf, hop, hr] using hws.symm
      subst this
      exact ⟨fun b hb => writeCols_other _ _ _ _ _ hb, fun b i hbi => rowAt_writeCols_row _ _ _ _ _ _ hbi, haddr _ hr⟩

/-- **C16, every writing operation, in-place arithmetic included** (`v *= k`, `v += w`, `v -= w` write through `v` AND rebind
`v` to a fresh array): only the operation's target is rebound; of the EXISTING buffers only rows `v` shows, in `v`'s buffer,
can differ afterwards; no existing record changes its length. -/
theorem c19h_frame_inplace (s : State α) (op : Op α) (v : String) (r : Ref) (hop : op.writeVar = some v)
    (hr : find v s.env = some r) :
    (∀ x, op.target ≠ some x → find x (step s op).1.env = find x s.env) ∧
    (∀ b i, b < s.heap.length → (b ≠ r.buf ∨ i ∉ addressed s op) → rowAt (step s op).1.heap b i = rowAt s.heap b i) ∧
    (∀ b i, b < s.heap.length → (rowAt (step s op).1.heap b i).length = (rowAt s.heap b i).length) ∧
    ∀ i, i ∈ addressed s op → i ∈ r.idx := by
  have hwb : writeBuf s op = some r.buf := by simp [writeBuf, hop, hr]
  have hne : ∀ b, b ≠ r.buf → writeBuf s op ≠ some b := fun b hb h => hb (by rw [hwb] at h; cases h; rfl)
  exact ⟨fun x hx => find_step s op x hx, fun b i hb h => (((step_frame s op).2 b hb).2.2 i).2 (h.imp_left (hne b)),
    fun b i hb => (((step_frame s op).2 b hb).2.2 i).1, addressed_mem s op v hop r hr⟩

/-- … and a name assignment touches ONE field: every other field of every record is unchanged -/
theorem c19h_frame_setName_field (s : State α) (v name : String) (vals : List α) (rv : Ref) (hv : find v s.env = some rv)
    (b i q : Nat) (hq : pos (generic rv.ty.mom name) rv.ty.fields ≠ some q) :
    (rowAt (step s (.setName v name vals)).1.heap b i)[q]? = (rowAt s.heap b i)[q]? := by
  simp only [step, eval, withVar, hv]
  cases hp : pos (generic rv.ty.mom name) rv.ty.fields with
  | none => rfl
  | some p =>
    cases hb : bcast rv.idx.length vals with
    | none => rfl
    | some vs =>
      simp only [apply]
      apply rowAt_writeCols_field
      intro w hw
      simp only [List.mem_singleton] at hw
      subst hw
      intro h
      apply hq
      rw [hp, ← h]

/-- **C16, failure atomicity.**  Every operation other than a slice assignment and in-place arithmetic that answers with an
exception leaves the state exactly as it was.  (A slice assignment `v[lo:hi] = w[…]` whose right-hand side has a field the
target lacks raises AFTER the earlier fields were written — `c19h_setElems_partial` below; `v *= k` on an array with an extra
field raises after the coordinates standing before that field were scaled — `c19h_inplace_partial`; this is the behaviour of
`_setitem` / `__array_ufunc__`.) -/
theorem c19h_error_no_effect (s : State α) (op : Op α) (e : Err) (herr : (step s op).2 = .err e)
    (hop : ∀ v lo hi srcLo, op ≠ .setSlice v lo hi srcLo) (hop' : ∀ v lo hi w slo shi, op ≠ .setElems v lo hi w slo shi)
    (hop'' : ∀ v f, op ≠ .imap v f) (hop''' : ∀ v w g, op ≠ .izip v w g) :
    (step s op).1 = s := by
  have hs := eval_shape s op
  simp only [step] at herr ⊢
  generalize eval s op = r at hs herr
  -- an effect comes with `ok`, except for the column writes of the excluded operations
  cases hs with
  | none => rfl
  | view => cases herr
  | fresh => cases herr
  | writesFresh => cases herr
  | del => cases herr
  | writes v r idx ws out hv _ _ hout =>
    rcases hout with rfl | hn
    · cases herr
    · cases op <;> simp only [Op.writeVar, Option.some.injEq, reduceCtorEq] at hv
      · subst hv; exact absurd rfl (hn _ _)
      · exact absurd rfl (hop _ _ _ _)
      · exact absurd rfl (hop' _ _ _ _ _ _)
      · exact absurd rfl (hop'' _ _)
      · exact absurd rfl (hop''' _ _ _)

/-! ### C19: round trips -/

/-- **C19, round trip.**  `w = v.copy()`, `w = copy.deepcopy(v)` and `w = pickle.loads(pickle.dumps(v))` always succeed on a
live `v`; `w` then shows exactly the records `v` showed, in the same order and with the same SHAPE (whatever the memory
layout of the new buffer), has `v`'s vector type (class, field names in order, extras), and nothing `v` or any other
variable shows has changed. -/
theorem c19h_roundtrip (s : State α) (op : Op α) (v w : String) (rv : Ref) (hv : find v s.env = some rv)
    (hop : op = .copy v w ∨ op = .deepcopy v w ∨ op = .pickle v w) :
    (step s op).2 = .ok ∧
      ∃ rw, find w (step s op).1.env = some rw ∧ rw.ty = rv.ty ∧ rw.shape = rv.shape ∧ rw.buf = s.heap.length ∧
        seen (step s op).1 w = seen s v ∧ ∀ b, b < s.heap.length → (step s op).1.heap[b]? = s.heap[b]? := by
  have h1 : (step s op).2 = .ok ∧ ∃ lay, (eval s op).1 = .bindFresh w rv.ty rv.shape lay (sees s.heap rv) := by
    rcases hop with rfl | rfl | rfl <;> simp [step, eval, withVar, hv]
  obtain ⟨hok, lay, he⟩ := h1
  obtain ⟨r, hr, hb, hty, hsh, _, hsees⟩ := alloc_spec s w rv.ty rv.shape lay (sees s.heap rv)
  simp only [step, he, apply]
  exact ⟨hok, r, hr, hty, hsh, hb, by simp only [seen, hr, hv, hsees], fun b hb => by
    simp [alloc_eq, List.getElem?_append_left hb]⟩

/-- one reshape: it succeeds exactly when the sizes agree, and then `w` shows the records `v` shows, in the same (C) order,
with the new shape and `v`'s vector type — whether NumPy makes a view or has to copy -/
theorem reshape_sees (s : State α) (v w : String) (dims : List Nat) (rv : Ref) (hv : find v s.env = some rv)
    (hd : prod dims = rv.idx.length) :
    (step s (.reshape v w dims)).2 = .ok ∧
      ∃ rw, find w (step s (.reshape v w dims)).1.env = some rw ∧ rw.shape = dims ∧ rw.ty = rv.ty ∧
        rw.idx.length = rv.idx.length ∧ sees (step s (.reshape v w dims)).1.heap rw = sees s.heap rv := by
  cases hst : strided dims rv.idx with
  | true =>
    have he : eval s (.reshape v w dims) = (.bindView w ⟨rv.buf, rv.idx, rv.ty, dims⟩, .ok) := by
      simp [eval, withVar, hv, hd, hst]
    refine ⟨by simp [step, he], ⟨rv.buf, rv.idx, rv.ty, dims⟩, by simp [step, he, apply, find_bind], rfl, rfl, rfl, ?_⟩
    simp [step, he, apply, sees]
  | false =>
    have he : eval s (.reshape v w dims) = (.bindFresh w rv.ty dims (List.range rv.idx.length) (sees s.heap rv), .ok) := by
      simp [eval, withVar, hv, hd, hst]
    obtain ⟨r, hr, _, hty, hsh, hlen, hsees⟩ := alloc_spec s w rv.ty dims (List.range rv.idx.length) (sees s.heap rv)
    simp only [step, he, apply]
    exact ⟨trivial, r, hr, hsh, hty, by simpa [sees] using hlen, hsees⟩

/-- **C19, reshape round trip.**  `w = v.reshape(v.size); u = w.reshape(v.shape)`: both succeed, `w` is flat, `u` has `v`'s
shape, both have `v`'s vector type and BOTH show exactly the records `v` shows, in the same order — views or copies. -/
theorem c19h_reshape_roundtrip (s : State α) (v w u : String) (rv : Ref) (hv : find v s.env = some rv)
    (hsh : prod rv.shape = rv.idx.length) :
    let s1 := (step s (.reshape v w [rv.idx.length])).1
    let s2 := (step s1 (.reshape w u rv.shape)).1
    (step s (.reshape v w [rv.idx.length])).2 = .ok ∧ (step s1 (.reshape w u rv.shape)).2 = .ok ∧
      seen s1 w = seen s v ∧ seen s2 u = seen s v ∧
      (∃ rw, find w s1.env = some rw ∧ rw.shape = [rv.idx.length] ∧ rw.ty = rv.ty) ∧
      ∃ ru, find u s2.env = some ru ∧ ru.shape = rv.shape ∧ ru.ty = rv.ty := by
  obtain ⟨ok1, rw, hw, hws, hwt, hwl, hwsees⟩ := reshape_sees s v w [rv.idx.length] rv hv (by simp [prod])
  obtain ⟨ok2, ru, hu, hus, hut, _, husees⟩ :=
    reshape_sees (step s (.reshape v w [rv.idx.length])).1 w u rv.shape rw hw (by rw [hwl]; exact hsh)
  refine ⟨ok1, ok2, ?_, ?_, ⟨rw, hw, hws, hwt⟩, ⟨ru, hu, hus, by rw [hut, hwt]⟩⟩
  · simp only [seen, hw, hv]; exact hwsees
  · simp only [seen, hu, hv]; rw [husees, hwsees]

/-! ### C19: a write through a name is read back — through the variable and through its aliases -/

/-- `v[name] = vals; v[name]` returns `vals` — provided `v`'s index map repeats no row (true of every view NumPy can make)
and the records have the addressed field (true of every record of a well-formed buffer) -/
theorem c19h_setName_getName (s : State α) (v name : String) (vals : List α) (rv : Ref) (p : Nat)
    (hv : find v s.env = some rv) (hn : rv.idx.Nodup) (hp : pos (generic rv.ty.mom name) rv.ty.fields = some p)
    (hl : vals.length = rv.idx.length) (hrec : ∀ i ∈ rv.idx, p < (rowAt s.heap rv.buf i).length) :
    (step s (.setName v name vals)).2 = .ok ∧
      (step (step s (.setName v name vals)).1 (.getName v name)).2 = .vals (vals.map some) := by
  have hb : bcast rv.idx.length vals = some vals := by simp [bcast, hl]
  have h1 : step s (.setName v name vals) = (⟨writeCols s.heap rv.buf rv.idx [(p, vals)], s.env⟩, .ok) := by
    simp [step, eval, withVar, hv, hp, hb, apply]
  rw [h1]
  refine ⟨rfl, ?_⟩
  rw [step_getName ⟨writeCols s.heap rv.buf rv.idx [(p, vals)], s.env⟩ v name hv]
  simp only [hp, col, sees, List.map_map]
  congr 1
  apply List.ext_getElem
  · simp [hl]
  · intro k h1 h2
    simp only [List.length_map] at h1 h2
    simp only [List.getElem_map, Function.comp]
    rw [col_after_writes s.heap rv.buf rv.idx hn [(p, vals)] (List.pairwise_singleton ..) p vals (List.mem_singleton.mpr rfl)
      hl.symm hrec k h1, List.getElem?_eq_getElem]

/-- … and through an alias `w` of `v` the same write is read back at the corresponding positions -/
theorem c19h_setName_getName_alias (s : State α) (v w name : String) (idx : List Nat) (vals : List α) (rv : Ref) (p : Nat)
    (hal : Aliased s v w idx) (hv : find v s.env = some rv) (hn : rv.idx.Nodup)
    (hp : pos (generic rv.ty.mom name) rv.ty.fields = some p) (hl : vals.length = rv.idx.length)
    (hrec : ∀ i ∈ rv.idx, p < (rowAt s.heap rv.buf i).length) :
    (step (step s (.setName v name vals)).1 (.getName w name)).2 = .vals (pick (vals.map some) idx) :=
  c19h_alias_getName (c19h_alias_step hal _ (by simp [Op.target]) (by simp [Op.target])) name _
    (c19h_setName_getName s v name vals rv p hv hn hp hl hrec).2


/-! ### the invariant `Good` holds in every reachable state -/

theorem good_step (s : State α) (op : Op α) (hg : Good s) : Good (step s op).1 := by
  refine fun x r' hx => ⟨wf_step s op hg.wf x r' hx, ?_⟩
  -- what is left: no row twice, complete records.  A reference some variable held before keeps both (the frame rule) …
  have old : ∀ {r : Ref}, (∃ y, find y s.env = some r) → r.idx.Nodup ∧
      ∀ i ∈ r.idx, (rowAt (step s op).1.heap r.buf i).length = r.ty.fields.length := fun ⟨y, hy⟩ =>
    ⟨(hg y _ hy).2.1, fun i hi => by
      rw [(((step_frame s op).2 _ (hg y _ hy).1).2.2 i).1]; exact (hg y _ hy).2.2 i hi⟩
  -- … and a reference to a fresh buffer has both when the records are complete
  have fresh : ∀ (h : Heap α) (lay : List Nat) (recs : List (Record α)) (n : Nat), (∀ rec ∈ recs, rec.length = n) →
      (layoutOr lay recs.length).Nodup ∧
        ∀ i ∈ layoutOr lay recs.length, (rowAt (h ++ [freshBuf lay recs]) h.length i).length = n :=
    fun h lay recs n hrecs => ⟨(layoutOr_perm _ _).2.1, fun i hi => by
      simp only [rowAt, List.getElem?_append_right (Nat.le_refl _), Nat.sub_self, List.getElem?_cons_zero, Option.getD_some]
      exact hrecs _ (freshBuf_row lay recs i hi)⟩
  have hs := eval_shape s op
  simp only [step] at hx old ⊢
  generalize eval s op = e at hs hx old
  cases hs with
  | none | writes => exact old ⟨x, hx⟩
  | del v =>
    simp only [apply, find_unbind] at hx
    split at hx
    · cases hx
    · exact old ⟨x, hx⟩
  | view v w rv r _ _ hv hb ht hidx =>
    simp only [apply, find_bind] at hx
    split at hx
    · cases hx
      obtain ⟨ps, hps, hi⟩ := hidx
      obtain ⟨h2, h3⟩ := old ⟨v, hv⟩
      exact ⟨hi ▸ nodup_pick h2 hps, fun i hi' => by rw [hb, ht]; exact h3 i (mem_pick (hi ▸ hi'))⟩
    · exact old ⟨x, hx⟩
  | fresh w ty sh lay recs _ _ _ hrecs =>
    simp only [apply, alloc_eq, find_bind] at hx
    split at hx
    · cases hx; exact fresh s.heap lay recs _ (hrecs hg)
    · exact old ⟨x, hx⟩
  | writesFresh v r idx ws ty sh recs _ _ _ _ hrecs =>
    simp only [apply, alloc_eq, find_bind] at hx
    split at hx
    · cases hx; exact fresh (writeCols s.heap r.buf idx ws) _ recs _ (hrecs hg)
    · exact old ⟨x, hx⟩

theorem good_empty : Good (State.empty : State α) := by
  intro x r h
  simp [State.empty, find] at h

theorem good_run (s : State α) (ops : List (Op α)) (hg : Good s) : Good (run s ops) :=
  run_inv (Q := fun _ => True) (fun s op _ => good_step s op) s ops (fun _ _ => trivial) hg

/-- the read-back law in every REACHABLE state (any history from the empty state), for a full-length right-hand side:
`v[name] = vals; v[name]` returns `vals`, and an alias `w` of `v` returns the corresponding positions of `vals` -/
theorem c19h_setName_getName_reachable (hist : List (Op α)) (v name : String) (vals : List α) (rv : Ref) (p : Nat)
    (hv : find v (run State.empty hist).env = some rv) (hp : pos (generic rv.ty.mom name) rv.ty.fields = some p)
    (hl : vals.length = rv.idx.length) :
    let s := run State.empty hist
    (step (step s (.setName v name vals)).1 (.getName v name)).2 = .vals (vals.map some) ∧
      ∀ w idx, Aliased s v w idx →
        (step (step s (.setName v name vals)).1 (.getName w name)).2 = .vals (pick (vals.map some) idx) := by
  have hg := good_run _ hist (good_empty (α := α))
  obtain ⟨_, h2, h3⟩ := hg v rv hv
  have hrec : ∀ i ∈ rv.idx, p < (rowAt (run State.empty hist).heap rv.buf i).length := by
    intro i hi; rw [h3 i hi]; exact pos_lt hp
  exact ⟨(c19h_setName_getName _ v name vals rv p hv h2 hp hl hrec).2,
    fun w idx hal => c19h_setName_getName_alias _ v w name idx vals rv p hal hv h2 hp hl hrec⟩

/-! ### C19: the element object is built from the record's fields BY NAME -/

/-- **C19, elements by name.**  In every good (in particular: every reachable) state the element `v[i, j, …]` has as many
coordinates as the array's dimension, and its `j`-th coordinate — the one NAMED `c` in the canonical order of the
coordinate system — is the field named `c` of the addressed record, at whatever position `p` the dtype has it, and whatever
extra fields stand before, between or after the coordinates. -/
theorem c19h_intIndex_by_name (s : State α) (hg : Good s) (v : String) (is : List Int) (ty : VTy) (cs : Record α)
    (h : (step s (.intIndex v is)).2 = .elem ty cs) :
    ∃ rv o sh, find v s.env = some rv ∧ ty = rv.ty ∧ tupleOffset rv.shape is = some (o, sh) ∧
      ∀ rec : Record α, (seen s v)[o]? = some rec →
        cs.length = rv.ty.dim ∧
        ∀ (j : Nat) (c : String), rv.ty.coords[j]? = some c →
          ∃ p : Nat, pos c rv.ty.fields = some p ∧ p < rec.length ∧ cs[j]? = rec[p]? := by
  obtain ⟨_, rv, o, sh, hv, hty, _, ho, _, hcs⟩ := c19h_type_preserved_intIndex s v is ty cs h
  refine ⟨rv, o, sh, hv, hty, ho, ?_⟩
  intro rec hrec
  have hmem : rec ∈ sees s.heap rv := by
    simp only [seen, hv] at hrec; exact List.mem_of_getElem? hrec
  have hlen := good_sees hg hv rec hmem
  rw [hrec] at hcs
  simp only [Option.getD_some] at hcs
  subst hcs
  refine ⟨coordsOf_length _ _ hlen, ?_⟩
  intro j c hc
  obtain ⟨p, hp⟩ := pos_of_mem (mem_coords (List.mem_of_getElem? hc))
  refine ⟨p, hp, by rw [hlen]; exact pos_lt hp, ?_⟩
  simp only [coordsOf]
  rw [filterMap_getElem_of_all_some _ _ (coordsOf_all_some _ rec hlen) j, hc]
  simp [hp]

/-! ### C19: in-place arithmetic is a write through the reference -/

theorem coordPrefix_le (ty : VTy) : coordPrefix ty ≤ ty.fields.length := by
  unfold coordPrefix
  exact (List.takeWhile_sublist _).length_le

/-- in-place arithmetic, row by row: in a good state every field standing before the first extra field of every row `v`
shows holds afterwards, in `v`'s OLD buffer, the value computed for it -/
theorem rowAt_inplace (s : State α) (hg : Good s) (v : String) (rv : Ref) (hv : find v s.env = some rv)
    (cols : Nat → List α) (res : List (Record α)) (p : Nat) (hp : p < coordPrefix rv.ty)
    (hl : rv.idx.length = (cols p).length) (k : Nat) (hk : k < rv.idx.length) :
    (rowAt (apply s (inplace v rv cols res).1).heap rv.buf rv.idx[k])[p]? = (cols p)[k]? := by
  obtain ⟨hlt, hn, hrows⟩ := hg v rv hv
  have hmain := col_after_writes s.heap rv.buf rv.idx hn (inplaceWs rv cols)
    (by simp only [inplaceWs, List.pairwise_map]; exact List.nodup_range) p (cols p)
    (by simp only [inplaceWs, List.mem_map, List.mem_range]; exact ⟨p, hp, rfl⟩) hl
    (fun i hi => by rw [hrows i hi]; exact Nat.lt_of_lt_of_le hp (coordPrefix_le _)) k hk
  rcases inplace_eq v rv cols res with ⟨sh, h⟩ | h <;> rw [h]
  · simp only [apply, alloc_eq]
    rw [rowAt_append_old _ _ _ _ (by rw [writeCols_length]; exact hlt)]
    exact hmain
  · exact hmain

/-- **`v *= k` row by row** (`imap v f` with `f = (· * k)`): in every good state, for a Cartesian `v`, every coordinate field
standing before the first extra field of every row `v` shows is replaced by `f` of its old value, in `v`'s OLD buffer (the
statement then rebinds `v` — `c19h_inplace_rebinds`; with an extra field it raises instead, the writes done). -/
theorem c19h_inplace_rows (s : State α) (hg : Good s) (v : String) (f : α → α) (rv : Ref) (hv : find v s.env = some rv)
    (hc : cartesian rv.ty = true) (k : Nat) (hk : k < rv.idx.length) (p : Nat) (hp : p < coordPrefix rv.ty) :
    (rowAt (step s (.imap v f)).1.heap rv.buf rv.idx[k])[p]? = ((rowAt s.heap rv.buf rv.idx[k])[p]?).map f := by
  have hall : ∀ rec ∈ sees s.heap rv, ((fun (x : Record α) => x[p]?) rec).isSome := by
    intro rec hrec
    simp [good_sees hg hv rec hrec, Nat.lt_of_lt_of_le hp (coordPrefix_le _)]
  simp only [step, eval, withVar, hv, hc, if_true]
  rw [rowAt_inplace s hg v rv hv _ _ p hp (by rw [List.length_map, filterMap_length_of_all_some _ _ hall]; simp [sees]) k hk,
    List.getElem?_map, filterMap_getElem_of_all_some _ _ hall k]
  simp [sees, hk]

/-- **C19, `v *= k` and the aliases of `v`.**  In every good state, for a Cartesian `v` and `op = imap v f` (`v *= k` is
`f = (· * k)`): (1) every OTHER variable `x` over `v`'s buffer showing only rows `v` shows — every alias of `v`: its views,
slices, transposes, reshapes, sub-arrays — keeps its reference and afterwards shows, in every coordinate column standing
before the first extra field, `f` of what it showed, position by position; (2) every variable over ANOTHER buffer — every
detached copy — shows exactly what it showed. -/
theorem c19h_iscale_alias (s : State α) (hg : Good s) (v : String) (f : α → α) (rv : Ref) (hv : find v s.env = some rv)
    (hc : cartesian rv.ty = true) :
    let s' := (step s (.imap v f)).1
    (∀ x rx, x ≠ v → find x s.env = some rx → rx.buf = rv.buf → (∀ i ∈ rx.idx, i ∈ rv.idx) →
      find x s'.env = some rx ∧
        ∀ p, p < coordPrefix rv.ty → col p (seen s' x) = (col p (seen s x)).map (Option.map f)) ∧
    (∀ x rx, x ≠ v → find x s.env = some rx → rx.buf ≠ rv.buf → find x s'.env = some rx ∧ seen s' x = seen s x) := by
  refine ⟨?_, ?_⟩
  · intro x rx hxv hx hb hsub
    have hx' : find x (step s (.imap v f)).1.env = some rx := by
      rw [find_step _ _ _ (by simp [Op.target]; exact fun h => hxv h.symm)]; exact hx
    refine ⟨hx', fun p hp => ?_⟩
    simp only [seen, hx', hx, col, sees, List.map_map, hb]
    apply List.map_congr_left
    intro i hi
    obtain ⟨k, hk, rfl⟩ := List.getElem_of_mem (hsub i hi)
    simpa using c19h_inplace_rows s hg v f rv hv hc k hk p hp
  · intro x rx hxv hx hb
    refine ⟨by rw [find_step _ _ _ (by simp [Op.target]; exact fun h => hxv h.symm)]; exact hx, ?_⟩
    exact c19h_detached_write s v x rv rx (.imap v f) hv hx (fun h => hb h.symm) (hg.wf x rx hx) rfl

/-- … for an alias in the sense of `Aliased` (made by `view slice transpose sub reshape`, kept by every later operation), at
integer scalars: after `v *= k`, `w` shows the scaled values at the corresponding positions -/
theorem c19h_iscale_alias_int (s : State Int) (hg : Good s) (v w : String) (k : Int) (idx : List Nat) (rv : Ref)
    (hvw : v ≠ w) (hal : Aliased s v w idx) (hv : find v s.env = some rv) (hc : cartesian rv.ty = true)
    (p : Nat) (hp : p < coordPrefix rv.ty) :
    col p (seen (step s (Op.iscale v k)).1 w) = (col p (seen s w)).map (Option.map (· * k)) := by
  obtain ⟨rv', rw, h1, h2, h3, _, h5⟩ := hal
  rw [hv] at h1; cases h1
  exact ((c19h_iscale_alias s hg v (· * k) rv hv hc).1 w rw (fun h => hvw h.symm) h2 h3
    (fun i hi => by rw [h5] at hi; exact mem_pick hi)).2 p hp

/-- in-place arithmetic that succeeds REBINDS `v` to a fresh array of the same flavor whose fields are the coordinates in
CANONICAL order, showing the computed records -/
theorem inplace_rebinds (s : State α) (v : String) (rv : Ref) (cols : Nat → List α) (res : List (Record α))
    (hok : (inplace v rv cols res).2 = .ok) :
    ∃ r', find v (apply s (inplace v rv cols res).1).env = some r' ∧ r'.buf = s.heap.length ∧
      r'.ty = ⟨rv.ty.mom, rv.ty.coords⟩ ∧ sees (apply s (inplace v rv cols res).1).heap r' = res := by
  rcases inplace_eq v rv cols res with ⟨sh, h⟩ | h <;> rw [h] at hok ⊢
  · exact ⟨⟨_, layoutOr (List.range res.length) res.length, ⟨rv.ty.mom, rv.ty.coords⟩, sh⟩,
      by simp only [apply, alloc_eq, find_bind, if_true], writeCols_length .., rfl, sees_fresh ..⟩
  · cases hok

/-- what the statement `v *= k` leaves in `v`: when it succeeds, `v` is REBOUND to a fresh array of the same flavor and
coordinate system whose fields are the coordinates in CANONICAL order (extras cannot occur), showing `f` of the coordinates
`v` showed — no longer an alias of anything -/
theorem c19h_inplace_rebinds (s : State α) (v : String) (f : α → α) (rv : Ref) (hv : find v s.env = some rv)
    (hok : (step s (.imap v f)).2 = .ok) :
    ∃ r', find v (step s (.imap v f)).1.env = some r' ∧ r'.buf = s.heap.length ∧
      r'.ty = ⟨rv.ty.mom, rv.ty.coords⟩ ∧
      seen (step s (.imap v f)).1 v = (seen s v).map fun rec => (coordsOf rv.ty rec).map f := by
  simp only [step, eval, withVar, hv] at hok ⊢
  by_cases hc : cartesian rv.ty = true
  · simp only [hc, if_true] at hok ⊢
    obtain ⟨r', h1, h2, h3, h4⟩ := inplace_rebinds s v rv _ _ hok
    exact ⟨r', h1, h2, h3, by simp only [seen, h1, hv]; exact h4⟩
  · simp [hc] at hok

/-! ### examples: a concrete 3-row Momentum3D array -/

section Examples

/-- `a = vector.array({"px": [1, 4, 7], "py": [2, 5, 8], "pz": [3, 6, 9]})` -/
def exA : State Int := run State.empty [.new "a" ⟨true, ["x", "y", "z"]⟩ [3] [[1, 2, 3], [4, 5, 6], [7, 8, 9]]]

example : WF exA := wf_run _ _ wf_empty

example : seen exA "a" = [[1, 2, 3], [4, 5, 6], [7, 8, 9]] := by decide

/-- `b = a[1:]; b["px"] = [40, 70]` is seen through `a` (momentum spelling, write through the slice) -/
example : seen (run exA [.slice "a" "b" (some 1) none none, .setName "b" "px" [40, 70]]) "a" =
    [[1, 2, 3], [40, 5, 6], [70, 8, 9]] := by decide

/-- `b = a[::-1]; a["y"] = [20, 50, 80]` is seen through `b`, reversed -/
example : (step (run exA [.slice "a" "b" none none (some (-1)), .setName "a" "y" [20, 50, 80]]) (.getName "b" "py")).2 =
    .vals [some 80, some 50, some 20] := rfl

/-- `c = a.view(type(a)); c[0:1] = c[2:3]` is seen through `a` -/
example : seen (run exA [.view "a" "c", .setSlice "c" 0 1 2]) "a" = [[7, 8, 9], [4, 5, 6], [7, 8, 9]] := by decide

/-- `p = pickle.loads(pickle.dumps(a)); a["pz"] = [0, 0, 0]; p["x"] = [5, 5, 5]`: neither sees the other's write -/
example :
    let s := run exA [.pickle "a" "p", .setName "a" "pz" [0, 0, 0], .setName "p" "x" [5, 5, 5]]
    seen s "a" = [[1, 2, 0], [4, 5, 0], [7, 8, 0]] ∧ seen s "p" = [[5, 2, 3], [5, 5, 6], [5, 8, 9]] := by decide

/-- `m = a[[True, False, True]]`, `f = a[[-1, 0]]` are copies of the selected records -/
example :
    let s := run exA [.mask "a" "m" [true, false, true], .fancy "a" "f" [-1, 0], .setName "a" "x" [0]]
    seen s "m" = [[1, 2, 3], [7, 8, 9]] ∧ seen s "f" = [[7, 8, 9], [1, 2, 3]] ∧
      seen s "a" = [[0, 2, 3], [0, 5, 6], [0, 8, 9]] := by decide

/-- `a[-1]` is a `MomentumObject3D` with the record's coordinates; `a[3]` an `IndexError`; `a["rho"]` a `ValueError` -/
example : (step exA (.intIndex "a" [-1])).2 = .elem ⟨true, ["x", "y", "z"]⟩ [7, 8, 9] ∧
    (⟨true, ["x", "y", "z"]⟩ : VTy).objTag = "MomentumObject3D" ∧ (⟨true, ["x", "y", "z"]⟩ : VTy).tag = "MomentumNumpy3D" ∧
    (step exA (.intIndex "a" [3])).2 = .err .IndexError ∧ (step exA (.getName "a" "rho")).2 = .err .ValueError :=
  ⟨rfl, by decide, by decide, rfl, rfl⟩

/-- the theorems at work: after `b = a[1:]`, in every later state not rebinding `a` / `b`, `b` shows rows 1, 2 of `a` -/
example (ops : List (Op Int)) (hops : ∀ op ∈ ops, op.target ≠ some "a" ∧ op.target ≠ some "b") :
    let s' := run (step exA (.slice "a" "b" (some 1) none none)).1 ops
    seen s' "b" = pick (seen s' "a") [1, 2] :=
  ((c19h_view_alias exA "a" "b" ⟨0, [0, 1, 2], ⟨true, ["x", "y", "z"]⟩, [3]⟩ (by decide) (by decide) ops hops).2
    (some 1) none none [2] [1, 2] (by decide)).1

/-- the read-back law applies to `exA`: no repeated rows, every record has the field -/
example : (step (step exA (.setName "a" "py" [20, 50, 80])).1 (.getName "a" "y")).2 = .vals [some 20, some 50, some 80] :=
  (c19h_setName_getName exA "a" "py" [20, 50, 80] ⟨0, [0, 1, 2], ⟨true, ["x", "y", "z"]⟩, [3]⟩ 1 (by decide) (by decide)
    (by decide) rfl (by decide)).2

/-! #### shapes, field orders, extra fields, in-place arithmetic -/

/-- `n = vector.array([(2., 9., 1., 3.), …], dtype=[("y", …), ("w", …), ("px", …), ("z", …)]).reshape(2, 3)`: a
`MomentumNumpy3D` whose dtype lists `y` first, an extra field `w`, then `x`, `z` -/
def exN : State Int := run State.empty [.new "n" ⟨true, ["y", "w", "x", "z"]⟩ [2, 3]
  [[2, 90, 1, 3], [5, 91, 4, 6], [8, 92, 7, 9], [11, 93, 10, 12], [14, 94, 13, 15], [17, 95, 16, 18]]]

/-- the class comes from the coordinate names only; `n[1, 2]` is a `MomentumObject3D(px=16, py=17, pz=18)`: fields BY NAME, the
extra dropped; `n[1]` is an array of shape `(3,)`; `n[1, 2, ...]` a 0-d ARRAY; `n[2, 0]` an `IndexError` -/
example : (⟨true, ["y", "w", "x", "z"]⟩ : VTy).tag = "MomentumNumpy3D" ∧
    (step exN (.intIndex "n" [1, 2])).2 = .elem ⟨true, ["y", "w", "x", "z"]⟩ [16, 17, 18] ∧
    (step exN (.intIndex "n" [1])).2 = .arr ⟨true, ["y", "w", "x", "z"]⟩ [3] ∧
    (step exN (.sub "n" "z" [1, 2] true)).2 = .ok ∧
    (find "z" (step exN (.sub "n" "z" [1, 2] true)).1.env).map (·.shape) = some [] ∧
    (step exN (.intIndex "n" [2, 0])).2 = .err .IndexError :=
  ⟨by decide, rfl, rfl, rfl, by decide, rfl⟩

/-- `t = n.T; f = t.reshape(6)` has to COPY (the transposed rows are not strided as a flat array) while `g = n.reshape(6)` is
a view: a write through `n` is seen through `t` and `g`, not through `f` -/
example :
    let s := run exN [.transpose "n" "t", .reshape "t" "f" [6], .reshape "n" "g" [6], .setName "n" "px" [0]]
    col 2 (seen s "t") = [some 0, some 0, some 0, some 0, some 0, some 0] ∧
    col 2 (seen s "g") = [some 0, some 0, some 0, some 0, some 0, some 0] ∧
    col 2 (seen s "f") = [some 1, some 10, some 4, some 13, some 7, some 16] ∧
    (find "t" s.env).map (·.buf) = some 0 ∧ (find "g" s.env).map (·.buf) = some 0 ∧ (find "f" s.env).map (·.buf) = some 1 := by
  decide

/-- `c = vector.array(…x, y…); d = c[1:]; c *= 2`: the old buffer is scaled — seen through `d` — and `c` is REBOUND to a fresh
array: `c` lives in a new buffer, no longer sharing memory with `d` -/
example :
    let s := run State.empty [.new "c" ⟨false, ["y", "x"]⟩ [3] [[2, 1], [4, 3], [6, 5]], .slice "c" "d" (some 1) none none,
      Op.iscale "c" 2]
    seen s "d" = [[8, 6], [12, 10]] ∧ seen s "c" = [[2, 4], [6, 8], [10, 12]] ∧
      (find "c" s.env).map (·.ty.fields) = some ["x", "y"] ∧
      (find "d" s.env).map (·.buf) = some 0 ∧ (find "c" s.env).map (·.buf) = some 1 := by decide

/-- **Discrepancy with C16 (failure atomicity), reproduced on the real library.**  `a[:] = b[:]` where `b` has a field `a`
lacks (`theta` vs `z`) raises `ValueError` — after `x` and `y` of `a` have been overwritten. -/
theorem c19h_setElems_partial :
    let s : State Int := run State.empty [.new "a" ⟨false, ["x", "y", "z"]⟩ [2] [[1, 2, 3], [4, 5, 6]],
      .new "b" ⟨false, ["x", "y", "theta"]⟩ [2] [[7, 8, 9], [10, 11, 12]]]
    (step s (.setElems "a" none none "b" none none)).2 = .err .ValueError ∧
      seen s "a" = [[1, 2, 3], [4, 5, 6]] ∧
      seen (step s (.setElems "a" none none "b" none none)).1 "a" = [[7, 8, 3], [10, 11, 6]] :=
  ⟨rfl, by decide, by decide⟩

/-- … and an assignment from a LOWER-dimensional array silently succeeds, overwriting only the fields the source has -/
theorem c19h_setElems_lower_dim :
    let s : State Int := run State.empty [.new "a" ⟨false, ["x", "y", "z"]⟩ [2] [[1, 2, 3], [4, 5, 6]],
      .new "b" ⟨false, ["x", "y"]⟩ [2] [[7, 8], [10, 11]]]
    (step s (.setElems "a" none none "b" none none)).2 = .ok ∧
      seen (step s (.setElems "a" none none "b" none none)).1 "a" = [[7, 8, 3], [10, 11, 6]] :=
  ⟨rfl, by decide⟩

/-- **Discrepancy with C16 (failure atomicity), reproduced on the real library.**  `a *= 2` on an array whose dtype has an extra
field `w` between `x` and `y` raises `ValueError` (`result` has no field `w`) — after `x` has been scaled; `y` is not. -/
theorem c19h_inplace_partial :
    let s : State Int := run State.empty [.new "a" ⟨false, ["x", "w", "y"]⟩ [2] [[1, 50, 2], [3, 51, 4]]]
    (step s (Op.iscale "a" 2)).2 = .err .ValueError ∧
      seen (step s (Op.iscale "a" 2)).1 "a" = [[2, 50, 2], [6, 51, 4]] :=
  ⟨rfl, by decide⟩

end Examples
end VH
