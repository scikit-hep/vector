/-
C13 (closure) — the documented RANGES of the stored coordinates are preserved by the vector-valued operations:
every compute module whose DECLARED result stores a polar azimuth (`rhophi`), a polar angle
(`theta`) or a proper time (`tau`) returns these stored coordinates inside the ranges
`0 ≤ ρ`, `-π ≤ φ ≤ π`, `0 ≤ θ ≤ π`, (`0 ≤ τ`) (`AzOK`, `LonOK`, `InTmp`), under the natural hypothesis that the INPUT
coordinates are in these ranges.  (`Props/C13.lean` proves the ranges for the ACCESSOR modules; a later
`.phi`/`.theta`/`.rho` on a polar result just reads the stored value back, so this file is what makes
the range statement true for results of operations.)

What is NOT claimed: the strict representable domain `Spec.Canon*` (`0 < ρ` and `0 < θ < π` for θ/η storage) is not closed
(`scale` by `0` stores `ρ = 0`, a sum can lie on the z axis), and the hypotheses that `Props/C11.lean` places on
intermediate results (`AddOK3`, `TanOK`, `SinOK`, `ThetaRange`, …) remain hypotheses there; of these only the range part
(`ThetaRange`, the same predicate as `LonOK`) follows from this file.

The statements are about the GENERATED model (`Gen/Real/*.lean`), one theorem per module, quantified over
all keys through the dispatcher `eval` and the declared result `ret`:
`c13c_<module> : hyps → OutCanonN (<module>.ret k…) (<module>.eval k… args)`.

Coverage (all 31 modules with a vector result):
* full range statement, all keys: `planar_{add,subtract,scale,rotateZ,unit,transform2D}`,
  `spatial_{add,subtract,scale,unit,rotateX,rotateY,rotate_axis,rotate_euler,rotate_quaternion,cross,transform3D}`,
  `lorentz_{add,unit,boostX_beta,boostX_gamma,boostY_beta,boostY_gamma,boostZ_beta,boostZ_gamma,boost_beta3,boost_p4,
  transform4D}`;
* `φ_out` produced by `rectify` lies in the HALF-OPEN `[-π, π)` (`…_phi_lt`); `arctan2` gives `(-π, π]`, so `-π` itself
  can be stored (`c13c_planar_rotateZ_pi`), inside the documented closed range;
* FINDINGS (range not preserved; strongest true statement `…_partial` + counterexample):
  - `lorentz_scale`, `tau` keys, negative factor: `τ_out = τ·k < 0` (`c13c_lorentz_scale_tau_neg`);
  - `lorentz_to_beta3`, polar `t` keys, negative `t`: `ρ_out = ρ/t < 0` (`c13c_lorentz_to_beta3_rho_neg`);
  - `lorentz_subtract`, `tau − tau` keys: `0 ≤ τ_out` iff the exact difference is causal
    (`c13c_lorentz_subtract_tau_nonneg_iff`), e.g. `(1,0,0,τ=0) − (0,0,0,τ=1)` is stored with `τ = -1`.

Names.  `c13c_<m>_partial` has either a WEAKER CONCLUSION (`OutCanonS4`: nothing is claimed of a stored `tau`:
`c13c_lorentz_add_partial`, `c13c_lorentz_subtract_partial`, `c13c_lorentz_scale_partial`) or a hypothesis the property does
not grant (`c13c_lorentz_to_beta3_partial`: `0 < t`).  That the missing part fails is witnessed by the theorems
`…_tau_neg`, `…_rho_neg`, `…_tau_nonneg_iff` and by the `example`s ("concrete counterexample") below them.
-/
import VectorModel.Gen.Real.planar_add
import VectorModel.Gen.Real.planar_subtract
import VectorModel.Gen.Real.planar_scale
import VectorModel.Gen.Real.planar_rotateZ
import VectorModel.Gen.Real.planar_unit
import VectorModel.Gen.Real.planar_transform2D
import VectorModel.Gen.Real.spatial_add
import VectorModel.Gen.Real.spatial_subtract
import VectorModel.Gen.Real.spatial_scale
import VectorModel.Gen.Real.spatial_unit
import VectorModel.Gen.Real.spatial_rotateX
import VectorModel.Gen.Real.spatial_rotateY
import VectorModel.Gen.Real.spatial_rotate_axis
import VectorModel.Gen.Real.spatial_rotate_euler
import VectorModel.Gen.Real.spatial_rotate_quaternion
import VectorModel.Gen.Real.spatial_cross
import VectorModel.Gen.Real.spatial_transform3D
import VectorModel.Gen.Real.lorentz_scale
import VectorModel.Gen.Real.lorentz_unit
import VectorModel.Gen.Real.lorentz_to_beta3
import VectorModel.Gen.Real.lorentz_boostX_beta
import VectorModel.Gen.Real.lorentz_boostX_gamma
import VectorModel.Gen.Real.lorentz_boostY_beta
import VectorModel.Gen.Real.lorentz_boostY_gamma
import VectorModel.Gen.Real.lorentz_boostZ_beta
import VectorModel.Gen.Real.lorentz_boostZ_gamma
import VectorModel.Gen.Real.lorentz_boost_beta3
import VectorModel.Gen.Real.lorentz_boost_p4
import VectorModel.Gen.Real.lorentz_transform4D
import VectorModel.Gen.Real.lorentz_add
import VectorModel.Gen.Real.lorentz_subtract
import VectorModel.Spec.Basic
import VectorModel.Refine.SpatialAcc
import VectorModel.Refine.SpatialBin
import VectorModel.Refine.LorentzBin
import VectorModel.Refine.SpatialRot
import VectorModel.Props.C13
import Mathlib.Tactic.Ring
import Mathlib.Tactic.Linarith
import Mathlib.Tactic.NormNum
import Mathlib.Tactic.Positivity
import VectorModel.Lemmas.Real

namespace VR
open VK

/-! ## 0. The range predicate on a raw result, by recursion on the declared result parts -/

/-- stored azimuthal pair in range: nothing for `xy`; `0 ≤ ρ ∧ -π ≤ φ ≤ π` for `rhophi` -/
def AzOK : Az → ℝ → ℝ → Prop
  | .xy, _, _ => True
  | .rhophi, r, p => 0 ≤ r ∧ -Real.pi ≤ p ∧ p ≤ Real.pi

/-- stored longitudinal coordinate in range: `0 ≤ θ ≤ π` for `theta`; nothing for `z`, `eta` -/
def LonOK : Lon → ℝ → Prop
  | .z, _ => True
  | .theta, c => 0 ≤ c ∧ c ≤ Real.pi
  | .eta, _ => True

/-- stored temporal coordinate: nothing for `t`; the predicate `T` for `tau` -/
def TmpOK (T : ℝ → Prop) : Tmp → ℝ → Prop
  | .t, _ => True
  | .tau, d => T d

/-- `OutCanonL T parts values`: the raw values, read through the declared parts, are in range
(`T` is what is required of a stored `tau`). A `None` part consumes no value; a length mismatch is `False`. -/
def OutCanonL (T : ℝ → Prop) : List RP → List ℝ → Prop
  | [], [] => True
  | .az a :: ps, r :: p :: vs => AzOK a r p ∧ OutCanonL T ps vs
  | .lon l :: ps, c :: vs => LonOK l c ∧ OutCanonL T ps vs
  | .tmp tm :: ps, d :: vs => TmpOK T tm d ∧ OutCanonL T ps vs
  | .none :: ps, vs => OutCanonL T ps vs
  | _, _ => False

def OutCanonR (T : ℝ → Prop) : Ret → List ℝ → Prop
  | .vec ps, vs => OutCanonL T ps vs
  | _, _ => False

/-- the full range predicate: a stored `tau` must be non-negative -/
def OutCanon2 (r : Ret) (v : ℝ × ℝ) : Prop := OutCanonR (fun d => 0 ≤ d) r [v.1, v.2]
def OutCanon3 (r : Ret) (v : ℝ × ℝ × ℝ) : Prop := OutCanonR (fun d => 0 ≤ d) r [v.1, v.2.1, v.2.2]
def OutCanon4 (r : Ret) (v : ℝ × ℝ × ℝ × ℝ) : Prop :=
  OutCanonR (fun d => 0 ≤ d) r [v.1, v.2.1, v.2.2.1, v.2.2.2]
/-- the spatial part only (nothing is required of a stored `tau`) -/
def OutCanonS4 (r : Ret) (v : ℝ × ℝ × ℝ × ℝ) : Prop :=
  OutCanonR (fun _ => True) r [v.1, v.2.1, v.2.2.1, v.2.2.2]

/-- the natural input hypotheses: stored coordinates of an INPUT vector are in range -/
def InAz (k : Az) (a b : ℝ) : Prop := AzOK k a b
def InLon (k : Lon) (c : ℝ) : Prop := LonOK k c
def InTmp (k : Tmp) (d : ℝ) : Prop := TmpOK (fun d => 0 ≤ d) k d

/-! ### the range predicates on a result declared `[az]`, `[az, lon]`, `[az, lon, tmp]`, part by part -/

theorem outCanon2_iff {a : Az} {v : ℝ × ℝ} : OutCanon2 (.vec [.az a]) v ↔ AzOK a v.1 v.2 := by
  simp only [OutCanon2, OutCanonR, OutCanonL, and_true]

theorem outCanon3_iff {a : Az} {l : Lon} {v : ℝ × ℝ × ℝ} :
    OutCanon3 (.vec [.az a, .lon l]) v ↔ AzOK a v.1 v.2.1 ∧ LonOK l v.2.2 := by
  simp only [OutCanon3, OutCanonR, OutCanonL, and_true]

/-- `T` is what is asked of a stored `tau` (`OutCanon4`: `0 ≤ τ`; `OutCanonS4`: nothing) -/
theorem outCanonR4_iff {T : ℝ → Prop} {a : Az} {l : Lon} {tm : Tmp} {v : ℝ × ℝ × ℝ × ℝ} :
    OutCanonR T (.vec [.az a, .lon l, .tmp tm]) [v.1, v.2.1, v.2.2.1, v.2.2.2] ↔
      AzOK a v.1 v.2.1 ∧ LonOK l v.2.2.1 ∧ TmpOK T tm v.2.2.2 := by
  simp only [OutCanonR, OutCanonL, and_true]

theorem outCanon4_iff {a : Az} {l : Lon} {tm : Tmp} {v : ℝ × ℝ × ℝ × ℝ} :
    OutCanon4 (.vec [.az a, .lon l, .tmp tm]) v ↔ AzOK a v.1 v.2.1 ∧ LonOK l v.2.2.1 ∧ InTmp tm v.2.2.2 :=
  outCanonR4_iff

/-- the code's `rectify` lands in `[-π, π)`: in particular in the closed documented range -/
theorem c13c_rectify_mem (x : ℝ) :
    -Real.pi ≤ P.mod (x + Real.pi) (2 * Real.pi) - Real.pi ∧
      P.mod (x + Real.pi) (2 * Real.pi) - Real.pi < Real.pi := L.rectify_mem x

private theorem rect_ok (x : ℝ) :
    -Real.pi ≤ P.mod (x + Real.pi) (2 * Real.pi) - Real.pi ∧
      P.mod (x + Real.pi) (2 * Real.pi) - Real.pi ≤ Real.pi :=
  ⟨(L.rectify_mem x).1, (L.rectify_mem x).2.le⟩

/-! ## 1. Planar modules -/

private theorem padd_ok (a b c d : ℝ) : AzOK .rhophi (planar_add.rhophi_rhophi a b c d).1 (planar_add.rhophi_rhophi a b c d).2 :=
  have h := planar_add_polar a b c d
  ⟨h.1, h.2.1.1, h.2.1.2.le⟩
private theorem psub_ok (a b c d : ℝ) :
    AzOK .rhophi (planar_subtract.rhophi_rhophi a b c d).1 (planar_subtract.rhophi_rhophi a b c d).2 :=
  have h := planar_subtract_polar a b c d
  ⟨h.1, h.2.1.1, h.2.1.2.le⟩

/-- `planar_add`: the only polar result (`rhophi + rhophi`) has `ρ = √… ≥ 0` and `φ = rectify(…) ∈ [-π, π)`;
no hypothesis on the inputs is needed. -/
theorem c13c_planar_add (k0 k1 : Az) (a0 a1 b0 b1 : ℝ) :
    OutCanon2 (planar_add.ret k0 k1) (planar_add.eval k0 k1 a0 a1 b0 b1) := by
  cases k0 <;> cases k1 <;>
    simp only [planar_add.ret, planar_add.eval, OutCanon2, OutCanonR, OutCanonL, AzOK, and_true]
  exact padd_ok _ _ _ _

theorem c13c_planar_subtract (k0 k1 : Az) (a0 a1 b0 b1 : ℝ) :
    OutCanon2 (planar_subtract.ret k0 k1) (planar_subtract.eval k0 k1 a0 a1 b0 b1) := by
  cases k0 <;> cases k1 <;>
    simp only [planar_subtract.ret, planar_subtract.eval, OutCanon2, OutCanonR, OutCanonL, AzOK, and_true]
  exact psub_ok _ _ _ _

/-- strict form: the polar results of `add`/`subtract` have `φ < π` (half-open `[-π, π)`) -/
theorem c13c_planar_add_phi_lt (a0 a1 b0 b1 : ℝ) :
    (planar_add.eval .rhophi .rhophi a0 a1 b0 b1).2 < Real.pi :=
  (planar_add_polar a0 a1 b0 b1).2.1.2

theorem c13c_planar_subtract_phi_lt (a0 a1 b0 b1 : ℝ) :
    (planar_subtract.eval .rhophi .rhophi a0 a1 b0 b1).2 < Real.pi :=
  (planar_subtract_polar a0 a1 b0 b1).2.1.2

/-- `planar_scale`: for the polar key `ρ_out = ρ·|k| ≥ 0` (given `0 ≤ ρ`; ANY factor, also `0` and negative
ones) and `φ_out = rectify(φ + turn) ∈ [-π, π)` whatever the stored `φ` is. -/
theorem c13c_planar_scale (k0 : Az) (factor a0 a1 : ℝ) (h : InAz k0 a0 a1) :
    OutCanon2 (planar_scale.ret k0) (planar_scale.eval k0 factor a0 a1) := by
  cases k0 <;>
    simp only [planar_scale.ret, planar_scale.eval, OutCanon2, OutCanonR, OutCanonL, AzOK, and_true]
  simp only [planar_scale.rhophi, planar_scale.rectify]
  exact ⟨mul_nonneg h.1 (abs_nonneg _), rect_ok _⟩

theorem c13c_planar_scale_phi_lt (factor a0 a1 : ℝ) :
    (planar_scale.eval .rhophi factor a0 a1).2 < Real.pi := by
  simp only [planar_scale.eval, planar_scale.rhophi, planar_scale.rectify]
  exact (L.rectify_mem _).2

/-- `planar_rotateZ`: `ρ` is passed through, `φ_out = rectify(φ + angle) ∈ [-π, π)`. -/
theorem c13c_planar_rotateZ (k0 : Az) (angle a0 a1 : ℝ) (h : InAz k0 a0 a1) :
    OutCanon2 (planar_rotateZ.ret k0) (planar_rotateZ.eval k0 angle a0 a1) := by
  cases k0 <;>
    simp only [planar_rotateZ.ret, planar_rotateZ.eval, OutCanon2, OutCanonR, OutCanonL, AzOK, and_true]
  simp only [planar_rotateZ.rhophi, planar_rotateZ.rectify]
  exact ⟨h.1, rect_ok _⟩

theorem c13c_planar_rotateZ_phi_lt (angle a0 a1 : ℝ) :
    (planar_rotateZ.eval .rhophi angle a0 a1).2 < Real.pi := by
  simp only [planar_rotateZ.eval, planar_rotateZ.rhophi, planar_rotateZ.rectify]
  exact (L.rectify_mem _).2

/-- `planar_unit`: polar key returns `(1, φ)` — `φ` is read back unchanged, so it is in range iff the input is. -/
theorem c13c_planar_unit (k0 : Az) (a0 a1 : ℝ) (h : InAz k0 a0 a1) :
    OutCanon2 (planar_unit.ret k0) (planar_unit.eval k0 a0 a1) := by
  cases k0 <;>
    simp only [planar_unit.ret, planar_unit.eval, OutCanon2, OutCanonR, OutCanonL, AzOK, and_true]
  simp only [planar_unit.rhophi]
  exact ⟨zero_le_one, h.2⟩

/-- `planar_transform2D` always returns Cartesian `xy` (`refine_planar_transform2D_ret`), so there is nothing to prove about
its result. -/
theorem c13c_planar_transform2D (k0 : Az) (xx xy yx yy a0 a1 : ℝ) :
    OutCanon2 (planar_transform2D.ret k0) (planar_transform2D.eval k0 xx xy yx yy a0 a1) := by
  rw [refine_planar_transform2D_ret]
  simp only [OutCanon2, OutCanonR, OutCanonL, AzOK, and_true]

/-- REMARK (half-open interval on the other side): `rectify` yields `[-π, π)`, whereas `phi` computed
from Cartesian components (`arctan2`) yields `(-π, π]`.  A polar vector stored with `φ = π` (the value
`arctan2` gives for the negative x axis) rotated by angle `0` comes back with `φ = -π`: inside the
documented closed range `[-π, π]`, but outside the `(-π, π]` range of the `phi` accessor. -/
theorem c13c_planar_rotateZ_pi : planar_rotateZ.eval .rhophi 0 1 Real.pi = (1, -Real.pi) := by
  simp only [planar_rotateZ.eval, planar_rotateZ.rhophi, planar_rotateZ.rectify, add_zero]
  have h2 : (2 : ℝ) * Real.pi ≠ 0 := by positivity
  have : P.mod (Real.pi + Real.pi) (2 * Real.pi) = 0 := by
    unfold P.mod
    rw [show Real.pi + Real.pi = 2 * Real.pi by ring, div_self h2]
    simp only [Int.floor_one, Int.cast_one, mul_one, sub_self]
  rw [this]; simp only [zero_sub]

/-- the sample point `(ρ, φ, θ, τ) = (2, 1, 1, 5)` of the satisfiability examples is in range -/
private theorem inAz_sample : InAz .rhophi 2 1 := ⟨by norm_num, by linarith [Real.two_le_pi], by linarith [Real.two_le_pi]⟩
private theorem inLon_sample : InLon .theta 1 := ⟨by norm_num, by linarith [Real.two_le_pi]⟩
private theorem inTmp_sample : InTmp .tau 5 := by show (0 : ℝ) ≤ 5; norm_num

/-- the hypotheses are satisfiable, at a non-trivial point: scaling `(ρ, φ) = (2, 1)` by `-1.5` -/
example : InAz .rhophi 2 1 := inAz_sample
example : OutCanon2 (planar_scale.ret .rhophi) (planar_scale.eval .rhophi (-1.5) 2 1) :=
  c13c_planar_scale .rhophi (-1.5) 2 1 inAz_sample

/-! ## 2. Spatial modules -/

/-- `add` / `subtract` (`addForm`), all 36 key pairs: 31 return Cartesian `xy`,`z`; a common polar system stores the planar
polar result `pp` (`ρ = √… ≥ 0`, `φ = rectify(…) ∈ [-π, π)`), a θ result is `θ = arccos(…) ∈ [0, π]`.  No hypothesis on
the inputs is needed. -/
theorem addForm_outCanon {pp : ℝ → ℝ → ℝ → ℝ → ℝ × ℝ} {f : ℝ → ℝ → ℝ}
    (hpp : ∀ a b c d, AzOK .rhophi (pp a b c d).1 (pp a b c d).2)
    (k0 : Az) (k1 : Lon) (k2 : Az) (k3 : Lon) (a0 a1 a2 b0 b1 b2 : ℝ) :
    OutCanon3 (Ret.vec [.az (commonSys k0 k1 k2 k3).1, .lon (commonSys k0 k1 k2 k3).2])
      (addForm pp f k0 k1 k2 k3 a0 a1 a2 b0 b1 b2) := by
  rw [outCanon3_iff]
  unfold addForm
  generalize commonSys k0 k1 k2 k3 = s
  obtain ⟨az, lon⟩ := s
  refine ⟨?_, ?_⟩
  · cases az
    · trivial
    · exact hpp _ _ _ _
  · cases lon
    · trivial
    · cases az <;> exact ⟨Real.arccos_nonneg _, Real.arccos_le_pi _⟩
    · trivial

theorem c13c_spatial_add (k0 : Az) (k1 : Lon) (k2 : Az) (k3 : Lon) (a0 a1 a2 b0 b1 b2 : ℝ) :
    OutCanon3 (spatial_add.ret k0 k1 k2 k3) (spatial_add.eval k0 k1 k2 k3 a0 a1 a2 b0 b1 b2) := by
  rw [spatial_add_ret_sys, spatial_add_eval_eq]
  exact addForm_outCanon padd_ok k0 k1 k2 k3 a0 a1 a2 b0 b1 b2

theorem c13c_spatial_subtract (k0 : Az) (k1 : Lon) (k2 : Az) (k3 : Lon) (a0 a1 a2 b0 b1 b2 : ℝ) :
    OutCanon3 (spatial_subtract.ret k0 k1 k2 k3) (spatial_subtract.eval k0 k1 k2 k3 a0 a1 a2 b0 b1 b2) := by
  rw [spatial_subtract_ret_sys, spatial_subtract_eval_eq]
  exact addForm_outCanon psub_ok k0 k1 k2 k3 a0 a1 a2 b0 b1 b2

/-- `spatial_scale`, all 6 keys, ANY factor (positive, negative or zero):
`ρ_out = ρ·|k| ≥ 0`, `φ_out = rectify(φ + turn) ∈ [-π, π)`, `θ_out = |θ + ½(sign k − 1)π| ∈ [0, π]`,
given the input `0 ≤ ρ`, `0 ≤ θ ≤ π` (nothing is needed of the input `φ`). -/
theorem c13c_spatial_scale (k0 : Az) (k1 : Lon) (factor a0 a1 a2 : ℝ) (h : InAz k0 a0 a1) (hl : InLon k1 a2) :
    OutCanon3 (spatial_scale.ret k0 k1) (spatial_scale.eval k0 k1 factor a0 a1 a2) := by
  have hp := c13c_planar_scale k0 factor a0 a1 h
  rw [spatial_scale_ret_eq, spatial_scale_eval, outCanon3_iff]
  refine ⟨by cases k0 <;> exact outCanon2_iff.mp hp, ?_⟩
  cases k1
  · trivial
  · exact c13_theta_flip_range factor a2 hl.1 hl.2
  · trivial

theorem c13c_spatial_scale_phi_lt (k1 : Lon) (factor a0 a1 a2 : ℝ) :
    (spatial_scale.eval .rhophi k1 factor a0 a1 a2).2.1 < Real.pi := by
  cases k1 <;> simp only [d_spatial_scale] <;> exact (L.rectify_mem _).2

/-- strict form for the polar results of `spatial_add` / `spatial_subtract`: `φ_out < π` (half-open `[-π, π)`) -/
theorem c13c_spatial_add_phi_lt (k1 : Lon) (a0 a1 a2 b0 b1 b2 : ℝ) :
    (spatial_add.eval .rhophi k1 .rhophi k1 a0 a1 a2 b0 b1 b2).2.1 < Real.pi := by
  cases k1 <;> simp only [d_spatial_add, d_planar_add] <;> exact (L.rectify_mem _).2

theorem c13c_spatial_subtract_phi_lt (k1 : Lon) (a0 a1 a2 b0 b1 b2 : ℝ) :
    (spatial_subtract.eval .rhophi k1 .rhophi k1 a0 a1 a2 b0 b1 b2).2.1 < Real.pi := by
  cases k1 <;> simp only [d_spatial_subtract, d_planar_subtract] <;> exact (L.rectify_mem _).2

/-- what `scale` returns for the factor `0` (`sign 0 = 0`): `ρ_out = 0`, `φ_out = rectify(φ + π/2)`,
`θ_out = |θ − π/2|` — the zero vector with arbitrary but IN-RANGE angles. -/
theorem c13c_spatial_scale_zero (rho phi theta : ℝ) :
    spatial_scale.eval .rhophi .theta 0 rho phi theta
      = (0, P.mod (phi + 0.5 * Real.pi + Real.pi) (2 * Real.pi) - Real.pi, |theta - 0.5 * Real.pi|) := by
  simp only [spatial_scale.eval, spatial_scale.rhophi_theta, spatial_scale.rectify, P.sign, Real.sign_zero, abs_zero,
    mul_zero, Prod.mk.injEq, true_and]
  constructor
  · congr 2; ring
  · congr 1; ring

/-- `spatial_unit`, all 6 keys, ALL inputs: `ρ_out = ρ / |v| ≥ 0`; `φ`, `θ` are passed through unchanged.  Also at the singular
inputs — zero vector, `sin θ = 0` — where the code divides by zero: there `numpy` gives `nan_to_num(nan) = 0` or `ρ/inf = 0`,
also `≥ 0`. -/
theorem c13c_spatial_unit_gen (k0 : Az) (k1 : Lon) (a0 a1 a2 : ℝ) (h : InAz k0 a0 a1) (hl : InLon k1 a2) :
    OutCanon3 (spatial_unit.ret k0 k1) (spatial_unit.eval k0 k1 a0 a1 a2) := by
  cases k0 <;> cases k1 <;>
    simp only [d_spatial_unit, OutCanon3, OutCanonR, OutCanonL, AzOK, LonOK, and_true, true_and, P.nanToNum_eq,
      spatial_mag.rhophi_z, spatial_mag.rhophi_theta, spatial_mag.rhophi_eta]
  · exact hl
  · have := h.1
    exact ⟨div_nonneg h.1 (Real.sqrt_nonneg _), h.2⟩
  · have := h.1
    exact ⟨⟨by positivity, h.2⟩, hl⟩
  · have := h.1
    exact ⟨by positivity, h.2⟩

/-- … in particular on the regular inputs of `unit` -/
theorem c13c_spatial_unit (k0 : Az) (k1 : Lon) (a0 a1 a2 : ℝ) (h : InAz k0 a0 a1) (hl : InLon k1 a2)
    (_hn : 0 < spatial_mag.eval k0 k1 a0 a1 a2) :
    OutCanon3 (spatial_unit.ret k0 k1) (spatial_unit.eval k0 k1 a0 a1 a2) :=
  c13c_spatial_unit_gen k0 k1 a0 a1 a2 h hl

private theorem outCanon3_xyz (v : ℝ × ℝ × ℝ) : OutCanon3 (.vec [.az .xy, .lon .z]) v :=
  outCanon3_iff.mpr ⟨trivial, trivial⟩

/-- the rotations, `cross` and `transform3D` ALWAYS return Cartesian `xy`, `z` (the `refine_spatial_*_ret` facts), so every
raw result of these modules is in range (there is no range to violate). -/
theorem c13c_spatial_rotateX (k0 : Az) (k1 : Lon) (angle a0 a1 a2 : ℝ) :
    OutCanon3 (spatial_rotateX.ret k0 k1) (spatial_rotateX.eval k0 k1 angle a0 a1 a2) := by
  rw [refine_spatial_rotateX_ret]; exact outCanon3_xyz _
theorem c13c_spatial_rotateY (k0 : Az) (k1 : Lon) (angle a0 a1 a2 : ℝ) :
    OutCanon3 (spatial_rotateY.ret k0 k1) (spatial_rotateY.eval k0 k1 angle a0 a1 a2) := by
  rw [refine_spatial_rotateY_ret]; exact outCanon3_xyz _
theorem c13c_spatial_rotate_axis (k0 : Az) (k1 : Lon) (k2 : Az) (k3 : Lon) (angle a0 a1 a2 b0 b1 b2 : ℝ) :
    OutCanon3 (spatial_rotate_axis.ret k0 k1 k2 k3) (spatial_rotate_axis.eval k0 k1 k2 k3 angle a0 a1 a2 b0 b1 b2) := by
  rw [refine_spatial_rotate_axis_ret]; exact outCanon3_xyz _
theorem c13c_spatial_rotate_euler (k0 : Az) (k1 : Lon) (k2 : Ord) (phi theta psi a0 a1 a2 : ℝ) :
    OutCanon3 (spatial_rotate_euler.ret k0 k1 k2) (spatial_rotate_euler.eval k0 k1 k2 phi theta psi a0 a1 a2) := by
  rw [refine_spatial_rotate_euler_ret]; exact outCanon3_xyz _
theorem c13c_spatial_rotate_quaternion (k0 : Az) (k1 : Lon) (u i j k a0 a1 a2 : ℝ) :
    OutCanon3 (spatial_rotate_quaternion.ret k0 k1) (spatial_rotate_quaternion.eval k0 k1 u i j k a0 a1 a2) := by
  rw [refine_spatial_rotate_quaternion_ret]; exact outCanon3_xyz _
theorem c13c_spatial_cross (k0 : Az) (k1 : Lon) (k2 : Az) (k3 : Lon) (a0 a1 a2 b0 b1 b2 : ℝ) :
    OutCanon3 (spatial_cross.ret k0 k1 k2 k3) (spatial_cross.eval k0 k1 k2 k3 a0 a1 a2 b0 b1 b2) := by
  rw [refine_spatial_cross_ret]; simp only [OutCanon3, OutCanonR, OutCanonL, AzOK, LonOK, and_true]
theorem c13c_spatial_transform3D (k0 : Az) (k1 : Lon) (xx xy xz yx yy yz zx zy zz a0 a1 a2 : ℝ) :
    OutCanon3 (spatial_transform3D.ret k0 k1)
      (spatial_transform3D.eval k0 k1 xx xy xz yx yy yz zx zy zz a0 a1 a2) := by
  rw [refine_spatial_transform3D_ret]; exact outCanon3_xyz _

/-- satisfiable at a non-trivial point: `(ρ, φ, θ) = (2, 1, 1)` scaled by `-3`; unit of `(ρ, φ, z) = (3, 1, 4)` -/
example : OutCanon3 (spatial_scale.ret .rhophi .theta) (spatial_scale.eval .rhophi .theta (-3) 2 1 1) :=
  c13c_spatial_scale .rhophi .theta (-3) 2 1 1
    inAz_sample
    inLon_sample
example : OutCanon3 (spatial_unit.ret .rhophi .z) (spatial_unit.eval .rhophi .z 3 1 4) :=
  c13c_spatial_unit .rhophi .z 3 1 4
    ⟨by norm_num, by linarith [Real.two_le_pi], by linarith [Real.two_le_pi]⟩ trivial
    (by simp only [spatial_mag.eval, spatial_mag.rhophi_z, spatial_mag2.rhophi_z]; positivity)

/-! ## 3. Lorentz modules -/

private theorem outCanonR_snoc {T : ℝ → Prop} {k : Az} {l : Lon} {tm : Tmp} {v : ℝ × ℝ × ℝ} {d : ℝ}
    (h3 : OutCanon3 (.vec [.az k, .lon l]) v) (ht : TmpOK T tm d) :
    OutCanonR T (.vec [.az k, .lon l, .tmp tm]) [v.1, v.2.1, v.2.2, d] :=
  (outCanonR4_iff (v := (v.1, v.2.1, v.2.2, d))).mpr ⟨(outCanon3_iff.mp h3).1, (outCanon3_iff.mp h3).2, ht⟩

/-! ### 3a. `scale` -/

/-- `lorentz_scale`, all 12 keys, ANY factor: the SPATIAL part of the result is in range
(`ρ_out = ρ·|k| ≥ 0`, `φ_out ∈ [-π, π)`, `θ_out ∈ [0, π]`).  Nothing is claimed about a stored `tau` here:
see `c13c_lorentz_scale` (factor `≥ 0`) and `c13c_lorentz_scale_tau_neg` (factor `< 0`: the range is VIOLATED). -/
theorem c13c_lorentz_scale_partial (k0 : Az) (k1 : Lon) (k2 : Tmp) (factor a0 a1 a2 a3 : ℝ)
    (h : InAz k0 a0 a1) (hl : InLon k1 a2) :
    OutCanonS4 (lorentz_scale.ret k0 k1 k2) (lorentz_scale.eval k0 k1 k2 factor a0 a1 a2 a3) := by
  have hS := c13c_spatial_scale k0 k1 factor a0 a1 a2 h hl
  rw [spatial_scale_ret_eq] at hS
  rw [lorentz_scale_eval_eq, lorentz_scale_ret_eq]
  exact outCanonR_snoc hS (by cases k2 <;> trivial)

/-- the stored `tau` of a scaled vector is `τ·k` for every `tau` key -/
theorem c13c_lorentz_scale_tau_eq (k0 : Az) (k1 : Lon) (factor a0 a1 a2 a3 : ℝ) :
    (lorentz_scale.eval k0 k1 .tau factor a0 a1 a2 a3).2.2.2 = a3 * factor := by
  cases k0 <;> cases k1 <;> rfl

/-- `lorentz_scale`: the whole result is in range, including `0 ≤ τ_out` — for a `tau` key when the factor is non-negative. -/
theorem c13c_lorentz_scale_gen (k0 : Az) (k1 : Lon) (k2 : Tmp) (factor a0 a1 a2 a3 : ℝ)
    (h : InAz k0 a0 a1) (hl : InLon k1 a2) (ht : InTmp k2 a3) (hk : k2 = .tau → 0 ≤ factor) :
    OutCanon4 (lorentz_scale.ret k0 k1 k2) (lorentz_scale.eval k0 k1 k2 factor a0 a1 a2 a3) := by
  have hS := c13c_spatial_scale k0 k1 factor a0 a1 a2 h hl
  rw [spatial_scale_ret_eq] at hS
  rw [lorentz_scale_eval_eq, lorentz_scale_ret_eq]
  refine outCanonR_snoc hS ?_
  cases k2
  · trivial
  · exact mul_nonneg ht (hk rfl)

/-- `lorentz_scale` with a NON-NEGATIVE factor: the whole result is in range, including `0 ≤ τ_out`. -/
theorem c13c_lorentz_scale (k0 : Az) (k1 : Lon) (k2 : Tmp) (factor a0 a1 a2 a3 : ℝ)
    (h : InAz k0 a0 a1) (hl : InLon k1 a2) (ht : InTmp k2 a3) (hk : 0 ≤ factor) :
    OutCanon4 (lorentz_scale.ret k0 k1 k2) (lorentz_scale.eval k0 k1 k2 factor a0 a1 a2 a3) :=
  c13c_lorentz_scale_gen k0 k1 k2 factor a0 a1 a2 a3 h hl ht fun _ => hk

/-- FINDING: with a NEGATIVE factor every `tau` key stores a NEGATIVE `tau` for a vector of positive proper
time — outside the representable domain `0 ≤ τ` (the library reads a negative stored `tau` as "space-like":
`t² = max(τ·|τ| + |p|², 0)`), although `k·v` is again time-like with proper time `|k|·τ`. -/
theorem c13c_lorentz_scale_tau_neg (k0 : Az) (k1 : Lon) (factor a0 a1 a2 a3 : ℝ) (hk : factor < 0) (ht : 0 < a3) :
    (lorentz_scale.eval k0 k1 .tau factor a0 a1 a2 a3).2.2.2 < 0 := by
  rw [c13c_lorentz_scale_tau_eq]; exact mul_neg_of_pos_of_neg ht hk

/-- concrete counterexample: the particle at rest `(x, y, z, τ) = (0, 0, 0, 1)` scaled by `-1` is stored as
`(0, 0, 0, -1)`, so `¬ OutCanon4`. -/
example : lorentz_scale.eval .xy .z .tau (-1) 0 0 0 1 = (0, 0, 0, -1) := by
  simp only [d_lorentz_scale, d_spatial_scale]; norm_num
example : ¬ OutCanon4 (lorentz_scale.ret .xy .z .tau) (lorentz_scale.eval .xy .z .tau (-1) 0 0 0 1) := by
  simp only [d_lorentz_scale, d_spatial_scale, OutCanon4, OutCanonR, OutCanonL, AzOK, LonOK, TmpOK]; norm_num

example : OutCanon4 (lorentz_scale.ret .rhophi .theta .tau) (lorentz_scale.eval .rhophi .theta .tau 3 2 1 1 5) :=
  c13c_lorentz_scale .rhophi .theta .tau 3 2 1 1 5
    inAz_sample
    inLon_sample inTmp_sample (by norm_num)

/-! ### 3b. `unit` -/

/-- `lorentz_unit`, all 12 keys, ALL inputs: `ρ_out = ρ / norm ≥ 0` (`norm = √|τ²| ≥ 0` or `|τ|`), `φ`, `θ` are passed through,
and for `tau` keys `τ_out = copysign(1, τ) = 1` when `0 ≤ τ` (also at the light-like / `τ = 0` inputs, where the code divides by
zero). -/
theorem c13c_lorentz_unit_gen (k0 : Az) (k1 : Lon) (k2 : Tmp) (a0 a1 a2 a3 : ℝ)
    (h : InAz k0 a0 a1) (hl : InLon k1 a2) (ht : InTmp k2 a3) :
    OutCanon4 (lorentz_unit.ret k0 k1 k2) (lorentz_unit.eval k0 k1 k2 a0 a1 a2 a3) := by
  have hN : 0 ≤ unitNorm k0 k1 k2 a0 a1 a2 a3 := by
    cases k2
    · exact Real.sqrt_nonneg _
    · exact abs_nonneg _
  rw [lorentz_unit_eval_eq, lorentz_unit_ret_eq, outCanon4_iff]
  refine ⟨?_, ?_, ?_⟩
  · cases k0
    · trivial
    · exact ⟨div_nonneg h.1 hN, h.2⟩
  · cases k1
    · trivial
    · exact hl
    · trivial
  · cases k2
    · trivial
    · show 0 ≤ P.copysign 1 a3
      rw [P.copysign_of_nonneg _ (show (0 : ℝ) ≤ a3 from ht)]
      exact abs_nonneg _

/-- … in particular on the regular inputs of `unit` -/
theorem c13c_lorentz_unit (k0 : Az) (k1 : Lon) (k2 : Tmp) (a0 a1 a2 a3 : ℝ)
    (h : InAz k0 a0 a1) (hl : InLon k1 a2) (ht : InTmp k2 a3)
    (_hn : lorentz_tau2.eval k0 k1 k2 a0 a1 a2 a3 ≠ 0) :
    OutCanon4 (lorentz_unit.ret k0 k1 k2) (lorentz_unit.eval k0 k1 k2 a0 a1 a2 a3) :=
  c13c_lorentz_unit_gen k0 k1 k2 a0 a1 a2 a3 h hl ht

/-- signed behaviour of `unit` on `tau` keys: `τ_out = 1` for `0 ≤ τ`, `τ_out = -1` for `τ < 0`. -/
theorem c13c_lorentz_unit_tau_eq (k0 : Az) (k1 : Lon) (a0 a1 a2 a3 : ℝ) :
    (lorentz_unit.eval k0 k1 .tau a0 a1 a2 a3).2.2.2 = if 0 ≤ a3 then 1 else -1 := by
  cases k0 <;> cases k1 <;> simp only [d_lorentz_unit, P.copysign, abs_one]

example : OutCanon4 (lorentz_unit.ret .rhophi .theta .tau) (lorentz_unit.eval .rhophi .theta .tau 2 1 1 5) :=
  c13c_lorentz_unit .rhophi .theta .tau 2 1 1 5
    inAz_sample
    inLon_sample inTmp_sample
    (by simp only [d_lorentz_tau2, P.copysign]; norm_num)

/-! ### 3c. `to_beta3` (3D result, declared `[az, lon, None]`) -/

/-- `lorentz_to_beta3`, all 12 keys; for the polar keys the vector must have a POSITIVE time component (`t` stored,
or computed `√max(τ·|τ| + |p|², 0)` for `tau` keys): `ρ_out = ρ / t ≥ 0`; `φ`, `θ` are passed through.
The hypothesis `0 < t` is NOT granted by the property (a stored `t` may be negative), and it is needed:
see `c13c_lorentz_to_beta3_rho_neg`. -/
theorem c13c_lorentz_to_beta3_partial (k0 : Az) (k1 : Lon) (k2 : Tmp) (a0 a1 a2 a3 : ℝ)
    (h : InAz k0 a0 a1) (hl : InLon k1 a2) (ht : k0 = .rhophi → 0 < lorentz_t.eval k0 k1 k2 a0 a1 a2 a3) :
    OutCanon3 (lorentz_to_beta3.ret k0 k1 k2) (lorentz_to_beta3.eval k0 k1 k2 a0 a1 a2 a3) := by
  cases k0 <;> cases k1 <;> cases k2 <;>
    simp only [d_lorentz_to_beta3, OutCanon3, OutCanonR, OutCanonL, AzOK, LonOK, and_true, true_and]
  all_goals try (have ht := ht rfl)
  all_goals simp only [lorentz_t.eval, lorentz_t.rhophi_z_t, lorentz_t.rhophi_theta_t, lorentz_t.rhophi_eta_t] at ht
  -- what is left: `(xy, θ)`: `LonOK`; `(ρφ, z|η)`: `AzOK`; `(ρφ, θ)`: both
  all_goals first
    | exact hl
    | exact ⟨div_nonneg h.1 ht.le, h.2⟩
    | exact ⟨⟨div_nonneg h.1 ht.le, h.2⟩, hl⟩

/-- for `tau` keys the divisor is a square root, so `0 ≤ ρ_out` needs nothing but `0 ≤ ρ` and a non-zero divisor -/
theorem c13c_lorentz_to_beta3_tau (k0 : Az) (k1 : Lon) (a0 a1 a2 a3 : ℝ)
    (h : InAz k0 a0 a1) (hl : InLon k1 a2) (ht : lorentz_t.eval k0 k1 .tau a0 a1 a2 a3 ≠ 0) :
    OutCanon3 (lorentz_to_beta3.ret k0 k1 .tau) (lorentz_to_beta3.eval k0 k1 .tau a0 a1 a2 a3) := by
  apply c13c_lorentz_to_beta3_partial k0 k1 .tau a0 a1 a2 a3 h hl
  intro _
  refine lt_of_le_of_ne ?_ (Ne.symm ht)
  cases k0 <;> cases k1 <;> simp only [d_lorentz_t] <;> exact Real.sqrt_nonneg _

/-- FINDING: for the three polar `t` keys a NEGATIVE stored `t` gives a NEGATIVE stored `ρ_out = ρ / t`
(`0 < ρ`): the result of `to_beta3` leaves the representable domain `0 ≤ ρ`. -/
theorem c13c_lorentz_to_beta3_rho_neg (k1 : Lon) (a0 a1 a2 a3 : ℝ) (hr : 0 < a0) (ht : a3 < 0) :
    (lorentz_to_beta3.eval .rhophi k1 .t a0 a1 a2 a3).1 < 0 := by
  cases k1 <;> simp only [d_lorentz_to_beta3] <;> exact div_neg_of_pos_of_neg hr ht

/-- concrete counterexample: `(ρ, φ, z, t) = (1, 0, 0, -2)` ↦ `(ρ, φ, z) = (-1/2, 0, 0)` -/
example : lorentz_to_beta3.eval .rhophi .z .t 1 0 0 (-2) = (-1 / 2, 0, 0) := by
  simp only [d_lorentz_to_beta3]; norm_num
example : ¬ OutCanon3 (lorentz_to_beta3.ret .rhophi .z .t) (lorentz_to_beta3.eval .rhophi .z .t 1 0 0 (-2)) := by
  simp only [d_lorentz_to_beta3, OutCanon3, OutCanonR, OutCanonL, AzOK, LonOK]; norm_num

example : OutCanon3 (lorentz_to_beta3.ret .rhophi .theta .t) (lorentz_to_beta3.eval .rhophi .theta .t 2 1 1 5) :=
  c13c_lorentz_to_beta3_partial .rhophi .theta .t 2 1 1 5
    inAz_sample
    inLon_sample (fun _ => by simp only [d_lorentz_t]; norm_num)

/-! ### 3d. boosts and `transform4D`: Cartesian `xy`,`z` (except `boostZ_*`: azimuth passed through);
a stored `tau` is passed through unchanged -/

/-- what every boost returns (`keepTau`: Cartesian `z`; `t`, or the stored `tau` unchanged) is in range when the stored
`tau` and the azimuthal pair are -/
theorem outCanon4_keepTau {a : Az} {k2 : Tmp} {d : ℝ} {w : ℝ × ℝ × ℝ × ℝ} (ha : AzOK a w.1 w.2.1) (ht : InTmp k2 d) :
    OutCanon4 (.vec [.az a, .lon .z, .tmp k2]) (keepTau k2 d w) := by
  cases k2
  · exact outCanon4_iff.mpr ⟨ha, trivial, trivial⟩
  · exact outCanon4_iff.mpr ⟨ha, trivial, ht⟩

theorem c13c_lorentz_boostX_beta (k0 : Az) (k1 : Lon) (k2 : Tmp) (beta a0 a1 a2 a3 : ℝ) (ht : InTmp k2 a3) :
    OutCanon4 (lorentz_boostX_beta.ret k0 k1 k2) (lorentz_boostX_beta.eval k0 k1 k2 beta a0 a1 a2 a3) := by
  rw [lorentz_boostX_beta_ret_eq, lorentz_boostX_beta_eval_eq]; exact outCanon4_keepTau trivial ht
theorem c13c_lorentz_boostX_gamma (k0 : Az) (k1 : Lon) (k2 : Tmp) (gamma a0 a1 a2 a3 : ℝ) (ht : InTmp k2 a3) :
    OutCanon4 (lorentz_boostX_gamma.ret k0 k1 k2) (lorentz_boostX_gamma.eval k0 k1 k2 gamma a0 a1 a2 a3) := by
  rw [lorentz_boostX_gamma_ret_eq, lorentz_boostX_gamma_eval_eq]; exact outCanon4_keepTau trivial ht
theorem c13c_lorentz_boostY_beta (k0 : Az) (k1 : Lon) (k2 : Tmp) (beta a0 a1 a2 a3 : ℝ) (ht : InTmp k2 a3) :
    OutCanon4 (lorentz_boostY_beta.ret k0 k1 k2) (lorentz_boostY_beta.eval k0 k1 k2 beta a0 a1 a2 a3) := by
  rw [lorentz_boostY_beta_ret_eq, lorentz_boostY_beta_eval_eq]; exact outCanon4_keepTau trivial ht
theorem c13c_lorentz_boostY_gamma (k0 : Az) (k1 : Lon) (k2 : Tmp) (gamma a0 a1 a2 a3 : ℝ) (ht : InTmp k2 a3) :
    OutCanon4 (lorentz_boostY_gamma.ret k0 k1 k2) (lorentz_boostY_gamma.eval k0 k1 k2 gamma a0 a1 a2 a3) := by
  rw [lorentz_boostY_gamma_ret_eq, lorentz_boostY_gamma_eval_eq]; exact outCanon4_keepTau trivial ht

/-- `boostZ_beta`: polar inputs keep `(ρ, φ)` unchanged (so they are in range iff the input is), `z` is recomputed -/
theorem c13c_lorentz_boostZ_beta (k0 : Az) (k1 : Lon) (k2 : Tmp) (beta a0 a1 a2 a3 : ℝ)
    (h : InAz k0 a0 a1) (ht : InTmp k2 a3) :
    OutCanon4 (lorentz_boostZ_beta.ret k0 k1 k2) (lorentz_boostZ_beta.eval k0 k1 k2 beta a0 a1 a2 a3) := by
  rw [lorentz_boostZ_beta_ret_eq, lorentz_boostZ_beta_eval_eq]; exact outCanon4_keepTau h ht
theorem c13c_lorentz_boostZ_gamma (k0 : Az) (k1 : Lon) (k2 : Tmp) (gamma a0 a1 a2 a3 : ℝ)
    (h : InAz k0 a0 a1) (ht : InTmp k2 a3) :
    OutCanon4 (lorentz_boostZ_gamma.ret k0 k1 k2) (lorentz_boostZ_gamma.eval k0 k1 k2 gamma a0 a1 a2 a3) := by
  rw [lorentz_boostZ_gamma_ret_eq, lorentz_boostZ_gamma_eval_eq]; exact outCanon4_keepTau h ht

/-- the four X/Y boosts never return a polar azimuth or `theta` (the `…_ret_eq` tables of `Refine/LorentzBin.lean`) -/
theorem c13c_lorentz_boostXY_ret (k0 : Az) (k1 : Lon) (k2 : Tmp) :
    lorentz_boostX_beta.ret k0 k1 k2 = .vec [.az .xy, .lon .z, .tmp k2] ∧
    lorentz_boostX_gamma.ret k0 k1 k2 = .vec [.az .xy, .lon .z, .tmp k2] ∧
    lorentz_boostY_beta.ret k0 k1 k2 = .vec [.az .xy, .lon .z, .tmp k2] ∧
    lorentz_boostY_gamma.ret k0 k1 k2 = .vec [.az .xy, .lon .z, .tmp k2] :=
  ⟨lorentz_boostX_beta_ret_eq k0 k1 k2, lorentz_boostX_gamma_ret_eq k0 k1 k2, lorentz_boostY_beta_ret_eq k0 k1 k2,
    lorentz_boostY_gamma_ret_eq k0 k1 k2⟩
theorem c13c_lorentz_boostZ_ret (k0 : Az) (k1 : Lon) (k2 : Tmp) :
    lorentz_boostZ_beta.ret k0 k1 k2 = .vec [.az k0, .lon .z, .tmp k2] ∧
    lorentz_boostZ_gamma.ret k0 k1 k2 = .vec [.az k0, .lon .z, .tmp k2] :=
  ⟨lorentz_boostZ_beta_ret_eq k0 k1 k2, lorentz_boostZ_gamma_ret_eq k0 k1 k2⟩
theorem c13c_lorentz_boost_beta3_ret (k0 : Az) (k1 : Lon) (k2 : Tmp) (k3 : Az) (k4 : Lon) :
    lorentz_boost_beta3.ret k0 k1 k2 k3 k4 = .vec [.az .xy, .lon .z, .tmp k2] :=
  lorentz_boost_beta3_ret_eq k0 k1 k2 k3 k4
theorem c13c_lorentz_boost_p4_ret (k0 : Az) (k1 : Lon) (k2 : Tmp) (k3 : Az) (k4 : Lon) (k5 : Tmp) :
    lorentz_boost_p4.ret k0 k1 k2 k3 k4 k5 = .vec [.az .xy, .lon .z, .tmp k2] :=
  lorentz_boost_p4_ret_eq k0 k1 k2 k3 k4 k5

/-- a stored `tau` goes through `boost_beta3` / `boost_p4` unchanged (all `tau` keys) -/
theorem c13c_lorentz_boost_beta3_tau_eq (k0 : Az) (k1 : Lon) (k3 : Az) (k4 : Lon) (a0 a1 a2 a3 b0 b1 b2 : ℝ) :
    (lorentz_boost_beta3.eval k0 k1 .tau k3 k4 a0 a1 a2 a3 b0 b1 b2).2.2.2 = a3 :=
  refine_lorentz_boost_beta3_tau_stored k0 k1 k3 k4 a0 a1 a2 a3 b0 b1 b2
theorem c13c_lorentz_boost_p4_tau_eq (k0 : Az) (k1 : Lon) (k3 : Az) (k4 : Lon) (k5 : Tmp)
    (a0 a1 a2 a3 b0 b1 b2 b3 : ℝ) :
    (lorentz_boost_p4.eval k0 k1 .tau k3 k4 k5 a0 a1 a2 a3 b0 b1 b2 b3).2.2.2 = a3 :=
  refine_lorentz_boost_p4_tau_stored k0 k1 k3 k4 k5 a0 a1 a2 a3 b0 b1 b2 b3

theorem c13c_lorentz_boost_beta3 (k0 : Az) (k1 : Lon) (k2 : Tmp) (k3 : Az) (k4 : Lon)
    (a0 a1 a2 a3 b0 b1 b2 : ℝ) (ht : InTmp k2 a3) :
    OutCanon4 (lorentz_boost_beta3.ret k0 k1 k2 k3 k4) (lorentz_boost_beta3.eval k0 k1 k2 k3 k4 a0 a1 a2 a3 b0 b1 b2) := by
  rw [lorentz_boost_beta3_ret_eq, lorentz_boost_beta3_eval_eq, lorentz_boost_beta3_cart_eq]
  exact outCanon4_keepTau trivial ht

theorem c13c_lorentz_boost_p4 (k0 : Az) (k1 : Lon) (k2 : Tmp) (k3 : Az) (k4 : Lon) (k5 : Tmp)
    (a0 a1 a2 a3 b0 b1 b2 b3 : ℝ) (ht : InTmp k2 a3) :
    OutCanon4 (lorentz_boost_p4.ret k0 k1 k2 k3 k4 k5)
      (lorentz_boost_p4.eval k0 k1 k2 k3 k4 k5 a0 a1 a2 a3 b0 b1 b2 b3) := by
  rw [lorentz_boost_p4_ret_eq, lorentz_boost_p4_eval_eq]
  cases k2 <;> cases k5 <;> exact outCanon4_iff.mpr ⟨trivial, trivial, ht⟩

/-- `transform4D` always returns `xy`, `z`, `t`: nothing to prove -/
theorem c13c_lorentz_transform4D (k0 : Az) (k1 : Lon) (k2 : Tmp) (v : ℝ × ℝ × ℝ × ℝ) :
    OutCanon4 (lorentz_transform4D.ret k0 k1 k2) v := by
  rw [lorentz_transform4D_ret_eq]; exact outCanon4_iff.mpr ⟨trivial, trivial, trivial⟩

example : OutCanon4 (lorentz_boostZ_beta.ret .rhophi .eta .tau) (lorentz_boostZ_beta.eval .rhophi .eta .tau 0.5 2 1 1 5) :=
  c13c_lorentz_boostZ_beta .rhophi .eta .tau 0.5 2 1 1 5
    inAz_sample inTmp_sample

/-! ### 3e. `add`, `subtract` -/

section AddSub
open Spec

/-- `lorentz_add`, all 144 key pairs, NO hypothesis: the spatial part of the result is in range
(it is the result of `spatial_add`, see `c13c_spatial_add`). -/
theorem c13c_lorentz_add_partial (k0 : Az) (k1 : Lon) (k2 : Tmp) (k3 : Az) (k4 : Lon) (k5 : Tmp)
    (a0 a1 a2 a3 a4 a5 a6 a7 : ℝ) :
    OutCanonS4 (lorentz_add.ret k0 k1 k2 k3 k4 k5) (lorentz_add.eval k0 k1 k2 k3 k4 k5 a0 a1 a2 a3 a4 a5 a6 a7) := by
  have hS := c13c_spatial_add k0 k1 k3 k4 a0 a1 a2 a4 a5 a6
  rw [spatial_add_ret_eq] at hS
  rw [lorentz_add_eval_eq, lorentz_add_ret_eq]
  exact outCanonR_snoc hS (by cases k2 <;> cases k5 <;> trivial)

theorem c13c_lorentz_subtract_partial (k0 : Az) (k1 : Lon) (k2 : Tmp) (k3 : Az) (k4 : Lon) (k5 : Tmp)
    (a0 a1 a2 a3 a4 a5 a6 a7 : ℝ) :
    OutCanonS4 (lorentz_subtract.ret k0 k1 k2 k3 k4 k5)
      (lorentz_subtract.eval k0 k1 k2 k3 k4 k5 a0 a1 a2 a3 a4 a5 a6 a7) := by
  have hS := c13c_spatial_subtract k0 k1 k3 k4 a0 a1 a2 a4 a5 a6
  rw [spatial_subtract_ret_eq] at hS
  rw [lorentz_subtract_eval_eq, lorentz_subtract_ret_eq]
  exact outCanonR_snoc hS (by cases k2 <;> cases k5 <;> trivial)

/-- `lorentz_add`, all 144 key pairs: the WHOLE result is in range, in particular for the 36 `tau + tau` keys
`0 ≤ τ_out` when both inputs have `0 ≤ τ` (the sum of two future-directed causal vectors is causal:
`|p₁ + p₂| ≤ t₁ + t₂`, so `τ_out = copysign(√|s|, s)` with `s = (t₁+t₂)² − |p₁+p₂|² ≥ 0`).
Hypotheses as in `refine_lorentz_add`: inputs away from the singular `θ` (`tan`, `sin`), and a result declared with
`θ`/`η` off the z axis. -/
theorem c13c_lorentz_add (k0 : Az) (k1 : Lon) (k2 : Tmp) (k3 : Az) (k4 : Lon) (k5 : Tmp)
    (a0 a1 a2 a3 a4 a5 a6 a7 : ℝ)
    (h1 : TanOK k1 a2) (h2 : TanOK k4 a6) (hs1 : SinOK k1 a2) (hs2 : SinOK k4 a6)
    (hd1 : InTmp k2 a3) (hd2 : InTmp k5 a7)
    (hrep : Representable3 (spatial_add.ret k0 k1 k3 k4) (add3 (cart3 k0 k1 a0 a1 a2) (cart3 k3 k4 a4 a5 a6))) :
    OutCanon4 (lorentz_add.ret k0 k1 k2 k3 k4 k5) (lorentz_add.eval k0 k1 k2 k3 k4 k5 a0 a1 a2 a3 a4 a5 a6 a7) := by
  have hS3 := c13c_spatial_add k0 k1 k3 k4 a0 a1 a2 a4 a5 a6
  rw [spatial_add_ret_eq] at hS3
  rw [lorentz_add_eval_eq, lorentz_add_ret_eq]
  refine outCanonR_snoc hS3 ?_
  cases k2 <;> cases k5 <;> simp only [TmpOK]
  have hd1' : CanonTmp .tau a3 := hd1
  have hd2' : CanonTmp .tau a7 := hd2
  rw [addForm4_tau_nonneg_iff k0 k1 k3 k4 a0 a1 a2 a3 a4 a5 a6 a7 (spatial_add_ret_eq k0 k1 k3 k4)
      (refine_spatial_add k0 k1 k3 k4 a0 a1 a2 a4 a5 a6 h1 h2 hrep) (spatial_add_sinOK k0 k1 k3 k4 a0 a1 a2 a4 a5 a6 hrep),
    lorentz_t_eq_tOf k0 k1 .tau a0 a1 a2 a3 hs1 hd1', lorentz_t_eq_tOf k3 k4 .tau a4 a5 a6 a7 hs2 hd2',
    tOf_tau_eq, tOf_tau_eq]
  exact (L.causal_add _ _ _ (a3 ^ 2) _ _ _ (a7 ^ 2) (sq_nonneg _) (sq_nonneg _)).2

/-- `lorentz_subtract`, the 36 `tau − tau` key pairs — the precise SIGNED behaviour of the stored `tau`:
`0 ≤ τ_out` iff the exact difference is causal, `|p₁ − p₂|² ≤ (t₁ − t₂)²` (otherwise `τ_out < 0`,
the library's convention for a space-like vector). The domain `0 ≤ τ` is NOT closed under `subtract`. -/
theorem c13c_lorentz_subtract_tau_nonneg_iff (k0 : Az) (k1 : Lon) (k3 : Az) (k4 : Lon)
    (a0 a1 a2 a3 a4 a5 a6 a7 : ℝ)
    (h1 : TanOK k1 a2) (h2 : TanOK k4 a6) (hs1 : SinOK k1 a2) (hs2 : SinOK k4 a6)
    (hd1 : 0 ≤ a3) (hd2 : 0 ≤ a7)
    (hrep : Representable3 (spatial_subtract.ret k0 k1 k3 k4) (sub3 (cart3 k0 k1 a0 a1 a2) (cart3 k3 k4 a4 a5 a6))) :
    0 ≤ (lorentz_subtract.eval k0 k1 .tau k3 k4 .tau a0 a1 a2 a3 a4 a5 a6 a7).2.2.2 ↔
      (xOf k0 a0 a1 - xOf k3 a4 a5) ^ 2 + (yOf k0 a0 a1 - yOf k3 a4 a5) ^ 2
          + (zOf k0 k1 a0 a1 a2 - zOf k3 k4 a4 a5 a6) ^ 2
        ≤ (tOf k0 k1 .tau a0 a1 a2 a3 - tOf k3 k4 .tau a4 a5 a6 a7) ^ 2 := by
  have hd1' : CanonTmp .tau a3 := hd1
  have hd2' : CanonTmp .tau a7 := hd2
  rw [lorentz_subtract_eval_eq,
    addForm4_tau_nonneg_iff k0 k1 k3 k4 a0 a1 a2 a3 a4 a5 a6 a7 (spatial_subtract_ret_eq k0 k1 k3 k4)
      (refine_spatial_subtract k0 k1 k3 k4 a0 a1 a2 a4 a5 a6 h1 h2 hrep)
      (spatial_subtract_sinOK k0 k1 k3 k4 a0 a1 a2 a4 a5 a6 hrep),
    lorentz_t_eq_tOf k0 k1 .tau a0 a1 a2 a3 hs1 hd1', lorentz_t_eq_tOf k3 k4 .tau a4 a5 a6 a7 hs2 hd2']
  rfl

/-- `lorentz_subtract`, all 144 key pairs: the whole result is in range PROVIDED, for `tau − tau`, the exact
difference is causal (`hc`).  Without `hc` the stored `tau` is negative: see the counterexample below. -/
theorem c13c_lorentz_subtract (k0 : Az) (k1 : Lon) (k2 : Tmp) (k3 : Az) (k4 : Lon) (k5 : Tmp)
    (a0 a1 a2 a3 a4 a5 a6 a7 : ℝ)
    (h1 : TanOK k1 a2) (h2 : TanOK k4 a6) (hs1 : SinOK k1 a2) (hs2 : SinOK k4 a6)
    (hd1 : InTmp k2 a3) (hd2 : InTmp k5 a7)
    (hrep : Representable3 (spatial_subtract.ret k0 k1 k3 k4) (sub3 (cart3 k0 k1 a0 a1 a2) (cart3 k3 k4 a4 a5 a6)))
    (hc : k2 = .tau → k5 = .tau →
      (xOf k0 a0 a1 - xOf k3 a4 a5) ^ 2 + (yOf k0 a0 a1 - yOf k3 a4 a5) ^ 2
          + (zOf k0 k1 a0 a1 a2 - zOf k3 k4 a4 a5 a6) ^ 2
        ≤ (tOf k0 k1 .tau a0 a1 a2 a3 - tOf k3 k4 .tau a4 a5 a6 a7) ^ 2) :
    OutCanon4 (lorentz_subtract.ret k0 k1 k2 k3 k4 k5)
      (lorentz_subtract.eval k0 k1 k2 k3 k4 k5 a0 a1 a2 a3 a4 a5 a6 a7) := by
  have hS3 := c13c_spatial_subtract k0 k1 k3 k4 a0 a1 a2 a4 a5 a6
  rw [spatial_subtract_ret_eq] at hS3
  rw [lorentz_subtract_eval_eq, lorentz_subtract_ret_eq]
  refine outCanonR_snoc hS3 ?_
  cases k2 <;> cases k5 <;> simp only [TmpOK]
  have ht := (c13c_lorentz_subtract_tau_nonneg_iff k0 k1 k3 k4 a0 a1 a2 a3 a4 a5 a6 a7 h1 h2 hs1 hs2 hd1 hd2 hrep).2
    (hc rfl rfl)
  rw [lorentz_subtract_eval_eq] at ht
  exact ht

/-- concrete counterexample (`tau − tau`): the light-like `(x, y, z, τ) = (1, 0, 0, 0)` (so `t = 1`) minus the
particle at rest `(0, 0, 0, 1)` (`t = 1`) is stored as `(1, 0, 0, -1)`: `τ_out = -1 < 0`. -/
example : lorentz_subtract.eval .xy .z .tau .xy .z .tau 1 0 0 0 0 0 0 1 = (1, 0, 0, -1) := by
  simp only [d_lorentz_subtract, d_spatial_subtract, d_lorentz_t, d_lorentz_t2, d_lorentz_tau, d_lorentz_tau2,
    d_spatial_mag2, P.copysign]
  norm_num

/-- the hypotheses are satisfiable at a non-trivial point: `(ρ, φ, θ, τ) = (2, 0, 1, 5)` plus `(1, 0, 1, 3)`
(result declared `rhophi`, `theta`, `tau`) -/
example : OutCanon4 (lorentz_add.ret .rhophi .theta .tau .rhophi .theta .tau)
    (lorentz_add.eval .rhophi .theta .tau .rhophi .theta .tau 2 0 1 5 1 0 1 3) :=
  c13c_lorentz_add .rhophi .theta .tau .rhophi .theta .tau 2 0 1 5 1 0 1 3
    (Spec.tanOK_one .theta) (Spec.tanOK_one .theta)
    (Spec.sinOK_one .theta)
    (Spec.sinOK_one .theta)
    (by show (0 : ℝ) ≤ 5; norm_num) (by show (0 : ℝ) ≤ 3; norm_num)
    (Or.inr (by norm_num [add3, cart3, xOf, yOf]))

end AddSub

end VR
