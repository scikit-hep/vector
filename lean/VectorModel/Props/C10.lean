/-
C10 — rotations are proper rotations and their spellings agree.
Theorems about the *generated* real-number model of
`_compute/planar/rotateZ.py` and `_compute/spatial/{rotateX,rotateY,rotate_axis,rotate_euler,rotate_quaternion}.py`
(Cartesian variants; every other coordinate system is, by construction of the code, the Cartesian
variant composed with the coordinate accessors).
-/
import VectorModel.Refine.SpatialRot

namespace VR
open VK

/-! ## Specification: the three active right-handed axis rotations of ℝ³ -/
namespace Spec10

/-- a point / vector of ℝ³ as the generated code returns it -/
abbrev V3 := ℝ × ℝ × ℝ

/-- active right-handed rotation by `a` about the x axis -/
noncomputable def Rx (a : ℝ) (v : V3) : V3 :=
  (v.1, v.2.1 * Real.cos a - v.2.2 * Real.sin a, v.2.1 * Real.sin a + v.2.2 * Real.cos a)
/-- active right-handed rotation by `a` about the y axis -/
noncomputable def Ry (a : ℝ) (v : V3) : V3 :=
  (v.1 * Real.cos a + v.2.2 * Real.sin a, v.2.1, -v.1 * Real.sin a + v.2.2 * Real.cos a)
/-- active right-handed rotation by `a` about the z axis -/
noncomputable def Rz (a : ℝ) (v : V3) : V3 :=
  (v.1 * Real.cos a - v.2.1 * Real.sin a, v.1 * Real.sin a + v.2.1 * Real.cos a, v.2.2)

def dot3 (a b : V3) : ℝ := a.1 * b.1 + a.2.1 * b.2.1 + a.2.2 * b.2.2
def cross3 (a b : V3) : V3 :=
  (a.2.1 * b.2.2 - a.2.2 * b.2.1, a.2.2 * b.1 - a.1 * b.2.2, a.1 * b.2.1 - a.2.1 * b.1)

inductive Axis | x | y | z

noncomputable def R : Axis → ℝ → V3 → V3
  | .x => Rx | .y => Ry | .z => Rz

/-- the three letters of an Euler order, left to right -/
def axes : Ord → Axis × Axis × Axis
  | .xzx => (.x, .z, .x) | .xyx => (.x, .y, .x) | .yxy => (.y, .x, .y) | .yzy => (.y, .z, .y)
  | .zyz => (.z, .y, .z) | .zxz => (.z, .x, .z) | .xzy => (.x, .z, .y) | .xyz => (.x, .y, .z)
  | .yxz => (.y, .x, .z) | .yzx => (.y, .z, .x) | .zyx => (.z, .y, .x) | .zxy => (.z, .x, .y)

def rev : Ord → Ord
  | .xzx => .xzx | .xyx => .xyx | .yxy => .yxy | .yzy => .yzy | .zyz => .zyz | .zxz => .zxz
  | .xzy => .yzx | .xyz => .zyx | .yxz => .zxy | .yzx => .xzy | .zyx => .xyz | .zxy => .yxz

def ap (f : ℝ → ℝ → ℝ → V3) (v : V3) : V3 := f v.1 v.2.1 v.2.2

/-- Rodrigues' formula about the unit vector `(e1,e2,e3)` with `c = cos a`, `s = sin a`: the polynomial normal
form of `rotate_axis` (see `c10_rotate_axis_eq_rod`). -/
def rod (e1 e2 e3 c s x y z : ℝ) : V3 :=
  ((c + e1 ^ 2 * (1 - c)) * x + (e1 * e2 * (1 - c) - e3 * s) * y + (e1 * e3 * (1 - c) + e2 * s) * z,
   (e1 * e2 * (1 - c) + e3 * s) * x + (c + e2 ^ 2 * (1 - c)) * y + (e2 * e3 * (1 - c) - e1 * s) * z,
   (e1 * e3 * (1 - c) - e2 * s) * x + (e2 * e3 * (1 - c) + e1 * s) * y + (c + e3 ^ 2 * (1 - c)) * z)

end Spec10
open Spec10

/-! ## 1. rotateX / rotateY / rotateZ are the axis rotations -/

theorem c10_rotateX_eq_Rx (a x y z : ℝ) : spatial_rotateX.xy_z a x y z = Rx a (x, y, z) := by
  simp only [d_spatial_rotateX, Rx]
  refine Prod.ext ?_ (Prod.ext ?_ ?_) <;> simp only <;> ring

theorem c10_rotateY_eq_Ry (a x y z : ℝ) : spatial_rotateY.xy_z a x y z = Ry a (x, y, z) := by
  simp only [d_spatial_rotateY, Ry]
  refine Prod.ext ?_ (Prod.ext ?_ ?_) <;> simp only <;> ring

theorem c10_rotateZ_eq_Rz (a x y z : ℝ) :
    planar_rotateZ.xy a x y = ((Rz a (x, y, z)).1, (Rz a (x, y, z)).2.1) ∧ (Rz a (x, y, z)).2.2 = z := by
  simp only [d_planar_rotateZ, Rz]
  refine ⟨Prod.ext ?_ ?_, trivial⟩ <;> simp only <;> ring

/-! ## 2. rotate_euler

The single rule implemented by all twelve `cartesian_<o₁o₂o₃>` functions (ROOT's convention: arguments in the
order φ, θ, ψ, every angle taken with the opposite sign of the Wikipedia matrices `O₁(α₁) O₂(α₂) O₃(α₃)`):

  `rotate_euler(φ, θ, ψ, order = o₁o₂o₃) v = R_{o₁}(-ψ) (R_{o₂}(-θ) (R_{o₃}(-φ) v))`

i.e. first rotate by `-φ` about the LAST letter, then by `-θ` about the middle one, then by `-ψ` about the first. -/

/-- the rule above, for every `Ord` key of the dispatcher (Cartesian input); each of the twelve cases is the
expansion of one hand-written `cartesian_<order>` function -/
theorem c10_euler_eval (o : Ord) (phi theta psi x y z : ℝ) :
    spatial_rotate_euler.eval .xy .z o phi theta psi x y z =
      R (axes o).1 (-psi) (R (axes o).2.1 (-theta) (R (axes o).2.2 (-phi) (x, y, z))) := by
  cases o <;>
    simp only [spatial_rotate_euler.eval, d_spatial_rotate_euler, axes, R, Rx, Ry, Rz, Real.cos_neg,
      Real.sin_neg] <;>
    refine Prod.ext ?_ (Prod.ext ?_ ?_) <;> simp only <;> ring

theorem c10_euler_yxz (phi theta psi x y z : ℝ) :
    spatial_rotate_euler.cartesian_yxz phi theta psi x y z =
      Ry (-psi) (Rx (-theta) (Rz (-phi) (x, y, z))) :=
  c10_euler_eval .yxz phi theta psi x y z

/-- `rotate_nautical(yaw, pitch, roll)` is *defined* in the method layer as
`rotate_euler.dispatch(roll, pitch, yaw, "zyx", v)`; in terms of axis rotations that call is
`Rz(-yaw) ∘ Ry(-pitch) ∘ Rx(-roll)`. -/
theorem c10_nautical_zyx (yaw pitch roll x y z : ℝ) :
    spatial_rotate_euler.eval .xy .z .zyx roll pitch yaw x y z =
      Rz (-yaw) (Ry (-pitch) (Rx (-roll) (x, y, z))) :=
  c10_euler_eval .zyx roll pitch yaw x y z

/-! ## 3. rotate_axis: normal form, coordinate axes, independence of the axis length, quaternion spelling -/

/-- `rotate_axis` is Rodrigues' formula about the normalised axis (no hypothesis: purely syntactic). -/
theorem c10_rotate_axis_eq_rod (a ux uy uz x y z : ℝ) :
    spatial_rotate_axis.cartesian a ux uy uz x y z =
      rod (ux / Real.sqrt (ux ^ 2 + uy ^ 2 + uz ^ 2)) (uy / Real.sqrt (ux ^ 2 + uy ^ 2 + uz ^ 2))
        (uz / Real.sqrt (ux ^ 2 + uy ^ 2 + uz ^ 2)) (Real.cos a) (Real.sin a) x y z := by
  simp only [spatial_rotate_axis.cartesian, rod]

theorem c10_unit_axis {ux uy uz : ℝ} (h : 0 < ux ^ 2 + uy ^ 2 + uz ^ 2) {n : ℝ}
    (hn : n = Real.sqrt (ux ^ 2 + uy ^ 2 + uz ^ 2)) : (ux / n) ^ 2 + (uy / n) ^ 2 + (uz / n) ^ 2 = 1 := by
  rw [div_pow, div_pow, div_pow, ← add_div, ← add_div, hn, Real.sq_sqrt h.le]
  exact div_self h.ne'

/-! ### rotate_axis about a coordinate axis is rotateX / rotateY / rotateZ (any positive axis length) -/

private theorem sqrt_axis (a b c : ℝ) {k : ℝ} (hk : 0 < k) (h : a ^ 2 + b ^ 2 + c ^ 2 = k ^ 2) :
    Real.sqrt (a ^ 2 + b ^ 2 + c ^ 2) = k := by
  rw [h, Real.sqrt_sq hk.le]

theorem c10_rotate_axis_ex (a k x y z : ℝ) (hk : 0 < k) :
    spatial_rotate_axis.cartesian a k 0 0 x y z = spatial_rotateX.xy_z a x y z := by
  simp only [spatial_rotate_axis.cartesian, spatial_rotateX.xy_z, sqrt_axis k 0 0 hk (by ring), div_self hk.ne', zero_div]
  refine Prod.ext ?_ (Prod.ext ?_ ?_) <;> simp only <;> ring

theorem c10_rotate_axis_ey (a k x y z : ℝ) (hk : 0 < k) :
    spatial_rotate_axis.cartesian a 0 k 0 x y z = spatial_rotateY.xy_z a x y z := by
  simp only [spatial_rotate_axis.cartesian, spatial_rotateY.xy_z, sqrt_axis 0 k 0 hk (by ring), div_self hk.ne', zero_div]
  refine Prod.ext ?_ (Prod.ext ?_ ?_) <;> simp only <;> ring

/-- the spatial `rotateZ` is the planar `rotateZ` on `(x, y)` with `z` carried along -/
theorem c10_rotate_axis_ez (a k x y z : ℝ) (hk : 0 < k) :
    spatial_rotate_axis.cartesian a 0 0 k x y z =
      ((planar_rotateZ.xy a x y).1, (planar_rotateZ.xy a x y).2, z) := by
  simp only [spatial_rotate_axis.cartesian, planar_rotateZ.xy, sqrt_axis 0 0 k hk (by ring), div_self hk.ne', zero_div]
  refine Prod.ext ?_ (Prod.ext ?_ ?_) <;> simp only <;> ring

example : spatial_rotate_axis.cartesian 1 1 0 0 1 2 3 = spatial_rotateX.xy_z 1 1 2 3 :=
  c10_rotate_axis_ex 1 1 1 2 3 one_pos

/-! ### the axis length is ignored; reversing the axis reverses the angle -/

theorem c10_rotate_axis_scale (a k ux uy uz x y z : ℝ) (hk : 0 < k) (_hu : 0 < ux ^ 2 + uy ^ 2 + uz ^ 2) :
    spatial_rotate_axis.cartesian a (k * ux) (k * uy) (k * uz) x y z =
      spatial_rotate_axis.cartesian a ux uy uz x y z := by
  have hs : Real.sqrt ((k * ux) ^ 2 + (k * uy) ^ 2 + (k * uz) ^ 2) = k * Real.sqrt (ux ^ 2 + uy ^ 2 + uz ^ 2) := by
    rw [show (k * ux) ^ 2 + (k * uy) ^ 2 + (k * uz) ^ 2 = k ^ 2 * (ux ^ 2 + uy ^ 2 + uz ^ 2) by ring,
      Real.sqrt_mul (sq_nonneg k), Real.sqrt_sq hk.le]
  simp only [spatial_rotate_axis.cartesian, hs, mul_div_mul_left _ _ hk.ne']

theorem c10_rotate_axis_neg_axis (a ux uy uz x y z : ℝ) (_hu : 0 < ux ^ 2 + uy ^ 2 + uz ^ 2) :
    spatial_rotate_axis.cartesian a (-ux) (-uy) (-uz) x y z =
      spatial_rotate_axis.cartesian (-a) ux uy uz x y z := by
  simp only [spatial_rotate_axis.cartesian, neg_sq, Real.cos_neg, Real.sin_neg, neg_div]
  refine Prod.ext ?_ (Prod.ext ?_ ?_) <;> simp only <;> ring

example : spatial_rotate_axis.cartesian 1 (2 * 1) (2 * 2) (2 * 3) 1 0 0 = spatial_rotate_axis.cartesian 1 1 2 3 1 0 0 :=
  c10_rotate_axis_scale 1 2 1 2 3 1 0 0 two_pos (by norm_num)

/-! ### rotate_quaternion with `(cos(a/2), n̂ sin(a/2))` is rotate_axis `(n, a)` -/

private theorem quat_eq_rod (e1 e2 e3 ch sh x y z : ℝ) (he : e1 ^ 2 + e2 ^ 2 + e3 ^ 2 = 1)
    (hh : ch ^ 2 + sh ^ 2 = 1) :
    spatial_rotate_quaternion.cartesian ch (e1 * sh) (e2 * sh) (e3 * sh) x y z =
      rod e1 e2 e3 (ch ^ 2 - sh ^ 2) (2 * sh * ch) x y z := by
  simp only [spatial_rotate_quaternion.cartesian, rod]
  refine Prod.ext ?_ (Prod.ext ?_ ?_) <;> simp only
  · linear_combination (ch^2*x - x) * he + (e1*e2*y + e1*e3*z - e2^2*x - e3^2*x + x) * hh
  · linear_combination (-sh^2*y) * he + (e1*e2*x + e2^2*y + e2*e3*z) * hh
  · linear_combination (-sh^2*z) * he + (e1*e3*x + e2*e3*y + e3^2*z) * hh

theorem c10_quaternion_eq_rotate_axis (a n1 n2 n3 x y z : ℝ) (hn : 0 < n1 ^ 2 + n2 ^ 2 + n3 ^ 2) :
    spatial_rotate_quaternion.cartesian (Real.cos (a / 2))
        (n1 / Real.sqrt (n1 ^ 2 + n2 ^ 2 + n3 ^ 2) * Real.sin (a / 2))
        (n2 / Real.sqrt (n1 ^ 2 + n2 ^ 2 + n3 ^ 2) * Real.sin (a / 2))
        (n3 / Real.sqrt (n1 ^ 2 + n2 ^ 2 + n3 ^ 2) * Real.sin (a / 2)) x y z =
      spatial_rotate_axis.cartesian a n1 n2 n3 x y z := by
  rw [c10_rotate_axis_eq_rod]
  conv_rhs => rw [← mul_div_cancel₀ a two_ne_zero, Real.cos_two_mul', Real.sin_two_mul]
  exact quat_eq_rod _ _ _ _ _ x y z (c10_unit_axis hn rfl) (Real.cos_sq_add_sin_sq (a / 2))

theorem c10_quaternion_eq_rotate_axis_unit (a n1 n2 n3 x y z : ℝ) (hn : n1 ^ 2 + n2 ^ 2 + n3 ^ 2 = 1) :
    spatial_rotate_quaternion.cartesian (Real.cos (a / 2)) (n1 * Real.sin (a / 2)) (n2 * Real.sin (a / 2))
        (n3 * Real.sin (a / 2)) x y z =
      spatial_rotate_axis.cartesian a n1 n2 n3 x y z := by
  have h := c10_quaternion_eq_rotate_axis a n1 n2 n3 x y z (by rw [hn]; exact one_pos)
  rw [hn, Real.sqrt_one] at h
  simpa only [div_one] using h

theorem c10_axis_angle_quaternion_unit (a n1 n2 n3 : ℝ) (hn : n1 ^ 2 + n2 ^ 2 + n3 ^ 2 = 1) :
    Real.cos (a / 2) ^ 2 + (n1 * Real.sin (a / 2)) ^ 2 + (n2 * Real.sin (a / 2)) ^ 2 +
      (n3 * Real.sin (a / 2)) ^ 2 = 1 := by
  linear_combination (Real.sin (a / 2) ^ 2) * hn + Real.cos_sq_add_sin_sq (a / 2)

theorem c10_quaternion_neg (u i j k x y z : ℝ) :
    spatial_rotate_quaternion.cartesian (-u) (-i) (-j) (-k) x y z =
      spatial_rotate_quaternion.cartesian u i j k x y z := by
  simp only [spatial_rotate_quaternion.cartesian, neg_mul_neg]

example : spatial_rotate_quaternion.cartesian (Real.cos (1 / 2)) (0 * Real.sin (1 / 2)) (0 * Real.sin (1 / 2))
    (1 * Real.sin (1 / 2)) 1 2 3 = spatial_rotate_axis.cartesian 1 0 0 1 1 2 3 :=
  c10_quaternion_eq_rotate_axis_unit 1 0 0 1 1 2 3 (by norm_num)

/-! ## 4. proper rotations: dot product (hence length) and cross product (handedness) are preserved,
angles about a fixed axis add, the opposite angle inverts -/

/-! ### the specification rotations themselves -/

theorem c10_R_dot (ax : Axis) (a : ℝ) (v w : V3) : dot3 (R ax a v) (R ax a w) = dot3 v w := by
  obtain ⟨x, y, z⟩ := v
  obtain ⟨x2, y2, z2⟩ := w
  cases ax <;> simp only [R, Rx, Ry, Rz, dot3]
  · linear_combination (y * y2 + z * z2) * Real.cos_sq_add_sin_sq a
  · linear_combination (x * x2 + z * z2) * Real.cos_sq_add_sin_sq a
  · linear_combination (x * x2 + y * y2) * Real.cos_sq_add_sin_sq a

theorem c10_R_cross (ax : Axis) (a : ℝ) (v w : V3) : R ax a (cross3 v w) = cross3 (R ax a v) (R ax a w) := by
  obtain ⟨x, y, z⟩ := v
  obtain ⟨x2, y2, z2⟩ := w
  cases ax <;> simp only [R, Rx, Ry, Rz, cross3] <;> refine Prod.ext ?_ (Prod.ext ?_ ?_) <;> simp only
  · linear_combination (-(y * z2 - z * y2)) * Real.cos_sq_add_sin_sq a
  · ring
  · ring
  · ring
  · linear_combination (-(z * x2 - x * z2)) * Real.cos_sq_add_sin_sq a
  · ring
  · ring
  · ring
  · linear_combination (-(x * y2 - y * x2)) * Real.cos_sq_add_sin_sq a

theorem c10_R_add (ax : Axis) (a b : ℝ) (v : V3) : R ax (a + b) v = R ax a (R ax b v) := by
  obtain ⟨x, y, z⟩ := v
  cases ax <;> simp only [R, Rx, Ry, Rz, Real.cos_add, Real.sin_add] <;>
    refine Prod.ext ?_ (Prod.ext ?_ ?_) <;> simp only <;> ring

theorem c10_R_zero (ax : Axis) (v : V3) : R ax 0 v = v := by
  obtain ⟨x, y, z⟩ := v
  cases ax <;> simp only [R, Rx, Ry, Rz, Real.cos_zero, Real.sin_zero] <;>
    refine Prod.ext ?_ (Prod.ext ?_ ?_) <;> simp only <;> ring

theorem c10_R_inv (ax : Axis) (a : ℝ) (v : V3) : R ax (-a) (R ax a v) = v := by
  rw [← c10_R_add, neg_add_cancel, c10_R_zero]

theorem c10_R_inv' (ax : Axis) (a : ℝ) (v : V3) : R ax a (R ax (-a) v) = v := by
  rw [← c10_R_add, add_neg_cancel, c10_R_zero]

/-! ### rotateX, rotateY (generated code) -/

theorem c10_rotateX_ap (a : ℝ) (v : V3) : ap (spatial_rotateX.xy_z a) v = R .x a v :=
  c10_rotateX_eq_Rx a v.1 v.2.1 v.2.2
theorem c10_rotateY_ap (a : ℝ) (v : V3) : ap (spatial_rotateY.xy_z a) v = R .y a v :=
  c10_rotateY_eq_Ry a v.1 v.2.1 v.2.2

theorem c10_rotateX_dot (a : ℝ) (v w : V3) :
    dot3 (ap (spatial_rotateX.xy_z a) v) (ap (spatial_rotateX.xy_z a) w) = dot3 v w := by
  simp only [c10_rotateX_ap, c10_R_dot]
theorem c10_rotateX_cross (a : ℝ) (v w : V3) :
    ap (spatial_rotateX.xy_z a) (cross3 v w) =
      cross3 (ap (spatial_rotateX.xy_z a) v) (ap (spatial_rotateX.xy_z a) w) := by
  simp only [c10_rotateX_ap, c10_R_cross]
theorem c10_rotateX_add (a b : ℝ) (v : V3) :
    ap (spatial_rotateX.xy_z (a + b)) v = ap (spatial_rotateX.xy_z a) (ap (spatial_rotateX.xy_z b) v) := by
  simp only [c10_rotateX_ap, c10_R_add]
theorem c10_rotateX_inv (a : ℝ) (v : V3) :
    ap (spatial_rotateX.xy_z (-a)) (ap (spatial_rotateX.xy_z a) v) = v := by
  simp only [c10_rotateX_ap, c10_R_inv]

theorem c10_rotateY_dot (a : ℝ) (v w : V3) :
    dot3 (ap (spatial_rotateY.xy_z a) v) (ap (spatial_rotateY.xy_z a) w) = dot3 v w := by
  simp only [c10_rotateY_ap, c10_R_dot]
theorem c10_rotateY_cross (a : ℝ) (v w : V3) :
    ap (spatial_rotateY.xy_z a) (cross3 v w) =
      cross3 (ap (spatial_rotateY.xy_z a) v) (ap (spatial_rotateY.xy_z a) w) := by
  simp only [c10_rotateY_ap, c10_R_cross]
theorem c10_rotateY_add (a b : ℝ) (v : V3) :
    ap (spatial_rotateY.xy_z (a + b)) v = ap (spatial_rotateY.xy_z a) (ap (spatial_rotateY.xy_z b) v) := by
  simp only [c10_rotateY_ap, c10_R_add]
theorem c10_rotateY_inv (a : ℝ) (v : V3) :
    ap (spatial_rotateY.xy_z (-a)) (ap (spatial_rotateY.xy_z a) v) = v := by
  simp only [c10_rotateY_ap, c10_R_inv]

/-! ### rotateZ (generated planar code; the spatial method applies it to `(x, y)` and keeps the longitudinal
coordinate): planar dot product and orientation (2×2 determinant), additivity, inverse -/

theorem c10_rotateZ_dot (a x y x2 y2 : ℝ) :
    (planar_rotateZ.xy a x y).1 * (planar_rotateZ.xy a x2 y2).1 +
      (planar_rotateZ.xy a x y).2 * (planar_rotateZ.xy a x2 y2).2 = x * x2 + y * y2 := by
  simp only [planar_rotateZ.xy]
  linear_combination (x * x2 + y * y2) * Real.cos_sq_add_sin_sq a

theorem c10_rotateZ_det (a x y x2 y2 : ℝ) :
    (planar_rotateZ.xy a x y).1 * (planar_rotateZ.xy a x2 y2).2 -
      (planar_rotateZ.xy a x y).2 * (planar_rotateZ.xy a x2 y2).1 = x * y2 - y * x2 := by
  simp only [planar_rotateZ.xy]
  linear_combination (x * y2 - y * x2) * Real.cos_sq_add_sin_sq a

theorem c10_rotateZ_add (a b x y : ℝ) :
    planar_rotateZ.xy (a + b) x y =
      planar_rotateZ.xy a (planar_rotateZ.xy b x y).1 (planar_rotateZ.xy b x y).2 := by
  simp only [planar_rotateZ.xy, Real.cos_add, Real.sin_add]
  refine Prod.ext ?_ ?_ <;> simp only <;> ring

theorem c10_rotateZ_inv (a x y : ℝ) :
    planar_rotateZ.xy (-a) (planar_rotateZ.xy a x y).1 (planar_rotateZ.xy a x y).2 = (x, y) := by
  simp only [planar_rotateZ.xy, Real.cos_neg, Real.sin_neg]
  refine Prod.ext ?_ ?_ <;> simp only
  · linear_combination x * Real.cos_sq_add_sin_sq a
  · linear_combination y * Real.cos_sq_add_sin_sq a

/-- the spatial rotateZ (planar rotateZ on the azimuthal part, `z` kept) as a map of ℝ³, for all the 3D laws -/
theorem c10_rotateZ_ap (a : ℝ) (v : V3) :
    ((planar_rotateZ.xy a v.1 v.2.1).1, (planar_rotateZ.xy a v.1 v.2.1).2, v.2.2) = R .z a v := by
  rw [(c10_rotateZ_eq_Rz a v.1 v.2.1 v.2.2).1]
  rfl

/-! ### rotate_euler (all twelve orders at once) -/

theorem c10_euler_dot (o : Ord) (phi theta psi : ℝ) (v w : V3) :
    dot3 (ap (spatial_rotate_euler.eval .xy .z o phi theta psi) v)
      (ap (spatial_rotate_euler.eval .xy .z o phi theta psi) w) = dot3 v w := by
  simp only [ap, c10_euler_eval, c10_R_dot]

theorem c10_euler_cross (o : Ord) (phi theta psi : ℝ) (v w : V3) :
    ap (spatial_rotate_euler.eval .xy .z o phi theta psi) (cross3 v w) =
      cross3 (ap (spatial_rotate_euler.eval .xy .z o phi theta psi) v)
        (ap (spatial_rotate_euler.eval .xy .z o phi theta psi) w) := by
  simp only [ap, c10_euler_eval, Prod.mk.eta, c10_R_cross]

/-- the inverse of an Euler rotation: opposite angles, roles of φ and ψ exchanged, axis order reversed -/
theorem c10_euler_inv (o : Ord) (phi theta psi : ℝ) (v : V3) :
    ap (spatial_rotate_euler.eval .xy .z (rev o) (-psi) (-theta) (-phi))
      (ap (spatial_rotate_euler.eval .xy .z o phi theta psi) v) = v := by
  cases o <;> simp only [ap, c10_euler_eval, rev, axes, neg_neg, Prod.mk.eta, c10_R_inv']

/-! ### rotate_quaternion: for every quaternion the map is `|q|²` times a proper rotation, so the hypothesis
`u² + i² + j² + k² = 1` of the unit statements is necessary, not an artefact -/

theorem c10_quaternion_dot_general (u i j k : ℝ) (v w : V3) :
    dot3 (ap (spatial_rotate_quaternion.cartesian u i j k) v) (ap (spatial_rotate_quaternion.cartesian u i j k) w) =
      (u ^ 2 + i ^ 2 + j ^ 2 + k ^ 2) ^ 2 * dot3 v w := by
  obtain ⟨x, y, z⟩ := v
  obtain ⟨x2, y2, z2⟩ := w
  simp only [spatial_rotate_quaternion.cartesian, dot3, ap]
  ring

theorem c10_quaternion_cross_general (u i j k : ℝ) (v w : V3) :
    cross3 (ap (spatial_rotate_quaternion.cartesian u i j k) v) (ap (spatial_rotate_quaternion.cartesian u i j k) w) =
      (u ^ 2 + i ^ 2 + j ^ 2 + k ^ 2) • ap (spatial_rotate_quaternion.cartesian u i j k) (cross3 v w) := by
  obtain ⟨x, y, z⟩ := v
  obtain ⟨x2, y2, z2⟩ := w
  simp only [spatial_rotate_quaternion.cartesian, cross3, ap, Prod.smul_mk, smul_eq_mul]
  refine Prod.ext ?_ (Prod.ext ?_ ?_) <;> simp only <;> ring

theorem c10_quaternion_dot (u i j k : ℝ) (hq : u ^ 2 + i ^ 2 + j ^ 2 + k ^ 2 = 1) (v w : V3) :
    dot3 (ap (spatial_rotate_quaternion.cartesian u i j k) v) (ap (spatial_rotate_quaternion.cartesian u i j k) w) = dot3 v w := by
  rw [c10_quaternion_dot_general, hq, one_pow, one_mul]

theorem c10_quaternion_cross (u i j k : ℝ) (hq : u ^ 2 + i ^ 2 + j ^ 2 + k ^ 2 = 1) (v w : V3) :
    ap (spatial_rotate_quaternion.cartesian u i j k) (cross3 v w) = cross3 (ap (spatial_rotate_quaternion.cartesian u i j k) v) (ap (spatial_rotate_quaternion.cartesian u i j k) w) := by
  rw [c10_quaternion_cross_general, hq, one_smul]

example : dot3 (ap (spatial_rotate_quaternion.cartesian 1 0 0 0) (1, 2, 3))
    (ap (spatial_rotate_quaternion.cartesian 1 0 0 0) (4, 5, 6)) = dot3 (1, 2, 3) (4, 5, 6) :=
  c10_quaternion_dot 1 0 0 0 (by norm_num) _ _

/-! ### rotate_axis: it is `rotate_quaternion` at the unit quaternion `(cos(a/2), û sin(a/2))`
(`c10_quaternion_eq_rotate_axis`), whose laws it inherits; that angles about one axis add follows from the
composition law of quaternions and is in Props/C10Quat.lean -/

theorem c10_rotate_axis_dot (a ux uy uz : ℝ) (hu : 0 < ux ^ 2 + uy ^ 2 + uz ^ 2) (v w : V3) :
    dot3 (ap (spatial_rotate_axis.cartesian a ux uy uz) v) (ap (spatial_rotate_axis.cartesian a ux uy uz) w) =
      dot3 v w := by
  simp only [ap, ← c10_quaternion_eq_rotate_axis a ux uy uz _ _ _ hu]
  exact c10_quaternion_dot _ _ _ _ (c10_axis_angle_quaternion_unit a _ _ _ (c10_unit_axis hu rfl)) v w

theorem c10_rotate_axis_cross (a ux uy uz : ℝ) (hu : 0 < ux ^ 2 + uy ^ 2 + uz ^ 2) (v w : V3) :
    ap (spatial_rotate_axis.cartesian a ux uy uz) (cross3 v w) =
      cross3 (ap (spatial_rotate_axis.cartesian a ux uy uz) v) (ap (spatial_rotate_axis.cartesian a ux uy uz) w) := by
  simp only [ap, ← c10_quaternion_eq_rotate_axis a ux uy uz _ _ _ hu]
  exact c10_quaternion_cross _ _ _ _ (c10_axis_angle_quaternion_unit a _ _ _ (c10_unit_axis hu rfl)) v w

private theorem rod_axis (e1 e2 e3 c s t : ℝ) (he : e1 ^ 2 + e2 ^ 2 + e3 ^ 2 = 1) :
    rod e1 e2 e3 c s (t * e1) (t * e2) (t * e3) = (t * e1, t * e2, t * e3) := by
  simp only [rod]
  refine Prod.ext ?_ (Prod.ext ?_ ?_) <;> simp only
  · linear_combination t * (-c*e1 + e1) * he
  · linear_combination t * (-c*e2 + e2) * he
  · linear_combination t * (-c*e3 + e3) * he

theorem c10_rotate_axis_fixes_axis (a ux uy uz : ℝ) (hu : 0 < ux ^ 2 + uy ^ 2 + uz ^ 2) :
    spatial_rotate_axis.cartesian a ux uy uz ux uy uz = (ux, uy, uz) := by
  have hpos : 0 < Real.sqrt (ux ^ 2 + uy ^ 2 + uz ^ 2) := Real.sqrt_pos.mpr hu
  have h := rod_axis _ _ _ (Real.cos a) (Real.sin a) (Real.sqrt (ux ^ 2 + uy ^ 2 + uz ^ 2)) (c10_unit_axis hu rfl)
  rw [mul_div_cancel₀ _ hpos.ne', mul_div_cancel₀ _ hpos.ne', mul_div_cancel₀ _ hpos.ne'] at h
  rw [c10_rotate_axis_eq_rod]
  exact h

example : dot3 (ap (spatial_rotate_axis.cartesian 1 1 2 3) (1, 0, 0)) (ap (spatial_rotate_axis.cartesian 1 1 2 3) (0, 1, 0)) =
    dot3 (1, 0, 0) (0, 1, 0) := c10_rotate_axis_dot 1 1 2 3 (by norm_num) _ _

/-! ## 5. every coordinate system: each non-Cartesian dispatch entry is the Cartesian formula applied to the
Cartesian components of its arguments, so all the statements above hold for all keys -/

/-- Cartesian components (computed by the generated accessors) of a vector given in coordinate system `(k0,k1)` -/
noncomputable def Spec10.cart (k0 : Az) (k1 : Lon) (c1 c2 c3 : ℝ) : V3 :=
  (planar_x.eval k0 c1 c2, planar_y.eval k0 c1 c2, spatial_z.eval k0 k1 c1 c2 c3)

theorem Spec10.cart_eq (k0 : Az) (k1 : Lon) (c1 c2 c3 : ℝ) :
    cart k0 k1 c1 c2 c3 = (Spec.xOf k0 c1 c2, Spec.yOf k0 c1 c2, spatial_z.eval k0 k1 c1 c2 c3) := by
  rw [cart, refine_planar_x, refine_planar_y]

theorem c10_rotateX_eval (k0 : Az) (k1 : Lon) (a c1 c2 c3 : ℝ) :
    spatial_rotateX.eval k0 k1 a c1 c2 c3 = R .x a (cart k0 k1 c1 c2 c3) := by
  rw [spatial_rotateX_eval_eq, cart_eq, ← c10_rotateX_ap]; rfl

theorem c10_rotateY_eval (k0 : Az) (k1 : Lon) (a c1 c2 c3 : ℝ) :
    spatial_rotateY.eval k0 k1 a c1 c2 c3 = R .y a (cart k0 k1 c1 c2 c3) := by
  rw [spatial_rotateY_eval_eq, cart_eq, ← c10_rotateY_ap]; rfl

theorem c10_rotate_axis_eval (k0 : Az) (k1 : Lon) (k2 : Az) (k3 : Lon) (a u1 u2 u3 c1 c2 c3 : ℝ) :
    spatial_rotate_axis.eval k0 k1 k2 k3 a u1 u2 u3 c1 c2 c3 =
      ap (spatial_rotate_axis.cartesian a (cart k0 k1 u1 u2 u3).1 (cart k0 k1 u1 u2 u3).2.1
        (cart k0 k1 u1 u2 u3).2.2) (cart k2 k3 c1 c2 c3) := by
  rw [spatial_rotate_axis_eval_eq, cart_eq, cart_eq]; rfl

theorem c10_euler_eval_all (k0 : Az) (k1 : Lon) (o : Ord) (phi theta psi c1 c2 c3 : ℝ) :
    spatial_rotate_euler.eval k0 k1 o phi theta psi c1 c2 c3 =
      R (axes o).1 (-psi) (R (axes o).2.1 (-theta) (R (axes o).2.2 (-phi) (cart k0 k1 c1 c2 c3))) := by
  rw [spatial_rotate_euler_eval_eq, c10_euler_eval, cart_eq]

theorem c10_quaternion_eval (k0 : Az) (k1 : Lon) (u i j k c1 c2 c3 : ℝ) :
    spatial_rotate_quaternion.eval k0 k1 u i j k c1 c2 c3 =
      ap (spatial_rotate_quaternion.cartesian u i j k) (cart k0 k1 c1 c2 c3) := by
  rw [spatial_rotate_quaternion_eval_eq, cart_eq]; rfl

theorem c10_rotateX_eval_dot (k0 : Az) (k1 : Lon) (k2 : Az) (k3 : Lon) (a c1 c2 c3 d1 d2 d3 : ℝ) :
    dot3 (spatial_rotateX.eval k0 k1 a c1 c2 c3) (spatial_rotateX.eval k2 k3 a d1 d2 d3) =
      dot3 (cart k0 k1 c1 c2 c3) (cart k2 k3 d1 d2 d3) := by
  simp only [c10_rotateX_eval, c10_R_dot]

theorem c10_rotateY_eval_dot (k0 : Az) (k1 : Lon) (k2 : Az) (k3 : Lon) (a c1 c2 c3 d1 d2 d3 : ℝ) :
    dot3 (spatial_rotateY.eval k0 k1 a c1 c2 c3) (spatial_rotateY.eval k2 k3 a d1 d2 d3) =
      dot3 (cart k0 k1 c1 c2 c3) (cart k2 k3 d1 d2 d3) := by
  simp only [c10_rotateY_eval, c10_R_dot]

theorem c10_euler_eval_dot (k0 : Az) (k1 : Lon) (k2 : Az) (k3 : Lon) (o : Ord)
    (phi theta psi c1 c2 c3 d1 d2 d3 : ℝ) :
    dot3 (spatial_rotate_euler.eval k0 k1 o phi theta psi c1 c2 c3)
        (spatial_rotate_euler.eval k2 k3 o phi theta psi d1 d2 d3) =
      dot3 (cart k0 k1 c1 c2 c3) (cart k2 k3 d1 d2 d3) := by
  simp only [c10_euler_eval_all, c10_R_dot]

theorem c10_rotate_axis_eval_dot (k0 : Az) (k1 : Lon) (k2 : Az) (k3 : Lon) (k4 : Az) (k5 : Lon)
    (a u1 u2 u3 c1 c2 c3 d1 d2 d3 : ℝ)
    (hu : 0 < (cart k0 k1 u1 u2 u3).1 ^ 2 + (cart k0 k1 u1 u2 u3).2.1 ^ 2 + (cart k0 k1 u1 u2 u3).2.2 ^ 2) :
    dot3 (spatial_rotate_axis.eval k0 k1 k2 k3 a u1 u2 u3 c1 c2 c3)
        (spatial_rotate_axis.eval k0 k1 k4 k5 a u1 u2 u3 d1 d2 d3) =
      dot3 (cart k2 k3 c1 c2 c3) (cart k4 k5 d1 d2 d3) := by
  simp only [c10_rotate_axis_eval]
  exact c10_rotate_axis_dot a _ _ _ hu _ _

theorem c10_quaternion_eval_dot (k0 : Az) (k1 : Lon) (k2 : Az) (k3 : Lon) (u i j k c1 c2 c3 d1 d2 d3 : ℝ)
    (hq : u ^ 2 + i ^ 2 + j ^ 2 + k ^ 2 = 1) :
    dot3 (spatial_rotate_quaternion.eval k0 k1 u i j k c1 c2 c3)
        (spatial_rotate_quaternion.eval k2 k3 u i j k d1 d2 d3) =
      dot3 (cart k0 k1 c1 c2 c3) (cart k2 k3 d1 d2 d3) := by
  simp only [c10_quaternion_eval]
  exact c10_quaternion_dot u i j k hq _ _

example : dot3 (spatial_rotate_axis.eval .rhophi .z .xy .z 1 1 0 2 1 2 3)
    (spatial_rotate_axis.eval .rhophi .z .rhophi .eta 1 1 0 2 1 2 3) =
    dot3 (cart .xy .z 1 2 3) (cart .rhophi .eta 1 2 3) :=
  c10_rotate_axis_eval_dot _ _ _ _ _ _ _ _ _ _ _ _ _ _ _ _ (by
    simp only [cart, d_planar_x, d_planar_y, d_spatial_z]; positivity)

/-! ### planar rotateZ in polar coordinates agrees with the Cartesian formula -/

theorem c10_rotateZ_eval (k : Az) (a c1 c2 : ℝ) :
    (planar_x.eval k (planar_rotateZ.eval k a c1 c2).1 (planar_rotateZ.eval k a c1 c2).2,
     planar_y.eval k (planar_rotateZ.eval k a c1 c2).1 (planar_rotateZ.eval k a c1 c2).2) =
      planar_rotateZ.xy a (planar_x.eval k c1 c2) (planar_y.eval k c1 c2) := by
  cases k
  · rfl
  · simp only [planar_rotateZ.eval, planar_rotateZ.rhophi, planar_x.eval, planar_y.eval, planar_x.rhophi,
      planar_y.rhophi, planar_rotateZ.xy, planar_rotateZ.rectify, L.cos_rectify, L.sin_rectify, Real.cos_add,
      Real.sin_add]
    refine Prod.ext ?_ ?_ <;> simp only <;> ring

/-! ## 6. time / proper time (and, for rotateZ, the longitudinal coordinate) are untouched:
the compute functions return only the rotated spatial (azimuthal) part — the declared result type has no other
component, so the wrapper keeps the remaining coordinates of the input vector as they are -/

theorem c10_rotateZ_ret (k : Az) : planar_rotateZ.ret k = Ret.vec [RP.az k] := by
  cases k <;> rfl
theorem c10_rotateX_ret (k0 : Az) (k1 : Lon) : spatial_rotateX.ret k0 k1 = Ret.vec [RP.az .xy, RP.lon .z] :=
  refine_spatial_rotateX_ret k0 k1
theorem c10_rotateY_ret (k0 : Az) (k1 : Lon) : spatial_rotateY.ret k0 k1 = Ret.vec [RP.az .xy, RP.lon .z] :=
  refine_spatial_rotateY_ret k0 k1
theorem c10_rotate_axis_ret (k0 : Az) (k1 : Lon) (k2 : Az) (k3 : Lon) :
    spatial_rotate_axis.ret k0 k1 k2 k3 = Ret.vec [RP.az .xy, RP.lon .z] :=
  refine_spatial_rotate_axis_ret k0 k1 k2 k3
theorem c10_euler_ret (k0 : Az) (k1 : Lon) (o : Ord) :
    spatial_rotate_euler.ret k0 k1 o = Ret.vec [RP.az .xy, RP.lon .z] :=
  refine_spatial_rotate_euler_ret k0 k1 o
theorem c10_quaternion_ret (k0 : Az) (k1 : Lon) :
    spatial_rotate_quaternion.ret k0 k1 = Ret.vec [RP.az .xy, RP.lon .z] :=
  refine_spatial_rotate_quaternion_ret k0 k1

end VR
