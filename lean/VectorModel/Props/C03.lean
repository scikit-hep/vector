/-
Property C03 — "Object, NumPy and Awkward backends compute the same values".

The glue model is polymorphic in the scalar type; an array of vectors stored column-wise is the glue at a column
type (`Glue/Arrays.lean`).  This file proves NATURALITY of the glue: every operation of the glue commutes with every
scalar map `f : S → T` (and truth-value map `g : B → C`) that the compute layer commutes with (`Ev.Natural`, the
explicit hypothesis: NumPy's ufunc contract for `f := (· i)`).  The property is the corollary at `S := ι → X`,
`f := (· i)` (`c03_elem_*`, under `Ev.Elementwise`).  Two more parts: the backend tag only selects the handler and labels the
result, so relabelling operands that share one backend relabels the result (`c03_dispatch_setBe`), which compares an array with
plain objects (`c03_array_vs_object`); and `Ev.Elementwise` is proved for the generated executable layer
(`c03_exec_elementwise`), for which the property then holds without hypothesis (`c03_exec_*`).
-/
import VectorModel.Glue.Arrays
import VectorModel.Props.C05

namespace VG
open VK

section
variable {S T B C : Type}

/-! ### `Except.map` commutes with `bind`, `pure` and `if` -/

private theorem map_bind {α β γ : Type} (F : β → γ) (x : Except Err α) (k : α → Except Err β) :
    (x >>= k).map F = x >>= fun a => (k a).map F := by cases x <;> rfl

private theorem bind_map {α β γ : Type} (F : α → β) (x : Except Err α) (k : β → Except Err γ) :
    x.map F >>= k = x >>= fun a => k (F a) := by cases x <;> rfl

private theorem map_pure {α β : Type} (F : α → β) (a : α) : (pure a : Except Err α).map F = pure (F a) := rfl

private theorem map_ite {α β : Type} (F : α → β) (c : Prop) [Decidable c] (x y : Except Err α) :
    (if c then x else y).map F = if c then x.map F else y.map F := by split <;> rfl

/-! ### `_wrap_result` -/

theorem c03_wrapVec (f : S → T) (self : Vec S) (be : Backend) (mom : Bool) (raw : List S) (parts : List RP) :
    (wrapVec self be mom raw parts).map (Vec.map f) = wrapVec (self.map f) be mom (raw.map f) parts := by
  simp only [wrapVec, Vec.map_lonEl, Vec.map_tmpEl]
  split <;> (try split) <;> simp_all [Except.map, Vec.map, List.map_take]

theorem c03_wrapResult (f : S → T) (g : B → C) (self : Vec S) (be : Backend) (mom : Bool) (out : Out S B) (ret : Ret) :
    (wrapResult self be mom out ret).map (Res.map f g) =
      wrapResult (self.map f) be mom (out.map f g) ret := by
  cases ret with
  | float =>
    cases out with
    | truth b => rfl
    | vals l =>
      match l with
      | [] => rfl
      | [s] => rfl
      | _ :: _ :: _ => rfl
  | bool => cases out <;> rfl
  | vec parts =>
    cases out with
    | truth b => rfl
    | vals raw =>
      have h := c03_wrapVec f self be mom raw parts
      simp only [wrapResult, Out.map]
      rw [← h]
      cases wrapVec self be mom raw parts <;> rfl

/-! ### `dispatch()` -/

private theorem operandKey_map (f : S → T) (v : Vec S) (n : Nat) :
    operandKey (v.map f) n = (operandKey v n).map (Prod.map id (List.map f)) := by
  simp only [operandKey, Vec.map_azEl, Vec.map_lonEl, Vec.map_tmpEl]
  split <;> simp

theorem c03_handlerOf (f : S → T) (vs : List (Vec S)) :
    handlerOf (vs.map (Vec.map f)) = (handlerOf vs).map (Vec.map f) :=
  handlerOf_map (Vec.map f) (fun _ => rfl) vs

/-- NATURALITY of `dispatch()`: key, handler, flavor and result class do not look at the scalars; the coordinates are
moved, never inspected -/
theorem c03_dispatch {f : S → T} {g : B → C} {ev : Ev S B} {ev' : Ev T C} (hev : Ev.Natural f g ev ev')
    (m : ModuleId) (scalars : List S) (ord : Option Ord) (ops counted : List (Vec S)) :
    (dispatch ev m scalars ord ops counted).map (Res.map f g) =
      dispatch ev' m (scalars.map f) ord (ops.map (Vec.map f)) (counted.map (Vec.map f)) := by
  have := dispatch_natural (Vec.map f) f (Out.map f g) (Res.map f g) id m scalars ord ops counted (operandKey_map f) (hev m)
    fun out ret => by
      rw [c03_handlerOf]
      cases handlerOf counted with
      | none => rfl
      | some h =>
        simpa [List.any_map, Function.comp_def] using c03_wrapResult f g h h.ty.be (counted.any (·.ty.mom)) out ret
  simpa using this

/-! ### accessors, `scale` -/

theorem c03_getAcc {f : S → T} {g : B → C} {ev : Ev S B} {ev' : Ev T C} (hev : Ev.Natural f g ev ev')
    (a : Acc) (v : Vec S) : (getAcc ev a v).map (Res.map f g) = getAcc ev' a (v.map f) :=
  (map_ite _ _ _ _).trans (ite_congr rfl (fun _ => rfl) fun _ => c03_dispatch hev _ [] none [v] [v])

theorem c03_getS {f : S → T} {g : B → C} {ev : Ev S B} {ev' : Ev T C} (hev : Ev.Natural f g ev ev')
    (a : Acc) (v : Vec S) : (getS ev a v).map f = getS ev' a (v.map f) := by
  simp only [getS, ← c03_getAcc hev]
  cases getAcc ev a v with
  | error e => rfl
  | ok r => cases r <;> rfl

theorem c03_scaleN {f : S → T} {g : B → C} {ev : Ev S B} {ev' : Ev T C} (hev : Ev.Natural f g ev ev')
    (n : Nat) (s : S) (v : Vec S) : (scaleN ev n s v).map (Res.map f g) = scaleN ev' n (f s) (v.map f) :=
  (map_ite _ _ _ _).trans (ite_congr rfl (fun _ => rfl) fun _ => c03_dispatch hev _ [s] none [v] [v])

theorem c03_negN {f : S → T} {g : B → C} {ev : Ev S B} {ev' : Ev T C} (hev : Ev.Natural f g ev ev')
    (K : Consts S) (n : Nat) (v : Vec S) :
    (negN ev K n v).map (Res.map f g) = negN ev' (K.map f) n (v.map f) :=
  c03_scaleN hev n K.negOne v

/-! ### binary methods -/

private theorem scalars_map (f : S → T) (K : Consts S) (b : Bin) (extra : List S) :
    b.scalars (K.map f) (extra.map f) = (b.scalars K extra).map f := by
  cases b <;> simp only [Bin.scalars, List.isEmpty_map] <;> first | rfl | (split <;> rfl)

theorem c03_binOperand {f : S → T} {g : B → C} {ev : Ev S B} {ev' : Ev T C} (hev : Ev.Natural f g ev ev')
    (K : Consts S) (b : Bin) (o : Vec S) :
    (binOperand ev K b o).map (Vec.map f) = binOperand ev' (K.map f) b (o.map f) := by
  simp only [binOperand, ← c03_negN hev]
  split
  · cases negN ev K 3 o with
    | error e => rfl
    | ok r => cases r <;> rfl
  · rfl

/-- the guards of `binary` look at the two dimensions only (`binary_eq`), which `Vec.map` keeps -/
theorem c03_binary {f : S → T} {g : B → C} {ev : Ev S B} {ev' : Ev T C} (hev : Ev.Natural f g ev ev')
    (K : Consts S) (b : Bin) (self o : Vec S) (extra : List S) :
    (binary ev K b self o extra).map (Res.map f g) =
      binary ev' (K.map f) b (self.map f) (o.map f) (extra.map f) := by
  rw [binary_eq, binary_eq, ← c03_binOperand hev, scalars_map, Vec.map_ty f self, Vec.map_ty f o]
  cases b.route self.ty.dim o.ty.dim with
  | error e => rfl
  | ok m =>
    cases binOperand ev K b o with
    | error e => rfl
    | ok o' => exact c03_dispatch hev m _ none [self, o'] [self, o']

/-! ### conversions -/

private theorem head?_fst_map {α : Type} (f : S → T) (l : List (α × S)) :
    (l.map (Prod.map id f)).head?.map (·.1) = l.head?.map (·.1) := by cases l <;> rfl

private theorem head?_snd_map {α : Type} (f : S → T) (z : S) (l : List (α × S)) :
    ((l.map (Prod.map id f)).head?.map (·.2)).getD (f z) = f ((l.head?.map (·.2)).getD z) := by cases l <;> rfl

/-- `to_Vector2D/3D/4D`, `like`: keyword values and the default `0.0` are moved like coordinates -/
theorem c03_toDim (f : S → T) (zeroF : S) (target : Nat) (v : Vec S) (lonKw : List (Lon × S))
    (tmpKw : List (Tmp × S)) (otherKw : Nat) :
    (toDim zeroF target v lonKw tmpKw otherKw).map (Vec.map f) =
      toDim (f zeroF) target (v.map f) (lonKw.map (Prod.map id f)) (tmpKw.map (Prod.map id f)) otherKw := by
  simp only [toDim_eq, head?_fst_map, head?_snd_map, List.isEmpty_map, List.length_map, Vec.map_azEl, Vec.map_lonEl,
    Vec.map_tmpEl]
  split
  · rfl
  split
  · rfl
  split
  · rfl
  · simp only [Except.map, Vec.map, List.map_append]
    congr 3 <;> split <;> (try split) <;> rfl

private theorem mapM_except_map {α β γ : Type} (f : β → γ) (k : α → Except Err β) (k' : α → Except Err γ)
    (hk : ∀ x, k' x = (k x).map f) : ∀ l : List α, l.mapM k' = (l.mapM k).map (List.map f)
  | [] => rfl
  | a :: l => by
    simp only [List.mapM_cons, hk, mapM_except_map f k k' hk l]
    cases k a with
    | error e => rfl
    | ok b => cases l.mapM k <;> rfl

/-- `to_<system>`: every output coordinate is an accessor (natural) or an imputed keyword value / `0.0` (moved) -/
theorem c03_toSystem {f : S → T} {g : B → C} {ev : Ev S B} {ev' : Ev T C} (hev : Ev.Natural f g ev ev')
    (zeroF : S) (v : Vec S) (az : Az) (lon : Option Lon) (tmp : Option Tmp) (kl kt : Option S) :
    (toSystem ev zeroF v az lon tmp kl kt).map (Vec.map f) =
      toSystem ev' (f zeroF) (v.map f) az lon tmp (kl.map f) (kt.map f) := by
  have hkl : (kl.map f).getD (f zeroF) = f (kl.getD zeroF) := by cases kl <;> rfl
  have hkt : (kt.map f).getD (f zeroF) = f (kt.getD zeroF) := by cases kt <;> rfl
  simp only [toSystem, ← c03_getS hev, hkl, hkt]
  rw [mapM_except_map f (fun n : CName => getS ev n.acc v) (fun n : CName => Except.map f (getS ev n.acc v))
    (fun _ => rfl)]
  cases lon <;> cases tmp <;>
    simp only [map_bind, bind_map, map_ite, map_pure, pure_bind, bind_assoc, Vec.map, List.map_append, List.map_cons, List.map_nil]

/-! ### the state machine: coordinate assignment, `_replace_data`, in-place operators -/

theorem c03_setC {f : S → T} {g : B → C} {ev : Ev S B} {ev' : Ev T C} (hev : Ev.Natural f g ev ev')
    (c : CName) (a : S) (v : Vec S) : (setC ev c a v).map (Vec.map f) = setC ev' c (f a) (v.map f) := by
  cases c <;>
    simp only [setC, ← c03_getS hev, Vec.map_azEl, Vec.map_lonEl, Vec.map_tmpEl, map_bind, bind_map, map_ite, map_pure, Vec.map,
      List.map_append, List.map_cons, List.map_nil]

theorem c03_replaceData {f : S → T} {g : B → C} {ev : Ev S B} {ev' : Ev T C} (hev : Ev.Natural f g ev ev')
    (self r : Vec S) : (replaceData ev self r).map (Vec.map f) = replaceData ev' (self.map f) (r.map f) := by
  simp only [replaceData, ← c03_getS hev]
  rw [mapM_except_map f (fun n : CName => getS ev n.acc r) (fun n : CName => Except.map f (getS ev n.acc r))
    (fun _ => rfl)]
  cases self.ty.lon <;> cases self.ty.tmp <;>
    simp only [map_bind, bind_map, map_pure, pure_bind, bind_assoc, Vec.map, List.map_append, List.map_cons, List.map_nil]

/-- the functional result behind an in-place operator; `A.inv` (the `1 / f` of `/=`) is the only arithmetic the glue
performs here, so it has to commute with `f` as well -/
theorem c03_iopResult {f : S → T} {g : B → C} {ev : Ev S B} {ev' : Ev T C} (hev : Ev.Natural f g ev ev')
    (K : Consts S) {A : Arith S} {A' : Arith T} (hinv : ∀ s, A'.inv (f s) = f (A.inv s)) (v : Vec S) (st : Step S) :
    (iopResult ev K A v st).map (Res.map f g) = iopResult ev' (K.map f) A' (v.map f) (st.map f) := by
  cases st with
  | set c a => rfl
  | setReadOnly => rfl
  | setOther => rfl
  | iopV op o =>
    cases op
    case add => exact c03_binary hev K .add v o []
    case sub => exact c03_binary hev K .subtract v o []
    all_goals rfl
  | iopS op s =>
    cases op
    case mul => exact c03_scaleN hev _ s v
    case div => simp only [iopResult, Step.map, hinv]; exact c03_scaleN hev _ _ v
    all_goals rfl

theorem c03_stepE {f : S → T} {g : B → C} {ev : Ev S B} {ev' : Ev T C} (hev : Ev.Natural f g ev ev')
    (K : Consts S) {A : Arith S} {A' : Arith T} (hinv : ∀ s, A'.inv (f s) = f (A.inv s)) (v : Vec S) (st : Step S) :
    (stepE ev K A v st).map (Vec.map f) = stepE ev' (K.map f) A' (v.map f) (st.map f) := by
  have hi := c03_iopResult hev K hinv v
  cases st with
  | set c a => exact c03_setC hev c a v
  | setReadOnly => rfl
  | setOther => rfl
  | iopV op o =>
    have h := hi (.iopV op o)
    simp only [stepE, Step.map] at h ⊢
    rw [← h]
    cases iopResult ev K A v (.iopV op o) with
    | error e => rfl
    | ok r => cases r <;> first | rfl | exact c03_replaceData hev v _
  | iopS op s =>
    have h := hi (.iopS op s)
    simp only [stepE, Step.map] at h ⊢
    rw [← h]
    cases iopResult ev K A v (.iopS op s) with
    | error e => rfl
    | ok r => cases r <;> first | rfl | exact c03_replaceData hev v _

theorem c03_step {f : S → T} {g : B → C} {ev : Ev S B} {ev' : Ev T C} (hev : Ev.Natural f g ev ev')
    (K : Consts S) {A : Arith S} {A' : Arith T} (hinv : ∀ s, A'.inv (f s) = f (A.inv s)) (v : Vec S) (st : Step S) :
    step ev' (K.map f) A' (v.map f) (st.map f) = ((step ev K A v st).1.map f, (step ev K A v st).2) := by
  simp only [step, ← c03_stepE hev K hinv]
  cases stepE ev K A v st <;> rfl

/-- whole histories: every intermediate state and every raised error -/
theorem c03_run {f : S → T} {g : B → C} {ev : Ev S B} {ev' : Ev T C} (hev : Ev.Natural f g ev ev')
    (K : Consts S) {A : Arith S} {A' : Arith T} (hinv : ∀ s, A'.inv (f s) = f (A.inv s)) :
    ∀ (steps : List (Step S)) (v : Vec S),
      run ev' (K.map f) A' (v.map f) (steps.map (Step.map f)) =
        (run ev K A v steps).map (Prod.map (Vec.map f) id)
  | [], v => rfl
  | st :: rest, v => by
    simp only [List.map_cons, run, c03_step hev K hinv, c03_run hev K hinv rest]
    rfl

theorem c03_runFinal {f : S → T} {g : B → C} {ev : Ev S B} {ev' : Ev T C} (hev : Ev.Natural f g ev ev')
    (K : Consts S) {A : Arith S} {A' : Arith T} (hinv : ∀ s, A'.inv (f s) = f (A.inv s)) :
    ∀ (steps : List (Step S)) (v : Vec S),
      runFinal ev' (K.map f) A' (v.map f) (steps.map (Step.map f)) = (runFinal ev K A v steps).map f
  | [], v => rfl
  | st :: rest, v => by
    simp only [List.map_cons, runFinal, c03_step hev K hinv, c03_runFinal hev K hinv rest]

end

/-! ### the backend tag

`index a i` keeps the whole vector type of the array, including the backend tag; the element the user gets is an
OBJECT-backend vector.  The tag only selects the handler and labels the result: relabelling all operands (whenever
that does not change WHICH operand is the handler, e.g. when they share one backend) relabels the result. -/

section
variable {S B : Type}

private theorem wrapVec_setBe (b be : Backend) (self : Vec S) (mom : Bool) (raw : List S) (parts : List RP) :
    wrapVec (self.setBe b) b mom raw parts = (wrapVec self be mom raw parts).map (Vec.setBe b) := by
  have h1 : (self.setBe b).lonEl = self.lonEl := rfl
  have h2 : (self.setBe b).tmpEl = self.tmpEl := rfl
  have h3 : (self.setBe b).ty.lon = self.ty.lon := rfl
  have h4 : (self.setBe b).ty.tmp = self.ty.tmp := rfl
  have h5 : (self.setBe b).ty.dim = self.ty.dim := rfl
  simp only [wrapVec, h1, h2, h3, h4, h5]
  split <;> (try split) <;> rfl

private theorem wrapResult_setBe (b be : Backend) (self : Vec S) (mom : Bool) (out : Out S B) (ret : Ret) :
    wrapResult (self.setBe b) b mom out ret = (wrapResult self be mom out ret).map (Res.setBe b) := by
  cases ret with
  | float =>
    cases out with
    | truth t => rfl
    | vals l =>
      match l with
      | [] => rfl
      | [s] => rfl
      | _ :: _ :: _ => rfl
  | bool => cases out <;> rfl
  | vec parts =>
    cases out with
    | truth t => rfl
    | vals raw =>
      simp only [wrapResult, wrapVec_setBe b be]
      cases wrapVec self be mom raw parts <;> rfl

private theorem operandKey_setBe (b : Backend) (v : Vec S) (n : Nat) : operandKey (v.setBe b) n = operandKey v n := rfl

theorem c03_handlerOf_uniform {b0 : Backend} : ∀ {vs : List (Vec S)}, (∀ v ∈ vs, v.ty.be = b0) → handlerOf vs = vs.head?
  | [], _ => rfl
  | v :: vs, h => by
    have hv : v.ty.be = b0 := h v (by simp)
    have key : ∀ (ws : List (Vec S)), (∀ w ∈ ws, w.ty.be = b0) →
        ws.foldl (pickStep (·.ty.be.prio)) (some v) = some v := by
      intro ws
      induction ws with
      | nil => intro _; rfl
      | cons w ws ih =>
        intro hw
        have : w.ty.be = b0 := hw w (by simp)
        simp only [List.foldl_cons, pickStep, this, hv, Nat.lt_irrefl, gt_iff_lt, ↓reduceIte]
        exact ih (fun x hx => hw x (by simp [hx]))
    rw [handlerOf_eq]
    exact key vs (fun w hw => h w (by simp [hw]))

theorem c03_handlerOf_setBe_uniform {b0 : Backend} (b : Backend) {vs : List (Vec S)} (h : ∀ v ∈ vs, v.ty.be = b0) :
    handlerOf (vs.map (Vec.setBe b)) = (handlerOf vs).map (Vec.setBe b) := by
  rw [c03_handlerOf_uniform h, c03_handlerOf_uniform (b0 := b) (by simp [Vec.setBe])]
  cases vs <;> rfl

/-- the backend tag does not influence any computed value -/
theorem c03_dispatch_setBe (ev : Ev S B) (m : ModuleId) (scalars : List S) (ord : Option Ord)
    (ops counted : List (Vec S)) (b : Backend)
    (hh : handlerOf (counted.map (Vec.setBe b)) = (handlerOf counted).map (Vec.setBe b)) :
    dispatch ev m scalars ord (ops.map (Vec.setBe b)) (counted.map (Vec.setBe b)) =
      (dispatch ev m scalars ord ops counted).map (Res.setBe b) := by
  have := dispatch_natural (ev := ev) (ev' := ev) (Vec.setBe b) id id (Res.setBe b) id m scalars ord ops counted
    (fun v n => by cases h : operandKey v n <;> simp [operandKey_setBe, h])
    (fun k a => by cases h : ev m k a <;> simp [h]) fun out ret => by
      rw [hh]
      cases handlerOf counted with
      | none => rfl
      | some h => simpa [List.any_map, Function.comp_def, Vec.setBe] using (wrapResult_setBe b h.ty.be h _ out ret).symm
  simpa using this.symm

end

/-! ## The property: arrays of vectors, element by element

`S := ι → X` (columns over the index set `ι` of the array), `f := (· i)`, `g := (· i)`.  Every operation of the glue
at the column type returns columns over the SAME index set `ι` — the shape / list structure of the array result is
that of the operands by construction (it is part of the TYPE `Vec (ι → X)`, `Res (ι → X) (ι → Bx)`), so there is
nothing to prove about it beyond the fact that the statements below type-check. -/

section
variable {ι X Bx : Type}

private theorem map_eq_error_iff {α β : Type} {F : α → β} {x : Except Err α} {y : Except Err β} {e : Err}
    (h : x.map F = y) : x = .error e ↔ y = .error e := by
  subst h; cases x <;> simp [Except.map]

private theorem map_eq_ok {α β : Type} {F : α → β} {x : Except Err α} {y : Except Err β} {r : α}
    (h : x.map F = y) (hx : x = .ok r) : y = .ok (F r) := by
  subst h hx; rfl

/-- element `i` of the array result of `dispatch` is the result of `dispatch` on the elements `i` of all operands
(scalar arguments are columns too: element `i` of each) -/
theorem c03_elem_dispatch {ev : Ev (ι → X) (ι → Bx)} {evo : Ev X Bx} (h : Ev.Elementwise ev evo) (i : ι)
    (m : ModuleId) (scalars : List (ι → X)) (ord : Option Ord) (ops counted : List (Vec (ι → X))) :
    (dispatch ev m scalars ord ops counted).map (Res.at · i) =
      dispatch evo m (scalars.map (· i)) ord (ops.map (index · i)) (counted.map (index · i)) :=
  c03_dispatch (h i) m scalars ord ops counted

/-- properties (`x`, `rho`, `mag`, `tau`, …) of an array -/
theorem c03_elem_getAcc {ev : Ev (ι → X) (ι → Bx)} {evo : Ev X Bx} (h : Ev.Elementwise ev evo) (i : ι)
    (a : Acc) (arr : Vec (ι → X)) : (getAcc ev a arr).map (Res.at · i) = getAcc evo a (index arr i) :=
  c03_getAcc (h i) a arr

/-- `scale` of an array by a column of factors, element by element -/
theorem c03_elem_scaleN {ev : Ev (ι → X) (ι → Bx)} {evo : Ev X Bx} (h : Ev.Elementwise ev evo) (i : ι)
    (n : Nat) (s : ι → X) (arr : Vec (ι → X)) :
    (scaleN ev n s arr).map (Res.at · i) = scaleN evo n (s i) (index arr i) :=
  c03_scaleN (h i) n s arr

/-- BROADCASTING a scalar: `arr * s` with a Python / NumPy scalar `s` is `scale` with the constant column -/
theorem c03_bcast_scalar_scaleN {ev : Ev (ι → X) (ι → Bx)} {evo : Ev X Bx} (h : Ev.Elementwise ev evo) (i : ι)
    (n : Nat) (s : X) (arr : Vec (ι → X)) :
    (scaleN ev n (bcastS ι s) arr).map (Res.at · i) = scaleN evo n s (index arr i) :=
  c03_scaleN (h i) n (bcastS ι s) arr

/-- binary methods and operators on two arrays (the method layer's literal constants are constant columns) -/
theorem c03_elem_binary {ev : Ev (ι → X) (ι → Bx)} {evo : Ev X Bx} (h : Ev.Elementwise ev evo) (i : ι)
    (K : Consts X) (b : Bin) (arr arr' : Vec (ι → X)) (extra : List (ι → X)) :
    (binary ev (Consts.bcast ι K) b arr arr' extra).map (Res.at · i) =
      binary evo K b (index arr i) (index arr' i) (extra.map (· i)) :=
  c03_binary (h i) (Consts.bcast ι K) b arr arr' extra

/-- binary methods on two arrays with broadcast scalar arguments -/
private theorem elem_binary_bcastS {ev : Ev (ι → X) (ι → Bx)} {evo : Ev X Bx} (h : Ev.Elementwise ev evo) (i : ι)
    (K : Consts X) (b : Bin) (arr arr' : Vec (ι → X)) (extra : List X) :
    (binary ev (Consts.bcast ι K) b arr arr' (extra.map (bcastS ι))).map (Res.at · i) =
      binary evo K b (index arr i) (index arr' i) extra := by
  have := c03_binary (h i) (Consts.bcast ι K) b arr arr' (extra.map (bcastS ι))
  have he : (extra.map (bcastS ι)).map (· i) = extra := by simp [Function.comp_def, bcastS]
  rwa [he] at this

/-- BROADCASTING a single vector object on the right: `arr.method(obj)` is, at every position, `arr[i].method(obj)` -/
theorem c03_bcast_object_right {ev : Ev (ι → X) (ι → Bx)} {evo : Ev X Bx} (h : Ev.Elementwise ev evo) (i : ι)
    (K : Consts X) (b : Bin) (arr : Vec (ι → X)) (o : Vec X) (extra : List X) :
    (binary ev (Consts.bcast ι K) b arr (bcast ι o) (extra.map (bcastS ι))).map (Res.at · i) =
      binary evo K b (index arr i) o extra := by
  rw [elem_binary_bcastS h, index_bcast]

/-- BROADCASTING a single vector object on the left: `obj.method(arr)` is, at every position, `obj.method(arr[i])` -/
theorem c03_bcast_object_left {ev : Ev (ι → X) (ι → Bx)} {evo : Ev X Bx} (h : Ev.Elementwise ev evo) (i : ι)
    (K : Consts X) (b : Bin) (o : Vec X) (arr : Vec (ι → X)) (extra : List X) :
    (binary ev (Consts.bcast ι K) b (bcast ι o) arr (extra.map (bcastS ι))).map (Res.at · i) =
      binary evo K b o (index arr i) extra := by
  rw [elem_binary_bcastS h, index_bcast]

/-- conversions of arrays: dimension changes (keyword values are columns, the default `0.0` a constant column) … -/
theorem c03_elem_toDim (i : ι) (zeroF : X) (target : Nat) (arr : Vec (ι → X)) (lonKw : List (Lon × (ι → X)))
    (tmpKw : List (Tmp × (ι → X))) (otherKw : Nat) :
    (toDim (bcastS ι zeroF) target arr lonKw tmpKw otherKw).map (index · i) =
      toDim zeroF target (index arr i) (lonKw.map (Prod.map id (· i))) (tmpKw.map (Prod.map id (· i))) otherKw :=
  c03_toDim (· i) (bcastS ι zeroF) target arr lonKw tmpKw otherKw

/-- … and coordinate-system changes -/
theorem c03_elem_toSystem {ev : Ev (ι → X) (ι → Bx)} {evo : Ev X Bx} (h : Ev.Elementwise ev evo) (i : ι)
    (zeroF : X) (arr : Vec (ι → X)) (az : Az) (lon : Option Lon) (tmp : Option Tmp) (kl kt : Option (ι → X)) :
    (toSystem ev (bcastS ι zeroF) arr az lon tmp kl kt).map (index · i) =
      toSystem evo zeroF (index arr i) az lon tmp (kl.map (· i)) (kt.map (· i)) :=
  c03_toSystem (h i) (bcastS ι zeroF) arr az lon tmp kl kt

/-- an array operation raises exactly the error the object operation raises on (any) element, and succeeds exactly
when it does: errors depend on the TYPES only -/
theorem c03_elem_binary_raises {ev : Ev (ι → X) (ι → Bx)} {evo : Ev X Bx} (h : Ev.Elementwise ev evo) (i : ι)
    (K : Consts X) (b : Bin) (arr arr' : Vec (ι → X)) (extra : List (ι → X)) (e : Err) :
    binary ev (Consts.bcast ι K) b arr arr' extra = .error e ↔
      binary evo K b (index arr i) (index arr' i) (extra.map (· i)) = .error e :=
  map_eq_error_iff (c03_elem_binary h i K b arr arr' extra)

/-- if the array operation returns `r`, the object operation on the elements `i` returns element `i` of `r` -/
theorem c03_elem_binary_ok {ev : Ev (ι → X) (ι → Bx)} {evo : Ev X Bx} (h : Ev.Elementwise ev evo) (i : ι)
    (K : Consts X) (b : Bin) (arr arr' : Vec (ι → X)) (extra : List (ι → X)) (r : Res (ι → X) (ι → Bx))
    (hr : binary ev (Consts.bcast ι K) b arr arr' extra = .ok r) :
    binary evo K b (index arr i) (index arr' i) (extra.map (· i)) = .ok (r.at i) :=
  map_eq_ok (F := (Res.at · i)) (c03_elem_binary h i K b arr arr' extra) hr

/-- a vector-valued array result is ONE vector type for all elements, with element `i` of every coordinate column -/
theorem c03_elem_vec_result (r : Vec (ι → X)) (i : ι) :
    (Res.vec r : Res (ι → X) (ι → Bx)).at i = .vec (index r i) ∧ (index r i).ty = r.ty ∧
      (index r i).c = r.c.map (· i) := ⟨rfl, rfl, rfl⟩

/-- a scalar-valued array result is a column; element `i` of the result is its value at `i` (same for truth values) -/
theorem c03_elem_scalar_result (s : ι → X) (t : ι → Bx) (i : ι) :
    (Res.scalar s : Res (ι → X) (ι → Bx)).at i = .scalar (s i) ∧
    (Res.truth t : Res (ι → X) (ι → Bx)).at i = .truth (t i) := ⟨rfl, rfl⟩

/-- arrays against PLAIN OBJECTS: when the operands that count share one backend (all NumPy, or all Awkward), element
`i` of the array result, as an object-backend value, is the result of the operation on the object-backend elements -/
theorem c03_array_vs_object {ev : Ev (ι → X) (ι → Bx)} {evo : Ev X Bx} (h : Ev.Elementwise ev evo) (i : ι)
    (m : ModuleId) (scalars : List (ι → X)) (ord : Option Ord) (ops counted : List (Vec (ι → X))) {b0 : Backend}
    (hb : ∀ v ∈ counted, v.ty.be = b0) :
    (dispatch ev m scalars ord ops counted).map (fun r => (r.at i).setBe .obj) =
      dispatch evo m (scalars.map (· i)) ord (ops.map (elemObj · i)) (counted.map (elemObj · i)) := by
  have h1 := c03_elem_dispatch h i m scalars ord ops counted
  have hb' : ∀ v ∈ counted.map (index · i), v.ty.be = b0 := by
    intro v hv
    obtain ⟨w, hw, rfl⟩ := List.mem_map.mp hv
    exact hb w hw
  have h2 := c03_dispatch_setBe evo m (scalars.map (· i)) ord (ops.map (index · i)) (counted.map (index · i)) .obj
    (c03_handlerOf_setBe_uniform .obj hb')
  simp only [List.map_map] at h2
  rw [show (fun a : Vec (ι → X) => elemObj a i) = Vec.setBe .obj ∘ (index · i) from rfl, h2, ← h1]
  cases dispatch ev m scalars ord ops counted <;> rfl

end

/-! ## The hypothesis holds for the generated compute layer

`Ev.Elementwise` is NumPy's contract for the compute layer.  For the GENERATED executable copy of vector's compute
functions it is a theorem: at the column scalar type `ι → X` (`colScalar`: every primitive acts position by position)
each of the 82 compute modules, on every key and every argument list, returns at position `i` what it returns on the
elements at position `i`.  (The compute functions are straight-line code over the primitives, so after fixing the key
the two sides are definitionally equal.) -/

section
open VE Lean Elab Tactic Meta

/-- one lemma `c03_exec_<module>` per constructor of `ModuleId`: where `<module>.evalL` is defined on a list of columns, it
is defined on the list of their elements at position `i`, with the element of the result.  Once `<module>.evalL k a = some r`
has been inverted the key is a list of atoms; for each of the finitely many keys both sides run the same straight-line
code, on columns and on elements, and are definitionally equal.  The column side stands on the left: the elaborator then brings
the result on the elements to a tuple once and compares it component by component with the columns at `i`; with the sides the
other way round the same check costs several times as much. -/
local elab "exec_natural_lemmas" : command => do
  let some (.inductInfo iv) := (← getEnv).find? ``VK.ModuleId | throwError "ModuleId not found"
  for c in iv.ctors do
    let s := c.getString!
    let thm := mkIdent (Name.mkSimple s!"c03_exec_{s}")
    let ev := mkIdent (`VE ++ Name.mkSimple s ++ `evalL)
    Command.elabCommand (← `(command|
      theorem $thm {ι X : Type} [Scalar X] (i : ι) (k : List KA) (a : List (ι → X)) :
          ∀ r, $ev (S := ι → X) k a = some r →
            some (Prod.map (Out.map (fun c => c i) (fun (c : ι → VE.B X) => c i)) id r) =
              $ev (S := X) k (a.map (fun c => c i)) := by
        intro r h
        evalL_inv $ev at h
        repeat' (cases_first VK.Az VK.Lon VK.Tmp VK.Ord)
        all_goals eq_refl))

exec_natural_lemmas

/-- close a goal about `Compute.eval <module>` with the lemma of that module -/
local elab "exec_lemma" : tactic => withMainContext do
  let t ← instantiateMVars (← (← getMainGoal).getType)
  let some c := t.find? (fun e => e.isConst && e.constName!.getPrefix == ``VK.ModuleId)
    | throwError "exec_lemma: no module"
  let nm := mkIdent (`VG ++ Name.mkSimple s!"c03_exec_{c.constName!.getString!}")
  evalTactic (← `(tactic| exact $nm _ _ _))

variable {ι X : Type} [Scalar X]

/-- the generated executable compute layer, as the glue sees it, at the scalar type `S` -/
abbrev genEv (S : Type) [Scalar S] : Ev S (VE.B S) := fun m k a => Compute.eval (S := S) m k a

/-- the generated compute layer at columns acts element by element: NumPy's ufunc contract, proved for all 82 modules,
all keys and all argument lists, for every element scalar type.  Where the layer is defined on the columns this is
`c03_exec_<module>`; it is defined exactly on the keys of the module's key type and the argument lists of its arity
(`c05_exec_spec`, `c05_exec_total`), and `List.map` keeps the length, so it is undefined on the elements where it is undefined
on the columns. -/
theorem c03_exec_elementwise : Ev.Elementwise (Bx := VE.B X) (genEv (ι → X)) (genEv X) := by
  intro i m k a
  have defined : ∀ r, genEv (ι → X) m k a = some r →
      some (Prod.map (Out.map (· i) (· i)) id r) = genEv X m k (a.map (· i)) := by
    cases m <;> exec_lemma
  cases h : genEv (ι → X) m k a with
  | some r => exact (defined r h).symm
  | none =>
    cases h' : genEv X m k (a.map (· i)) with
    | none => rfl
    | some r' =>
      obtain ⟨hk, ha⟩ := (c05_exec_spec m).fits _ _ _ h'
      have := c05_exec_total (S := ι → X) m k a hk (by rwa [List.length_map] at ha)
      rw [show Compute.eval m k a = none from h] at this
      cases this

/-- the property, unconditionally, for the generated compute layer: binary methods on two arrays … -/
theorem c03_exec_elem_binary (i : ι) (K : Consts X) (b : Bin) (arr arr' : Vec (ι → X)) (extra : List (ι → X)) :
    (binary (genEv (ι → X)) (Consts.bcast ι K) b arr arr' extra).map (Res.at (Bx := VE.B X) · i) =
      binary (genEv X) K b (index arr i) (index arr' i) (extra.map (· i)) :=
  c03_elem_binary c03_exec_elementwise i K b arr arr' extra

/-- … an array against a single (broadcast) vector object … -/
theorem c03_exec_bcast_object (i : ι) (K : Consts X) (b : Bin) (arr : Vec (ι → X)) (o : Vec X) (extra : List X) :
    (binary (genEv (ι → X)) (Consts.bcast ι K) b arr (bcast ι o) (extra.map (bcastS ι))).map
        (Res.at (Bx := VE.B X) · i) =
      binary (genEv X) K b (index arr i) o extra :=
  c03_bcast_object_right c03_exec_elementwise i K b arr o extra

/-- … properties of arrays, and scaling by a (broadcast) scalar -/
theorem c03_exec_elem_getAcc (i : ι) (a : Acc) (arr : Vec (ι → X)) :
    (getAcc (genEv (ι → X)) a arr).map (Res.at (Bx := VE.B X) · i) = getAcc (genEv X) a (index arr i) :=
  c03_elem_getAcc c03_exec_elementwise i a arr

theorem c03_exec_bcast_scalar (i : ι) (n : Nat) (s : X) (arr : Vec (ι → X)) :
    (scaleN (genEv (ι → X)) n (bcastS ι s) arr).map (Res.at (Bx := VE.B X) · i) =
      scaleN (genEv X) n s (index arr i) :=
  c03_bcast_scalar_scaleN c03_exec_elementwise i n s arr

/-! ### examples: the hypotheses are satisfiable, the statements are not vacuous -/

/-- `Ev.Natural` / `Ev.Elementwise` are satisfiable: by the generated compute layer (above) and by the identity -/
example (ev : Ev X (VE.B X)) : Ev.Natural (fun s => s) (fun b => b) ev ev := Ev.Natural.id ev

/-- the side condition on `A.inv` of `c03_stepE` holds for the position-wise reciprocal -/
example (A : Arith X) (i : ι) :
    let A' : Arith (ι → X) := ⟨fun c j => A.inv (c j), fun c p j => A.pow (c j) (p j), fun _ => A.quarter,
      fun _ => A.sixth, fun _ => false⟩
    ∀ s : ι → X, A.inv (s i) = (A'.inv s) i := fun _ => rfl

/-- two arrays (index set `Fin 3`, or any `ι`) of Cartesian 2D vectors: `+` adds the columns, one result type -/
example (K : Consts (ι → X)) (x y x' y' : ι → X) :
    binary (genEv (ι → X)) K .add ⟨{ be := .np, mom := false, az := .xy, lon := none, tmp := none }, [x, y]⟩
        ⟨{ be := .np, mom := false, az := .xy, lon := none, tmp := none }, [x', y']⟩ [] =
      .ok (.vec ⟨{ be := .np, mom := false, az := .xy, lon := none, tmp := none }, [x + x', y + y']⟩) := rfl

/-- … and at position `i` this is the sum of the two elements -/
example (x y x' y' : ι → X) (i : ι) : (x + x') i = x i + x' i ∧ (y + y') i = y i + y' i := ⟨rfl, rfl⟩

/-- a NumPy array times a Python scalar: the scalar is a constant column; the polar array keeps its system -/
example (rho phi : ι → X) (s : X) :
    scaleN (genEv (ι → X)) 2 (bcastS ι s) ⟨{ be := .np, mom := true, az := .rhophi, lon := none, tmp := none }, [rho, phi]⟩ =
      .ok (.vec ⟨{ be := .np, mom := true, az := .rhophi, lon := none, tmp := none },
        (planar_scale.rhophi (bcastS ι s) rho phi).1 :: [(planar_scale.rhophi (bcastS ι s) rho phi).2]⟩) := rfl

/-- an array error is the object error: adding a 2D array and a 3D array raises `TypeError`, like the elements do -/
example (K : Consts (ι → X)) (x y x' y' z' : ι → X) (i : ι) :
    binary (genEv (ι → X)) K .add ⟨{ be := .np, mom := false, az := .xy, lon := none, tmp := none }, [x, y]⟩
        ⟨{ be := .np, mom := false, az := .xy, lon := some .z, tmp := none }, [x', y', z']⟩ [] = .error .typeError ∧
    binary (genEv X) (K.map (· i)) .add ⟨{ be := .np, mom := false, az := .xy, lon := none, tmp := none }, [x i, y i]⟩
        ⟨{ be := .np, mom := false, az := .xy, lon := some .z, tmp := none }, [x' i, y' i, z' i]⟩ [] =
      .error .typeError := ⟨rfl, rfl⟩

end
end VG
