/-
What the NumPy FUNCTION FORMS (`numpy.add(v, w)`, `v + w`, `numpy.multiply(k, v)`, `abs(v)`, …) DENOTE over the reals, for every
backend (object, NumPy, Awkward; SymPy where `okSym` allows), both flavors and every storage pairing.  Prefix `c05d_`.

A COROLLARY file: it composes

* layer 1, routing (`Props/C05Ufunc.lean`, model `Glue/Ufunc.lean`): every accepted route of the four ufunc tables is the operator
  of `VG.operator` the ufunc stands for (`c05u_add` … `c05u_power_chain`), applied to the operands as the answering table sees
  them (`seenV`: the identity, except that Awkward sees a NumPy vector array through `vector.Array(v)`: backend `ak`, generic
  flavor, SAME storage and coordinates), and
* layer 2, the method-level theorems over the reals (`Props/MethodBin.lean` `c11m_*`, `Props/MethodOps.lean` `c12m_*`; glue
  instantiated at `S := ℝ` with the GENERATED real compute layer `evR`),

and adds no new model and no compute-level fact.  The hypotheses are those of layer 2, verbatim, on the ORIGINAL operands: what
the table sees is the operand under another backend tag and flavor (`seenV_retag`), and the hypotheses only look at the storage
(`az lon tmp`) and the stored coordinates, so they hold of the retagged operand by unfolding (`c05d_seen_*`: what `seenV` keeps).

For `matmul` on the Awkward backend see the remark at `c05u_matmul`: the installed Awkward refuses it before the lookup.
-/
import VectorModel.Props.C05Ufunc
import VectorModel.Props.MethodOps
import VectorModel.Glue.Arrays

set_option linter.unusedVariables false

namespace VR
namespace C05D
open VK VG VU Spec Real C01M
open C11M (SinOKV CanonTmpV RepAdd RepSub SubCausal tmpRes? ThetaRangeV dotL)
open C12M (EqP NeP CanonV NormOK Norm2OK normS norm2S)

/-! ## 0. what the answering table sees of an operand (`seenV`) keeps storage and coordinates -/

def retag (b : Backend) (m : Bool) (v : Vec ℝ) : Vec ℝ := ⟨{ v.ty with be := b, mom := m }, v.c⟩

theorem seenV_retag (ks : List OpK) (v : Vec ℝ) : ∃ b m, seenV ks v = retag b m v := by
  obtain ⟨⟨be, mom, az, lon, tmp⟩, c⟩ := v
  unfold seenV akCastVec
  split
  · split
    · exact ⟨.ak, false, rfl⟩
    · exact ⟨be, mom, rfl⟩
  · exact ⟨be, mom, rfl⟩

theorem setBe_retag (b : Backend) (v : Vec ℝ) : v.setBe b = retag b v.ty.mom v := rfl

/-- a hypothesis that only looks at storage and stored coordinates (not at backend or flavor) -/
def StorageOnly (P : Vec ℝ → Prop) : Prop := ∀ b m v, P (retag b m v) = P v

theorem so_theta : StorageOnly ThetaRangeV := fun _ _ _ => rfl
theorem so_norm : StorageOnly NormOK := fun _ _ _ => rfl
theorem so_norm2 : StorageOnly Norm2OK := fun _ _ _ => rfl
theorem so_canon : StorageOnly CanonV := fun _ _ _ => rfl

theorem c05d_seen_wfv (ks : List OpK) (v : Vec ℝ) : C01M.WFV (seenV ks v) ↔ C01M.WFV v := by
  obtain ⟨b, m, e⟩ := seenV_retag ks v
  rw [e]; exact Iff.rfl

/-- **`seenV` keeps the denotation** (the cast `vector.Array(v)` of a NumPy vector array keeps every stored coordinate) -/
theorem c05d_seen_denote (ks : List OpK) (v : Vec ℝ) : denote (seenV ks v) = denote v := by
  obtain ⟨b, m, e⟩ := seenV_retag ks v
  rw [e]; rfl

theorem c05d_seen_storage (ks : List OpK) (v : Vec ℝ) :
    (seenV ks v).ty.az = v.ty.az ∧ (seenV ks v).ty.lon = v.ty.lon ∧ (seenV ks v).ty.tmp = v.ty.tmp ∧
      (seenV ks v).ty.dim = v.ty.dim ∧ (seenV ks v).c = v.c := by
  obtain ⟨b, m, e⟩ := seenV_retag ks v
  rw [e]; exact ⟨rfl, rfl, rfl, rfl, rfl⟩

/-- the backend of the result of a two-vector method on the operands as seen (`C11M.hbe`: higher priority, first wins ties)
is the backend whose table answered -/
theorem c05d_seen_handler (v w : Vec ℝ) :
    handlerBe [kv v, kv w] = some (C11M.hbe (seenV [kv v, kv w] v).ty.be (seenV [kv v, kv w] w).ty.be) := by
  obtain ⟨⟨be1, mom1, az1, lon1, tmp1⟩, c1⟩ := v
  obtain ⟨⟨be2, mom2, az2, lon2, tmp2⟩, c2⟩ := w
  cases be1 <;> cases be2 <;> rfl

section
variable (K : Consts ℝ) (A : Arith ℝ)

/-! ## 1. `numpy.add(v, w)` / `v + w`, `numpy.subtract(v, w)` / `v - w` -/

/-- **`numpy.add(v, w)`, every backend pairing (`okSym`: no SymPy operand next to an Awkward one), every storage pairing
(2D: 4, 3D: 36, 4D: 144), both flavors**: a vector of the same dimension, of the backend whose table answered, denoting the
component-wise sum of the Cartesian denotations.  Hypotheses: those of `c11m_add`, on the operands themselves. -/
theorem c05d_add (v w : Vec ℝ) (hs : okSym [kv v, kv w] = true) (hv : C01M.WFV v) (hw : C01M.WFV w) (hd : v.ty.dim = w.ty.dim)
    (hT1 : TanOKV v) (hT2 : TanOKV w) (hS1 : SinOKV v) (hS2 : SinOKV w) (hC1 : CanonTmpV v) (hC2 : CanonTmpV w)
    (hrep : RepAdd v w) :
    ∃ r p q, evalRoute evR K A (route .add [kv v, kv w] []) [.v (seenV [kv v, kv w] v), .v (seenV [kv v, kv w] w)] =
        .ok (.vec r) ∧ C01M.WFV r ∧ r.ty.dim = v.ty.dim ∧ handlerBe [kv v, kv w] = some r.ty.be ∧
      r.ty.mom = ((seenV [kv v, kv w] v).ty.mom || (seenV [kv v, kv w] w).ty.mom) ∧
      r.ty.tmp = tmpRes? v.ty.tmp w.ty.tmp ∧
      denote v = some p ∧ denote w = some q ∧ denote r = some (List.zipWith (· + ·) p q) := by
  have hr := c05u_add evR K A v w hs
  have hh := c05d_seen_handler v w
  obtain ⟨b, m, e⟩ := seenV_retag [kv v, kv w] v
  obtain ⟨b', m', e'⟩ := seenV_retag [kv v, kv w] w
  rw [e, e'] at hr hh ⊢
  -- the hypotheses look at storage and coordinates only, which `retag` keeps: `hv : WFV v` is accepted where `WFV (retag b m v)` is
  -- expected because the latter unfolds to the former (what `c05d_seen_wfv` states; `so_*` say it of the other hypotheses), and
  -- so throughout this file
  obtain ⟨r, p, q, h1, h2, h3, h4, h5, h6, h7, h8, h9⟩ :=
    C11M.c11m_add K A (retag b m v) (retag b' m' w) hv hw hd hT1 hT2 hS1 hS2 hC1 hC2 hrep
  exact ⟨r, p, q, by rw [hr, (C11M.c11m_operators evR K A _ _).1]; exact h1, h2, h3, by rw [hh, h5], h4, h6, h7, h8, h9⟩

/-- **`numpy.subtract(v, w)`** likewise: the component-wise difference (hypotheses of `c11m_subtract`: for τ,τ-stored 4D
operands the exact difference must be representable in τ storage, `SubCausal`) -/
theorem c05d_subtract (v w : Vec ℝ) (hs : okSym [kv v, kv w] = true) (hv : C01M.WFV v) (hw : C01M.WFV w) (hd : v.ty.dim = w.ty.dim)
    (hT1 : TanOKV v) (hT2 : TanOKV w) (hS1 : SinOKV v) (hS2 : SinOKV w) (hC1 : CanonTmpV v) (hC2 : CanonTmpV w)
    (hrep : RepSub v w) (hcaus : SubCausal v w) :
    ∃ r p q, evalRoute evR K A (route .subtract [kv v, kv w] []) [.v (seenV [kv v, kv w] v), .v (seenV [kv v, kv w] w)] =
        .ok (.vec r) ∧ C01M.WFV r ∧ r.ty.dim = v.ty.dim ∧ handlerBe [kv v, kv w] = some r.ty.be ∧
      r.ty.mom = ((seenV [kv v, kv w] v).ty.mom || (seenV [kv v, kv w] w).ty.mom) ∧
      r.ty.tmp = tmpRes? v.ty.tmp w.ty.tmp ∧
      denote v = some p ∧ denote w = some q ∧ denote r = some (List.zipWith (· - ·) p q) := by
  have hr := c05u_subtract evR K A v w hs
  have hh := c05d_seen_handler v w
  obtain ⟨b, m, e⟩ := seenV_retag [kv v, kv w] v
  obtain ⟨b', m', e'⟩ := seenV_retag [kv v, kv w] w
  rw [e, e'] at hr hh ⊢
  obtain ⟨r, p, q, h1, h2, h3, h4, h5, h6, h7, h8, h9⟩ :=
    C11M.c11m_subtract K A (retag b m v) (retag b' m' w) hv hw hd hT1 hT2 hS1 hS2 hC1 hC2 hrep hcaus
  exact ⟨r, p, q, by rw [hr, (C11M.c11m_operators evR K A _ _).2.1]; exact h1, h2, h3, by rw [hh, h5], h4, h6, h7, h8, h9⟩

/-! ## 2. `numpy.matmul(v, w)` / `v @ w` -/

/-- **`numpy.matmul(v, w)`** is the Euclidean (2D / 3D) resp. Minkowski (4D, `t₁t₂ − x₁x₂ − y₁y₂ − z₁z₂`) product of the
denotations (`C11M.dotL`), every backend and storage pairing of the model (hypotheses of `c11m_dot`; Awkward: `c05u_matmul`) -/
theorem c05d_matmul (v w : Vec ℝ) (hs : okSym [kv v, kv w] = true) (hv : C01M.WFV v) (hw : C01M.WFV w) (hd : v.ty.dim = w.ty.dim)
    (hT1 : TanOKV v) (hT2 : TanOKV w) (hS1 : SinOKV v) (hS2 : SinOKV w) (hC1 : CanonTmpV v) (hC2 : CanonTmpV w) :
    ∃ p q, denote v = some p ∧ denote w = some q ∧
      evalRoute evR K A (route .matmul [kv v, kv w] []) [.v (seenV [kv v, kv w] v), .v (seenV [kv v, kv w] w)] =
        .ok (.scalar (dotL p q)) := by
  have hr := c05u_matmul evR K A v w hs
  obtain ⟨b, m, e⟩ := seenV_retag [kv v, kv w] v
  obtain ⟨b', m', e'⟩ := seenV_retag [kv v, kv w] w
  rw [e, e'] at hr ⊢
  obtain ⟨p, q, h1, h2, h3⟩ := C11M.c11m_dot K A (retag b m v) (retag b' m' w) hv hw hd hT1 hT2 hS1 hS2 hC1 hC2
  exact ⟨p, q, h1, h2, by rw [hr, (C11M.c11m_operators evR K A _ _).2.2.1]; exact h3⟩

/-! ## 3. `multiply`, `true_divide`, `negative`, `positive` -/

/-- **`numpy.multiply(v, k)` AND `numpy.multiply(k, v)`** (`v * k`, `k * v`), every backend and storage: both return the same
vector, of the type of `v`, denoting `k •` the denotation of `v` (hypotheses of `c11m_scale`: stored θ in `[0, π]`; for
τ-stored 4D vectors `0 ≤ k`) -/
theorem c05d_multiply (v : Vec ℝ) (hv : C01M.WFV v) (k : ℝ) (hθ : ThetaRangeV v) (hf : v.ty.tmp = some .tau → 0 ≤ k) :
    ∃ r p, evalRoute evR K A (route .multiply [kv v, .scalar] []) [.v v, .sc k] = .ok (.vec r) ∧
      evalRoute evR K A (route .multiply [.scalar, kv v] []) [.sc k, .v v] = .ok (.vec r) ∧
      r.ty = v.ty ∧ C01M.WFV r ∧ denote v = some p ∧ denote r = some (p.map (k * ·)) := by
  obtain ⟨r, p, h1, h2, h3, h4, h5⟩ := C11M.c11m_scale K A v hv k hθ hf
  refine ⟨r, p, ?_, ?_, h2, h3, h4, h5⟩
  · rw [c05u_multiply_vk evR K A v k, (C11M.c11m_neg evR K A v k).2.1]; exact h1
  · rw [(c05u_multiply_kv evR K A v k).1, (C11M.c11m_neg evR K A v k).2.1]; exact h1

/-- **the two operand orders of `multiply` give the SAME result value** — any vector, any scalar type, any compute layer -/
theorem c05d_multiply_comm {S B : Type} (ev : Ev S B) (K : Consts S) (A : Arith S) (v : Vec S) (k : S) :
    evalRoute ev K A (route .multiply [kv v, .scalar] []) [.v v, .sc k] =
      evalRoute ev K A (route .multiply [.scalar, kv v] []) [.sc k, .v v] := by
  rw [c05u_multiply_vk ev K A v k, (c05u_multiply_kv ev K A v k).1]

/-- **`numpy.true_divide(v, k)`** (`v / k`), `k ≠ 0`, with an arithmetic whose `1 / k` is the real inverse: a vector of the type
of `v` denoting `k⁻¹ •` the denotation (for τ-stored 4D vectors `0 ≤ k`) -/
theorem c05d_true_divide (v : Vec ℝ) (hv : C01M.WFV v) (k : ℝ) (hk : k ≠ 0) (hA : A.inv k = k⁻¹) (hθ : ThetaRangeV v)
    (hf : v.ty.tmp = some .tau → 0 ≤ k) :
    ∃ r p, evalRoute evR K A (route .true_divide [kv v, .scalar] []) [.v v, .sc k] = .ok (.vec r) ∧
      r.ty = v.ty ∧ C01M.WFV r ∧ denote v = some p ∧ denote r = some (p.map (k⁻¹ * ·)) := by
  obtain ⟨r, p, h1, h2, h3, h4, h5⟩ := C11M.c11m_scale K A v hv k⁻¹ hθ (fun e => inv_nonneg.mpr (hf e))
  refine ⟨r, p, ?_, h2, h3, h4, h5⟩
  rw [c05u_true_divide evR K A v k, (C11M.c11m_neg evR K A v k).2.2.2, hA]; exact h1

/-- the real arithmetic of `Props/MethodOps.lean` satisfies the hypothesis on `A.inv` -/
example (k : ℝ) : C12M.realArith.inv k = k⁻¹ := one_div k

/-- **`numpy.negative(v)`** (`-v`): a vector of the type of `v` denoting the negated denotation — every storage except
τ-stored 4D vectors (`c11m_neg_tau_discrepancy`: a documented discrepancy of the unsigned reading of τ) -/
theorem c05d_negative (hK : K.negOne = -1) (v : Vec ℝ) (hv : C01M.WFV v) (hθ : ThetaRangeV v) (hτ : v.ty.tmp ≠ some .tau) :
    ∃ r p, evalRoute evR K A (route .negative [kv v] []) [.v v] = .ok (.vec r) ∧ r.ty = v.ty ∧
      denote v = some p ∧ denote r = some (p.map (fun x => -x)) := by
  obtain ⟨r, p, h1, h2, h3, h4⟩ := C11M.c11m_neg_denote K A hK v hv hθ hτ
  exact ⟨r, p, (c05u_negative evR K A v).trans h1, h2, h3, h4⟩

/-- **`numpy.positive(v)`** (`+v`) returns `v` itself — any vector, any scalar type, any compute layer -/
theorem c05d_positive {S B : Type} (ev : Ev S B) (K : Consts S) (A : Arith S) (v : Vec S) :
    evalRoute ev K A (route .positive [kv v] []) [.v v] = .ok (.vec v) := by
  rw [c05u_positive ev K A v]; rfl

/-! ## 4. `absolute`, `square`, `sqrt`, `cbrt`, `power` -/

/-- **`numpy.absolute(v)`** (`abs(v)`), every backend and storage (2 + 6 + 12): the norm of the denotation (`C12M.normS`:
Euclidean in 2D / 3D, the signed `tau` in 4D); hypotheses of `c12m_abs` -/
theorem c05d_absolute (v : Vec ℝ) (hv : C01M.WFV v) (hc : NormOK v) (p : List ℝ) (h : denote v = some p) :
    evalRoute evR K A (route .absolute [kv v] []) [.v v] = .ok (.scalar (normS p)) :=
  (c05u_absolute evR K A v).trans (C12M.c12m_abs K A v hv hc p h)

/-- … spelled out per dimension: `√(x²+y²)`, `√(x²+y²+z²)`, and for `s = t² − (x²+y²+z²)` the signed `sign(s)·√|s|`, which is
`√s` for a time-like or light-like vector -/
theorem c05d_absolute_dims (v : Vec ℝ) (hv : C01M.WFV v) (hc : NormOK v) :
    (∀ x y, denote v = some [x, y] →
      evalRoute evR K A (route .absolute [kv v] []) [.v v] = .ok (.scalar (sqrt (x ^ 2 + y ^ 2)))) ∧
    (∀ x y z, denote v = some [x, y, z] →
      evalRoute evR K A (route .absolute [kv v] []) [.v v] = .ok (.scalar (sqrt (x ^ 2 + y ^ 2 + z ^ 2)))) ∧
    (∀ x y z t, denote v = some [x, y, z, t] →
      evalRoute evR K A (route .absolute [kv v] []) [.v v] =
        .ok (.scalar (Real.sign (t ^ 2 - (x ^ 2 + y ^ 2 + z ^ 2)) * sqrt |t ^ 2 - (x ^ 2 + y ^ 2 + z ^ 2)|))) ∧
    (∀ x y z t, denote v = some [x, y, z, t] → 0 ≤ t ^ 2 - (x ^ 2 + y ^ 2 + z ^ 2) →
      evalRoute evR K A (route .absolute [kv v] []) [.v v] = .ok (.scalar (sqrt (t ^ 2 - (x ^ 2 + y ^ 2 + z ^ 2))))) := by
  refine ⟨fun x y h => c05d_absolute K A v hv hc _ h, fun x y z h => c05d_absolute K A v hv hc _ h,
    fun x y z t h => c05d_absolute K A v hv hc _ h, fun x y z t h h0 => ?_⟩
  rw [c05d_absolute K A v hv hc _ h, C12M.normS_eq_sqrt _ (show 0 ≤ norm2S [x, y, z, t] from h0)]; rfl

/-- **`numpy.square(v)`**: the squared norm of the denotation (`C12M.norm2S`); hypotheses of `c12m_square` -/
theorem c05d_square (v : Vec ℝ) (hv : C01M.WFV v) (hc : Norm2OK v) (p : List ℝ) (h : denote v = some p) :
    evalRoute evR K A (route .square [kv v] []) [.v v] = .ok (.scalar (norm2S p)) :=
  (c05u_square evR K A v).trans (C12M.c12m_square K A v hv hc p h)

/-- … spelled out per dimension: `x²+y²`, `x²+y²+z²`, `t² − (x²+y²+z²)` -/
theorem c05d_square_dims (v : Vec ℝ) (hv : C01M.WFV v) (hc : Norm2OK v) :
    (∀ x y, denote v = some [x, y] →
      evalRoute evR K A (route .square [kv v] []) [.v v] = .ok (.scalar (x ^ 2 + y ^ 2))) ∧
    (∀ x y z, denote v = some [x, y, z] →
      evalRoute evR K A (route .square [kv v] []) [.v v] = .ok (.scalar (x ^ 2 + y ^ 2 + z ^ 2))) ∧
    (∀ x y z t, denote v = some [x, y, z, t] →
      evalRoute evR K A (route .square [kv v] []) [.v v] = .ok (.scalar (t ^ 2 - (x ^ 2 + y ^ 2 + z ^ 2)))) :=
  ⟨fun x y h => c05d_square K A v hv hc _ h, fun x y z h => c05d_square K A v hv hc _ h,
    fun x y z t h => c05d_square K A v hv hc _ h⟩

/-- **`numpy.sqrt(v)`** = `(norm²) ** 0.25` -/
theorem c05d_sqrt (v : Vec ℝ) (hv : C01M.WFV v) (hc : Norm2OK v) (p : List ℝ) (h : denote v = some p) :
    evalRoute evR K A (route .sqrt [kv v] []) [.v v] = .ok (.scalar (A.pow (norm2S p) A.quarter)) :=
  (c05u_sqrt evR K A v).trans (C12M.c12m_sqrt K A v hv hc p h)

/-- **`numpy.cbrt(v)`** = `(norm²) ** 0.1666…` -/
theorem c05d_cbrt (v : Vec ℝ) (hv : C01M.WFV v) (hc : Norm2OK v) (p : List ℝ) (h : denote v = some p) :
    evalRoute evR K A (route .cbrt [kv v] []) [.v v] = .ok (.scalar (A.pow (norm2S p) A.sixth)) :=
  (c05u_cbrt evR K A v).trans (C12M.c12m_cbrt K A v hv hc p h)

/-- **`numpy.power(v, k)` on the Awkward backend**: the squared norm for `k == 2`, `norm ** k` otherwise -/
theorem c05d_power_ak (v : Vec ℝ) (hb : v.ty.be = .ak) (hv : C01M.WFV v) (hc : NormOK v) (p : List ℝ) (h : denote v = some p)
    (k : ℝ) :
    evalRoute evR K A (route .power [kv v, .scalar] []) [.v v, .sc k] =
      .ok (.scalar (if A.isTwo k then norm2S p else A.pow (normS p) k)) := by
  rw [c05u_power_ak evR K A v k hb]
  by_cases h2 : A.isTwo k = true
  · rw [if_pos h2]; exact C12M.c12m_pow_two K A v hv (C12M.norm2OK_of_normOK hv hc) p h k h2
  · rw [if_neg h2]; exact C12M.c12m_pow K A v hv hc p h k (by simpa using h2)

/-- **`numpy.power(v, k)` on the object / NumPy / SymPy backends**: `norm ** k` for EVERY `k`, also `k == 2` (so for a
space-like 4D vector `numpy.power(v, 2) = tau² = |tau2| ≠ tau2 = v ** 2`: `c05u_diff_power_two_value`, a documented discrepancy
between the ufunc and the operator) -/
theorem c05d_power_chain (v : Vec ℝ) (hb : v.ty.be ≠ .ak) (hv : C01M.WFV v) (hc : NormOK v) (p : List ℝ) (h : denote v = some p)
    (k : ℝ) :
    evalRoute evR K A (route .power [kv v, .scalar] []) [.v v, .sc k] = .ok (.scalar (A.pow (normS p) k)) := by
  rw [(c05u_power_chain evR K A v k hb).1, C12M.getAcc_norm K A v hv hc p h]

/-! ## 5. `equal`, `not_equal` -/

/-- **`numpy.equal(v, w)`** (`v == w`) is the method `equal` — any scalar type and compute layer, every backend pairing -/
theorem c05d_equal {S B : Type} (ev : Ev S B) (K : Consts S) (A : Arith S) (v w : Vec S) (hs : okSym [kv v, kv w] = true) :
    evalRoute ev K A (route .equal [kv v, kv w] []) [.v (seenV [kv v, kv w] v), .v (seenV [kv v, kv w] w)] =
      call ev K A "equal" (seenV [kv v, kv w] v) [.v (seenV [kv v, kv w] w)] := by
  rw [c05u_equal ev K A v w hs, (C11M.c11m_operators ev K A _ _).2.2.2.1]

/-- **`numpy.not_equal(v, w)`** (`v != w`) is the method `not_equal` -/
theorem c05d_not_equal {S B : Type} (ev : Ev S B) (K : Consts S) (A : Arith S) (v w : Vec S)
    (hs : okSym [kv v, kv w] = true) :
    evalRoute ev K A (route .not_equal [kv v, kv w] []) [.v (seenV [kv v, kv w] v), .v (seenV [kv v, kv w] w)] =
      call ev K A "not_equal" (seenV [kv v, kv w] v) [.v (seenV [kv v, kv w] w)] := by
  rw [c05u_not_equal ev K A v w hs, (C11M.c11m_operators ev K A _ _).2.2.2.2]

/-- over the reals: the answers of the compute functions behind `equal` / `not_equal` on the ORIGINAL operands
(`C12M.EqP`, `C12M.NeP`), and `!=` is the negation of `==` -/
theorem c05d_equal_value (v w : Vec ℝ) (hs : okSym [kv v, kv w] = true) (hv : C01M.WFV v) (hw : C01M.WFV w)
    (hd : v.ty.dim = w.ty.dim) :
    evalRoute evR K A (route .equal [kv v, kv w] []) [.v (seenV [kv v, kv w] v), .v (seenV [kv v, kv w] w)] =
      .ok (.truth (EqP v w)) ∧
    evalRoute evR K A (route .not_equal [kv v, kv w] []) [.v (seenV [kv v, kv w] v), .v (seenV [kv v, kv w] w)] =
      .ok (.truth (NeP v w)) ∧
    (NeP v w ↔ ¬ EqP v w) := by
  have h1 := c05d_equal evR K A v w hs
  have h2 := c05d_not_equal evR K A v w hs
  obtain ⟨b, m, e⟩ := seenV_retag [kv v, kv w] v
  obtain ⟨b', m', e'⟩ := seenV_retag [kv v, kv w] w
  rw [e, e'] at h1 h2 ⊢
  refine ⟨h1.trans (C12M.equal_eval K A (retag b m v) (retag b' m' w) hv hw hd),
    h2.trans (C12M.not_equal_eval K A (retag b m v) (retag b' m' w) hv hw hd), ?_⟩
  obtain ⟨p, q, h1, h2, h3⟩ := C12M.c12m_ne_iff_not_eq K A v w hv hw hd
  rw [C12M.not_equal_eval K A v w hv hw hd] at h1
  rw [C12M.equal_eval K A v w hv hw hd] at h2
  cases h1; cases h2
  exact h3

/-- **soundness of the function forms w.r.t. the denotation** (`c12m_eq_denote_partial`; only this direction holds, by design:
the comparison is on stored coordinates): operands for which `numpy.equal` answers true denote the same Cartesian vector;
operands denoting different vectors get `numpy.not_equal` true -/
theorem c05d_equal_denote (v w : Vec ℝ) (hs : okSym [kv v, kv w] = true) (hv : C01M.WFV v) (hw : C01M.WFV w)
    (hd : v.ty.dim = w.ty.dim) (hcv : CanonV v) (hcw : CanonV w) :
    ∃ p q, evalRoute evR K A (route .not_equal [kv v, kv w] []) [.v (seenV [kv v, kv w] v), .v (seenV [kv v, kv w] w)] =
        .ok (.truth p) ∧
      evalRoute evR K A (route .equal [kv v, kv w] []) [.v (seenV [kv v, kv w] v), .v (seenV [kv v, kv w] w)] =
        .ok (.truth q) ∧
      (p ↔ ¬ q) ∧ (q → denote v = denote w) ∧ (denote v ≠ denote w → p) := by
  obtain ⟨e1, e2, e3⟩ := c05d_equal_value K A v w hs hv hw hd
  obtain ⟨p, q, h1, h2, h3, h4⟩ := C12M.c12m_eq_denote_partial K A v w hv hw hd hcv hcw
  rw [C12M.not_equal_eval K A v w hv hw hd] at h1
  rw [C12M.equal_eval K A v w hv hw hd] at h2
  cases h1; cases h2
  exact ⟨_, _, e2, e1, e3, h3, h4⟩

/-! ## 6. the denotation of the result does not depend on the backends of the operands -/

/-- **backend independence, two-vector ufuncs**: the same two stored vectors under ANY two backend taggings (`Vec.setBe`;
each tagging without a SymPy operand next to an Awkward one) — the routes of the answering tables evaluate to sums /
differences with the same denotation and dimension, and to the same `matmul` value -/
theorem c05d_backend_independent (v w : Vec ℝ) (b1 b1' b2 b2' : Backend)
    (hs1 : okSym [kv (v.setBe b1), kv (w.setBe b1')] = true) (hs2 : okSym [kv (v.setBe b2), kv (w.setBe b2')] = true)
    (hv : C01M.WFV v) (hw : C01M.WFV w) (hd : v.ty.dim = w.ty.dim)
    (hT1 : TanOKV v) (hT2 : TanOKV w) (hS1 : SinOKV v) (hS2 : SinOKV w) (hC1 : CanonTmpV v) (hC2 : CanonTmpV w)
    (hrep : RepAdd v w) (hrepS : RepSub v w) (hcaus : SubCausal v w) :
    let v1 := v.setBe b1; let w1 := w.setBe b1'; let v2 := v.setBe b2; let w2 := w.setBe b2'
    let ks1 := [kv v1, kv w1]; let ks2 := [kv v2, kv w2]
    (∃ r1 r2, evalRoute evR K A (route .add ks1 []) [.v (seenV ks1 v1), .v (seenV ks1 w1)] = .ok (.vec r1) ∧
      evalRoute evR K A (route .add ks2 []) [.v (seenV ks2 v2), .v (seenV ks2 w2)] = .ok (.vec r2) ∧
      denote r1 = denote r2 ∧ r1.ty.dim = r2.ty.dim) ∧
    (∃ r1 r2, evalRoute evR K A (route .subtract ks1 []) [.v (seenV ks1 v1), .v (seenV ks1 w1)] = .ok (.vec r1) ∧
      evalRoute evR K A (route .subtract ks2 []) [.v (seenV ks2 v2), .v (seenV ks2 w2)] = .ok (.vec r2) ∧
      denote r1 = denote r2 ∧ r1.ty.dim = r2.ty.dim) ∧
    evalRoute evR K A (route .matmul ks1 []) [.v (seenV ks1 v1), .v (seenV ks1 w1)] =
      evalRoute evR K A (route .matmul ks2 []) [.v (seenV ks2 v2), .v (seenV ks2 w2)] := by
  intro v1 w1 v2 w2 ks1 ks2
  refine ⟨?_, ?_, ?_⟩
  · obtain ⟨r1, p, q, e1, -, d1, -, -, -, hp, hq, h1⟩ :=
      c05d_add K A v1 w1 hs1 hv hw hd hT1 hT2 hS1 hS2 hC1 hC2 hrep
    obtain ⟨r2, p', q', e2, -, d2, -, -, -, hp', hq', h2⟩ :=
      c05d_add K A v2 w2 hs2 hv hw hd hT1 hT2 hS1 hS2 hC1 hC2 hrep
    have ep : some p = some p' := hp.symm.trans hp'
    have eq : some q = some q' := hq.symm.trans hq'
    cases ep; cases eq
    exact ⟨r1, r2, e1, e2, h1.trans h2.symm, d1.trans d2.symm⟩
  · obtain ⟨r1, p, q, e1, -, d1, -, -, -, hp, hq, h1⟩ :=
      c05d_subtract K A v1 w1 hs1 hv hw hd hT1 hT2 hS1 hS2 hC1 hC2 hrepS hcaus
    obtain ⟨r2, p', q', e2, -, d2, -, -, -, hp', hq', h2⟩ :=
      c05d_subtract K A v2 w2 hs2 hv hw hd hT1 hT2 hS1 hS2 hC1 hC2 hrepS hcaus
    have ep : some p = some p' := hp.symm.trans hp'
    have eq : some q = some q' := hq.symm.trans hq'
    cases ep; cases eq
    exact ⟨r1, r2, e1, e2, h1.trans h2.symm, d1.trans d2.symm⟩
  · obtain ⟨p, q, hp, hq, e1⟩ := c05d_matmul K A v1 w1 hs1 hv hw hd hT1 hT2 hS1 hS2 hC1 hC2
    obtain ⟨p', q', hp', hq', e2⟩ := c05d_matmul K A v2 w2 hs2 hv hw hd hT1 hT2 hS1 hS2 hC1 hC2
    have ep : some p = some p' := hp.symm.trans hp'
    have eq : some q = some q' := hq.symm.trans hq'
    cases ep; cases eq
    rw [e1, e2]

/-- **backend independence, one-vector ufuncs**: `multiply` (both orders) and `true_divide` give vectors with the same
denotation, `absolute` and `square` the same value, whatever the backend tag of the operand -/
theorem c05d_backend_independent_unary (v : Vec ℝ) (b1 b2 : Backend) (hv : C01M.WFV v) (k : ℝ) (hθ : ThetaRangeV v)
    (hf : v.ty.tmp = some .tau → 0 ≤ k) (hc : NormOK v) :
    let v1 := v.setBe b1; let v2 := v.setBe b2
    (∃ r1 r2, evalRoute evR K A (route .multiply [kv v1, .scalar] []) [.v v1, .sc k] = .ok (.vec r1) ∧
      evalRoute evR K A (route .multiply [.scalar, kv v2] []) [.sc k, .v v2] = .ok (.vec r2) ∧
      denote r1 = denote r2 ∧ r1.ty.dim = r2.ty.dim) ∧
    evalRoute evR K A (route .absolute [kv v1] []) [.v v1] = evalRoute evR K A (route .absolute [kv v2] []) [.v v2] ∧
    evalRoute evR K A (route .square [kv v1] []) [.v v1] = evalRoute evR K A (route .square [kv v2] []) [.v v2] := by
  intro v1 v2
  obtain ⟨x, y, rest, hp0⟩ := C01M.denote_some hv
  refine ⟨?_, ?_, ?_⟩
  · obtain ⟨r1, p, e1, -, t1, -, hp, h1⟩ := c05d_multiply K A v1 hv k hθ hf
    obtain ⟨r2, p', -, e2, t2, -, hp', h2⟩ := c05d_multiply K A v2 hv k hθ hf
    have ep : some p = some p' := hp.symm.trans hp'
    cases ep
    exact ⟨r1, r2, e1, e2, h1.trans h2.symm, by rw [t1, t2]; rfl⟩
  · rw [c05d_absolute K A v1 hv hc _ hp0, c05d_absolute K A v2 hv hc _ hp0]
  · rw [c05d_square K A v1 hv (C12M.norm2OK_of_normOK hv hc) _ hp0,
      c05d_square K A v2 hv (C12M.norm2OK_of_normOK hv hc) _ hp0]

end

/-! ## 7. the hypotheses are satisfiable -/

/-- a (ρ, φ, η)-stored NumPy momentum operand … -/
noncomputable abbrev exNp : Vec ℝ := C11M.V3 .np true .rhophi .eta 2 1 (1 / 2)
/-- … and an (x, y, θ)-stored generic Awkward operand -/
noncomputable abbrev exAk : Vec ℝ := C11M.V3 .ak false .xy .theta 1 2 1

/-- the Awkward table answers (in both operand orders) and sees the NumPy operand CAST: backend `ak`, generic flavor, same
storage and coordinates -/
example : okSym [kv exNp, kv exAk] = true ∧ okSym [kv exAk, kv exNp] = true ∧
    handlerBe [kv exNp, kv exAk] = some .ak ∧
    seenV [kv exNp, kv exAk] exNp = C11M.V3 .ak false .rhophi .eta 2 1 (1 / 2) ∧ seenV [kv exNp, kv exAk] exAk = exAk :=
  ⟨rfl, rfl, rfl, rfl, rfl⟩

theorem ex_hyps : C01M.WFV exNp ∧ C01M.WFV exAk ∧ exNp.ty.dim = exAk.ty.dim ∧ TanOKV exNp ∧ TanOKV exAk ∧ SinOKV exNp ∧ SinOKV exAk ∧
    CanonTmpV exNp ∧ CanonTmpV exAk ∧ RepAdd exNp exAk ∧ RepAdd exAk exNp ∧ RepSub exNp exAk ∧ RepSub exAk exNp ∧
    SubCausal exNp exAk ∧ ThetaRangeV exNp ∧ ThetaRangeV exAk ∧ NormOK exNp ∧ NormOK exAk ∧ Norm2OK exNp ∧ Norm2OK exAk ∧
    CanonV exNp ∧ CanonV exAk ∧ (exNp.ty.tmp = some .tau → (0 : ℝ) ≤ 3) ∧ exNp.ty.tmp ≠ some .tau := by
  have hpi : (1 : ℝ) < π := by linarith [two_le_pi]
  have hs1 : sin 1 ≠ 0 := Spec.sinOK_one .theta
  have hc1 : cos 1 ≠ 0 := Spec.tanOK_one .theta
  refine ⟨⟨by simp, rfl⟩, ⟨by simp, rfl⟩, rfl, trivial, hc1, (fun h => by cases h), (fun h => by cases h), trivial, trivial,
    fun _ => Or.inl rfl, fun _ => Or.inl rfl, fun _ => Or.inl rfl, fun _ => Or.inl rfl, (fun h => by cases h), trivial,
    show (0 : ℝ) ≤ 1 ∧ (1 : ℝ) ≤ π from ⟨by norm_num, hpi.le⟩,
    show (0 : ℝ) ≤ 2 ∧ True from ⟨by norm_num, trivial⟩, show True ∧ sin 1 ≠ 0 from ⟨trivial, hs1⟩, trivial, hs1,
    show ((0 : ℝ) ≤ 2 ∧ (0 : ℝ) < 2) ∧ True from ⟨⟨by norm_num, by norm_num⟩, trivial⟩,
    show (True ∧ (0 < sqrt ((1 : ℝ) ^ 2 + 2 ^ 2) ∧ (0 : ℝ) < 1 ∧ (1 : ℝ) < π)) ∧ cos 1 ≠ 0 from
      ⟨⟨trivial, sqrt_pos.mpr (by norm_num), one_pos, hpi⟩, hc1⟩,
    fun _ => by norm_num, fun h => by cases h⟩

/-- the theorems instantiated on this pair: `numpy.add(np, ak)`, `numpy.matmul(np, ak)`, `numpy.multiply(3, np)`,
`numpy.absolute(ak)` -/
example (K : Consts ℝ) (A : Arith ℝ) :
    (∃ r p q, evalRoute evR K A (route .add [kv exNp, kv exAk] [])
        [.v (seenV [kv exNp, kv exAk] exNp), .v (seenV [kv exNp, kv exAk] exAk)] = .ok (.vec r) ∧
      r.ty.dim = 3 ∧ r.ty.be = .ak ∧ r.ty.mom = false ∧
      denote exNp = some p ∧ denote exAk = some q ∧ denote r = some (List.zipWith (· + ·) p q)) ∧
    (∃ p q, denote exNp = some p ∧ denote exAk = some q ∧
      evalRoute evR K A (route .matmul [kv exNp, kv exAk] [])
        [.v (seenV [kv exNp, kv exAk] exNp), .v (seenV [kv exNp, kv exAk] exAk)] = .ok (.scalar (dotL p q))) ∧
    (∃ r p, evalRoute evR K A (route .multiply [.scalar, kv exNp] []) [.sc 3, .v exNp] = .ok (.vec r) ∧
      r.ty = exNp.ty ∧ denote exNp = some p ∧ denote r = some (p.map (3 * ·))) ∧
    evalRoute evR K A (route .absolute [kv exAk] []) [.v exAk] =
      .ok (.scalar (sqrt (1 ^ 2 + 2 ^ 2 + (sqrt ((1 : ℝ) ^ 2 + 2 ^ 2) * (cos 1 / sin 1)) ^ 2))) := by
  obtain ⟨h1, h2, h3, h4, h5, h6, h7, h8, h9, h10, h11, h12, h13, h14, h15, h16, h17, h18, h19, h20, h21, h22, h23, h24⟩ :=
    ex_hyps
  refine ⟨?_, c05d_matmul K A exNp exAk rfl h1 h2 h3 h4 h5 h6 h7 h8 h9, ?_, ?_⟩
  · obtain ⟨r, p, q, e, -, d, hb, hm, -, hp, hq, hr⟩ := c05d_add K A exNp exAk rfl h1 h2 h3 h4 h5 h6 h7 h8 h9 h10
    refine ⟨r, p, q, e, d, ?_, hm, hp, hq, hr⟩
    have : some Backend.ak = some r.ty.be := hb
    exact (Option.some.inj this).symm
  · obtain ⟨r, p, -, e, t, -, hp, hr⟩ := c05d_multiply K A exNp h1 3 h15 h23
    exact ⟨r, p, e, t, hp, hr⟩
  · exact (c05d_absolute_dims K A exAk h2 h18).2.1 _ _ _ rfl

end C05D
end VR
