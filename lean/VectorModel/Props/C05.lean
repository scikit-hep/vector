/-
C05 — result backend, flavor, dimension and coordinate system follow the stated rules.
Theorems about the hand-written executable glue model (`Glue/Core.lean`, `Glue/Methods.lean`) and the generated dispatch tables
(`Gen/Tables.lean`), for every scalar type `S`, truth type `B` and compute layer `ev`.

The glue decides by types.  The handler is the first operand of maximal backend priority (§1); `_wrap_result` gives the class and
the type of a result as a function `retRT` of the declared result and the type of the handler (§2); so one inversion of `dispatch`
(`c05_dispatch_inv`) yields backend = handler's and flavor = OR of the counted operands (§3) and, for a compute layer that returns
the declared results of the tables (`EvTables`), the class and type of a result as a function `dispatchRT` of the operand types
alone (§7).  Every module declares one kind of result for all its keys (`RKind`, `c05_module_kind`, §4), which fixes the dimension
of a result (`kindDim`, §4; method by method in §8); the guards of the binary methods are values of `Bin.route` (§5, by `binary_eq`
of `Lemmas/Glue.lean`).  Operators are their methods (§6).  A compute layer that is defined on every key of every key type
(`EvTotal`) makes every method defined for every coordinate system (`c05_dispatch_defined`, §9; §10 shows the hypotheses
satisfiable).  §11 proves `EvTables` and `EvTotal` for the generated executable layer: typed keys on which every list wrapper evaluates, the tables as rearrangements of the key types,
`EvalLSpec` for the wrapper of every module; §12 derives the same for five modules a second way.
-/
import VectorModel.Lemmas.Glue
import VectorModel.Gen.Exec.All
import VectorModel.Exec.Sym
import VectorModel.Lemmas.EvalL

set_option linter.constructorNameAsVariable false
namespace VG
open VK

section
variable {S B : Type}

/-! ### 1. `handlerOf`: the first operand of maximal backend priority -/

private theorem hfold_some (vs : List (Vec S)) : ∀ h0 : Vec S, ∃ h, vs.foldl (pickStep (·.ty.be.prio)) (some h0) = some h ∧
    ((h = h0 ∧ ∀ v ∈ vs, v.ty.be.prio ≤ h0.ty.be.prio) ∨
     (∃ pre post, vs = pre ++ h :: post ∧ h0.ty.be.prio < h.ty.be.prio ∧
        (∀ v ∈ pre, v.ty.be.prio < h.ty.be.prio) ∧ (∀ v ∈ post, v.ty.be.prio ≤ h.ty.be.prio))) := by
  induction vs with
  | nil => intro h0; exact ⟨h0, rfl, Or.inl ⟨rfl, by simp⟩⟩
  | cons v vs ih =>
    intro h0
    by_cases hv : v.ty.be.prio > h0.ty.be.prio
    · have e : pickStep (·.ty.be.prio) (some h0) v = some v := by simp [pickStep, hv]
      obtain ⟨h, hh, hc⟩ := ih v
      refine ⟨h, by rw [List.foldl_cons, e, hh], Or.inr ?_⟩
      rcases hc with ⟨rfl, hle⟩ | ⟨pre, post, rfl, hlt, hpre, hpost⟩
      · exact ⟨[], vs, rfl, hv, by simp, hle⟩
      · refine ⟨v :: pre, post, rfl, by omega, ?_, hpost⟩
        intro w hw
        rcases List.mem_cons.mp hw with rfl | hw
        · exact hlt
        · exact hpre w hw
    · have e : pickStep (·.ty.be.prio) (some h0) v = some h0 := by simp [pickStep, hv]
      obtain ⟨h, hh, hc⟩ := ih h0
      refine ⟨h, by rw [List.foldl_cons, e, hh], ?_⟩
      rcases hc with ⟨rfl, hle⟩ | ⟨pre, post, rfl, hlt, hpre, hpost⟩
      · refine Or.inl ⟨rfl, ?_⟩
        intro w hw
        rcases List.mem_cons.mp hw with rfl | hw
        · omega
        · exact hle w hw
      · refine Or.inr ⟨v :: pre, post, rfl, hlt, ?_, hpost⟩
        intro w hw
        rcases List.mem_cons.mp hw with rfl | hw
        · omega
        · exact hpre w hw

theorem c05_handlerOf_nil : handlerOf ([] : List (Vec S)) = none := rfl

/-- Main characterisation: for a non-empty operand list the handler exists and splits the list as
`pre ++ h :: post` with every earlier operand of STRICTLY lower priority and every later one of at most its priority,
i.e. it is the first operand of maximal backend priority. -/
theorem c05_handlerOf_first (vs : List (Vec S)) (hne : vs ≠ []) :
    ∃ h pre post, handlerOf vs = some h ∧ vs = pre ++ h :: post ∧
      (∀ v ∈ pre, v.ty.be.prio < h.ty.be.prio) ∧ (∀ v ∈ post, v.ty.be.prio ≤ h.ty.be.prio) := by
  cases vs with
  | nil => exact absurd rfl hne
  | cons v vs =>
    obtain ⟨h, hh, hc⟩ := hfold_some vs v
    have e : handlerOf (v :: vs) = some h := by
      rw [handlerOf_eq, List.foldl_cons]; exact hh
    rcases hc with ⟨rfl, hle⟩ | ⟨pre, post, rfl, hlt, hpre, hpost⟩
    · exact ⟨h, [], vs, e, rfl, by simp, hle⟩
    · refine ⟨h, v :: pre, post, e, rfl, ?_, hpost⟩
      intro w hw
      rcases List.mem_cons.mp hw with rfl | hw
      · exact hlt
      · exact hpre w hw

theorem c05_handlerOf_isSome (vs : List (Vec S)) (hne : vs ≠ []) : ∃ h, handlerOf vs = some h := by
  obtain ⟨h, _, _, e, _⟩ := c05_handlerOf_first vs hne
  exact ⟨h, e⟩

theorem c05_handlerOf_mem (vs : List (Vec S)) (h : Vec S) (e : handlerOf vs = some h) : h ∈ vs := by
  have hne : vs ≠ [] := by rintro rfl; simp [c05_handlerOf_nil] at e
  obtain ⟨h', pre, post, e', hs, _, _⟩ := c05_handlerOf_first vs hne
  rw [e] at e'; cases e'
  rw [hs]; simp

theorem c05_handlerOf_max (vs : List (Vec S)) (h : Vec S) (e : handlerOf vs = some h) :
    ∀ v ∈ vs, v.ty.be.prio ≤ h.ty.be.prio := by
  have hne : vs ≠ [] := by rintro rfl; simp [c05_handlerOf_nil] at e
  obtain ⟨h', pre, post, e', hs, hpre, hpost⟩ := c05_handlerOf_first vs hne
  rw [e] at e'; cases e'
  intro v hv
  rw [hs] at hv
  rcases List.mem_append.mp hv with hv | hv
  · exact Nat.le_of_lt (hpre v hv)
  · rcases List.mem_cons.mp hv with rfl | hv
    · exact Nat.le_refl _
    · exact hpost v hv

/-- the handler is the FIRST operand of maximal priority: every operand before it has strictly lower priority -/
theorem c05_handlerOf_is_first (vs : List (Vec S)) (h : Vec S) (e : handlerOf vs = some h) :
    ∃ pre post, vs = pre ++ h :: post ∧ ∀ v ∈ pre, v.ty.be.prio < h.ty.be.prio := by
  have hne : vs ≠ [] := by rintro rfl; simp [c05_handlerOf_nil] at e
  obtain ⟨h', pre, post, e', hs, hpre, _⟩ := c05_handlerOf_first vs hne
  rw [e] at e'; cases e'
  exact ⟨pre, post, hs, hpre⟩

/-- the priorities are those of the property text: object < NumPy < (SymPy <) Awkward -/
theorem c05_prio_order : Backend.obj.prio < Backend.np.prio ∧ Backend.np.prio < Backend.sym.prio ∧
    Backend.sym.prio < Backend.ak.prio := by decide

/-- priorities identify backends, so "maximal priority" determines the result backend -/
theorem c05_prio_injective (a b : Backend) (h : a.prio = b.prio) : a = b := by
  cases a <;> cases b <;> first | rfl | (exact absurd h (by decide))

example : handlerOf [(⟨{ be := .obj, mom := false, az := .xy, lon := none, tmp := none }, [1, 2]⟩ : Vec Nat),
    ⟨{ be := .ak, mom := true, az := .xy, lon := none, tmp := none }, [3, 4]⟩,
    ⟨{ be := .ak, mom := false, az := .rhophi, lon := none, tmp := none }, [5, 6]⟩]
    = some ⟨{ be := .ak, mom := true, az := .xy, lon := none, tmp := none }, [3, 4]⟩ := rfl

/-! ### 2. `_wrap_result`: dimension and coordinate system of the result -/

/-- `[az]` declared: same dimension as `self`, azimuthal system as declared, `self`'s longitudinal/temporal systems and
stored coordinates passed through -/
theorem c05_wrapVec_az (self : Vec S) (be : Backend) (mom : Bool) (raw : List S) (a : Az) :
    wrapVec self be mom raw [.az a] =
      .ok ⟨{ be, mom, az := a, lon := self.ty.lon, tmp := self.ty.tmp }, raw.take 2 ++ self.lonEl ++ self.tmpEl⟩ := rfl

/-- `[az, None]` declared: 2D -/
theorem c05_wrapVec_az_none (self : Vec S) (be : Backend) (mom : Bool) (raw : List S) (a : Az) :
    wrapVec self be mom raw [.az a, .none] = .ok ⟨{ be, mom, az := a, lon := none, tmp := none }, raw.take 2⟩ := rfl

/-- `[az, lon]` declared, `self` 4D: 4D, keeping `self`'s temporal system and stored coordinate -/
theorem c05_wrapVec_az_lon_4D (self : Vec S) (be : Backend) (mom : Bool) (raw : List S) (a : Az) (l : Lon)
    (hd : self.ty.dim = 4) :
    wrapVec self be mom raw [.az a, .lon l] =
      .ok ⟨{ be, mom, az := a, lon := some l, tmp := self.ty.tmp }, raw.take 3 ++ self.tmpEl⟩ := by
  simp [wrapVec, hd]

/-- `[az, lon]` declared, `self` not 4D: 3D -/
theorem c05_wrapVec_az_lon_3D (self : Vec S) (be : Backend) (mom : Bool) (raw : List S) (a : Az) (l : Lon)
    (hd : self.ty.dim ≠ 4) :
    wrapVec self be mom raw [.az a, .lon l] = .ok ⟨{ be, mom, az := a, lon := some l, tmp := none }, raw.take 3⟩ := by
  simp [wrapVec, hd]

/-- `[az, lon, None]` declared: 3D -/
theorem c05_wrapVec_az_lon_none (self : Vec S) (be : Backend) (mom : Bool) (raw : List S) (a : Az) (l : Lon) :
    wrapVec self be mom raw [.az a, .lon l, .none] =
      .ok ⟨{ be, mom, az := a, lon := some l, tmp := none }, raw.take 3⟩ := rfl

/-- `[az, lon, tmp]` declared: 4D -/
theorem c05_wrapVec_az_lon_tmp (self : Vec S) (be : Backend) (mom : Bool) (raw : List S) (a : Az) (l : Lon) (t : Tmp) :
    wrapVec self be mom raw [.az a, .lon l, .tmp t] =
      .ok ⟨{ be, mom, az := a, lon := some l, tmp := some t }, raw.take 4⟩ := rfl

private theorem dim_eq_four (t : VT) : t.dim = 4 ↔ (t.lon.isSome ∧ t.tmp.isSome) := by
  unfold VT.dim
  cases t.lon <;> cases t.tmp <;> simp

private theorem dim_eq_three (t : VT) : t.dim = 3 ↔ (t.lon.isSome ≠ t.tmp.isSome) := by
  unfold VT.dim
  cases t.lon <;> cases t.tmp <;> simp

private theorem dim_eq_two (t : VT) : t.dim = 2 ↔ (t.lon = none ∧ t.tmp = none) := by
  unfold VT.dim
  cases t.lon <;> cases t.tmp <;> simp

theorem c05_dim_range (t : VT) : t.dim = 2 ∨ t.dim = 3 ∨ t.dim = 4 := t.dim_cases

theorem c05_dim_two {t : VT} (h : t.dim = 2) : t.lon = none ∧ t.tmp = none := (dim_eq_two t).mp h

/-- well-formed declared vector results: `az`, then optionally `lon`/`None`, then optionally `tmp`/`None` -/
def PartsWF : List RP → Bool
  | [.az _] => true
  | [.az _, .none] => true
  | [.az _, .lon _] => true
  | [.az _, .lon _, .none] => true
  | [.az _, .lon _, .tmp _] => true
  | _ => false

def RetWF : Ret → Bool
  | .float => true
  | .bool => true
  | .vec parts => PartsWF parts

/-- `wrapVec` succeeds exactly on the well-formed declared results (otherwise it is an AssertionError) -/
theorem c05_wrapVec_ok_iff (self : Vec S) (be : Backend) (mom : Bool) (raw : List S) (parts : List RP) :
    (∃ r, wrapVec self be mom raw parts = .ok r) ↔ PartsWF parts = true := by
  unfold wrapVec PartsWF
  split <;> simp
  split <;> simp

theorem c05_wrapVec_error (self : Vec S) (be : Backend) (mom : Bool) (raw : List S) (parts : List RP)
    (h : PartsWF parts = false) : wrapVec self be mom raw parts = .error .assertionError := by
  unfold wrapVec
  unfold PartsWF at h
  split <;> simp_all

theorem c05_wrapVec_be_mom (self r : Vec S) (be : Backend) (mom : Bool) (raw : List S) (parts : List RP)
    (h : wrapVec self be mom raw parts = .ok r) : r.ty.be = be ∧ r.ty.mom = mom :=
  wrapTy_be_mom (wrapVec_ty h)

/-- class of a result and, for a vector, its type -/
inductive RT | scalar | truth | vec (t : VT)
  deriving DecidableEq

def Res.rt : Res S B → RT
  | .scalar _ => .scalar
  | .truth _ => .truth
  | .vec v => .vec v.ty

/-- the class and type `wrapResult` gives the result, from the declared result and the TYPE of `self` alone (`wrapTy` for a vector) -/
def retRT (t : VT) (be : Backend) (mom : Bool) : Ret → Option RT
  | .float => some .scalar
  | .bool => some .truth
  | .vec parts => (wrapTy t be mom parts).map .vec

theorem wrapResult_rt {self : Vec S} {be : Backend} {mom : Bool} {out : Out S B} {ret : Ret} {res : Res S B}
    (h : wrapResult self be mom out ret = .ok res) : retRT self.ty be mom ret = some res.rt := by
  cases res with
  | scalar s => obtain ⟨rfl, -⟩ := wrapResult_ok_scalar _ _ _ _ _ _ h; rfl
  | truth b => obtain ⟨rfl, -⟩ := wrapResult_ok_truth _ _ _ _ _ _ h; rfl
  | vec r =>
    obtain ⟨raw, parts, -, rfl, hv⟩ := wrapResult_ok_vec _ _ _ _ _ _ h
    exact congrArg (Option.map RT.vec) (wrapVec_ty hv)

theorem retRT_be_mom {t r : VT} {be : Backend} {mom : Bool} {ret : Ret} (h : retRT t be mom ret = some (.vec r)) :
    r.be = be ∧ r.mom = mom := by
  cases ret with
  | float => cases h
  | bool => cases h
  | vec parts =>
    cases hw : wrapTy t be mom parts with
    | none => rw [retRT, hw] at h; cases h
    | some r' => rw [retRT, hw] at h; cases h; exact wrapTy_be_mom hw

/-! ### 3. `dispatch`: backend and flavor of the result -/

/-- key atoms contributed by one operand, from its TYPE alone -/
def opKeyT (t : VT) (n : Nat) : Option (List KA) :=
  match n, t.lon, t.tmp with
  | 1, _, _ => some [.az t.az]
  | 2, some l, _ => some [.az t.az, .lon l]
  | 3, some l, some tm => some [.az t.az, .lon l, .tmp tm]
  | _, _, _ => none

theorem c05_operandKey_type (v : Vec S) (n : Nat) : (operandKey v n).map (·.1) = opKeyT v.ty n := by
  unfold operandKey opKeyT
  split <;> simp_all

/-- the dispatch key, from the module, the Euler order and the operand TYPES alone -/
def dispatchKey (m : ModuleId) (ord : Option Ord) (tys : List VT) : Option (List KA) :=
  if (operandSlots m.info.shape).length != tys.length then none else
  ((tys.zip (operandSlots m.info.shape)).mapM fun p => opKeyT p.1 p.2).map fun ks =>
    ks.flatten ++ (match ord with | some o => [KA.ord o] | none => [])

theorem c05_dispatchArgs_key {m : ModuleId} {ord : Option Ord} {ops : List (Vec S)} {key : List KA} {args : List S}
    (hl : (operandSlots m.info.shape).length = ops.length) (h : dispatchArgs m ord ops = some (key, args)) :
    dispatchKey m ord (ops.map (·.ty)) = some key := by
  unfold dispatchArgs at h
  unfold dispatchKey
  rw [List.length_map, hl, bne_self_eq_false, if_neg Bool.false_ne_true,
    mapM_zip_map (·.ty) (·.1) (fun (v, n) => operandKey v n) (fun p => opKeyT p.1 p.2)
      (fun v n => (c05_operandKey_type v n).symm)]
  cases hp : (ops.zip (operandSlots m.info.shape)).mapM (fun (v, n) => operandKey v n) with
  | none => rw [hp] at h; cases h
  | some parts => rw [hp] at h; cases h; cases ord <;> rfl

/-- the handler, on types -/
def handlerT (ts : List VT) : Option VT := ts.foldl (pickStep (·.be.prio)) none

theorem c05_handlerOf_type (vs : List (Vec S)) : (handlerOf vs).map (·.ty) = handlerT (vs.map (·.ty)) := by
  rw [handlerOf_eq]
  exact (foldl_pickStep_map (·.ty.be.prio) (·.be.prio) (·.ty) (fun _ => rfl) vs none).symm

/-- inversion of `dispatch`: a successful dispatch evaluated the module on the key built from the operand TYPES, found a handler
among the counted operands, and its result has the class and type `retRT` gives for the declared result, the handler's type and
backend and the OR of the counted operands' flavors -/
theorem c05_dispatch_inv (ev : Ev S B) (m : ModuleId) (sc : List S) (ord : Option Ord) (ops counted : List (Vec S))
    (res : Res S B) (h : dispatch ev m sc ord ops counted = .ok res) :
    ∃ key args out ret hd, dispatchKey m ord (ops.map (·.ty)) = some key ∧ ev m key args = some (out, ret) ∧
      handlerOf counted = some hd ∧ retRT hd.ty hd.ty.be (counted.any (·.ty.mom)) ret = some res.rt := by
  obtain ⟨hl, key, args, out, ret, hd, ha, he, hh, hw⟩ := (dispatch_ok_iff ..).mp h
  exact ⟨key, _, out, ret, hd, c05_dispatchArgs_key hl ha, he, hh, wrapResult_rt hw⟩

/-- C05, backend and flavor: a vector result of `dispatch` has the backend of the handler of the counted operands and is a
momentum vector iff some counted operand is one -/
theorem c05_dispatch_be_mom (ev : Ev S B) (m : ModuleId) (sc : List S) (ord : Option Ord) (ops counted : List (Vec S))
    (r : Vec S) (h : dispatch ev m sc ord ops counted = .ok (.vec r)) :
    ∃ hd, handlerOf counted = some hd ∧ r.ty.be = hd.ty.be ∧ r.ty.mom = counted.any (·.ty.mom) := by
  obtain ⟨key, args, out, ret, hd, _, _, hh, hr⟩ := c05_dispatch_inv ev m sc ord ops counted _ h
  exact ⟨hd, hh, retRT_be_mom hr⟩

/-- … hence the result backend has maximal priority among the counted operands, and is the backend of one of them -/
theorem c05_dispatch_be_max (ev : Ev S B) (m : ModuleId) (sc : List S) (ord : Option Ord) (ops counted : List (Vec S))
    (r : Vec S) (h : dispatch ev m sc ord ops counted = .ok (.vec r)) :
    (∀ v ∈ counted, v.ty.be.prio ≤ r.ty.be.prio) ∧ (∃ v ∈ counted, r.ty.be = v.ty.be) := by
  obtain ⟨hd, hh, hbe, _⟩ := c05_dispatch_be_mom ev m sc ord ops counted r h
  rw [hbe]
  exact ⟨c05_handlerOf_max counted hd hh, hd, c05_handlerOf_mem counted hd hh, rfl⟩

/-- flavor, in words: momentum iff some counted operand is a momentum vector -/
theorem c05_dispatch_mom_iff (ev : Ev S B) (m : ModuleId) (sc : List S) (ord : Option Ord) (ops counted : List (Vec S))
    (r : Vec S) (h : dispatch ev m sc ord ops counted = .ok (.vec r)) :
    r.ty.mom = true ↔ ∃ v ∈ counted, v.ty.mom = true := by
  obtain ⟨hd, _, _, hm⟩ := c05_dispatch_be_mom ev m sc ord ops counted r h
  rw [hm, List.any_eq_true]

/-! ### 4. key types of the generated dispatch tables; the kind of result each module declares (`ModuleId.kind`) and its dimension (`kindDim`) -/

def slotAtoms : KS → List KA
  | .az => Az.all.map .az
  | .lon => Lon.all.map .lon
  | .tmp => Tmp.all.map .tmp
  | .ord => Ord.all.map .ord

/-- every key of the key type given by a shape -/
def allKeys : List KS → List (List KA)
  | [] => [[]]
  | s :: rest => (slotAtoms s).flatMap fun a => (allKeys rest).map (a :: ·)

def KA.fits : KA → KS → Bool
  | .az _, .az => true | .lon _, .lon => true | .tmp _, .tmp => true | .ord _, .ord => true
  | _, _ => false

/-- the key `k` has the key type `shape` -/
def keyFits : List KA → List KS → Bool
  | [], [] => true
  | a :: k, s :: shape => KA.fits a s && keyFits k shape
  | _, _ => false

private theorem mem_slotAtoms (a : KA) (s : KS) (h : KA.fits a s = true) : a ∈ slotAtoms s := by
  cases a <;> cases s <;> simp [KA.fits] at h <;> rename_i c <;> cases c <;> decide

theorem c05_allKeys_complete (shape : List KS) : ∀ k : List KA, keyFits k shape = true → k ∈ allKeys shape := by
  induction shape with
  | nil => intro k h; cases k <;> simp [keyFits, allKeys] at h ⊢
  | cons s rest ih =>
    intro k h
    cases k with
    | nil => simp [keyFits] at h
    | cons a k =>
      simp only [keyFits, Bool.and_eq_true] at h
      simp only [allKeys, List.mem_flatMap, List.mem_map]
      exact ⟨a, mem_slotAtoms a s h.1, k, ih k h.2, rfl⟩

theorem c05_allKeys_sound (shape : List KS) : ∀ k ∈ allKeys shape, keyFits k shape = true := by
  induction shape with
  | nil => intro k h; simp [allKeys] at h; subst h; rfl
  | cons s rest ih =>
    intro k h
    simp only [allKeys, List.mem_flatMap, List.mem_map] at h
    obtain ⟨a, ha, k', hk', rfl⟩ := h
    simp only [keyFits, Bool.and_eq_true]
    refine ⟨?_, ih k' hk'⟩
    cases s <;> simp only [slotAtoms, List.mem_map] at ha <;> obtain ⟨c, _, rfl⟩ := ha <;> rfl

/-- declared result of key `k` in module `m`, if the key is present -/
def declared (m : ModuleId) (k : List KA) : Option Ret := m.table.lookup k

private theorem lookup_mem {α β : Type} [BEq α] [LawfulBEq α] (k : α) (r : β) (l : List (α × β))
    (h : l.lookup k = some r) : (k, r) ∈ l := by
  obtain ⟨l₁, l₂, rfl, -⟩ := List.lookup_eq_some_iff.mp h
  exact List.mem_append_right _ List.mem_cons_self

/-- the kinds of declared result that occur in the tables -/
inductive RKind | float | bool | A | AL | AL0 | ALT
  deriving DecidableEq, Repr

def retKind : Ret → Option RKind
  | .float => some .float
  | .bool => some .bool
  | .vec [.az _] => some .A
  | .vec [.az _, .lon _] => some .AL
  | .vec [.az _, .lon _, .none] => some .AL0
  | .vec [.az _, .lon _, .tmp _] => some .ALT
  | _ => none

/-- the kind of result each compute module declares (uniformly, for all of its keys).  The last arm is a wildcard: a module that
the generator adds falls under `.float` without a word here; if it declares anything else, `c05_module_kind` below fails -/
def _root_.VK.ModuleId.kind : ModuleId → RKind
  | .planar_add | .planar_subtract | .planar_rotateZ | .planar_scale | .planar_transform2D | .planar_unit => .A
  | .spatial_add | .spatial_subtract | .spatial_rotateX | .spatial_rotateY | .spatial_rotate_axis
  | .spatial_rotate_euler | .spatial_rotate_quaternion | .spatial_scale | .spatial_transform3D | .spatial_unit => .AL
  | .spatial_cross | .lorentz_to_beta3 => .AL0
  | .lorentz_add | .lorentz_subtract | .lorentz_boostX_beta | .lorentz_boostX_gamma | .lorentz_boostY_beta
  | .lorentz_boostY_gamma | .lorentz_boostZ_beta | .lorentz_boostZ_gamma | .lorentz_boost_beta3 | .lorentz_boost_p4
  | .lorentz_scale | .lorentz_transform4D | .lorentz_unit => .ALT
  | .lorentz_equal | .lorentz_is_lightlike | .lorentz_is_spacelike | .lorentz_is_timelike | .lorentz_isclose
  | .lorentz_not_equal | .planar_equal | .planar_is_antiparallel | .planar_is_parallel | .planar_is_perpendicular
  | .planar_isclose | .planar_not_equal | .spatial_equal | .spatial_is_antiparallel | .spatial_is_parallel
  | .spatial_is_perpendicular | .spatial_isclose | .spatial_not_equal => .bool
  | _ => .float

theorem c05_module_kind : ∀ m : ModuleId, ∀ e ∈ m.table, retKind e.2 = some m.kind := by
  intro m
  cases m <;> decide +kernel

/-- dimension of a vector result of each kind, given the dimension of the handler -/
def kindDim : RKind → Nat → Nat
  | .A, d => d
  | .AL, d => if d = 4 then 4 else 3
  | .AL0, _ => 3
  | .ALT, _ => 4
  | _, _ => 0

def RKind.isVec : RKind → Bool
  | .float | .bool => false
  | _ => true

/-! ### 5. dimension guards of the binary methods -/

theorem c05_dim_mem (t : VT) : t.dim ∈ [2, 3, 4] := by
  rcases c05_dim_range t with h | h | h <;> rw [h] <;> decide

def Bin.nscalar : Bin → Nat
  | .isclose => 3
  | .is_parallel | .is_antiparallel | .is_perpendicular => 1
  | _ => 0

/-- `Bin.route_spec` below as a table check: one entry per method and pair of dimensions -/
def Bin.routeOK (b : Bin) (d e : Nat) : Bool :=
  match b.route d e with
  | .error _ => true
  | .ok m =>
    m.info.nscalar == b.nscalar && !m.info.shape.contains .ord &&
    (operandSlots m.info.shape).length == 2 &&
    ((operandSlots m.info.shape).zip [d, e]).all (fun p => p.1 + 1 ≤ p.2) &&
    (!m.kind.isVec || (kindDim m.kind d == (if b = .cross then 3 else d) && kindDim m.kind e == (if b = .cross then 3 else d)))

theorem Bin.routeOK_all (b : Bin) : ∀ d ∈ [2, 3, 4], ∀ e ∈ [2, 3, 4], b.routeOK d e = true := by
  cases b <;> decide

/-- the module a binary method is routed to, for operands of types `s` and `o`: it takes the method's scalars, no Euler order and two
operands, of fewer key slots than the dimension of `s` resp. `o`; if it declares a vector, the result has dimension 3 for `cross` and
the dimension of `s` otherwise, whichever operand handles -/
theorem Bin.route_spec {b : Bin} {s o : VT} {m : ModuleId} (h : b.route s.dim o.dim = .ok m) :
    m.info.nscalar = b.nscalar ∧ m.info.shape.contains .ord = false ∧
    (∃ n₁ n₂, operandSlots m.info.shape = [n₁, n₂] ∧ n₁ + 1 ≤ s.dim ∧ n₂ + 1 ≤ o.dim) ∧
    (m.kind.isVec = true → kindDim m.kind s.dim = (if b = .cross then 3 else s.dim) ∧
      kindDim m.kind o.dim = (if b = .cross then 3 else s.dim)) := by
  have hok := b.routeOK_all _ (c05_dim_mem s) _ (c05_dim_mem o)
  simp only [Bin.routeOK, h, Bool.and_eq_true, beq_iff_eq, Bool.not_eq_eq_eq_not, Bool.not_true, Bool.or_eq_true] at hok
  obtain ⟨⟨⟨⟨h1, h2⟩, h3⟩, h4⟩, h5⟩ := hok
  refine ⟨h1, h2, ?_, fun hv => (h5.resolve_left (by simp [hv]))⟩
  match operandSlots m.info.shape, h3, h4 with
  | [n₁, n₂], _, h4 => exact ⟨n₁, n₂, rfl, by simpa using h4⟩

/-- add, subtract, dot, equal, not_equal, isclose, is_parallel, is_antiparallel, is_perpendicular raise TypeError for
operands of different dimension -/
theorem c05_binary_sameDim_guard (ev : Ev S B) (K : Consts S) (b : Bin) (self o : Vec S) (extra : List S)
    (hb : b.sameDim = true) (hd : o.ty.dim ≠ self.ty.dim) : binary ev K b self o extra = .error .typeError :=
  binary_route_error ev K extra (by rw [Bin.route_sameDim b hb, if_pos (by simpa using hd)])

/-- … and for operands of equal dimension they dispatch to the module of that dimension on `[self, o]`, both counted
for handler and flavor -/
theorem c05_binary_sameDim_ok (ev : Ev S B) (K : Consts S) (b : Bin) (self o : Vec S) (extra : List S)
    (hb : b.sameDim = true) (hd : o.ty.dim = self.ty.dim) :
    ∃ m, b.sameDimMod self.ty.dim = some m ∧
      binary ev K b self o extra = dispatch ev m (b.scalars K extra) none [self, o] [self, o] := by
  have hm : (b.sameDimMod self.ty.dim).isSome = true := by
    rcases c05_dim_range self.ty with h | h | h <;> rw [h] <;> cases b <;> first | rfl | cases hb
  obtain ⟨m, hm⟩ := Option.isSome_iff_exists.mp hm
  exact ⟨m, hm, binary_route_ok ev K extra (by rw [Bin.route_sameDim b hb, if_neg (by simp [hd]), hm])
    (Bin.viaNeg_sameDim hb)⟩

/-- `cross` is a method of 3D (and 4D) vectors only, and raises TypeError unless both operands are 3D -/
theorem c05_cross_guard (ev : Ev S B) (K : Consts S) (self o : Vec S) (extra : List S)
    (hd : self.ty.dim ≠ 3 ∨ o.ty.dim ≠ 3) :
    binary ev K .cross self o extra = .error (if self.ty.dim < 3 then .attributeError else .typeError) := by
  apply binary_route_error
  by_cases h2 : self.ty.dim < 3
  · simp [Bin.route, h2]
  · rcases hd with hd | hd <;> simp [Bin.route, h2, hd]

theorem c05_cross_ok (ev : Ev S B) (K : Consts S) (self o : Vec S) (extra : List S)
    (h1 : self.ty.dim = 3) (h2 : o.ty.dim = 3) :
    binary ev K .cross self o extra = dispatch ev .spatial_cross [] none [self, o] [self, o] :=
  binary_route_ok ev K extra (by simp [Bin.route, h1, h2]) rfl

/-- the boosts are methods of 4D vectors only -/
theorem c05_boost_needs_4D (ev : Ev S B) (K : Consts S) (b : Bin) (self o : Vec S) (extra : List S)
    (hb : b = .boost_p4 ∨ b = .boost_beta3 ∨ b = .boost ∨ b = .boostCM_of_p4 ∨ b = .boostCM_of_beta3 ∨ b = .boostCM_of)
    (hd : self.ty.dim < 4) : binary ev K b self o extra = .error .attributeError := by
  rcases hb with rfl | rfl | rfl | rfl | rfl | rfl <;> exact binary_route_error ev K extra (by simp [Bin.route, hd])

/-- `boost_p4` needs a 4D booster -/
theorem c05_boost_p4_guard (ev : Ev S B) (K : Consts S) (self o : Vec S) (extra : List S)
    (hs : self.ty.dim = 4) (hd : o.ty.dim ≠ 4) : binary ev K .boost_p4 self o extra = .error .typeError :=
  binary_route_error ev K extra (by simp [Bin.route, hs, hd])

theorem c05_boost_p4_ok (ev : Ev S B) (K : Consts S) (self o : Vec S) (extra : List S)
    (hs : self.ty.dim = 4) (hd : o.ty.dim = 4) :
    binary ev K .boost_p4 self o extra = dispatch ev .lorentz_boost_p4 [] none [self, o] [self, o] :=
  binary_route_ok ev K extra (by simp [Bin.route, hs, hd]) rfl

/-- `boost_beta3` needs a 3D booster -/
theorem c05_boost_beta3_guard (ev : Ev S B) (K : Consts S) (self o : Vec S) (extra : List S)
    (hs : self.ty.dim = 4) (hd : o.ty.dim ≠ 3) : binary ev K .boost_beta3 self o extra = .error .typeError :=
  binary_route_error ev K extra (by simp [Bin.route, hs, hd])

theorem c05_boost_beta3_ok (ev : Ev S B) (K : Consts S) (self o : Vec S) (extra : List S)
    (hs : self.ty.dim = 4) (hd : o.ty.dim = 3) :
    binary ev K .boost_beta3 self o extra = dispatch ev .lorentz_boost_beta3 [] none [self, o] [self, o] :=
  binary_route_ok ev K extra (by simp [Bin.route, hs, hd]) rfl

/-- `boost` dispatches on the dimension of the booster: 3 ↦ `boost_beta3`, 4 ↦ `boost_p4`, anything else is a TypeError -/
theorem c05_boost_dispatch (ev : Ev S B) (K : Consts S) (self o : Vec S) (extra : List S) :
    binary ev K .boost self o extra =
      if o.ty.dim = 3 then binary ev K .boost_beta3 self o extra
      else if o.ty.dim = 4 then binary ev K .boost_p4 self o extra
      else if self.ty.dim < 4 then .error .attributeError else .error .typeError := by
  simp only [binary_eq]
  by_cases hs : self.ty.dim < 4
  · simp [Bin.route, hs]
  · by_cases h3 : o.ty.dim = 3
    · simp [Bin.route, binOperand, Bin.viaNeg, Bin.scalars, hs, h3]
    · by_cases h4 : o.ty.dim = 4
      · simp [Bin.route, binOperand, Bin.viaNeg, Bin.scalars, hs, h4]
      · simp [Bin.route, hs, h3, h4]

theorem c05_boost_guard (ev : Ev S B) (K : Consts S) (self o : Vec S) (extra : List S)
    (hs : self.ty.dim = 4) (hd : o.ty.dim = 2) : binary ev K .boost self o extra = .error .typeError :=
  binary_route_error ev K extra (by simp [Bin.route, hs, hd])

/-- `boostCM_of_p4` needs a 4D operand, `boostCM_of_beta3` a 3D one -/
theorem c05_boostCM_of_p4_guard (ev : Ev S B) (K : Consts S) (self o : Vec S) (extra : List S)
    (hs : self.ty.dim = 4) (hd : o.ty.dim ≠ 4) : binary ev K .boostCM_of_p4 self o extra = .error .typeError :=
  binary_route_error ev K extra (by simp [Bin.route, hs, hd])

theorem c05_boostCM_of_beta3_guard (ev : Ev S B) (K : Consts S) (self o : Vec S) (extra : List S)
    (hs : self.ty.dim = 4) (hd : o.ty.dim ≠ 3) : binary ev K .boostCM_of_beta3 self o extra = .error .typeError :=
  binary_route_error ev K extra (by simp [Bin.route, hs, hd])

/-- `boostCM_of` dispatches on the dimension of its operand like `boost` -/
theorem c05_boostCM_of_dispatch (ev : Ev S B) (K : Consts S) (self o : Vec S) (extra : List S) :
    binary ev K .boostCM_of self o extra =
      if o.ty.dim = 3 then binary ev K .boostCM_of_beta3 self o extra
      else if o.ty.dim = 4 then binary ev K .boostCM_of_p4 self o extra
      else if self.ty.dim < 4 then .error .attributeError else .error .typeError := by
  simp only [binary_eq]
  by_cases hs : self.ty.dim < 4
  · simp [Bin.route, hs]
  · by_cases h3 : o.ty.dim = 3
    · simp [Bin.route, binOperand, Bin.viaNeg, Bin.scalars, hs, h3]
    · by_cases h4 : o.ty.dim = 4
      · simp [Bin.route, binOperand, Bin.viaNeg, Bin.scalars, hs, h4]
      · simp [Bin.route, hs, h3, h4]

/-- `boostCM_of*` boosts by the negated (spatial part of the) operand, with the module of the operand's dimension -/
theorem c05_boostCM_of_ok (ev : Ev S B) (K : Consts S) (b : Bin) (self o n : Vec S) (extra : List S)
    (hb : b = .boostCM_of_p4 ∧ o.ty.dim = 4 ∨ b = .boostCM_of_beta3 ∧ o.ty.dim = 3 ∨
          b = .boostCM_of ∧ (o.ty.dim = 3 ∨ o.ty.dim = 4))
    (hs : self.ty.dim = 4) (hn : negN ev K 3 o = .ok (.vec n)) :
    binary ev K b self o extra =
      dispatch ev (if o.ty.dim = 4 then .lorentz_boost_p4 else .lorentz_boost_beta3) [] none [self, n] [self, n] := by
  rcases hb with ⟨rfl, h⟩ | ⟨rfl, h⟩ | ⟨rfl, h | h⟩ <;> simp [binary_eq, Bin.route, binOperand, Bin.viaNeg, Bin.scalars, hs, h, hn]

/-- `rotate_axis`: an axis of dimension ≠ 3 is a TypeError; the axis is a secondary argument — it is passed to the
compute function but only `self` counts for handler and flavor -/
theorem c05_call_rotate_axis (ev : Ev S B) (K : Consts S) (A : Arith S) (self axis : Vec S) (a : S) :
    call ev K A "rotate_axis" self [.v axis, .sc a] =
      if self.ty.dim < 3 then .error .attributeError else
      if axis.ty.dim != 3 then .error .typeError else dispatch ev .spatial_rotate_axis [a] none [axis, self] [self] := by rfl

theorem c05_rotate_axis_guard (ev : Ev S B) (K : Consts S) (A : Arith S) (self axis : Vec S) (a : S)
    (hs : 3 ≤ self.ty.dim) (hd : axis.ty.dim ≠ 3) :
    call ev K A "rotate_axis" self [.v axis, .sc a] = .error .typeError := by
  rw [c05_call_rotate_axis]
  have : ¬ self.ty.dim < 3 := by omega
  simp [this, hd]

/-- hence the result of `rotate_axis` has the backend and flavor of `self`, whatever the axis is -/
theorem c05_rotate_axis_be_mom (ev : Ev S B) (K : Consts S) (A : Arith S) (self axis r : Vec S) (a : S)
    (h : call ev K A "rotate_axis" self [.v axis, .sc a] = .ok (.vec r)) :
    r.ty.be = self.ty.be ∧ r.ty.mom = self.ty.mom := by
  rw [c05_call_rotate_axis] at h
  split at h
  · cases h
  · split at h
    · cases h
    · obtain ⟨hd, hh, h1, h2⟩ := c05_dispatch_be_mom _ _ _ _ _ _ _ h
      have : hd = self := by
        rw [handlerOf_single] at hh; cases hh; rfl
      subst this
      exact ⟨h1, by simpa using h2⟩

/-! ### 6. operators are their methods -/

theorem c05_op_add (ev : Ev S B) (K : Consts S) (A : Arith S) (self o : Vec S) :
    operator ev K A "add" self [.v o] = call ev K A "add" self [.v o] := by rfl

theorem c05_op_sub (ev : Ev S B) (K : Consts S) (A : Arith S) (self o : Vec S) :
    operator ev K A "sub" self [.v o] = call ev K A "subtract" self [.v o] := by rfl

theorem c05_op_matmul (ev : Ev S B) (K : Consts S) (A : Arith S) (self o : Vec S) :
    operator ev K A "matmul" self [.v o] = call ev K A "dot" self [.v o] := by rfl

theorem c05_op_eq (ev : Ev S B) (K : Consts S) (A : Arith S) (self o : Vec S) :
    operator ev K A "eq" self [.v o] = call ev K A "equal" self [.v o] := by rfl

theorem c05_op_ne (ev : Ev S B) (K : Consts S) (A : Arith S) (self o : Vec S) :
    operator ev K A "ne" self [.v o] = call ev K A "not_equal" self [.v o] := by rfl

theorem c05_op_mul (ev : Ev S B) (K : Consts S) (A : Arith S) (self : Vec S) (f : S) :
    operator ev K A "mul" self [.sc f] = call ev K A "scale" self [.sc f] := by rfl

theorem c05_op_rmul (ev : Ev S B) (K : Consts S) (A : Arith S) (self : Vec S) (f : S) :
    operator ev K A "rmul" self [.sc f] = call ev K A "scale" self [.sc f] := by rfl

theorem c05_op_truediv (ev : Ev S B) (K : Consts S) (A : Arith S) (self : Vec S) (f : S) :
    operator ev K A "truediv" self [.sc f] = call ev K A "scale" self [.sc (A.inv f)] := by rfl

theorem c05_op_neg (ev : Ev S B) (K : Consts S) (A : Arith S) (self : Vec S) :
    operator ev K A "neg" self [] = call ev K A "scale" self [.sc K.negOne] := by rfl

theorem c05_call_acc (ev : Ev S B) (K : Consts S) (A : Arith S) (self : Vec S) :
    call ev K A "rho" self [] = getAcc ev .rho self ∧ call ev K A "mag" self [] = getAcc ev .mag self ∧
    call ev K A "tau" self [] = getAcc ev .tau self ∧ call ev K A "rho2" self [] = getAcc ev .rho2 self ∧
    call ev K A "mag2" self [] = getAcc ev .mag2 self ∧ call ev K A "tau2" self [] = getAcc ev .tau2 self :=
  ⟨rfl, rfl, rfl, rfl, rfl, rfl⟩

/-- `abs(v)` is `rho`, `mag` or `tau` by dimension -/
theorem c05_op_abs (ev : Ev S B) (K : Consts S) (A : Arith S) (self : Vec S) :
    operator ev K A "abs" self [] =
      call ev K A (if self.ty.dim = 2 then "rho" else if self.ty.dim = 3 then "mag" else "tau") self [] := by
  have e : operator ev K A "abs" self [] = getAcc ev (normAcc self.ty.dim) self := rfl
  rw [e]
  rcases c05_dim_range self.ty with h | h | h <;> simp only [h, normAcc] <;>
    simp only [Nat.reduceEqDiff, if_true, if_false, (c05_call_acc ev K A self).1, (c05_call_acc ev K A self).2.1,
      (c05_call_acc ev K A self).2.2.1]

/-- `v ** 2` and `np.square(v)` are `rho2`, `mag2` or `tau2` by dimension -/
theorem c05_op_square (ev : Ev S B) (K : Consts S) (A : Arith S) (self : Vec S) :
    operator ev K A "square" self [] =
      call ev K A (if self.ty.dim = 2 then "rho2" else if self.ty.dim = 3 then "mag2" else "tau2") self [] := by
  have e : operator ev K A "square" self [] = getAcc ev (norm2Acc self.ty.dim) self := rfl
  rw [e]
  rcases c05_dim_range self.ty with h | h | h <;> simp only [h, norm2Acc] <;>
    simp only [Nat.reduceEqDiff, if_true, if_false, (c05_call_acc ev K A self).2.2.2.1,
      (c05_call_acc ev K A self).2.2.2.2.1, (c05_call_acc ev K A self).2.2.2.2.2]

/-- `+v` is `v` -/
theorem c05_op_pos (ev : Ev S B) (K : Consts S) (A : Arith S) (self : Vec S) :
    operator ev K A "pos" self [] = .ok (.vec self) := by rfl

/-- an operator gives the same TYPE as its method too: both sides above are the same `Except Err (Res S B)` value, so
in particular the same result class, flavor, dimension and coordinate system -/
theorem c05_op_add_type (ev : Ev S B) (K : Consts S) (A : Arith S) (self o r r' : Vec S)
    (h : operator ev K A "add" self [.v o] = .ok (.vec r)) (h' : call ev K A "add" self [.v o] = .ok (.vec r')) :
    r.ty = r'.ty ∧ r.c = r'.c := by
  rw [c05_op_add, h'] at h; cases h; exact ⟨rfl, rfl⟩

/-! ### 7. the coordinate system of the result depends only on the operands' coordinate systems -/

/-- assumption on the compute layer: the declared result it returns for a key is the one in the generated table
(proved for the generated executable model below) -/
structure EvTables (ev : Ev S B) : Prop where
  ret_declared : ∀ m k a out ret, ev m k a = some (out, ret) → declared m k = some ret

theorem EvTables.kind {ev : Ev S B} (hev : EvTables ev) {m : ModuleId} {k : List KA} {a : List S} {out : Out S B} {ret : Ret}
    (he : ev m k a = some (out, ret)) : retKind ret = some m.kind :=
  c05_module_kind m _ (lookup_mem _ _ _ (hev.ret_declared _ _ _ _ _ he))

/-- the class and type of a result of `dispatch`, from the module, the Euler order, the TYPES of the operands and the table -/
def dispatchRT (m : ModuleId) (ord : Option Ord) (ops counted : List VT) : Option RT :=
  (dispatchKey m ord ops).bind fun key => (declared m key).bind fun ret =>
    (handlerT counted).bind fun h => retRT h h.be (counted.any (·.mom)) ret

/-- C05, coordinate system: the class of a result of `dispatch` and the TYPE of a vector result (class, flavor, coordinate systems,
dimension) are `dispatchRT` of the TYPES of the operands … -/
theorem c05_dispatch_rt (ev : Ev S B) (hev : EvTables ev) (m : ModuleId) (sc : List S) (ord : Option Ord)
    (ops counted : List (Vec S)) (res : Res S B) (h : dispatch ev m sc ord ops counted = .ok res) :
    dispatchRT m ord (ops.map (·.ty)) (counted.map (·.ty)) = some res.rt := by
  obtain ⟨key, args, out, ret, hd, hk, he, hh, hr⟩ := c05_dispatch_inv ev m sc ord ops counted _ h
  have h1 := c05_handlerOf_type counted
  rw [hh] at h1
  rw [dispatchRT, hk, Option.bind_some, hev.ret_declared _ _ _ _ _ he, Option.bind_some, ← h1, List.any_map]
  exact hr

/-- … hence depend only on the method's module, the Euler order and the TYPES of the operands — never on a coordinate value or
scalar argument -/
theorem c05_dispatch_type_only (ev : Ev S B) (hev : EvTables ev) (m : ModuleId) (sc sc' : List S) (ord : Option Ord)
    (ops ops' counted counted' : List (Vec S)) (r r' : Vec S)
    (hops : ops.map (·.ty) = ops'.map (·.ty)) (hc : counted.map (·.ty) = counted'.map (·.ty))
    (h : dispatch ev m sc ord ops counted = .ok (.vec r)) (h' : dispatch ev m sc' ord ops' counted' = .ok (.vec r')) :
    r.ty = r'.ty := by
  have e := c05_dispatch_rt ev hev _ _ _ _ _ _ h
  rw [hops, hc, c05_dispatch_rt ev hev _ _ _ _ _ _ h'] at e
  exact (RT.vec.inj (Option.some.inj e)).symm

/-! ### 8. the documented dimension of the result, method by method -/

/-- what a kind of declared result says of the class of a result and of the dimension of a vector result, `d` being the dimension of
the handler -/
def RKind.Gives (k : RKind) (d : Nat) : RT → Prop
  | .scalar => k = .float
  | .truth => k = .bool
  | .vec r => k.isVec = true ∧ r.dim = kindDim k d

theorem retRT_kind {t : VT} {be : Backend} {mom : Bool} {ret : Ret} {k : RKind} {rt : RT}
    (hk : retKind ret = some k) (h : retRT t be mom ret = some rt) : k.Gives t.dim rt := by
  unfold retKind at hk
  split at hk <;> cases hk <;> cases h <;> first | rfl | exact ⟨rfl, rfl⟩ | refine ⟨rfl, ?_⟩
  -- `[az, lon]`: 4D iff `t` is
  unfold VT.dim kindDim
  cases t.lon <;> cases t.tmp <;> rfl

/-- the class of a result of `dispatch` is the one the module's kind declares; the dimension of a vector result is determined by the
kind and the handler's dimension -/
theorem c05_dispatch_kind (ev : Ev S B) (hev : EvTables ev) (m : ModuleId) (sc : List S) (ord : Option Ord)
    (ops counted : List (Vec S)) (res : Res S B) (h : dispatch ev m sc ord ops counted = .ok res) :
    ∃ hd, handlerOf counted = some hd ∧ m.kind.Gives hd.ty.dim res.rt := by
  obtain ⟨key, args, out, ret, hd, _, he, hh, hr⟩ := c05_dispatch_inv ev m sc ord ops counted _ h
  exact ⟨hd, hh, retRT_kind (hev.kind he) hr⟩

theorem c05_dispatch_dim_kind (ev : Ev S B) (hev : EvTables ev) (m : ModuleId) (sc : List S) (ord : Option Ord)
    (ops counted : List (Vec S)) (r : Vec S) (h : dispatch ev m sc ord ops counted = .ok (.vec r)) :
    ∃ hd, handlerOf counted = some hd ∧ r.ty.dim = kindDim m.kind hd.ty.dim ∧ m.kind.isVec = true := by
  obtain ⟨hd, hh, h1, h2⟩ := c05_dispatch_kind ev hev m sc ord ops counted _ h
  exact ⟨hd, hh, h2, h1⟩

/-- scalar and truth results come from modules that declare them -/
theorem c05_dispatch_scalar_kind (ev : Ev S B) (hev : EvTables ev) (m : ModuleId) (sc : List S) (ord : Option Ord)
    (ops counted : List (Vec S)) (s : S) (h : dispatch ev m sc ord ops counted = .ok (.scalar s)) : m.kind = .float :=
  let ⟨_, _, hk⟩ := c05_dispatch_kind ev hev m sc ord ops counted _ h; hk

theorem c05_dispatch_truth_kind (ev : Ev S B) (hev : EvTables ev) (m : ModuleId) (sc : List S) (ord : Option Ord)
    (ops counted : List (Vec S)) (b : B) (h : dispatch ev m sc ord ops counted = .ok (.truth b)) : m.kind = .bool :=
  let ⟨_, _, hk⟩ := c05_dispatch_kind ev hev m sc ord ops counted _ h; hk

private theorem dispatch_self_dim (ev : Ev S B) (hev : EvTables ev) (m : ModuleId) (sc : List S) (ord : Option Ord)
    (ops : List (Vec S)) (self r : Vec S) (h : dispatch ev m sc ord ops [self] = .ok (.vec r)) :
    r.ty.dim = kindDim m.kind self.ty.dim ∧ m.kind.isVec = true := by
  obtain ⟨hd, hh, h1, h2⟩ := c05_dispatch_dim_kind ev hev m sc ord ops [self] r h
  rw [handlerOf_single] at hh; cases hh
  exact ⟨h1, h2⟩

private theorem dispatch_pair_dim (ev : Ev S B) (hev : EvTables ev) (m : ModuleId) (sc : List S) (ord : Option Ord)
    (ops : List (Vec S)) (a b r : Vec S) (h : dispatch ev m sc ord ops [a, b] = .ok (.vec r)) :
    (r.ty.dim = kindDim m.kind a.ty.dim ∨ r.ty.dim = kindDim m.kind b.ty.dim) ∧ m.kind.isVec = true := by
  obtain ⟨hd, hh, h1, h2⟩ := c05_dispatch_dim_kind ev hev m sc ord ops [a, b] r h
  rw [handlerOf_pair] at hh
  cases hh
  refine ⟨?_, h2⟩
  split at h1
  · exact Or.inr h1
  · exact Or.inl h1

/-- `scale` with the module of dimension `n` keeps the dimension of the vector (`scale2D` of a 4D vector is 4D) -/
theorem c05_scaleN_dim (ev : Ev S B) (hev : EvTables ev) (n : Nat) (hn : n = 2 ∨ n = 3 ∨ n = 4) (f : S) (v r : Vec S)
    (h : scaleN ev n f v = .ok (.vec r)) : r.ty.dim = v.ty.dim := by
  unfold scaleN at h
  split at h
  · cases h
  · rename_i hge
    obtain ⟨h1, _⟩ := dispatch_self_dim ev hev _ _ _ _ _ _ h
    rw [h1]
    have hr := c05_dim_range v.ty
    rcases hn with rfl | rfl | rfl <;> simp only [scaleMod, ModuleId.kind, kindDim] <;> (try split) <;> omega

/-- the operand the module gets has the dimension of the method's operand (`scale3D` keeps the dimension) -/
theorem binOperand_dim (ev : Ev S B) (hev : EvTables ev) (K : Consts S) (b : Bin) (o o' : Vec S)
    (h : binOperand ev K b o = .ok o') : o'.ty.dim = o.ty.dim := by
  unfold binOperand at h
  split at h
  · split at h
    · rename_i hn
      cases h
      exact c05_scaleN_dim ev hev 3 (by decide) _ _ _ hn
    · cases h
    · cases h
  · cases h; rfl

/-- C05, dimension of the result of the binary methods: `cross` gives 3D, everything else the dimension of `self`
(the first operand) -/
theorem c05_binary_dim (ev : Ev S B) (hev : EvTables ev) (K : Consts S) (b : Bin) (self o r : Vec S) (extra : List S)
    (h : binary ev K b self o extra = .ok (.vec r)) : r.ty.dim = if b = .cross then 3 else self.ty.dim := by
  rw [binary_eq] at h
  cases hr : b.route self.ty.dim o.ty.dim with
  | error e => rw [hr] at h; cases h
  | ok m =>
    cases ho : binOperand ev K b o with
    | error e => rw [hr, ho] at h; cases h
    | ok o' =>
      rw [hr, ho] at h
      obtain ⟨h1, h2⟩ := dispatch_pair_dim ev hev _ _ _ _ _ _ _ h
      obtain ⟨hs, ho'⟩ := (Bin.route_spec hr).2.2.2 h2
      rw [binOperand_dim ev hev K b o o' ho] at h1
      rcases h1 with h1 | h1 <;> rw [h1]
      · exact hs
      · exact ho'

/-- a unary method (only `self` is an operand and counts) has the dimension given by its module's kind: the dimension of
`self` for `[az]` and `[az, lon]` modules applied to vectors that have the coordinates, 3 for `[az, lon, None]`
(`to_beta3`), 4 for `[az, lon, tmp]` -/
theorem c05_unary_dim (ev : Ev S B) (hev : EvTables ev) (m : ModuleId) (sc : List S) (ord : Option Ord)
    (self r : Vec S) (h : dispatch ev m sc ord [self] [self] = .ok (.vec r)) :
    r.ty.dim = kindDim m.kind self.ty.dim := (dispatch_self_dim ev hev m sc ord [self] self r h).1

/-- `to_beta3` gives a 3D vector -/
theorem c05_to_beta3_dim (ev : Ev S B) (hev : EvTables ev) (K : Consts S) (A : Arith S) (self r : Vec S)
    (h : call ev K A "to_beta3" self [] = .ok (.vec r)) : r.ty.dim = 3 := by
  have e : call ev K A "to_beta3" self [] =
      if self.ty.dim < 4 then .error .attributeError else dispatch ev .lorentz_to_beta3 [] none [self] [self] := rfl
  rw [e] at h
  split at h
  · cases h
  · exact c05_unary_dim ev hev _ _ _ _ _ h

/-- `rotate_axis` keeps the dimension of `self` (a 4D vector keeps its temporal coordinate) -/
theorem c05_rotate_axis_dim (ev : Ev S B) (hev : EvTables ev) (K : Consts S) (A : Arith S) (self axis r : Vec S) (a : S)
    (h : call ev K A "rotate_axis" self [.v axis, .sc a] = .ok (.vec r)) : r.ty.dim = self.ty.dim := by
  rw [c05_call_rotate_axis] at h
  have hr := c05_dim_range self.ty
  split at h
  · cases h
  · split at h
    · cases h
    · obtain ⟨h1, _⟩ := dispatch_self_dim ev hev _ _ _ _ _ _ h
      rw [h1]
      simp only [ModuleId.kind, kindDim]
      split <;> omega

/-- the dimension-changing conversions (`to_Vector2D/3D/4D`, `to_2D/3D/4D`, `like`) give the named dimension and keep
backend, flavor and azimuthal system -/
theorem c05_toDim_dim (zeroF : S) (target : Nat) (ht : target = 2 ∨ target = 3 ∨ target = 4) (v r : Vec S)
    (lonKw : List (Lon × S)) (tmpKw : List (Tmp × S)) (otherKw : Nat)
    (h : toDim zeroF target v lonKw tmpKw otherKw = .ok r) :
    r.ty.dim = target ∧ r.ty.be = v.ty.be ∧ r.ty.mom = v.ty.mom ∧ r.ty.az = v.ty.az :=
  have ⟨h1, h2, h3, h4⟩ := toDim_ty zeroF v r target ht lonKw tmpKw otherKw h
  ⟨h4, h1, h2, h3⟩

/-- the coordinate-system conversions `to_<system>` give exactly the named coordinate system (hence the named dimension)
and keep backend and flavor -/
theorem c05_toSystem_type (ev : Ev S B) (zeroF : S) (v r : Vec S) (az : Az) (lon : Option Lon) (tmp : Option Tmp)
    (kl kt : Option S) (h : toSystem ev zeroF v az lon tmp kl kt = .ok r) :
    r.ty = { v.ty with az := az, lon := lon, tmp := tmp } := by
  unfold toSystem at h
  simp only [bind, Except.bind, pure, Except.pure] at h
  repeat' split at h
  all_goals first | (cases h; done) | (cases h; rfl)

/-! ### 9. every method is defined for every coordinate system of its operands (glue level) -/

/-- the raw result has the form the declared kind of result requires -/
def outFitsKind : Out S B → RKind → Bool
  | .vals [_], .float => true
  | .truth _, .bool => true
  | .vals _, .A | .vals _, .AL | .vals _, .AL0 | .vals _, .ALT => true
  | _, _ => false

/-- assumptions on the compute layer: it is defined on every key of a module's key type (and every argument list of the
module's arity), and its raw result has the form the module declares (both proved for the generated executable model
below) -/
structure EvTotal (ev : Ev S B) : Prop where
  total : ∀ m k a, keyFits k m.info.shape = true → a.length = m.info.nscalar + m.info.ncoord → (ev m k a).isSome = true
  out_fits : ∀ m k a out ret, ev m k a = some (out, ret) → outFitsKind out m.kind = true

/-- key shape contributed by an operand of `n` key slots -/
def slotShape : Nat → List KS
  | 1 => [.az] | 2 => [.az, .lon] | 3 => [.az, .lon, .tmp] | _ => []

/-- the key shape of every module is the concatenation of its operands' slots plus, possibly, the Euler order; its number
of coordinate arguments is one more than the number of key slots, per operand -/
theorem c05_shape_slots : ∀ m : ModuleId,
    m.info.shape = ((operandSlots m.info.shape).map slotShape).flatten ++ (if m.info.shape.contains .ord then [.ord] else []) ∧
    m.info.ncoord = ((operandSlots m.info.shape).map (· + 1)).sum ∧
    (∀ n ∈ operandSlots m.info.shape, n = 1 ∨ n = 2 ∨ n = 3) := by
  intro m
  cases m <;> decide +kernel

/-- the operand `v` has the coordinate groups `n` key slots need, and stores (at least) their coordinates -/
def VecOK (v : Vec S) (n : Nat) : Prop :=
  (2 ≤ n → v.ty.lon.isSome = true) ∧ (3 ≤ n → v.ty.tmp.isSome = true) ∧ n + 1 ≤ v.c.length

private theorem operandKey_ok (v : Vec S) (n : Nat) (hn : n = 1 ∨ n = 2 ∨ n = 3) (hv : VecOK v n) :
    ∃ ks cs, operandKey v n = some (ks, cs) ∧ keyFits ks (slotShape n) = true ∧ cs.length = n + 1 := by
  obtain ⟨h2, h3, hl⟩ := hv
  rcases hn with rfl | rfl | rfl
  · exact ⟨_, _, rfl, rfl, by simp [Vec.azEl]; omega⟩
  · have := h2 (by omega)
    cases hlon : v.ty.lon with
    | none => rw [hlon] at this; cases this
    | some l =>
      refine ⟨[.az v.ty.az, .lon l], v.azEl ++ v.lonEl, by simp [operandKey, hlon], rfl, ?_⟩
      simp [Vec.azEl, Vec.lonEl, hlon]; omega
  · have a2 := h2 (by omega)
    have a3 := h3 (by omega)
    cases hlon : v.ty.lon with
    | none => rw [hlon] at a2; cases a2
    | some l =>
      cases htmp : v.ty.tmp with
      | none => rw [htmp] at a3; cases a3
      | some t =>
        refine ⟨[.az v.ty.az, .lon l, .tmp t], v.azEl ++ v.lonEl ++ v.tmpEl, by simp [operandKey, hlon, htmp], rfl, ?_⟩
        simp [Vec.azEl, Vec.lonEl, Vec.tmpEl, hlon, htmp]; omega

private theorem keyFits_append : ∀ (k1 : List KA) (s1 : List KS) (k2 : List KA) (s2 : List KS),
    keyFits k1 s1 = true → keyFits k2 s2 = true → keyFits (k1 ++ k2) (s1 ++ s2) = true := by
  intro k1
  induction k1 with
  | nil => intro s1 k2 s2 h1 h2; cases s1 with
    | nil => simpa using h2
    | cons s r => simp [keyFits] at h1
  | cons a k ih =>
    intro s1 k2 s2 h1 h2
    cases s1 with
    | nil => simp [keyFits] at h1
    | cons s r =>
      simp only [keyFits, Bool.and_eq_true, List.cons_append] at h1 ⊢
      exact ⟨h1.1, ih r k2 s2 h1.2 h2⟩

private theorem mapM_ok : ∀ (l : List (Vec S × Nat)),
    (∀ p ∈ l, (p.2 = 1 ∨ p.2 = 2 ∨ p.2 = 3) ∧ VecOK p.1 p.2) →
    ∃ parts, l.mapM (fun p => operandKey p.1 p.2) = some parts ∧
      keyFits (parts.map (·.1)).flatten ((l.map fun p => slotShape p.2).flatten) = true ∧
      ((parts.map (·.2)).flatten).length = (l.map fun p => p.2 + 1).sum := by
  intro l
  induction l with
  | nil => intro _; exact ⟨[], by simp, rfl, rfl⟩
  | cons p l ih =>
    intro h
    obtain ⟨hn, hv⟩ := h p List.mem_cons_self
    obtain ⟨ks, cs, e, hk, hc⟩ := operandKey_ok p.1 p.2 hn hv
    obtain ⟨parts, e', hk', hc'⟩ := ih (fun q hq => h q (List.mem_cons_of_mem _ hq))
    refine ⟨(ks, cs) :: parts, ?_, ?_, ?_⟩
    · rw [List.mapM_cons, e, e']; rfl
    · simp only [List.map_cons, List.flatten_cons]
      exact keyFits_append _ _ _ _ hk hk'
    · simp only [List.map_cons, List.flatten_cons, List.length_append, List.sum_cons, hc, hc']

private theorem wrap_ok (hd : Vec S) (be : Backend) (mom : Bool) (out : Out S B) (ret : Ret) (k : RKind)
    (hk : retKind ret = some k) (ho : outFitsKind out k = true) : ∃ res, wrapResult hd be mom out ret = .ok res := by
  cases ret with
  | float =>
    simp [retKind] at hk; subst hk
    cases out with
    | truth b => simp [outFitsKind] at ho
    | vals l =>
      rcases l with _ | ⟨s, _ | ⟨s2, l⟩⟩
      · simp [outFitsKind] at ho
      · exact ⟨_, rfl⟩
      · simp [outFitsKind] at ho
  | bool =>
    simp [retKind] at hk; subst hk
    cases out with
    | truth b => exact ⟨_, rfl⟩
    | vals l => rcases l with _ | ⟨s, _ | ⟨s2, l⟩⟩ <;> simp [outFitsKind] at ho
  | vec parts =>
    have hwf : PartsWF parts = true := by
      unfold retKind at hk
      split at hk <;> first | (cases hk; done) | (rename_i heq; cases heq <;> rfl)
    have hv : k.isVec = true := by
      unfold retKind at hk
      split at hk <;> first | (cases hk; done) | (rename_i heq; cases heq <;> (cases hk; rfl))
    cases out with
    | truth b => cases k <;> simp [outFitsKind, RKind.isVec] at ho hv
    | vals raw =>
      obtain ⟨r, hr⟩ := (c05_wrapVec_ok_iff hd be mom raw parts).mpr hwf
      exact ⟨.vec r, by simp [wrapResult, hr, Except.map]⟩

/-- C05, "every method is defined for every coordinate system of its operands": `dispatch` of ANY module succeeds — no
TypeError, AttributeError or AssertionError — whenever it is given the module's number of scalars, one operand per
operand position, each having (and storing) the coordinate groups that position needs, the Euler order iff the module
takes one, and at least one counted operand; whatever the coordinate systems of the operands are. -/
theorem c05_dispatch_defined (ev : Ev S B) (ht : EvTotal ev) (hev : EvTables ev) (m : ModuleId) (sc : List S)
    (ord : Option Ord) (ops counted : List (Vec S))
    (hsc : sc.length = m.info.nscalar)
    (hlen : (operandSlots m.info.shape).length = ops.length)
    (hops : ∀ p ∈ ops.zip (operandSlots m.info.shape), VecOK p.1 p.2)
    (hord : ord.isSome = m.info.shape.contains .ord)
    (hc : counted ≠ []) : ∃ res, dispatch ev m sc ord ops counted = .ok res := by
  obtain ⟨hshape, hnc, hslots⟩ := c05_shape_slots m
  have hl2 : (ops.zip (operandSlots m.info.shape)).map (·.2) = operandSlots m.info.shape :=
    List.map_snd_zip (by omega)
  obtain ⟨parts, e', hk', hc'⟩ := mapM_ok (ops.zip (operandSlots m.info.shape)) (by
    intro p hp
    exact ⟨hslots p.2 (List.of_mem_zip (a := p.1) (b := p.2) hp).2, hops p hp⟩)
  have hmap1 : ((ops.zip (operandSlots m.info.shape)).map fun p => slotShape p.2) =
      (operandSlots m.info.shape).map slotShape := by
    rw [← hl2, List.map_map]; rw [hl2]; rfl
  have hmap2 : ((ops.zip (operandSlots m.info.shape)).map fun p => p.2 + 1) =
      (operandSlots m.info.shape).map (· + 1) := by
    rw [← hl2, List.map_map]; rw [hl2]; rfl
  rw [hmap1] at hk'
  rw [hmap2, ← hnc] at hc'
  have hkey : keyFits ((parts.map (·.1)).flatten ++ ord.toList.map KA.ord) m.info.shape = true := by
    have : keyFits (ord.toList.map KA.ord) (if m.info.shape.contains .ord then [KS.ord] else []) = true := by
      cases ord with
      | none => simp at hord; simp [hord, keyFits]
      | some o => simp at hord; simp [hord, keyFits, KA.fits]
    have h2 := keyFits_append _ _ _ _ hk' this
    rw [← hshape] at h2
    exact h2
  have hargs : (sc ++ (parts.map (·.2)).flatten).length = m.info.nscalar + m.info.ncoord := by
    rw [List.length_append, hsc, hc']
  have hsome := ht.total m _ _ hkey hargs
  obtain ⟨hd, hh⟩ := c05_handlerOf_isSome counted hc
  obtain ⟨⟨out, ret⟩, he⟩ := Option.isSome_iff_exists.mp hsome
  obtain ⟨res, hw⟩ := wrap_ok hd hd.ty.be (counted.any (·.ty.mom)) out ret _ (hev.kind he) (ht.out_fits _ _ _ _ _ he)
  exact ⟨res, (dispatch_ok_iff ..).mpr ⟨hlen, _, _, out, ret, hd, by unfold dispatchArgs; rw [e'], he, hh, hw⟩⟩

/-- a well-formed vector value: a temporal coordinate only together with a longitudinal one (2D, 3D, 4D classes), and
exactly one stored value per coordinate -/
def Vec.WF (v : Vec S) : Prop := (v.ty.tmp.isSome = true → v.ty.lon.isSome = true) ∧ v.c.length = v.ty.dim

theorem c05_vecOK_of_WF (v : Vec S) (n : Nat) (hw : v.WF) (hn : n + 1 ≤ v.ty.dim) : VecOK v n := by
  rcases Vec.wf_cases hw.1 hw.2 with ⟨_, _, _, _, _, rfl⟩ | ⟨_, _, _, _, _, _, _, rfl⟩ | ⟨_, _, _, _, _, _, _, _, _, rfl⟩ <;>
    exact ⟨by simp [VT.dim] at hn ⊢ <;> omega, by simp [VT.dim] at hn ⊢ <;> omega, hn⟩

/-- … in particular a binary method (with default tolerances) that passes its operand on as it is never raises on two well-formed
vectors whose dimensions pass its guards (`Bin.route`), whatever their coordinate systems, backends and flavors -/
theorem c05_binary_defined (ev : Ev S B) (ht : EvTotal ev) (hev : EvTables ev) (K : Consts S) (b : Bin)
    (self o : Vec S) (m : ModuleId) (hr : b.route self.ty.dim o.ty.dim = .ok m) (hn : b.viaNeg = false)
    (hs : self.WF) (ho : o.WF) : ∃ res, binary ev K b self o [] = .ok res := by
  obtain ⟨h1, h2, ⟨n₁, n₂, h3, hn₁, hn₂⟩, -⟩ := Bin.route_spec hr
  rw [binary_route_ok ev K [] hr hn]
  refine c05_dispatch_defined ev ht hev m _ none [self, o] [self, o] (by rw [h1]; cases b <;> rfl) (by rw [h3]; rfl) ?_
    (by rw [h2]; rfl) (by simp)
  intro p hp
  rw [h3] at hp
  simp only [List.zip_cons_cons, List.zip_nil_right, List.mem_cons, List.not_mem_nil, or_false] at hp
  rcases hp with rfl | rfl
  · exact c05_vecOK_of_WF _ _ hs hn₁
  · exact c05_vecOK_of_WF _ _ ho hn₂

/-- … in particular the same-dimension binary methods on two well-formed vectors of equal dimension -/
theorem c05_binary_sameDim_defined (ev : Ev S B) (ht : EvTotal ev) (hev : EvTables ev) (K : Consts S) (b : Bin)
    (self o : Vec S) (hb : b.sameDim = true) (hs : self.WF) (ho : o.WF) (hd : o.ty.dim = self.ty.dim) :
    ∃ res, binary ev K b self o [] = .ok res := by
  obtain ⟨m, hm, -⟩ := c05_binary_sameDim_ok ev K b self o [] hb hd
  exact c05_binary_defined ev ht hev K b self o m (by rw [Bin.route_sameDim b hb, if_neg (by simp [hd]), hm])
    (Bin.viaNeg_sameDim hb) hs ho

/-! ### 10. the hypotheses used above are satisfiable -/

section Examples

private def v2 : Vec Nat := ⟨{ be := .obj, mom := false, az := .xy, lon := none, tmp := none }, [1, 2]⟩
private def v3 : Vec Nat := ⟨{ be := .np, mom := true, az := .rhophi, lon := some .eta, tmp := none }, [1, 2, 3]⟩
private def v4 : Vec Nat := ⟨{ be := .ak, mom := false, az := .xy, lon := some .z, tmp := some .tau }, [1, 2, 3, 4]⟩
private def ev0 : Ev Nat Bool := fun _ _ _ => none
private def K0 : Consts Nat := ⟨0, 0, 0, 0, 0, 0, 0⟩

example : v2.ty.dim = 2 ∧ v3.ty.dim = 3 ∧ v4.ty.dim = 4 := ⟨rfl, rfl, rfl⟩
example : v2.WF ∧ v3.WF ∧ v4.WF := by
  refine ⟨⟨?_, rfl⟩, ⟨?_, rfl⟩, ⟨?_, rfl⟩⟩ <;> simp [v2, v3, v4]
/-- operands of different dimension: `add` is a TypeError (hypotheses of `c05_binary_sameDim_guard`) -/
example : binary ev0 K0 .add v2 v3 [] = .error .typeError :=
  c05_binary_sameDim_guard ev0 K0 .add v2 v3 [] rfl (by decide)
/-- `cross` of a 3D and a 4D vector (hypotheses of `c05_cross_guard`) -/
example : binary ev0 K0 .cross v3 v4 [] = .error .typeError :=
  c05_cross_guard ev0 K0 v3 v4 [] (Or.inr (by decide))
/-- `boost_p4` by a 3D vector, `boost_beta3` by a 4D vector -/
example : binary ev0 K0 .boost_p4 v4 v3 [] = .error .typeError := c05_boost_p4_guard ev0 K0 v4 v3 [] rfl (by decide)
example : binary ev0 K0 .boost_beta3 v4 v4 [] = .error .typeError := c05_boost_beta3_guard ev0 K0 v4 v4 [] rfl (by decide)
/-- the handler of mixed backends is the Awkward operand, wherever it stands -/
example : handlerOf [v2, v4, v3] = some v4 ∧ handlerOf [v4, v2] = some v4 := ⟨rfl, rfl⟩
/-- `VecOK`: a 4D vector can fill a 3-slot operand position, a 2D vector cannot fill a 2-slot one -/
example : VecOK v4 3 := c05_vecOK_of_WF v4 3 ⟨by simp [v4], rfl⟩ (by decide)
example : ¬ VecOK v2 2 := fun h => by have := h.1 (by decide); simp [v2] at this
/-- `dispatchRT` evaluates: `cross` of a NumPy momentum vector (ρ, φ, η) and an object vector (x, y, z) is a NumPy momentum vector
(x, y, z); `dot` of two 4D vectors is a scalar -/
example : dispatchRT .spatial_cross none [v3.ty, ⟨.obj, false, .xy, some .z, none⟩] [v3.ty, ⟨.obj, false, .xy, some .z, none⟩] =
      some (.vec ⟨.np, true, .xy, some .z, none⟩) ∧
    dispatchRT .lorentz_dot none [v4.ty, v4.ty] [v4.ty, v4.ty] = some .scalar := by decide
/-- a key of the key type of `lorentz_boost_beta3`, and its declared result -/
example : keyFits [.az .xy, .lon .eta, .tmp .tau, .az .rhophi, .lon .theta] ModuleId.lorentz_boost_beta3.info.shape = true ∧
    declared .lorentz_boost_beta3 [.az .xy, .lon .eta, .tmp .tau, .az .rhophi, .lon .theta] =
      some (.vec [.az .xy, .lon .z, .tmp .tau]) := by decide +kernel

end Examples

end

open VE

/-! ### 11. the generated executable compute layer satisfies `EvTables` and `EvTotal` -/

/-! #### typed keys and argument tuples

A key of the key type `shape` is a tuple `KeyT shape` of coordinate systems, `n` arguments are a tuple `Tup S n`; the lists the
glue passes around are their images under `KeyT.atoms` / `Tup.toList`.  For a concrete `shape` and `n` both reduce to list
literals (of projections) without the tuple being taken apart, so a generated `M.evalL` applied to them evaluates: a statement
about all keys of a key type and all argument lists of a length (`forall_fits`) is checked on one pair of variables. -/

/-- a key of the key type `shape`, slot by slot -/
def KeyT : List KS → Type
  | [] => Unit
  | .az :: s => Az × KeyT s
  | .lon :: s => Lon × KeyT s
  | .tmp :: s => Tmp × KeyT s
  | .ord :: s => Ord × KeyT s

/-- … as the list of atoms the glue builds -/
def KeyT.atoms : (shape : List KS) → KeyT shape → List KA
  | [], _ => []
  | .az :: s, κ => .az (κ : Az × KeyT s).1 :: atoms s (κ : Az × KeyT s).2
  | .lon :: s, κ => .lon (κ : Lon × KeyT s).1 :: atoms s (κ : Lon × KeyT s).2
  | .tmp :: s, κ => .tmp (κ : Tmp × KeyT s).1 :: atoms s (κ : Tmp × KeyT s).2
  | .ord :: s, κ => .ord (κ : Ord × KeyT s).1 :: atoms s (κ : Ord × KeyT s).2

def Tup (S : Type) : Nat → Type
  | 0 => Unit
  | n + 1 => S × Tup S n

def Tup.toList {S : Type} : (n : Nat) → Tup S n → List S
  | 0, _ => []
  | n + 1, α => (α : S × Tup S n).1 :: toList n (α : S × Tup S n).2

theorem keyFits_atoms : ∀ (shape : List KS) (k : List KA), keyFits k shape = true → ∃ κ, k = KeyT.atoms shape κ
  | [], [], _ => ⟨(), rfl⟩
  | [], _ :: _, h => by simp [keyFits] at h
  | _ :: _, [], h => by simp [keyFits] at h
  | s :: shape, q :: k, h => by
    simp only [keyFits, Bool.and_eq_true] at h
    obtain ⟨κ, rfl⟩ := keyFits_atoms shape k h.2
    cases s <;> cases q <;> first | (cases h.1; done) | exact ⟨(_, κ), rfl⟩

theorem length_toList {S : Type} : ∀ (n : Nat) (a : List S), a.length = n → ∃ α, a = Tup.toList n α
  | 0, [], _ => ⟨(), rfl⟩
  | n + 1, x :: a, h => by
    obtain ⟨α, rfl⟩ := length_toList n a (by simpa using h)
    exact ⟨(x, α), rfl⟩

theorem forall_fits {S : Type} {P : List KA → List S → Prop} {shape : List KS} {n : Nat}
    (h : ∀ (κ : KeyT shape) (α : Tup S n), P (KeyT.atoms shape κ) (Tup.toList n α)) (k : List KA) (a : List S)
    (hk : keyFits k shape = true) (ha : a.length = n) : P k a := by
  obtain ⟨κ, rfl⟩ := keyFits_atoms shape k hk
  obtain ⟨α, rfl⟩ := length_toList n a ha
  exact h κ α

/-- C05, "every method is defined for every coordinate system of its operands", at the compute layer: the generated
executable model evaluates every module on EVERY key of the module's key type (and every argument list of the
module's arity) — no combination of coordinate systems is missing.  (On a typed key and an argument tuple the list
wrapper of each module evaluates.) -/
theorem c05_exec_total {S : Type} [Scalar S] (m : ModuleId) (k : List KA) (a : List S) (hk : keyFits k m.info.shape = true)
    (ha : a.length = m.info.nscalar + m.info.ncoord) : (Compute.eval m k a).isSome = true := by
  revert k a
  cases m <;> exact forall_fits fun _ _ => rfl

/-! #### the generated tables against the generated wrappers -/

/-- the declared result of the generated wrapper of module `m` at key `k`, read off at the scalar type `S` on dummy arguments
(the wrapper does not look at them); the theorems below take `S := Sym` -/
def retOf (S : Type) [Scalar S] [Inhabited S] (m : ModuleId) (k : List KA) : Option Ret :=
  (Compute.eval (S := S) m k (List.replicate (m.info.nscalar + m.info.ncoord) default)).map (·.2)

/-- the keys of every table are a rearrangement of the keys of the module's key type.  `List.isPerm` erases one key after the
other; that is one pass over a table that lists its keys in the order of `allKeys`, as the generator does, and right in any order -/
theorem c05_tables_perm (m : ModuleId) : (allKeys m.info.shape).Perm (m.table.map (·.1)) := by
  apply List.isPerm_iff.mp
  cases m <;> decide +kernel

/-- every entry of every table records the declared result of the generated wrapper at its key -/
theorem c05_tables_ret (m : ModuleId) : ∀ e ∈ m.table, retOf Sym m e.1 = some e.2 := by
  cases m <;> decide +kernel

private theorem retWF_of_kind {r : Ret} {kd : RKind} (h : retKind r = some kd) : RetWF r = true := by
  unfold retKind at h
  split at h <;> first | rfl | cases h

/-- C05, "every method is defined for every coordinate system of its operands", on the generated tables: for EVERY
module and EVERY key of the module's key type the key is present in the dispatch table, and the declared result is
well formed (`float`, `bool`, or a vector `az [, lon|None [, tmp|None]]`). -/
theorem c05_tables_total (m : ModuleId) (k : List KA) (hk : keyFits k m.info.shape = true) :
    ∃ r, declared m k = some r ∧ (k, r) ∈ m.table ∧ RetWF r = true := by
  have hmem := (c05_tables_perm m).mem_iff.mp (c05_allKeys_complete _ k hk)
  cases hd : declared m k with
  | none =>
    obtain ⟨e, he, rfl⟩ := List.mem_map.mp hmem
    simpa using List.lookup_eq_none_iff.mp hd e he
  | some r =>
    have hm := lookup_mem k r m.table hd
    exact ⟨r, rfl, hm, retWF_of_kind (c05_module_kind m _ hm)⟩

private theorem slotAtoms_nodup (s : KS) : (slotAtoms s).Nodup := by cases s <;> decide

theorem c05_allKeys_nodup : ∀ shape : List KS, (allKeys shape).Nodup
  | [] => by simp [allKeys]
  | s :: rest => by
    have ih := c05_allKeys_nodup rest
    simp only [allKeys, List.Nodup, List.pairwise_flatMap, List.pairwise_map]
    refine ⟨fun a _ => ih.imp fun h e => h (List.cons.inj e).2, (slotAtoms_nodup s).imp fun hab => ?_⟩
    intro x hx y hy e
    obtain ⟨_, _, rfl⟩ := List.mem_map.mp hx
    obtain ⟨_, _, rfl⟩ := List.mem_map.mp hy
    exact hab (List.cons.inj e).1

/-- the tables contain nothing else: every key of a table is a key of the module's key type, and no key occurs twice
(so the table has exactly one entry per key of the key type) -/
theorem c05_tables_exact : ∀ m : ModuleId,
    (∀ e ∈ m.table, keyFits e.1 m.info.shape = true) ∧ (m.table.map (·.1)).Nodup ∧
      m.table.length = (allKeys m.info.shape).length := by
  intro m
  have hp := c05_tables_perm m
  refine ⟨fun e he => ?_, hp.nodup_iff.mp (c05_allKeys_nodup _), by simpa using hp.length_eq.symm⟩
  exact c05_allKeys_sound _ _ (hp.mem_iff.mpr (List.mem_map.mpr ⟨e, he, rfl⟩))

/-- on the module's key type the table IS the declared result of the generated wrapper -/
theorem c05_declared_eq_retOf (m : ModuleId) (k : List KA) (hk : keyFits k m.info.shape = true) :
    declared m k = retOf Sym m k := by
  obtain ⟨r, hd, hm, -⟩ := c05_tables_total m k hk
  rw [hd, c05_tables_ret m _ hm]

/-- what the glue needs to know of the list wrapper `f = M.evalL` of module `m` (of any copy of the generated code): it is
defined only on the keys of the module's key type and the argument lists of its arity, its declared result is the one of the
executable wrapper (hence of the generated table), and its raw result has the form the module's kind declares.
The declared result is stated as `retOf Sym m k`, not as `declared m k`: on a list of atoms with variable coordinate systems the
executable wrapper at `Sym` reduces, so `evalL_spec` closes this field by `rfl`, while the `List.lookup` in the table is stuck;
`EvalLSpec.tab` gives the table's form (`import VectorModel.Exec.Sym` is there for this) -/
structure EvalLSpec {S B : Type} (m : ModuleId) (f : List KA → List S → Option (Out S B × Ret)) : Prop where
  of_some : ∀ k a out ret, f k a = some (out, ret) →
    (keyFits k m.info.shape = true ∧ a.length = m.info.nscalar + m.info.ncoord) ∧ retOf Sym m k = some ret ∧
      outFitsKind out m.kind = true

namespace EvalLSpec
variable {S B : Type} {m : ModuleId} {f : List KA → List S → Option (Out S B × Ret)} (h : EvalLSpec m f)
include h

theorem fits (k a r) (he : f k a = some r) :
    keyFits k m.info.shape = true ∧ a.length = m.info.nscalar + m.info.ncoord := (h.of_some k a r.1 r.2 he).1
theorem tab (k a out ret) (he : f k a = some (out, ret)) : declared m k = some ret :=
  (c05_declared_eq_retOf m k (h.fits k a _ he).1).trans (h.of_some k a out ret he).2.1
theorem out (k a out ret) (he : f k a = some (out, ret)) : outFitsKind out m.kind = true := (h.of_some k a out ret he).2.2

end EvalLSpec

section
variable {S : Type} [Scalar S]

private theorem exec_spec.lorentz_Et : EvalLSpec .lorentz_Et (lorentz_Et.evalL (S := S)) := by evalL_spec lorentz_Et.evalL
private theorem exec_spec.lorentz_Et2 : EvalLSpec .lorentz_Et2 (lorentz_Et2.evalL (S := S)) := by evalL_spec lorentz_Et2.evalL
private theorem exec_spec.lorentz_Mt : EvalLSpec .lorentz_Mt (lorentz_Mt.evalL (S := S)) := by evalL_spec lorentz_Mt.evalL
private theorem exec_spec.lorentz_Mt2 : EvalLSpec .lorentz_Mt2 (lorentz_Mt2.evalL (S := S)) := by evalL_spec lorentz_Mt2.evalL
private theorem exec_spec.lorentz_add : EvalLSpec .lorentz_add (lorentz_add.evalL (S := S)) := by evalL_spec lorentz_add.evalL
private theorem exec_spec.lorentz_beta : EvalLSpec .lorentz_beta (lorentz_beta.evalL (S := S)) := by evalL_spec lorentz_beta.evalL
private theorem exec_spec.lorentz_boostX_beta : EvalLSpec .lorentz_boostX_beta (lorentz_boostX_beta.evalL (S := S)) := by evalL_spec lorentz_boostX_beta.evalL
private theorem exec_spec.lorentz_boostX_gamma : EvalLSpec .lorentz_boostX_gamma (lorentz_boostX_gamma.evalL (S := S)) := by evalL_spec lorentz_boostX_gamma.evalL
private theorem exec_spec.lorentz_boostY_beta : EvalLSpec .lorentz_boostY_beta (lorentz_boostY_beta.evalL (S := S)) := by evalL_spec lorentz_boostY_beta.evalL
private theorem exec_spec.lorentz_boostY_gamma : EvalLSpec .lorentz_boostY_gamma (lorentz_boostY_gamma.evalL (S := S)) := by evalL_spec lorentz_boostY_gamma.evalL
private theorem exec_spec.lorentz_boostZ_beta : EvalLSpec .lorentz_boostZ_beta (lorentz_boostZ_beta.evalL (S := S)) := by evalL_spec lorentz_boostZ_beta.evalL
private theorem exec_spec.lorentz_boostZ_gamma : EvalLSpec .lorentz_boostZ_gamma (lorentz_boostZ_gamma.evalL (S := S)) := by evalL_spec lorentz_boostZ_gamma.evalL
private theorem exec_spec.lorentz_boost_beta3 : EvalLSpec .lorentz_boost_beta3 (lorentz_boost_beta3.evalL (S := S)) := by evalL_spec lorentz_boost_beta3.evalL
private theorem exec_spec.lorentz_boost_p4 : EvalLSpec .lorentz_boost_p4 (lorentz_boost_p4.evalL (S := S)) := by evalL_spec lorentz_boost_p4.evalL
private theorem exec_spec.lorentz_deltaRapidityPhi : EvalLSpec .lorentz_deltaRapidityPhi (lorentz_deltaRapidityPhi.evalL (S := S)) := by evalL_spec lorentz_deltaRapidityPhi.evalL
private theorem exec_spec.lorentz_deltaRapidityPhi2 : EvalLSpec .lorentz_deltaRapidityPhi2 (lorentz_deltaRapidityPhi2.evalL (S := S)) := by evalL_spec lorentz_deltaRapidityPhi2.evalL
private theorem exec_spec.lorentz_dot : EvalLSpec .lorentz_dot (lorentz_dot.evalL (S := S)) := by evalL_spec lorentz_dot.evalL
private theorem exec_spec.lorentz_equal : EvalLSpec .lorentz_equal (lorentz_equal.evalL (S := S)) := by evalL_spec lorentz_equal.evalL
private theorem exec_spec.lorentz_gamma : EvalLSpec .lorentz_gamma (lorentz_gamma.evalL (S := S)) := by evalL_spec lorentz_gamma.evalL
private theorem exec_spec.lorentz_is_lightlike : EvalLSpec .lorentz_is_lightlike (lorentz_is_lightlike.evalL (S := S)) := by evalL_spec lorentz_is_lightlike.evalL
private theorem exec_spec.lorentz_is_spacelike : EvalLSpec .lorentz_is_spacelike (lorentz_is_spacelike.evalL (S := S)) := by evalL_spec lorentz_is_spacelike.evalL
private theorem exec_spec.lorentz_is_timelike : EvalLSpec .lorentz_is_timelike (lorentz_is_timelike.evalL (S := S)) := by evalL_spec lorentz_is_timelike.evalL
private theorem exec_spec.lorentz_isclose : EvalLSpec .lorentz_isclose (lorentz_isclose.evalL (S := S)) := by evalL_spec lorentz_isclose.evalL
private theorem exec_spec.lorentz_not_equal : EvalLSpec .lorentz_not_equal (lorentz_not_equal.evalL (S := S)) := by evalL_spec lorentz_not_equal.evalL
private theorem exec_spec.lorentz_rapidity : EvalLSpec .lorentz_rapidity (lorentz_rapidity.evalL (S := S)) := by evalL_spec lorentz_rapidity.evalL
private theorem exec_spec.lorentz_scale : EvalLSpec .lorentz_scale (lorentz_scale.evalL (S := S)) := by evalL_spec lorentz_scale.evalL
private theorem exec_spec.lorentz_subtract : EvalLSpec .lorentz_subtract (lorentz_subtract.evalL (S := S)) := by evalL_spec lorentz_subtract.evalL
private theorem exec_spec.lorentz_t : EvalLSpec .lorentz_t (lorentz_t.evalL (S := S)) := by evalL_spec lorentz_t.evalL
private theorem exec_spec.lorentz_t2 : EvalLSpec .lorentz_t2 (lorentz_t2.evalL (S := S)) := by evalL_spec lorentz_t2.evalL
private theorem exec_spec.lorentz_tau : EvalLSpec .lorentz_tau (lorentz_tau.evalL (S := S)) := by evalL_spec lorentz_tau.evalL
private theorem exec_spec.lorentz_tau2 : EvalLSpec .lorentz_tau2 (lorentz_tau2.evalL (S := S)) := by evalL_spec lorentz_tau2.evalL
private theorem exec_spec.lorentz_to_beta3 : EvalLSpec .lorentz_to_beta3 (lorentz_to_beta3.evalL (S := S)) := by evalL_spec lorentz_to_beta3.evalL
private theorem exec_spec.lorentz_transform4D : EvalLSpec .lorentz_transform4D (lorentz_transform4D.evalL (S := S)) := by evalL_spec lorentz_transform4D.evalL
private theorem exec_spec.lorentz_unit : EvalLSpec .lorentz_unit (lorentz_unit.evalL (S := S)) := by evalL_spec lorentz_unit.evalL
private theorem exec_spec.planar_add : EvalLSpec .planar_add (planar_add.evalL (S := S)) := by evalL_spec planar_add.evalL
private theorem exec_spec.planar_deltaphi : EvalLSpec .planar_deltaphi (planar_deltaphi.evalL (S := S)) := by evalL_spec planar_deltaphi.evalL
private theorem exec_spec.planar_dot : EvalLSpec .planar_dot (planar_dot.evalL (S := S)) := by evalL_spec planar_dot.evalL
private theorem exec_spec.planar_equal : EvalLSpec .planar_equal (planar_equal.evalL (S := S)) := by evalL_spec planar_equal.evalL
private theorem exec_spec.planar_is_antiparallel : EvalLSpec .planar_is_antiparallel (planar_is_antiparallel.evalL (S := S)) := by evalL_spec planar_is_antiparallel.evalL
private theorem exec_spec.planar_is_parallel : EvalLSpec .planar_is_parallel (planar_is_parallel.evalL (S := S)) := by evalL_spec planar_is_parallel.evalL
private theorem exec_spec.planar_is_perpendicular : EvalLSpec .planar_is_perpendicular (planar_is_perpendicular.evalL (S := S)) := by evalL_spec planar_is_perpendicular.evalL
private theorem exec_spec.planar_isclose : EvalLSpec .planar_isclose (planar_isclose.evalL (S := S)) := by evalL_spec planar_isclose.evalL
private theorem exec_spec.planar_not_equal : EvalLSpec .planar_not_equal (planar_not_equal.evalL (S := S)) := by evalL_spec planar_not_equal.evalL
private theorem exec_spec.planar_phi : EvalLSpec .planar_phi (planar_phi.evalL (S := S)) := by evalL_spec planar_phi.evalL
private theorem exec_spec.planar_rho : EvalLSpec .planar_rho (planar_rho.evalL (S := S)) := by evalL_spec planar_rho.evalL
private theorem exec_spec.planar_rho2 : EvalLSpec .planar_rho2 (planar_rho2.evalL (S := S)) := by evalL_spec planar_rho2.evalL
private theorem exec_spec.planar_rotateZ : EvalLSpec .planar_rotateZ (planar_rotateZ.evalL (S := S)) := by evalL_spec planar_rotateZ.evalL
private theorem exec_spec.planar_scale : EvalLSpec .planar_scale (planar_scale.evalL (S := S)) := by evalL_spec planar_scale.evalL
private theorem exec_spec.planar_subtract : EvalLSpec .planar_subtract (planar_subtract.evalL (S := S)) := by evalL_spec planar_subtract.evalL
private theorem exec_spec.planar_transform2D : EvalLSpec .planar_transform2D (planar_transform2D.evalL (S := S)) := by evalL_spec planar_transform2D.evalL
private theorem exec_spec.planar_unit : EvalLSpec .planar_unit (planar_unit.evalL (S := S)) := by evalL_spec planar_unit.evalL
private theorem exec_spec.planar_x : EvalLSpec .planar_x (planar_x.evalL (S := S)) := by evalL_spec planar_x.evalL
private theorem exec_spec.planar_y : EvalLSpec .planar_y (planar_y.evalL (S := S)) := by evalL_spec planar_y.evalL
private theorem exec_spec.spatial_add : EvalLSpec .spatial_add (spatial_add.evalL (S := S)) := by evalL_spec spatial_add.evalL
private theorem exec_spec.spatial_costheta : EvalLSpec .spatial_costheta (spatial_costheta.evalL (S := S)) := by evalL_spec spatial_costheta.evalL
private theorem exec_spec.spatial_cottheta : EvalLSpec .spatial_cottheta (spatial_cottheta.evalL (S := S)) := by evalL_spec spatial_cottheta.evalL
private theorem exec_spec.spatial_cross : EvalLSpec .spatial_cross (spatial_cross.evalL (S := S)) := by evalL_spec spatial_cross.evalL
private theorem exec_spec.spatial_deltaR : EvalLSpec .spatial_deltaR (spatial_deltaR.evalL (S := S)) := by evalL_spec spatial_deltaR.evalL
private theorem exec_spec.spatial_deltaR2 : EvalLSpec .spatial_deltaR2 (spatial_deltaR2.evalL (S := S)) := by evalL_spec spatial_deltaR2.evalL
private theorem exec_spec.spatial_deltaangle : EvalLSpec .spatial_deltaangle (spatial_deltaangle.evalL (S := S)) := by evalL_spec spatial_deltaangle.evalL
private theorem exec_spec.spatial_deltaeta : EvalLSpec .spatial_deltaeta (spatial_deltaeta.evalL (S := S)) := by evalL_spec spatial_deltaeta.evalL
private theorem exec_spec.spatial_dot : EvalLSpec .spatial_dot (spatial_dot.evalL (S := S)) := by evalL_spec spatial_dot.evalL
private theorem exec_spec.spatial_equal : EvalLSpec .spatial_equal (spatial_equal.evalL (S := S)) := by evalL_spec spatial_equal.evalL
private theorem exec_spec.spatial_eta : EvalLSpec .spatial_eta (spatial_eta.evalL (S := S)) := by evalL_spec spatial_eta.evalL
private theorem exec_spec.spatial_is_antiparallel : EvalLSpec .spatial_is_antiparallel (spatial_is_antiparallel.evalL (S := S)) := by evalL_spec spatial_is_antiparallel.evalL
private theorem exec_spec.spatial_is_parallel : EvalLSpec .spatial_is_parallel (spatial_is_parallel.evalL (S := S)) := by evalL_spec spatial_is_parallel.evalL
private theorem exec_spec.spatial_is_perpendicular : EvalLSpec .spatial_is_perpendicular (spatial_is_perpendicular.evalL (S := S)) := by evalL_spec spatial_is_perpendicular.evalL
private theorem exec_spec.spatial_isclose : EvalLSpec .spatial_isclose (spatial_isclose.evalL (S := S)) := by evalL_spec spatial_isclose.evalL
private theorem exec_spec.spatial_mag : EvalLSpec .spatial_mag (spatial_mag.evalL (S := S)) := by evalL_spec spatial_mag.evalL
private theorem exec_spec.spatial_mag2 : EvalLSpec .spatial_mag2 (spatial_mag2.evalL (S := S)) := by evalL_spec spatial_mag2.evalL
private theorem exec_spec.spatial_not_equal : EvalLSpec .spatial_not_equal (spatial_not_equal.evalL (S := S)) := by evalL_spec spatial_not_equal.evalL
private theorem exec_spec.spatial_rotateX : EvalLSpec .spatial_rotateX (spatial_rotateX.evalL (S := S)) := by evalL_spec spatial_rotateX.evalL
private theorem exec_spec.spatial_rotateY : EvalLSpec .spatial_rotateY (spatial_rotateY.evalL (S := S)) := by evalL_spec spatial_rotateY.evalL
private theorem exec_spec.spatial_rotate_axis : EvalLSpec .spatial_rotate_axis (spatial_rotate_axis.evalL (S := S)) := by evalL_spec spatial_rotate_axis.evalL
private theorem exec_spec.spatial_rotate_euler : EvalLSpec .spatial_rotate_euler (spatial_rotate_euler.evalL (S := S)) := by evalL_spec spatial_rotate_euler.evalL
private theorem exec_spec.spatial_rotate_quaternion : EvalLSpec .spatial_rotate_quaternion (spatial_rotate_quaternion.evalL (S := S)) := by evalL_spec spatial_rotate_quaternion.evalL
private theorem exec_spec.spatial_scale : EvalLSpec .spatial_scale (spatial_scale.evalL (S := S)) := by evalL_spec spatial_scale.evalL
private theorem exec_spec.spatial_subtract : EvalLSpec .spatial_subtract (spatial_subtract.evalL (S := S)) := by evalL_spec spatial_subtract.evalL
private theorem exec_spec.spatial_theta : EvalLSpec .spatial_theta (spatial_theta.evalL (S := S)) := by evalL_spec spatial_theta.evalL
private theorem exec_spec.spatial_transform3D : EvalLSpec .spatial_transform3D (spatial_transform3D.evalL (S := S)) := by evalL_spec spatial_transform3D.evalL
private theorem exec_spec.spatial_unit : EvalLSpec .spatial_unit (spatial_unit.evalL (S := S)) := by evalL_spec spatial_unit.evalL
private theorem exec_spec.spatial_z : EvalLSpec .spatial_z (spatial_z.evalL (S := S)) := by evalL_spec spatial_z.evalL

end

section
variable {S : Type} [Scalar S]

theorem c05_exec_spec : ∀ m : ModuleId, EvalLSpec m (Compute.eval (S := S) m)
  | .lorentz_Et => exec_spec.lorentz_Et
  | .lorentz_Et2 => exec_spec.lorentz_Et2
  | .lorentz_Mt => exec_spec.lorentz_Mt
  | .lorentz_Mt2 => exec_spec.lorentz_Mt2
  | .lorentz_add => exec_spec.lorentz_add
  | .lorentz_beta => exec_spec.lorentz_beta
  | .lorentz_boostX_beta => exec_spec.lorentz_boostX_beta
  | .lorentz_boostX_gamma => exec_spec.lorentz_boostX_gamma
  | .lorentz_boostY_beta => exec_spec.lorentz_boostY_beta
  | .lorentz_boostY_gamma => exec_spec.lorentz_boostY_gamma
  | .lorentz_boostZ_beta => exec_spec.lorentz_boostZ_beta
  | .lorentz_boostZ_gamma => exec_spec.lorentz_boostZ_gamma
  | .lorentz_boost_beta3 => exec_spec.lorentz_boost_beta3
  | .lorentz_boost_p4 => exec_spec.lorentz_boost_p4
  | .lorentz_deltaRapidityPhi => exec_spec.lorentz_deltaRapidityPhi
  | .lorentz_deltaRapidityPhi2 => exec_spec.lorentz_deltaRapidityPhi2
  | .lorentz_dot => exec_spec.lorentz_dot
  | .lorentz_equal => exec_spec.lorentz_equal
  | .lorentz_gamma => exec_spec.lorentz_gamma
  | .lorentz_is_lightlike => exec_spec.lorentz_is_lightlike
  | .lorentz_is_spacelike => exec_spec.lorentz_is_spacelike
  | .lorentz_is_timelike => exec_spec.lorentz_is_timelike
  | .lorentz_isclose => exec_spec.lorentz_isclose
  | .lorentz_not_equal => exec_spec.lorentz_not_equal
  | .lorentz_rapidity => exec_spec.lorentz_rapidity
  | .lorentz_scale => exec_spec.lorentz_scale
  | .lorentz_subtract => exec_spec.lorentz_subtract
  | .lorentz_t => exec_spec.lorentz_t
  | .lorentz_t2 => exec_spec.lorentz_t2
  | .lorentz_tau => exec_spec.lorentz_tau
  | .lorentz_tau2 => exec_spec.lorentz_tau2
  | .lorentz_to_beta3 => exec_spec.lorentz_to_beta3
  | .lorentz_transform4D => exec_spec.lorentz_transform4D
  | .lorentz_unit => exec_spec.lorentz_unit
  | .planar_add => exec_spec.planar_add
  | .planar_deltaphi => exec_spec.planar_deltaphi
  | .planar_dot => exec_spec.planar_dot
  | .planar_equal => exec_spec.planar_equal
  | .planar_is_antiparallel => exec_spec.planar_is_antiparallel
  | .planar_is_parallel => exec_spec.planar_is_parallel
  | .planar_is_perpendicular => exec_spec.planar_is_perpendicular
  | .planar_isclose => exec_spec.planar_isclose
  | .planar_not_equal => exec_spec.planar_not_equal
  | .planar_phi => exec_spec.planar_phi
  | .planar_rho => exec_spec.planar_rho
  | .planar_rho2 => exec_spec.planar_rho2
  | .planar_rotateZ => exec_spec.planar_rotateZ
  | .planar_scale => exec_spec.planar_scale
  | .planar_subtract => exec_spec.planar_subtract
  | .planar_transform2D => exec_spec.planar_transform2D
  | .planar_unit => exec_spec.planar_unit
  | .planar_x => exec_spec.planar_x
  | .planar_y => exec_spec.planar_y
  | .spatial_add => exec_spec.spatial_add
  | .spatial_costheta => exec_spec.spatial_costheta
  | .spatial_cottheta => exec_spec.spatial_cottheta
  | .spatial_cross => exec_spec.spatial_cross
  | .spatial_deltaR => exec_spec.spatial_deltaR
  | .spatial_deltaR2 => exec_spec.spatial_deltaR2
  | .spatial_deltaangle => exec_spec.spatial_deltaangle
  | .spatial_deltaeta => exec_spec.spatial_deltaeta
  | .spatial_dot => exec_spec.spatial_dot
  | .spatial_equal => exec_spec.spatial_equal
  | .spatial_eta => exec_spec.spatial_eta
  | .spatial_is_antiparallel => exec_spec.spatial_is_antiparallel
  | .spatial_is_parallel => exec_spec.spatial_is_parallel
  | .spatial_is_perpendicular => exec_spec.spatial_is_perpendicular
  | .spatial_isclose => exec_spec.spatial_isclose
  | .spatial_mag => exec_spec.spatial_mag
  | .spatial_mag2 => exec_spec.spatial_mag2
  | .spatial_not_equal => exec_spec.spatial_not_equal
  | .spatial_rotateX => exec_spec.spatial_rotateX
  | .spatial_rotateY => exec_spec.spatial_rotateY
  | .spatial_rotate_axis => exec_spec.spatial_rotate_axis
  | .spatial_rotate_euler => exec_spec.spatial_rotate_euler
  | .spatial_rotate_quaternion => exec_spec.spatial_rotate_quaternion
  | .spatial_scale => exec_spec.spatial_scale
  | .spatial_subtract => exec_spec.spatial_subtract
  | .spatial_theta => exec_spec.spatial_theta
  | .spatial_transform3D => exec_spec.spatial_transform3D
  | .spatial_unit => exec_spec.spatial_unit
  | .spatial_z => exec_spec.spatial_z

/-- the generated executable model of the compute layer (at every scalar type) returns, for every key it accepts, the
declared result recorded in the generated table -/
theorem c05_exec_evTables : EvTables (S := S) (B := VE.B S) (fun m k a => Compute.eval m k a) :=
  ⟨fun m => (c05_exec_spec m).tab⟩

/-- … and is total, with raw results of the declared form -/
theorem c05_exec_evTotal : EvTotal (S := S) (B := VE.B S) (fun m k a => Compute.eval m k a) :=
  ⟨c05_exec_total, fun m => (c05_exec_spec m).out⟩

/-- three of the theorems that assume `EvTables` / `EvTotal`, at the generated executable model: `c05_dispatch_type_only` here,
`c05_binary_dim` and `c05_binary_sameDim_defined` below; the others are instantiated the same way -/
theorem c05_exec_dispatch_type_only (m : ModuleId) (sc sc' : List S) (ord : Option Ord)
    (ops ops' counted counted' : List (Vec S)) (r r' : Vec S)
    (hops : ops.map (·.ty) = ops'.map (·.ty)) (hc : counted.map (·.ty) = counted'.map (·.ty))
    (h : dispatch (B := VE.B S) (fun m k a => Compute.eval m k a) m sc ord ops counted = .ok (.vec r))
    (h' : dispatch (B := VE.B S) (fun m k a => Compute.eval m k a) m sc' ord ops' counted' = .ok (.vec r')) :
    r.ty = r'.ty :=
  c05_dispatch_type_only _ c05_exec_evTables m sc sc' ord ops ops' counted counted' r r' hops hc h h'

theorem c05_exec_binary_dim (K : Consts S) (b : Bin) (self o r : Vec S) (extra : List S)
    (h : binary (B := VE.B S) (fun m k a => Compute.eval m k a) K b self o extra = .ok (.vec r)) :
    r.ty.dim = if b = .cross then 3 else self.ty.dim :=
  c05_binary_dim _ c05_exec_evTables K b self o r extra h

theorem c05_exec_binary_sameDim_defined (K : Consts S) (b : Bin) (self o : Vec S) (hb : b.sameDim = true)
    (hs : self.WF) (ho : o.WF) (hd : o.ty.dim = self.ty.dim) :
    ∃ res, binary (B := VE.B S) (fun m k a => Compute.eval m k a) K b self o [] = .ok res :=
  c05_binary_sameDim_defined _ c05_exec_evTotal c05_exec_evTables K b self o hb hs ho hd

end
/-! ### 12. a second derivation of `tab`, `total`, `out`, one module at a time

`c05_tab_thm M`, `c05_total_thm M`, `c05_out_thm M` state and prove `exec_tab.M`, `exec_total.M`, `exec_out.M` for a single
module `M`, each from the definition of `M.evalL` alone (every key atom split, every dead branch simplified away), without
`evalL_inv` and typed keys: an independent check of what `exec_spec.M` and `c05_exec_total` say of `M`.  Done for one module of each kind of key type (one operand
of 1, 2, 3 slots; two operands; a scalar argument). -/

local macro "c05_cases_one " t:ident : tactic => `(tactic| cases_first $t)
local macro "c05_revert_keys" : tactic => `(tactic| revert_keys)
local macro "c05_cases_list" : tactic => `(tactic| cases_list)

open Lean in
/-- `c05_tab_thm M`: the theorem `exec_tab.M` — if `M.evalL k a = some (out, ret)` then `ret` is the declared result of `k`
in the generated table of `M`.  Proof: unfold `M.evalL`, destructure the key, and look all keys of that form up in the
table by kernel evaluation. -/
local macro "c05_tab_thm " m:ident : command => do
  let f := mkIdent (m.getId ++ `evalL)
  let thm := mkIdent (`exec_tab ++ m.getId)
  let c := mkIdent (`VK.ModuleId ++ m.getId)
  `(command|
    set_option maxRecDepth 100000 in
    private theorem $thm {S : Type} [Scalar S] (k : List KA) (a : List S) (out : Out S (VE.B S)) (ret : Ret)
        (h : $f k a = some (out, ret)) : declared $c k = some ret := by
      unfold $f at h
      split at h
      · repeat (c05_cases_one KA <;> simp [KA.az?, KA.lon?, KA.tmp?, KA.ord?] at h)
        obtain ⟨-, h2⟩ := h
        subst h2
        c05_revert_keys
        decide +kernel
      · cases h)

open Lean in
/-- `c05_total_thm M`: the theorem `exec_total.M` — `M.evalL` is defined on every key of the module's key type and every
argument list of the module's arity. -/
local macro "c05_total_thm " m:ident : command => do
  let f := mkIdent (m.getId ++ `evalL)
  let thm := mkIdent (`exec_total ++ m.getId)
  let c := mkIdent (`VK.ModuleId ++ m.getId)
  `(command|
    private theorem $thm {S : Type} [Scalar S] (k : List KA) (a : List S)
        (hk : keyFits k (ModuleId.info $c).shape = true)
        (ha : a.length = (ModuleId.info $c).nscalar + (ModuleId.info $c).ncoord) :
        (($f k a).isSome : Bool) = true := by
      simp only [ModuleId.info] at hk ha
      repeat (c05_cases_list <;> simp [keyFits] at hk ha)
      repeat (c05_cases_one KA <;> simp [KA.fits] at hk)
      rfl)

open Lean in
/-- `c05_out_thm M`: the theorem `exec_out.M` — the raw result of `M.evalL` has the form the module's kind declares. -/
local macro "c05_out_thm " m:ident : command => do
  let f := mkIdent (m.getId ++ `evalL)
  let thm := mkIdent (`exec_out ++ m.getId)
  let c := mkIdent (`VK.ModuleId ++ m.getId)
  `(command|
    private theorem $thm {S : Type} [Scalar S] (k : List KA) (a : List S) (out : Out S (VE.B S)) (ret : Ret)
        (h : $f k a = some (out, ret)) : outFitsKind out (ModuleId.kind $c) = true := by
      unfold $f at h
      split at h
      · repeat (c05_cases_one KA <;> simp [KA.az?, KA.lon?, KA.tmp?, KA.ord?] at h)
        obtain ⟨h1, -⟩ := h
        subst h1
        rfl
      · cases h)

c05_tab_thm planar_rotateZ
c05_total_thm planar_rotateZ
c05_out_thm planar_rotateZ
c05_tab_thm spatial_rotateX
c05_total_thm spatial_rotateX
c05_out_thm spatial_rotateX
c05_tab_thm spatial_dot
c05_total_thm spatial_dot
c05_out_thm spatial_dot
c05_tab_thm lorentz_Mt2
c05_total_thm lorentz_Mt2
c05_out_thm lorentz_Mt2
c05_tab_thm lorentz_scale
c05_total_thm lorentz_scale
c05_out_thm lorentz_scale

end VG
