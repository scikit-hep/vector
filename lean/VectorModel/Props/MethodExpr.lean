/-
Property C01 for WHOLE COMPUTATIONS: coordinate independence of every finite expression built from public methods
(prefix `c01e_`), by induction over an expression language.

The method-level files (`C01Method`, `MethodBin`, `MethodConv`, …) say what ONE public call denotes, for operands that
satisfy hypotheses on their STORED coordinates (`TanOKV`, `ThetaRangeV`, `RepAdd`, `UnitOK`, `FwdOK`, …).  Here the
hypotheses are on the DENOTATIONS only (`Generic3`: off the z axis, off the plane z = 0 — of the specified value of every
subexpression), and the storage hypotheses of every intermediate call are DERIVED: the stored coordinates of a result
are in range by `Props/CanonClosed.lean`, and a stored vector in range with a generic denotation satisfies every
storage hypothesis: `good3_core` / `good4_core` give such a vector in explicit form with the facts on its raw stored
coordinates as the named fields of `Core3` / `Core4`.

One invariant serves the inductions of all dimensions: `Good` (well-formed + `StoredInRange` + not stored at a pole).
`Good2` / `Good3` / `Good4` are `Good` together with the dimension: the hypothesis on the variables of `c01e_eval2/3/4`,
`c01e_indep2/3/4` and their scalar forms, and the form in which a node lemma builds the goodness of a result it has in explicit
form (`good_of2 (good2_mk …)`, likewise 3 and 4; `good_to3/4` go back).  A node lemma takes operands that are good stored forms of points (`Rep`) and the genericity
of the points and of the specified result, and yields a good stored form of the specified value (`Yields`).  `add`, `subtract`,
`scale`, unary minus, `unit` and the rotations have one lemma for all dimensions (`add_sound`, …, `spat_sound`; hypothesis
`GenericV`: nothing is asked in 2D), with `add_case`, `add2_case`, `add4_case`, … as the forms for one dimension; the nodes that
exist in one dimension only have a `*_case` lemma on `Generic3` / `Generic4`.  A proof cites the single-call theorem and
that in-range operands give an in-range result (a last conjunct in `c11m_add_rng`, `c09m_boostA_beta_rng`, …, a property of the
call in `c09m_boost_p4_rng`, …; `StoredInRange` is defined in `Props/MethodBin.lean`), gets its storage hypotheses from the bridge lemmas
(`reg`, `good3_core`, `good4_core`) and the goodness of the result from `rep_of_rng`.  `un_step` / `bin_step` turn a node
lemma into the step of an induction.  The fixed statements (`*_case`, the main theorems) spell `Rep` and `Yields` out; the two
forms are the same by unfolding.

The languages: 3D `E3` (§1–9: var, add, sub, scale, neg, rotateZ/X/Y, cross, unit, the six `to_<system>`; main theorem
`c01e_eval3`, C01 in its literal form `c01e_indep3`), its scalar expressions `S3` (§10: x y z rho rho2 phi eta theta costheta
cottheta mag mag2; dot deltaphi deltaeta deltaR2 deltaR deltaangle); 2D `E2` (§12: genericity is needed ONLY for the operand of
`unit`); 4D `E4` (§13: var, add, sub, scale, rotateZ/X/Y, boostX/Y/Z(beta), boost_p4, unit, the twelve `to_<system>`) with
scalars `S4` (the 3D ones + t t2 tau tau2 beta gamma rapidity; Minkowski `dot`); and ONE language `E` for all dimensions (§14)
with the dimension-changing nodes (`to_Vector2D/3D`, `to_Vector3D(z/theta/eta=)`, `to_Vector4D(t/tau=)`, `boost_beta3`) and
scalars `SU`, whose theorems `c01e_eval`, `c01e_indep`, `c01e_evalSU`, `c01e_indepSU` are in `Props/MethodExpr2.lean`
(corollaries of those of the larger language `F`).  Each language has an example that meets the genericity hypotheses
(§11, `exE_generic`, `exE4_generic`, `exEU_generic`).  §15 is a convention seam, `c01e_phi_jump`: `v.rotateZ(0).phi` is `-π` for
`(ρ, φ) = (1, π)` and `+π` for `(x, y) = (-1, 0)`.

Not in these languages, added by the language `F` of `Props/MethodExpr2.lean`: the `gamma=` forms of the axis boosts,
`boostCM_of_p4/beta3`, `to_beta3`, `rotate_axis/euler/nautical/quaternion`, `transform2D/3D/4D`, the truth-valued methods
(`equal`, `is_parallel`, …), lower-dimensional `to_<system>` projections (`to_xy` on a 3D vector, …).  Covered nowhere: 4D
unary minus (a τ-stored vector cannot denote `t < 0`, `c11m_neg_tau_discrepancy`), `scale2D/3D` (documented exceptions),
`isclose`, mixed 3D/4D operands of the angular methods.
-/
import VectorModel.Props.C01Method
import VectorModel.Props.MethodBin
import VectorModel.Props.MethodConv
import VectorModel.Props.MethodLorentz
import VectorModel.Props.CanonClosed

set_option linter.constructorNameAsVariable false

namespace VR
namespace C01E
-- With `C01M` and `C11M` both open: a bare `V3` / `V4` is the TYPE `VR.V3` / `VR.V4` of Props/C09, the vectors in explicit form
-- are written `C11M.V3` / `C11M.V4`; `c4`, `tmpOf`, `hbe` exist in both namespaces and are ambiguous unqualified; a bare `LonOK`
-- is `VR.LonOK` of Props/CanonClosed, not `C04M.LonOK`.
open VK VG Spec Real C01M C11M

-- Every statement below that mentions `va`, `vb`, `pa`, `pb` has them as implicit arguments, and takes `K A` first unless it binds
-- them again itself (`c01e_indep3_eq` and its like do, `c01e_eval3` does not: the argument orders of siblings differ).
variable (K : Consts ℝ) (A : Arith ℝ) {va vb : Vec ℝ} {pa pb : List ℝ}

/-! ## 1. The expression language (3D vectors) -/

inductive E3 : Type
  | var (i : Nat)
  | add (a b : E3)
  | sub (a b : E3)
  | scale (k : ℝ) (a : E3)
  | neg (a : E3)
  | rotateZ (ang : ℝ) (a : E3)
  | rotateX (ang : ℝ) (a : E3)
  | rotateY (ang : ℝ) (a : E3)
  | cross (a b : E3)
  | unit (a : E3)
  | conv (az : Az) (lon : Lon) (a : E3)   -- `to_<system>()` into the named 3D system

/-! ## 2. Running the MODEL -/

def vecOf (r : Except Err (Res ℝ Prop)) : Except Err (Vec ℝ) :=
  match r with
  | .ok (.vec v) => .ok v
  | .ok _ => .error .assertionError
  | .error e => .error e

def un (x : Except Err (Vec ℝ)) (f : Vec ℝ → Except Err (Res ℝ Prop)) : Except Err (Vec ℝ) :=
  match x with
  | .ok v => vecOf (f v)
  | .error e => .error e

/-- binary node: evaluate the operands left to right, then the public call -/
def bin (x y : Except Err (Vec ℝ)) (f : Vec ℝ → Vec ℝ → Except Err (Res ℝ Prop)) : Except Err (Vec ℝ) :=
  match x, y with
  | .ok a, .ok b => vecOf (f a b)
  | .error e, _ => .error e
  | .ok _, .error e => .error e

/-- the public name of the conversion into the 3D system `(az, lon)` -/
def convName : Az → Lon → String
  | .xy, .z => "to_xyz" | .xy, .theta => "to_xytheta" | .xy, .eta => "to_xyeta"
  | .rhophi, .z => "to_rhophiz" | .rhophi, .theta => "to_rhophitheta" | .rhophi, .eta => "to_rhophieta"

/-- **the model**: every node is the public call on the values of the operands -/
noncomputable def evalM (K : Consts ℝ) (A : Arith ℝ) (ρ : Nat → Vec ℝ) : E3 → Except Err (Vec ℝ)
  | .var i => .ok (ρ i)
  | .add a b => bin (evalM K A ρ a) (evalM K A ρ b) fun va vb => call evR K A "add" va [.v vb]
  | .sub a b => bin (evalM K A ρ a) (evalM K A ρ b) fun va vb => call evR K A "subtract" va [.v vb]
  | .scale k a => un (evalM K A ρ a) fun va => call evR K A "scale" va [.sc k]
  | .neg a => un (evalM K A ρ a) fun va => operator evR K A "neg" va []
  | .rotateZ ang a => un (evalM K A ρ a) fun va => call evR K A "rotateZ" va [.sc ang]
  | .rotateX ang a => un (evalM K A ρ a) fun va => call evR K A "rotateX" va [.sc ang]
  | .rotateY ang a => un (evalM K A ρ a) fun va => call evR K A "rotateY" va [.sc ang]
  | .cross a b => bin (evalM K A ρ a) (evalM K A ρ b) fun va vb => call evR K A "cross" va [.v vb]
  | .unit a => un (evalM K A ρ a) fun va => call evR K A "unit" va []
  | .conv az lon a => un (evalM K A ρ a) fun va => call evR K A (convName az lon) va []

/-! ## 3. The SPECIFICATION: Cartesian components only, no reference to storage -/

noncomputable def evalS (ρS : Nat → List ℝ) : E3 → List ℝ
  | .var i => ρS i
  | .add a b => List.zipWith (· + ·) (evalS ρS a) (evalS ρS b)
  | .sub a b => List.zipWith (· - ·) (evalS ρS a) (evalS ρS b)
  | .scale k a => (evalS ρS a).map (k * ·)
  | .neg a => (evalS ρS a).map (fun x => -x)
  | .rotateZ ang a => onSpatial (rotZ ang) (evalS ρS a)
  | .rotateX ang a => onSpatial (rotX ang) (evalS ρS a)
  | .rotateY ang a => onSpatial (rotY ang) (evalS ρS a)
  | .cross a b => crossL (evalS ρS a) (evalS ρS b)
  | .unit a => (evalS ρS a).map (fun x => 1 / normL (evalS ρS a) * x)
  | .conv _ _ a => evalS ρS a

/-! ## 4. Genericity: a predicate on DENOTATIONS only -/

/-- a point off the z axis and off the transverse plane -/
def Generic3 (p : List ℝ) : Prop := ∃ x y z, p = [x, y, z] ∧ 0 < x ^ 2 + y ^ 2 ∧ z ≠ 0

/-- the specified value of EVERY subexpression (the expression itself included) is generic -/
def GenericAll (ρS : Nat → List ℝ) : E3 → Prop
  | .var i => Generic3 (ρS i)
  | .add a b => (GenericAll ρS a ∧ GenericAll ρS b) ∧ Generic3 (evalS ρS (.add a b))
  | .sub a b => (GenericAll ρS a ∧ GenericAll ρS b) ∧ Generic3 (evalS ρS (.sub a b))
  | .scale k a => GenericAll ρS a ∧ Generic3 (evalS ρS (.scale k a))
  | .neg a => GenericAll ρS a ∧ Generic3 (evalS ρS (.neg a))
  | .rotateZ ang a => GenericAll ρS a ∧ Generic3 (evalS ρS (.rotateZ ang a))
  | .rotateX ang a => GenericAll ρS a ∧ Generic3 (evalS ρS (.rotateX ang a))
  | .rotateY ang a => GenericAll ρS a ∧ Generic3 (evalS ρS (.rotateY ang a))
  | .cross a b => (GenericAll ρS a ∧ GenericAll ρS b) ∧ Generic3 (evalS ρS (.cross a b))
  | .unit a => GenericAll ρS a ∧ Generic3 (evalS ρS (.unit a))
  | .conv az lon a => GenericAll ρS a ∧ Generic3 (evalS ρS (.conv az lon a))

theorem genericAll_self {ρS : Nat → List ℝ} {e : E3} (h : GenericAll ρS e) : Generic3 (evalS ρS e) := by
  cases e <;> first | exact h | exact h.2

theorem generic3_iff (x y z : ℝ) : Generic3 [x, y, z] ↔ 0 < x ^ 2 + y ^ 2 ∧ z ≠ 0 :=
  ⟨fun ⟨_, _, _, e, h⟩ => by cases e; exact h, fun h => ⟨x, y, z, rfl, h⟩⟩

theorem generic3_length {p : List ℝ} (h : Generic3 p) : p.length = 3 := by
  obtain ⟨x, y, z, rfl, -⟩ := h
  rfl

/-- a point of the plane other than the origin -/
def Generic2 (p : List ℝ) : Prop := ∃ x y, p = [x, y] ∧ 0 < x ^ 2 + y ^ 2

theorem generic2_iff (x y : ℝ) : Generic2 [x, y] ↔ 0 < x ^ 2 + y ^ 2 :=
  ⟨fun ⟨_, _, e, h⟩ => by cases e; exact h, fun h => ⟨x, y, rfl, h⟩⟩

theorem generic2_length {p : List ℝ} (h : Generic2 p) : p.length = 2 := by
  obtain ⟨x, y, rfl, -⟩ := h
  rfl

/-- spatial part generic (off the z axis, off the plane `z = 0`), forward time-like: `√(x²+y²+z²) < t` -/
def Generic4 (p : List ℝ) : Prop :=
  ∃ x y z t, p = [x, y, z, t] ∧ 0 < x ^ 2 + y ^ 2 ∧ z ≠ 0 ∧ x ^ 2 + y ^ 2 + z ^ 2 < t ^ 2 ∧ 0 < t

theorem generic4_iff (x y z t : ℝ) :
    Generic4 [x, y, z, t] ↔ 0 < x ^ 2 + y ^ 2 ∧ z ≠ 0 ∧ x ^ 2 + y ^ 2 + z ^ 2 < t ^ 2 ∧ 0 < t :=
  ⟨fun ⟨_, _, _, _, e, h⟩ => by cases e; exact h, fun h => ⟨x, y, z, t, rfl, h⟩⟩

theorem generic4_length {p : List ℝ} (h : Generic4 p) : p.length = 4 := by
  obtain ⟨x, y, z, t, rfl, -⟩ := h
  rfl

/-- generic in its own dimension (the dimension is the length of the component list) -/
def Generic (p : List ℝ) : Prop := Generic2 p ∨ Generic3 p ∨ Generic4 p

theorem generic_len2 {p : List ℝ} (h : Generic p) (hl : p.length = 2) : Generic2 p := by
  rcases h with h | h | h
  · exact h
  · simp [generic3_length h] at hl
  · simp [generic4_length h] at hl

theorem generic_len3 {p : List ℝ} (h : Generic p) (hl : p.length = 3) : Generic3 p := by
  rcases h with h | h | h
  · simp [generic2_length h] at hl
  · exact h
  · simp [generic4_length h] at hl

theorem generic_len4 {p : List ℝ} (h : Generic p) (hl : p.length = 4) : Generic4 p := by
  rcases h with h | h | h
  · simp [generic2_length h] at hl
  · simp [generic3_length h] at hl
  · exact h

theorem generic_iff2 (x y : ℝ) : Generic [x, y] ↔ 0 < x ^ 2 + y ^ 2 :=
  ⟨fun h => (generic2_iff _ _).1 (generic_len2 h rfl), fun h => .inl ((generic2_iff _ _).2 h)⟩

theorem generic_iff3 (x y z : ℝ) : Generic [x, y, z] ↔ 0 < x ^ 2 + y ^ 2 ∧ z ≠ 0 :=
  ⟨fun h => (generic3_iff _ _ _).1 (generic_len3 h rfl), fun h => .inr (.inl ((generic3_iff _ _ _).2 h))⟩

theorem generic_iff4 (x y z t : ℝ) :
    Generic [x, y, z, t] ↔ 0 < x ^ 2 + y ^ 2 ∧ z ≠ 0 ∧ x ^ 2 + y ^ 2 + z ^ 2 < t ^ 2 ∧ 0 < t :=
  ⟨fun h => (generic4_iff _ _ _ _).1 (generic_len4 h rfl), fun h => .inr (.inr ((generic4_iff _ _ _ _).2 h))⟩

/-- generic as far as `add`, `subtract`, `scale` and the rotations need it: in 2D they need nothing.

How the node lemmas ask for genericity (of the operands and of the specified result): the lemmas for all dimensions (`*_sound`) ask
`GenericV`; a lemma for one dimension asks `Generic3` / `Generic4`; where the specified result is a list function whose length is not
visible (`bp4L`, `bβ3L`, and `axisRotL`, `bcm4L`, `bcm3L` of `Props/MethodExpr2.lean`) the result is asked to be `Generic`, the
form in which `GenericAllU` / `GenericAllF` have it and `rep_of_rng` takes it. -/
def GenericV (p : List ℝ) : Prop := p.length = 2 ∨ Generic p

theorem GenericV.of3 {p : List ℝ} (h : Generic3 p) : GenericV p := .inr (.inr (.inl h))
theorem GenericV.of4 {p : List ℝ} (h : Generic4 p) : GenericV p := .inr (.inr (.inr h))

theorem GenericV.iff3 {x y z : ℝ} (h : GenericV [x, y, z]) : 0 < x ^ 2 + y ^ 2 ∧ z ≠ 0 :=
  (generic_iff3 x y z).1 (h.resolve_left (by simp))

theorem GenericV.iff4 {x y z t : ℝ} (h : GenericV [x, y, z, t]) :
    0 < x ^ 2 + y ^ 2 ∧ z ≠ 0 ∧ x ^ 2 + y ^ 2 + z ^ 2 < t ^ 2 ∧ 0 < t :=
  (generic_iff4 x y z t).1 (h.resolve_left (by simp))

/-! ## 5. Good values: stored coordinates in range (the OUTPUT of `Props/CanonClosed.lean`) -/

/-- the invariant of the inductions, in every dimension: a well-formed vector whose stored coordinates are in range, and
(θ storage) not stored AT a pole `sin θ = 0`, where the documented meaning `z = ρ cot θ` is undefined -/
def Good (v : Vec ℝ) : Prop := C01M.WFV v ∧ StoredInRange v ∧ SinOKAll v

/-- a good 3D vector (the hypothesis on the variables of a 3D expression) -/
structure Good3 (v : Vec ℝ) : Prop where
  wf : C01M.WFV v
  dim : v.ty.dim = 3
  rng : StoredInRange v
  sin : SinOKAll v

theorem good_of3 {v : Vec ℝ} (h : Good3 v) : Good v := ⟨h.wf, h.rng, h.sin⟩

theorem good3_mk (be : Backend) (mom : Bool) (az : Az) (l : Lon) (a b c : ℝ) (hA : AzOK az a b) (hL : LonOK l c)
    (hS : SinOK l c) : Good3 (C11M.V3 be mom az l a b c) :=
  ⟨⟨by simp, rfl⟩, rfl, ⟨hA, hL, trivial⟩, hS⟩

theorem denote_V2_eq {be mom az} {a b : ℝ} {p : List ℝ} (hd : denote (C11M.V2 be mom az a b) = some p) :
    p = [xOf az a b, yOf az a b] :=
  (Option.some.inj hd).symm

theorem denote_V3_eq {be mom az l} {a b c : ℝ} {p : List ℝ} (hd : denote (C11M.V3 be mom az l a b c) = some p) :
    p = [xOf az a b, yOf az a b, zOf az l a b c] :=
  (Option.some.inj hd).symm

theorem denote_V4_eq {be mom az l tm} {a b c d : ℝ} {p : List ℝ}
    (hd : denote (C11M.V4 be mom az l tm a b c d) = some p) :
    p = [xOf az a b, yOf az a b, zOf az l a b c, tOf az l tm a b c d] :=
  (Option.some.inj hd).symm

theorem good_cases {v : Vec ℝ} {p : List ℝ} (h : Good v) (hd : denote v = some p) :
    (∃ be mom az a b, v = C11M.V2 be mom az a b ∧ p = [xOf az a b, yOf az a b] ∧ AzOK az a b) ∨
    (∃ be mom az l a b c, v = C11M.V3 be mom az l a b c ∧ p = [xOf az a b, yOf az a b, zOf az l a b c] ∧
      AzOK az a b ∧ LonOK l c ∧ SinOK l c) ∨
    (∃ be mom az l tm a b c d, v = C11M.V4 be mom az l tm a b c d ∧
      p = [xOf az a b, yOf az a b, zOf az l a b c, tOf az l tm a b c d] ∧
      AzOK az a b ∧ LonOK l c ∧ InTmp tm d ∧ SinOK l c) := by
  obtain ⟨hv, hr, hs⟩ := h
  rcases wfv_cases hv with ⟨be, mom, az, a, b, rfl⟩ | ⟨be, mom, az, l, a, b, c, rfl⟩ |
    ⟨be, mom, az, l, t, a, b, c, d, rfl⟩
  · exact .inl ⟨be, mom, az, a, b, rfl, denote_V2_eq hd, hr.1⟩
  · exact .inr (.inl ⟨be, mom, az, l, a, b, c, rfl, denote_V3_eq hd, hr.1, hr.2.1, hs⟩)
  · exact .inr (.inr ⟨be, mom, az, l, t, a, b, c, d, rfl, denote_V4_eq hd, hr.1, hr.2.1, hr.2.2, hs⟩)

theorem dim_of_denote {v : Vec ℝ} {p : List ℝ} (hv : Good v) (hd : denote v = some p) : v.ty.dim = p.length := by
  rcases good_cases hv hd with ⟨_, _, _, _, _, rfl, rfl, -⟩ | ⟨_, _, _, _, _, _, _, rfl, rfl, -⟩ |
    ⟨_, _, _, _, _, _, _, _, _, rfl, rfl, -⟩ <;> rfl

theorem good_to3 {v : Vec ℝ} {p : List ℝ} (h : Good v) (hd : denote v = some p) (hl : p.length = 3) : Good3 v :=
  ⟨h.1, by rw [dim_of_denote h hd, hl], h.2.1, h.2.2⟩

theorem good3_shape {v : Vec ℝ} {p : List ℝ} (h : Good v) (hd : denote v = some p) (hl : p.length = 3) :
    ∃ be mom az l a b c, v = C11M.V3 be mom az l a b c ∧ p = [xOf az a b, yOf az a b, zOf az l a b c] ∧
      AzOK az a b ∧ LonOK l c ∧ SinOK l c := by
  rcases good_cases h hd with ⟨_, _, _, _, _, -, rfl, -⟩ | h3 | ⟨_, _, _, _, _, _, _, _, _, -, rfl, -⟩
  · simp at hl
  · exact h3
  · simp at hl

theorem good2_shape {v : Vec ℝ} {p : List ℝ} (h : Good v) (hd : denote v = some p) (hl : p.length = 2) :
    ∃ be mom az a b, v = C11M.V2 be mom az a b ∧ p = [xOf az a b, yOf az a b] ∧ AzOK az a b := by
  rcases good_cases h hd with h2 | ⟨_, _, _, _, _, _, _, -, rfl, -⟩ | ⟨_, _, _, _, _, _, _, _, _, -, rfl, -⟩
  · exact h2
  · simp at hl
  · simp at hl

/-- `v` is a good stored form of the point `p` (the fixed statements write `Good v ∧ denote v = some p`, or the two as separate
hypotheses) -/
def Rep (v : Vec ℝ) (p : List ℝ) : Prop := Good v ∧ denote v = some p

theorem Rep.wf {v : Vec ℝ} {p : List ℝ} (h : Rep v p) : C01M.WFV v := h.1.1
theorem Rep.rng {v : Vec ℝ} {p : List ℝ} (h : Rep v p) : StoredInRange v := h.1.2.1
theorem Rep.dim {v : Vec ℝ} {p : List ℝ} (h : Rep v p) : v.ty.dim = p.length := dim_of_denote h.1 h.2

/-- the call `C` returns a good stored form of `q`; by unfolding this is `∃ r, C = .ok (.vec r) ∧ Good r ∧ denote r = some q`, as the
`*_case` lemmas write it, so one is accepted for the other -/
def Yields (C : Except Err (Res ℝ Prop)) (q : List ℝ) : Prop := ∃ r, C = .ok (.vec r) ∧ Rep r q

/-! ## 6. The bridge: in-range storage + generic denotation ⟹ every storage hypothesis -/

theorem canon2_of_azOK {az : Az} {a b : ℝ} (hA : AzOK az a b) : Canon2 az a b := by
  cases az
  · trivial
  · exact hA.1

theorem canonTmp_of_inTmp {tm : Tmp} {d : ℝ} (h : InTmp tm d) : CanonTmp tm d := by
  cases tm
  · trivial
  · exact h

theorem thetaRange_of_lonOK {l : Lon} {c : ℝ} (hL : LonOK l c) : ThetaRange l c := by
  cases l <;> exact hL

theorem rho_pos_of {az : Az} {a b : ℝ} (hA : AzOK az a b) (hg : 0 < xOf az a b ^ 2 + yOf az a b ^ 2) :
    0 < rhoOf az a b := by
  rw [Spec.sq_xOf_add_sq_yOf] at hg
  rcases (Spec.rhoOf_nonneg (canon2_of_azOK hA)).lt_or_eq with h | h
  · exact h
  · rw [← h] at hg; simp at hg

/-- the facts on the raw stored coordinates `(a, b, c)`, in the system `(az, l)`, of a good vector with a generic spatial part:
the storage hypotheses of the single-call theorems (`TanOKV`, `SinOKV`, `ThetaRangeV`, `UnitOK`, `NormOK`, `Canon3`, …) are
fields, or tuples of fields, on a vector in explicit form -/
structure Core3 (az : Az) (l : Lon) (a b c : ℝ) : Prop where
  azOK : AzOK az a b
  sin : SinOK l c
  rho : 0 < rhoOf az a b
  canon : Canon3 az l a b c
  tan : TanOK l c
  theta : ThetaRange l c
  mag : 0 < mag2Of az l a b c

/-- … and of one with a generic (forward time-like) 4D denotation (`BoostOK`, `CanonTmpV`, 4D `UnitOK`, …) -/
structure Core4 (az : Az) (l : Lon) (tm : Tmp) (a b c d : ℝ) : Prop extends Core3 az l a b c where
  tmp : InTmp tm d
  ctmp : CanonTmp tm d
  lt : mag2Of az l a b c < tOf az l tm a b c d ^ 2
  pos : 0 < tOf az l tm a b c d

theorem Core3.of {az : Az} {l : Lon} {a b c : ℝ} (hA : AzOK az a b) (hL : LonOK l c) (hS : SinOK l c)
    (hg : 0 < xOf az a b ^ 2 + yOf az a b ^ 2) (hz : zOf az l a b c ≠ 0) : Core3 az l a b c := by
  have hr := rho_pos_of hA hg
  refine ⟨hA, hS, hr, ⟨canon2_of_azOK hA, ?_⟩, ?_, thetaRange_of_lonOK hL, ?_⟩
  · cases l
    · trivial
    · have hs : Real.sin c ≠ 0 := hS
      refine ⟨hr, ?_, ?_⟩
      · rcases hL.1.lt_or_eq with h | h
        · exact h
        · exfalso; apply hs; rw [← h, sin_zero]
      · rcases hL.2.lt_or_eq with h | h
        · exact h
        · exfalso; apply hs; rw [h, sin_pi]
    · exact hr
  · cases l
    · trivial
    · intro hc; apply hz; simp only [zOf, hc, zero_div, mul_zero]
    · trivial
  · rw [Spec.mag2Of_eq]
    have := pow_pos hr 2
    nlinarith [sq_nonneg (zOf az l a b c)]

theorem core3 {az : Az} {l : Lon} {a b c : ℝ} (hA : AzOK az a b) (hL : LonOK l c) (hS : SinOK l c)
    (hg : 0 < xOf az a b ^ 2 + yOf az a b ^ 2) (hz : zOf az l a b c ≠ 0) :
    0 < rhoOf az a b ∧ Canon3 az l a b c ∧ TanOK l c ∧ ThetaRange l c ∧ 0 < mag2Of az l a b c :=
  have h := Core3.of hA hL hS hg hz
  ⟨h.rho, h.canon, h.tan, h.theta, h.mag⟩

/-- a θ-stored vector that denotes a point with `z ≠ 0` is not stored at a pole (there `ρ·(cos θ / sin θ)` is `ρ·(c/0)`) -/
theorem sinOK_of_z_ne {az : Az} {l : Lon} {a b c : ℝ} (hz : zOf az l a b c ≠ 0) : SinOK l c := by
  cases l
  · trivial
  · intro hs; apply hz; simp only [zOf, hs, div_zero, mul_zero]
  · trivial

/-- **bridge lemma**: a good vector with a generic 3D (`good4_core`: 4D) denotation, in explicit form, with the facts on its raw
stored coordinates -/
theorem good3_core {v : Vec ℝ} {p : List ℝ} (hv : Good v) (hd : denote v = some p) (hg : Generic3 p) :
    ∃ be mom az l a b c, v = C11M.V3 be mom az l a b c ∧ p = [xOf az a b, yOf az a b, zOf az l a b c] ∧
      Core3 az l a b c := by
  obtain ⟨be, mom, az, l, a, b, c, rfl, rfl, hA, hL, hS⟩ := good3_shape hv hd (generic3_length hg)
  obtain ⟨h1, h2⟩ := (generic3_iff _ _ _).1 hg
  exact ⟨be, mom, az, l, a, b, c, rfl, rfl, .of hA hL hS h1 h2⟩

theorem good4_core {v : Vec ℝ} {p : List ℝ} (hv : Good v) (hd : denote v = some p) (hg : Generic4 p) :
    ∃ be mom az l tm a b c d, v = C11M.V4 be mom az l tm a b c d ∧
      p = [xOf az a b, yOf az a b, zOf az l a b c, tOf az l tm a b c d] ∧ Core4 az l tm a b c d := by
  have hl := generic4_length hg
  rcases good_cases hv hd with ⟨_, _, _, _, _, -, rfl, -⟩ | ⟨_, _, _, _, _, _, _, -, rfl, -⟩ |
    ⟨be, mom, az, l, tm, a, b, c, d, rfl, rfl, hA, hL, hT, hS⟩
  · simp at hl
  · simp at hl
  · obtain ⟨h1, h2, h3, h4⟩ := (generic4_iff _ _ _ _).1 hg
    exact ⟨be, mom, az, l, tm, a, b, c, d, rfl, rfl, .of hA hL hS h1 h2, hT, canonTmp_of_inTmp hT, h3, h4⟩

/-- **bridge lemma, every dimension**: the storage hypotheses of the single-call theorems of `add`, `subtract`, `scale` and the
rotations, on a good stored form of a point that is generic enough -/
structure Reg (v : Vec ℝ) : Prop where
  tan : TanOKV v
  sin : SinOKV v
  ctmp : CanonTmpV v
  theta : ThetaRangeV v

theorem reg {v : Vec ℝ} {p : List ℝ} (h : Rep v p) (hg : GenericV p) : Reg v := by
  rcases good_cases h.1 h.2 with ⟨be, mom, az, a, b, rfl, rfl, hA⟩ | ⟨be, mom, az, l, a, b, c, rfl, rfl, hA, hL, hS⟩ |
    ⟨be, mom, az, l, tm, a, b, c, d, rfl, rfl, hA, hL, hT, hS⟩
  · exact ⟨trivial, nofun, trivial, trivial⟩
  · have h := Core3.of hA hL hS hg.iff3.1 hg.iff3.2
    exact ⟨h.tan, nofun, trivial, h.theta⟩
  · have h := Core3.of hA hL hS hg.iff4.1 hg.iff4.2.1
    exact ⟨h.tan, fun _ => hS, canonTmp_of_inTmp hT, h.theta⟩

/-- a well-formed result in range that denotes a point generic enough is good: `z ≠ 0` keeps a stored θ off the poles -/
theorem rep_of_rng {r : Vec ℝ} {q : List ℝ} (hw : C01M.WFV r) (hr : StoredInRange r) (hd : denote r = some q)
    (hg : GenericV q) : Rep r q := by
  refine ⟨⟨hw, hr, ?_⟩, hd⟩
  rcases wfv_cases hw with ⟨be, mom, az, a, b, rfl⟩ | ⟨be, mom, az, l, a, b, c, rfl⟩ |
    ⟨be, mom, az, l, t, a, b, c, d, rfl⟩
  · trivial
  · obtain rfl := denote_V3_eq hd
    exact sinOK_of_z_ne hg.iff3.2
  · obtain rfl := denote_V4_eq hd
    exact sinOK_of_z_ne hg.iff4.2.1

/-! ## 7. One lemma per node

`add`, `subtract`, `scale`, unary minus, `unit` and the rotations have ONE lemma for all dimensions (`add_sound`, …): operands
that are good stored forms of points generic enough (`GenericV`: nothing is asked in 2D), with a result generic enough, give a
good stored form of the specified value.  The proof cites the single-call theorem; its storage hypotheses come from `reg`, the
goodness of the result from its last conjunct and `rep_of_rng`.  `add_case`, `add2_case`, `add4_case`, … are the forms in which
the inductions over `E3`, `E2`, `E4` use them. -/

theorem good3_result {be mom az l} {a b c : ℝ} {p : List ℝ} (hA : AzOK az a b) (hL : LonOK l c)
    (hd : denote (C11M.V3 be mom az l a b c) = some p) (hg : Generic3 p) : Good (C11M.V3 be mom az l a b c) :=
  (rep_of_rng (r := C11M.V3 be mom az l a b c) ⟨by simp, rfl⟩ ⟨hA, hL, trivial⟩ hd (.of3 hg)).1

/-- a binary operation with a result off the z axis: what `RepAdd` / `RepSub` ask -/
theorem offAxis_of {f : ℝ → ℝ → ℝ} (ha : Rep va pa) (hb : Rep vb pb) (hd : va.ty.dim = vb.ty.dim)
    (gr : GenericV (List.zipWith f pa pb)) (h3 : va.ty.lon.isSome) :
    0 < f (sp va).1 (sp vb).1 ^ 2 + f (sp va).2.1 (sp vb).2.1 ^ 2 := by
  rcases C11M.wfv_pair ha.wf hb.wf hd with ⟨_, _, _, _, _, _, _, _, _, _, rfl, rfl⟩ |
    ⟨_, _, _, _, _, _, _, _, _, _, _, _, _, _, rfl, rfl⟩ |
    ⟨_, _, _, _, _, _, _, _, _, _, _, _, _, _, _, _, _, _, rfl, rfl⟩
  · cases h3
  · obtain rfl := denote_V3_eq ha.2
    obtain rfl := denote_V3_eq hb.2
    exact gr.iff3.1
  · obtain rfl := denote_V4_eq ha.2
    obtain rfl := denote_V4_eq hb.2
    exact gr.iff4.1

theorem add_sound (ha : Rep va pa) (hb : Rep vb pb) (ga : GenericV pa) (gb : GenericV pb) (hl : pa.length = pb.length)
    (gr : GenericV (List.zipWith (· + ·) pa pb)) :
    Yields (call evR K A "add" va [.v vb]) (List.zipWith (· + ·) pa pb) := by
  have Ra := reg ha ga
  have Rb := reg hb gb
  have hd : va.ty.dim = vb.ty.dim := by rw [ha.dim, hb.dim, hl]
  obtain ⟨r, p, q, hcall, hwf, -, -, -, -, -, hp, hq, hden, hrng⟩ := c11m_add_rng K A va vb ha.wf hb.wf hd
    Ra.tan Rb.tan Ra.sin Rb.sin Ra.ctmp Rb.ctmp fun h => .inr (offAxis_of (f := (· + ·)) ha hb hd gr h)
  cases ha.2.symm.trans hp
  cases hb.2.symm.trans hq
  exact ⟨r, hcall, rep_of_rng hwf (hrng ha.rng hb.rng) hden gr⟩

theorem add_case (ha : Good va) (hb : Good vb)
    (da : denote va = some pa) (db : denote vb = some pb) (ga : Generic3 pa) (gb : Generic3 pb)
    (gr : Generic3 (List.zipWith (· + ·) pa pb)) :
    ∃ r, call evR K A "add" va [.v vb] = .ok (.vec r) ∧ Good r ∧ denote r = some (List.zipWith (· + ·) pa pb) :=
  add_sound K A ⟨ha, da⟩ ⟨hb, db⟩ (.of3 ga) (.of3 gb) ((generic3_length ga).trans (generic3_length gb).symm) (.of3 gr)

theorem add2_case (ha : Good va) (hb : Good vb)
    (da : denote va = some pa) (db : denote vb = some pb) (la : pa.length = 2) (lb : pb.length = 2) :
    ∃ r, call evR K A "add" va [.v vb] = .ok (.vec r) ∧ Good r ∧ denote r = some (List.zipWith (· + ·) pa pb) :=
  add_sound K A ⟨ha, da⟩ ⟨hb, db⟩ (.inl la) (.inl lb) (la.trans lb.symm)
    (.inl (by rw [List.length_zipWith, la, lb]; rfl))

theorem add4_case (ha : Good va) (hb : Good vb)
    (da : denote va = some pa) (db : denote vb = some pb) (ga : Generic4 pa) (gb : Generic4 pb)
    (gr : Generic4 (List.zipWith (· + ·) pa pb)) :
    ∃ r, call evR K A "add" va [.v vb] = .ok (.vec r) ∧ Good r ∧ denote r = some (List.zipWith (· + ·) pa pb) :=
  add_sound K A ⟨ha, da⟩ ⟨hb, db⟩ (.of4 ga) (.of4 gb) ((generic4_length ga).trans (generic4_length gb).symm) (.of4 gr)

/-- the difference of two τ-stored vectors must be representable in τ storage (`SubCausal`): it is, when it is forward
time-like (`c13c_lorentz_subtract_tau_nonneg_iff`) -/
theorem subCausal_of (ha : Rep va pa) (hb : Rep vb pb) (hd : va.ty.dim = vb.ty.dim)
    (gr : GenericV (List.zipWith (· - ·) pa pb)) : SubCausal va vb := by
  intro h1 _
  rcases C11M.wfv_pair ha.wf hb.wf hd with ⟨_, _, _, _, _, _, _, _, _, _, rfl, rfl⟩ |
    ⟨_, _, _, _, _, _, _, _, _, _, _, _, _, _, rfl, rfl⟩ |
    ⟨_, _, _, _, _, _, _, _, _, _, _, _, _, _, _, _, _, _, rfl, rfl⟩
  · cases h1
  · cases h1
  · obtain rfl := denote_V4_eq ha.2
    obtain rfl := denote_V4_eq hb.2
    exact ⟨gr.iff4.2.2.2.le, gr.iff4.2.2.1.le⟩

theorem sub_sound (ha : Rep va pa) (hb : Rep vb pb) (ga : GenericV pa) (gb : GenericV pb) (hl : pa.length = pb.length)
    (gr : GenericV (List.zipWith (· - ·) pa pb)) :
    Yields (call evR K A "subtract" va [.v vb]) (List.zipWith (· - ·) pa pb) := by
  have Ra := reg ha ga
  have Rb := reg hb gb
  have hd : va.ty.dim = vb.ty.dim := by rw [ha.dim, hb.dim, hl]
  obtain ⟨r, p, q, hcall, hwf, -, -, -, -, -, hp, hq, hden, hrng⟩ := c11m_subtract_rng K A va vb ha.wf hb.wf hd
    Ra.tan Rb.tan Ra.sin Rb.sin Ra.ctmp Rb.ctmp (fun h => .inr (offAxis_of (f := (· - ·)) ha hb hd gr h))
    (subCausal_of ha hb hd gr)
  cases ha.2.symm.trans hp
  cases hb.2.symm.trans hq
  exact ⟨r, hcall, rep_of_rng hwf (hrng ha.rng hb.rng) hden gr⟩

theorem sub_case (ha : Good va) (hb : Good vb)
    (da : denote va = some pa) (db : denote vb = some pb) (ga : Generic3 pa) (gb : Generic3 pb)
    (gr : Generic3 (List.zipWith (· - ·) pa pb)) :
    ∃ r, call evR K A "subtract" va [.v vb] = .ok (.vec r) ∧ Good r ∧
      denote r = some (List.zipWith (· - ·) pa pb) :=
  sub_sound K A ⟨ha, da⟩ ⟨hb, db⟩ (.of3 ga) (.of3 gb) ((generic3_length ga).trans (generic3_length gb).symm) (.of3 gr)

theorem sub2_case (ha : Good va) (hb : Good vb)
    (da : denote va = some pa) (db : denote vb = some pb) (la : pa.length = 2) (lb : pb.length = 2) :
    ∃ r, call evR K A "subtract" va [.v vb] = .ok (.vec r) ∧ Good r ∧
      denote r = some (List.zipWith (· - ·) pa pb) :=
  sub_sound K A ⟨ha, da⟩ ⟨hb, db⟩ (.inl la) (.inl lb) (la.trans lb.symm)
    (.inl (by rw [List.length_zipWith, la, lb]; rfl))

/-- the difference must again be generic — in particular forward time-like, which is exactly the condition
(`SubCausal`) under which a τ,τ-stored difference is representable (`c13c_lorentz_subtract_tau_nonneg_iff`) -/
theorem sub4_case (ha : Good va) (hb : Good vb)
    (da : denote va = some pa) (db : denote vb = some pb) (ga : Generic4 pa) (gb : Generic4 pb)
    (gr : Generic4 (List.zipWith (· - ·) pa pb)) :
    ∃ r, call evR K A "subtract" va [.v vb] = .ok (.vec r) ∧ Good r ∧
      denote r = some (List.zipWith (· - ·) pa pb) :=
  sub_sound K A ⟨ha, da⟩ ⟨hb, db⟩ (.of4 ga) (.of4 gb) ((generic4_length ga).trans (generic4_length gb).symm) (.of4 gr)

/-- a τ-stored vector (it denotes `0 ≤ t`) scaled to a forward time-like one was scaled by a positive factor -/
theorem scale_tau_nonneg {k : ℝ} (ha : Rep va pa) (gr : GenericV (pa.map (k * ·))) : va.ty.tmp = some .tau → 0 ≤ k := by
  intro hτ
  rcases good_cases ha.1 ha.2 with ⟨_, _, _, _, _, rfl, -⟩ | ⟨_, _, _, _, _, _, _, rfl, -⟩ |
    ⟨be, mom, az, l, tm, a, b, c, d, rfl, rfl, -⟩
  · cases hτ
  · cases hτ
  · cases hτ
    have h2 : 0 < k * tOf az l .tau a b c d := gr.iff4.2.2.2
    have h0 : 0 ≤ tOf az l .tau a b c d := by rw [tOf_tau_eq]; exact sqrt_nonneg _
    by_contra hneg
    nlinarith [not_le.mp hneg]

theorem scale_sound (k : ℝ) (ha : Rep va pa) (ga : GenericV pa) (gr : GenericV (pa.map (k * ·))) :
    Yields (call evR K A "scale" va [.sc k]) (pa.map (k * ·)) := by
  obtain ⟨r, p, hcall, -, hwf, hp, hden, hrng⟩ :=
    c11m_scale_rng K A va ha.wf k (reg ha ga).theta (scale_tau_nonneg ha gr)
  cases ha.2.symm.trans hp
  exact ⟨r, hcall, rep_of_rng hwf (hrng ha.rng) hden gr⟩

theorem scale_case (k : ℝ) (ha : Good va)
    (da : denote va = some pa) (ga : Generic3 pa) (gr : Generic3 (pa.map (k * ·))) :
    ∃ r, call evR K A "scale" va [.sc k] = .ok (.vec r) ∧ Good r ∧ denote r = some (pa.map (k * ·)) :=
  scale_sound K A k ⟨ha, da⟩ (.of3 ga) (.of3 gr)

theorem scale2_case (k : ℝ) (ha : Good va)
    (da : denote va = some pa) (la : pa.length = 2) :
    ∃ r, call evR K A "scale" va [.sc k] = .ok (.vec r) ∧ Good r ∧ denote r = some (pa.map (k * ·)) :=
  scale_sound K A k ⟨ha, da⟩ (.inl la) (.inl ((List.length_map _).trans la))

theorem scale4_case (k : ℝ) (ha : Good va)
    (da : denote va = some pa) (ga : Generic4 pa) (gr : Generic4 (pa.map (k * ·))) :
    ∃ r, call evR K A "scale" va [.sc k] = .ok (.vec r) ∧ Good r ∧ denote r = some (pa.map (k * ·)) :=
  scale_sound K A k ⟨ha, da⟩ (.of4 ga) (.of4 gr)

/-- unary minus is `scale(-1)` (`c11m_neg`) -/
theorem neg_sound (hK : K.negOne = -1) (ha : Rep va pa) (ga : GenericV pa) (gr : GenericV (pa.map (fun x => -x))) :
    Yields (operator evR K A "neg" va []) (pa.map (fun x => -x)) := by
  have e : pa.map (fun x => -x) = pa.map (-1 * ·) := List.map_congr_left (fun x _ => by ring)
  rw [e] at gr ⊢
  rw [(c11m_neg evR K A va 0).1, hK]
  exact scale_sound K A (-1) ha ga gr

theorem unitOK_of (ha : Rep va pa) (ga : Generic pa) : UnitOK va := by
  rcases ga with g | g | g
  · obtain ⟨be, mom, az, a, b, rfl, rfl, hA⟩ := good2_shape ha.1 ha.2 (generic2_length g)
    exact rho_pos_of hA ((generic2_iff _ _).1 g)
  · obtain ⟨be, mom, az, l, a, b, c, rfl, rfl, h⟩ := good3_core ha.1 ha.2 g
    exact ⟨h.canon, h.mag⟩
  · obtain ⟨be, mom, az, l, tm, a, b, c, d, rfl, rfl, h⟩ := good4_core ha.1 ha.2 g
    exact ⟨h.sin, h.ctmp, (sub_pos.mpr h.lt).ne'⟩

theorem unit_sound (ha : Rep va pa) (ga : Generic pa) (gr : GenericV (pa.map (fun x => 1 / normL pa * x))) :
    Yields (call evR K A "unit" va []) (pa.map (fun x => 1 / normL pa * x)) := by
  obtain ⟨r, p, u, hcall, -, hwf, hp, -, hden, rfl, -, hrng⟩ := c11m_unit_rng K A va ha.wf (unitOK_of ha ga)
  cases ha.2.symm.trans hp
  exact ⟨r, hcall, rep_of_rng hwf (hrng ha.rng) hden gr⟩

theorem unit_case (ha : Good va)
    (da : denote va = some pa) (ga : Generic3 pa) (gr : Generic3 (pa.map (fun x => 1 / normL pa * x))) :
    ∃ r, call evR K A "unit" va [] = .ok (.vec r) ∧ Good r ∧
      denote r = some (pa.map (fun x => 1 / normL pa * x)) :=
  unit_sound K A ⟨ha, da⟩ (.inr (.inl ga)) (.of3 gr)

theorem unit2_case (ha : Good va)
    (da : denote va = some pa) (ga : Generic2 pa) :
    ∃ r, call evR K A "unit" va [] = .ok (.vec r) ∧ Good r ∧
      denote r = some (pa.map (fun x => 1 / normL pa * x)) :=
  unit_sound K A ⟨ha, da⟩ (.inl ga) (.inl ((List.length_map _).trans (generic2_length ga)))

theorem unit4_case (ha : Good va)
    (da : denote va = some pa) (ga : Generic4 pa) (gr : Generic4 (pa.map (fun x => 1 / normL pa * x))) :
    ∃ r, call evR K A "unit" va [] = .ok (.vec r) ∧ Good r ∧
      denote r = some (pa.map (fun x => 1 / normL pa * x)) :=
  unit_sound K A ⟨ha, da⟩ (.inr (.inr ga)) (.of4 gr)

/-- `rotateZ` in every dimension: the stored longitudinal and temporal coordinates are kept — no hypothesis beyond the
invariant -/
theorem rotateZ_case (ang : ℝ) (ha : Good va)
    (da : denote va = some pa) :
    ∃ r, call evR K A "rotateZ" va [.sc ang] = .ok (.vec r) ∧ Good r ∧ denote r = some (onPlanar (rotZ2 ang) pa) := by
  obtain ⟨r, hcall, hty, hwf, hden, hrng, hc⟩ := c01m_rotateZ_rng K A va ha.1 ang
  rw [da] at hden
  refine ⟨r, hcall, ⟨hwf, hrng ha.2.1, ?_⟩, hden⟩
  show SinOK (lonOf r) (c3 r).2.2
  rw [lonOf, hty, hc]
  exact ha.2.2

/-- `evalS` and `evalS4` specify `rotateZ` as `onSpatial (rotZ ang)`, `evalS2`, `evalSU` and `C01F.evalSF` as
`onPlanar (rotZ2 ang)`; `rotateZ_case` is stated for the second, the inductions over `E3` and `E4` pass through this -/
theorem onSpatial_rotZ (ang : ℝ) {p : List ℝ} (h : 3 ≤ p.length) : onSpatial (rotZ ang) p = onPlanar (rotZ2 ang) p := by
  match p, h with
  | _ :: _ :: _ :: _, _ => rfl

/-- a vector stored in Cartesian coordinates (time as `t`) is good whatever its coordinates are -/
theorem good_cart {v : Vec ℝ} (hv : C01M.WFV v) (h1 : v.ty.az = .xy) (h2 : v.ty.lon ≠ some .theta)
    (h3 : v.ty.tmp ≠ some .tau) : Good v := by
  rcases wfv_cases hv with ⟨_, _, az, a, b, rfl⟩ | ⟨_, _, az, l, a, b, c, rfl⟩ | ⟨_, _, az, l, t, a, b, c, d, rfl⟩
  · cases h1
    exact ⟨hv, ⟨trivial, trivial, trivial⟩, trivial⟩
  · cases h1
    cases l <;> first | exact absurd rfl h2 | exact ⟨hv, ⟨trivial, trivial, trivial⟩, trivial⟩
  · cases h1
    cases t
    · cases l <;> first | exact absurd rfl h2 | exact ⟨hv, ⟨trivial, trivial, trivial⟩, trivial⟩
    · exact absurd rfl h3

/-- a method on 3D and 4D vectors whose result is Cartesian in space and keeps the stored t / τ (`rotateX`, `rotateY`,
`rotate_axis`, …): `hsingle` is its single-call theorem -/
theorem spat_sound (C : Vec ℝ → Except Err (Res ℝ Prop)) (f : ℝ × ℝ × ℝ → ℝ × ℝ × ℝ)
    (hsingle : ∀ v, C01M.WFV v → 3 ≤ v.ty.dim → TanOKV v → ∃ w, C v = .ok (.vec w) ∧
      w.ty = { v.ty with az := .xy, lon := some .z } ∧ C01M.WFV w ∧ denote w = (denote v).map (onSpatial f) ∧
      w.tmpEl = v.tmpEl)
    (ha : Rep va pa) (ga : GenericV pa) (hl : 3 ≤ pa.length) (gr : GenericV (onSpatial f pa)) :
    Yields (C va) (onSpatial f pa) := by
  have hd : 3 ≤ va.ty.dim := ha.dim ▸ hl
  obtain ⟨w, hcall, hty, hwf, hden, ht⟩ := hsingle va ha.wf hd (reg ha ga).tan
  rw [ha.2] at hden
  exact ⟨w, hcall, rep_of_rng hwf (rng_cart_sp ha.wf hwf hd hty ht ha.rng) hden gr⟩

theorem cross_case (ha : Good va) (hb : Good vb)
    (da : denote va = some pa) (db : denote vb = some pb) (ga : Generic3 pa) (gb : Generic3 pb) :
    ∃ r, call evR K A "cross" va [.v vb] = .ok (.vec r) ∧ Good r ∧ denote r = some (crossL pa pb) := by
  have la := generic3_length ga
  have lb := generic3_length gb
  obtain ⟨r, p, q, hcall, hwf, hty, hp, hq, hden⟩ := c11m_cross K A va vb ha.1 hb.1 (by rw [dim_of_denote ha da, la])
    (by rw [dim_of_denote hb db, lb]) (reg ⟨ha, da⟩ (.of3 ga)).tan (reg ⟨hb, db⟩ (.of3 gb)).tan
  cases da.symm.trans hp
  cases db.symm.trans hq
  exact ⟨r, hcall, good_cart hwf (by rw [hty]) (by rw [hty]; nofun) (by rw [hty]; nofun), hden⟩

/-! #### conversions -/

theorem convName_target (az : Az) (l : Lon) : C04.toTarget (convName az l) = some (az, some l, none) := by
  cases az <;> cases l <;> decide

theorem call_of_target (n : String) (az : Az) (lon : Option Lon) (tmp : Option Tmp)
    (hn : C04.toTarget n = some (az, lon, tmp)) (v : Vec ℝ) :
    call evR K A n v [] = (toSystem evR K.zeroF v az lon tmp none none).map .vec := by
  unfold C04.toTarget at hn
  cases he : toTable.find? (·.1 == n) with
  | none => simp [he] at hn
  | some e =>
    simp only [he, Option.map_some, Option.some.injEq, Prod.mk.injEq] at hn
    obtain ⟨rfl, rfl, rfl⟩ := hn
    exact c04_call_to evR K A n v e he

/-- the converted azimuthal coordinates are in range (`ρ = √… ≥ 0` or the stored ρ; `φ = arctan2 ∈ (-π, π]` or the stored
φ) -/
theorem conv_range_az {az0 az : Az} {a b : ℝ} (hA : AzOK az0 a b) :
    AzOK az (C04M.conv2 az0 az a b).1 (C04M.conv2 az0 az a b).2 := by
  cases az
  · trivial
  · cases az0
    · have h := c13_planar_phi_xy_range a b
      exact ⟨c13_planar_rho_xy_nonneg a b, h.1.le, h.2⟩
    · exact hA

/-- the converted longitudinal coordinate is in range (`θ ∈ (0, π)`) -/
theorem conv_range_lon {az0 : Az} {l0 l : Lon} {a b c : ℝ} (hr : 0 < rhoOf az0 a b) (hCL : CanonLon az0 l0 a b c) :
    LonOK l (C04M.convLon az0 l0 l a b c) := by
  cases l
  · trivial
  · have h := refine_spatial_theta_mem az0 l0 a b c hr hCL
    exact ⟨h.1.le, h.2.le⟩
  · trivial

theorem conv_case (az : Az) (l : Lon) (ha : Good va)
    (da : denote va = some pa) (ga : Generic3 pa) :
    ∃ r, call evR K A (convName az l) va [] = .ok (.vec r) ∧ Good r ∧ denote r = some pa := by
  obtain ⟨be, mom, az0, l0, a, b, c, rfl, rfl, h⟩ := good3_core ha da ga
  have he := call_of_target K A _ az (some l) none (convName_target az l) (C11M.V3 be mom az0 l0 a b c)
  rw [C04M.toSystem_eval3] at he
  have hden : denote (C11M.V3 be mom az l (C04M.conv2 az0 az a b).1 (C04M.conv2 az0 az a b).2
      (C04M.convLon az0 l0 l a b c)) = some [xOf az0 a b, yOf az0 a b, zOf az0 l0 a b c] := by
    simp only [denote, C04M.conv2_x, C04M.conv2_y, C04M.convLon_z _ _ _ _ _ _ _ (C04M.lonOK_of_RT (l := l) h.rho h.canon.2 h.tan)]
  exact ⟨_, he, good3_result (conv_range_az h.azOK) (conv_range_lon h.rho h.canon.2) hden ga, hden⟩

/-! ## 8. MAIN THEOREM -/

/-- one step of the inductions, unary node: if the operand runs to a good value that denotes `p`, and the public call
on such a value yields a good one that denotes `q`, so does the node -/
theorem un_step {x : Except Err (Vec ℝ)} {f : Vec ℝ → Except Err (Res ℝ Prop)} {p q : List ℝ}
    (hx : ∃ v, x = .ok v ∧ Rep v p) (hf : ∀ v, Rep v p → Yields (f v) q) : ∃ v, un x f = .ok v ∧ Rep v q := by
  obtain ⟨v, rfl, hv⟩ := hx
  obtain ⟨r, hc, hr⟩ := hf v hv
  exact ⟨r, by simp only [un, hc, vecOf], hr⟩

theorem bin_step {x y : Except Err (Vec ℝ)} {f : Vec ℝ → Vec ℝ → Except Err (Res ℝ Prop)} {p p' q : List ℝ}
    (hx : ∃ v, x = .ok v ∧ Rep v p) (hy : ∃ v, y = .ok v ∧ Rep v p')
    (hf : ∀ v w, Rep v p → Rep w p' → Yields (f v w) q) : ∃ v, bin x y f = .ok v ∧ Rep v q := by
  obtain ⟨v, rfl, hv⟩ := hx
  obtain ⟨w, rfl, hw⟩ := hy
  obtain ⟨r, hc, hr⟩ := hf v w hv hw
  exact ⟨r, by simp only [bin, hc, vecOf], hr⟩

/-- **coordinate independence of every generic expression** -/
theorem c01e_eval3 (hK : K.negOne = -1) (ρ : Nat → Vec ℝ) (ρS : Nat → List ℝ)
    (hρ : ∀ i, Good3 (ρ i)) (hS : ∀ i, denote (ρ i) = some (ρS i)) (e : E3) (hg : GenericAll ρS e) :
    ∃ v, evalM K A ρ e = .ok v ∧ Good v ∧ denote v = some (evalS ρS e) := by
  induction e with
  | var i => exact ⟨ρ i, rfl, good_of3 (hρ i), hS i⟩
  | add a b iha ihb =>
    obtain ⟨⟨ga, gb⟩, gr⟩ := hg
    exact bin_step (iha ga) (ihb gb) fun va vb ha hb =>
      add_case K A ha.1 hb.1 ha.2 hb.2 (genericAll_self ga) (genericAll_self gb) gr
  | sub a b iha ihb =>
    obtain ⟨⟨ga, gb⟩, gr⟩ := hg
    exact bin_step (iha ga) (ihb gb) fun va vb ha hb =>
      sub_case K A ha.1 hb.1 ha.2 hb.2 (genericAll_self ga) (genericAll_self gb) gr
  | scale k a iha =>
    obtain ⟨ga, gr⟩ := hg
    exact un_step (iha ga) fun va ha => scale_case K A k ha.1 ha.2 (genericAll_self ga) gr
  | neg a iha =>
    obtain ⟨ga, gr⟩ := hg
    exact un_step (iha ga) fun va ha => neg_sound K A hK ha (.of3 (genericAll_self ga)) (.of3 gr)
  | rotateZ ang a iha =>
    obtain ⟨ga, gr⟩ := hg
    refine un_step (iha ga) fun va ha => ?_
    rw [evalS, onSpatial_rotZ ang (generic3_length (genericAll_self ga)).ge]
    exact rotateZ_case K A ang ha.1 ha.2
  | rotateX ang a iha =>
    obtain ⟨ga, gr⟩ := hg
    have g := genericAll_self ga
    exact un_step (iha ga) fun va ha => spat_sound (fun v => call evR K A "rotateX" v [.sc ang]) (rotX ang)
      (fun v hv hd hT => c01m_rotateX K A v hv hd hT ang) ha (.of3 g) (generic3_length g).ge (.of3 gr)
  | rotateY ang a iha =>
    obtain ⟨ga, gr⟩ := hg
    have g := genericAll_self ga
    exact un_step (iha ga) fun va ha => spat_sound (fun v => call evR K A "rotateY" v [.sc ang]) (rotY ang)
      (fun v hv hd hT => c01m_rotateY K A v hv hd hT ang) ha (.of3 g) (generic3_length g).ge (.of3 gr)
  | cross a b iha ihb =>
    obtain ⟨⟨ga, gb⟩, gr⟩ := hg
    exact bin_step (iha ga) (ihb gb) fun va vb ha hb =>
      cross_case K A ha.1 hb.1 ha.2 hb.2 (genericAll_self ga) (genericAll_self gb)
  | unit a iha =>
    obtain ⟨ga, gr⟩ := hg
    exact un_step (iha ga) fun va ha => unit_case K A ha.1 ha.2 (genericAll_self ga) gr
  | conv az l a iha =>
    obtain ⟨ga, gr⟩ := hg
    exact un_step (iha ga) fun va ha => conv_case K A az l ha.1 ha.2 gr

/-! ## 9. COROLLARY: property C01 in its literal form -/

theorem indep_of_runs {x₁ x₂ : Except Err (Vec ℝ)} {q : List ℝ}
    (h₁ : ∃ v, x₁ = .ok v ∧ Rep v q) (h₂ : ∃ v, x₂ = .ok v ∧ Rep v q) :
    ∃ v₁ v₂, x₁ = .ok v₁ ∧ x₂ = .ok v₂ ∧ denote v₁ = denote v₂ ∧ denote v₁ = some q := by
  obtain ⟨v₁, e₁, -, d₁⟩ := h₁
  obtain ⟨v₂, e₂, -, d₂⟩ := h₂
  exact ⟨v₁, v₂, e₁, e₂, d₁.trans d₂.symm, d₁⟩

/-- the specification environment of a model environment: the Cartesian components the variables denote -/
noncomputable def specEnv (ρ : Nat → Vec ℝ) : Nat → List ℝ := fun i => (denote (ρ i)).getD []

theorem denote_specEnv {ρ : Nat → Vec ℝ} (hρ : ∀ i, Good (ρ i)) (i : Nat) : denote (ρ i) = some (specEnv ρ i) := by
  obtain ⟨x, y, rest, hp⟩ := denote_some (hρ i).1
  simp only [specEnv, hp, Option.getD_some]

/-- **C01 for whole computations**: two environments holding THE SAME geometric vectors — stored in any coordinate
systems, any flavors and backends — give results with the same denotation (namely the specified value), for every
generic expression -/
theorem c01e_indep3 (hK : K.negOne = -1) (ρ₁ ρ₂ : Nat → Vec ℝ)
    (h₁ : ∀ i, Good3 (ρ₁ i)) (h₂ : ∀ i, Good3 (ρ₂ i)) (hd : ∀ i, denote (ρ₁ i) = denote (ρ₂ i)) (e : E3)
    (hg : GenericAll (specEnv ρ₁) e) :
    ∃ v₁ v₂, evalM K A ρ₁ e = .ok v₁ ∧ evalM K A ρ₂ e = .ok v₂ ∧ denote v₁ = denote v₂ ∧
      denote v₁ = some (evalS (specEnv ρ₁) e) :=
  have hs := denote_specEnv fun i => good_of3 (h₁ i)
  indep_of_runs (c01e_eval3 K A hK ρ₁ _ h₁ hs e hg) (c01e_eval3 K A hK ρ₂ _ h₂ (fun i => (hd i).symm.trans (hs i)) e hg)

theorem c01e_indep3_eq (K : Consts ℝ) (A : Arith ℝ) (hK : K.negOne = -1) (ρ₁ ρ₂ : Nat → Vec ℝ)
    (h₁ : ∀ i, Good3 (ρ₁ i)) (h₂ : ∀ i, Good3 (ρ₂ i)) (hd : ∀ i, denote (ρ₁ i) = denote (ρ₂ i)) (e : E3)
    (hg : GenericAll (specEnv ρ₁) e) :
    (evalM K A ρ₁ e).toOption.bind denote = (evalM K A ρ₂ e).toOption.bind denote ∧
      ((evalM K A ρ₁ e).toOption.bind denote).isSome := by
  obtain ⟨v₁, v₂, e₁, e₂, h, h'⟩ := c01e_indep3 K A hK ρ₁ ρ₂ h₁ h₂ hd e hg
  rw [e₁, e₂]
  refine ⟨h, ?_⟩
  show (denote v₁).isSome = true
  rw [h']; rfl

/-! ## 10. Scalar expressions -/

inductive UnS | x | y | z | rho | rho2 | phi | eta | theta | costheta | cottheta | mag | mag2

inductive BinS | dot | deltaphi | deltaeta | deltaR2 | deltaR | deltaangle

def UnS.name : UnS → String
  | .x => "x" | .y => "y" | .z => "z" | .rho => "rho" | .rho2 => "rho2" | .phi => "phi" | .eta => "eta"
  | .theta => "theta" | .costheta => "costheta" | .cottheta => "cottheta" | .mag => "mag" | .mag2 => "mag2"

def BinS.name : BinS → String
  | .dot => "dot" | .deltaphi => "deltaphi" | .deltaeta => "deltaeta" | .deltaR2 => "deltaR2" | .deltaR => "deltaR"
  | .deltaangle => "deltaangle"

inductive S3 : Type
  | un (f : UnS) (a : E3)
  | bi (f : BinS) (a b : E3)

def unS (x : Except Err (Vec ℝ)) (f : Vec ℝ → Except Err (Res ℝ Prop)) : Except Err (Res ℝ Prop) :=
  match x with
  | .ok v => f v
  | .error e => .error e

def binS (x y : Except Err (Vec ℝ)) (f : Vec ℝ → Vec ℝ → Except Err (Res ℝ Prop)) : Except Err (Res ℝ Prop) :=
  match x, y with
  | .ok a, .ok b => f a b
  | .error e, _ => .error e
  | .ok _, .error e => .error e

/-- a scalar- or truth-valued method on an operand that runs to a value with the invariant `G` -/
theorem unS_step {G : Vec ℝ → Prop} {x : Except Err (Vec ℝ)} {f : Vec ℝ → Except Err (Res ℝ Prop)} {p : List ℝ}
    {s : Res ℝ Prop} (hx : ∃ v, x = .ok v ∧ G v ∧ denote v = some p) (hf : ∀ v, G v → denote v = some p → f v = .ok s) :
    unS x f = .ok s := by
  obtain ⟨v, rfl, hv, dv⟩ := hx
  exact hf v hv dv

theorem binS_step {G : Vec ℝ → Prop} {x y : Except Err (Vec ℝ)} {f : Vec ℝ → Vec ℝ → Except Err (Res ℝ Prop)}
    {p p' : List ℝ} {s : Res ℝ Prop} (hx : ∃ v, x = .ok v ∧ G v ∧ denote v = some p)
    (hy : ∃ v, y = .ok v ∧ G v ∧ denote v = some p')
    (hf : ∀ v w, G v → G w → denote v = some p → denote w = some p' → f v w = .ok s) : binS x y f = .ok s := by
  obtain ⟨v, rfl, hv, dv⟩ := hx
  obtain ⟨w, rfl, hw, dw⟩ := hy
  exact hf v w hv hw dv dw

noncomputable def evalMS (K : Consts ℝ) (A : Arith ℝ) (ρ : Nat → Vec ℝ) : S3 → Except Err (Res ℝ Prop)
  | .un f a => unS (evalM K A ρ a) fun va => call evR K A f.name va []
  | .bi f a b => binS (evalM K A ρ a) (evalM K A ρ b) fun va vb => call evR K A f.name va [.v vb]

/-- the specification of the one-vector properties, on Cartesian components -/
noncomputable def uspec : UnS → ℝ → ℝ → ℝ → ℝ
  | .x, x, _, _ => x
  | .y, _, y, _ => y
  | .z, _, _, z => z
  | .rho, x, y, _ => sqrt (x ^ 2 + y ^ 2)
  | .rho2, x, y, _ => x ^ 2 + y ^ 2
  | .phi, x, y, _ => P.arctan2 y x
  | .eta, x, y, z => arsinh (z / sqrt (x ^ 2 + y ^ 2))
  | .theta, x, y, z => arccos (z / sqrt (x ^ 2 + y ^ 2 + z ^ 2))
  | .costheta, x, y, z => z / sqrt (x ^ 2 + y ^ 2 + z ^ 2)
  | .cottheta, x, y, z => z / sqrt (x ^ 2 + y ^ 2)
  | .mag, x, y, z => sqrt (x ^ 2 + y ^ 2 + z ^ 2)
  | .mag2, x, y, z => x ^ 2 + y ^ 2 + z ^ 2

/-- the specification of the two-vector methods, on Cartesian components -/
noncomputable def bspec : BinS → ℝ → ℝ → ℝ → ℝ → ℝ → ℝ → ℝ
  | .dot, x₁, y₁, z₁, x₂, y₂, z₂ => x₁ * x₂ + y₁ * y₂ + z₁ * z₂
  | .deltaphi, x₁, y₁, _, x₂, y₂, _ => P.mod (P.arctan2 y₁ x₁ - P.arctan2 y₂ x₂ + π) (2 * π) - π
  | .deltaeta, x₁, y₁, z₁, x₂, y₂, z₂ =>
    arsinh (z₁ / sqrt (x₁ ^ 2 + y₁ ^ 2)) - arsinh (z₂ / sqrt (x₂ ^ 2 + y₂ ^ 2))
  | .deltaR2, x₁, y₁, z₁, x₂, y₂, z₂ =>
    (P.mod (P.arctan2 y₁ x₁ - P.arctan2 y₂ x₂ + π) (2 * π) - π) ^ 2
      + (arsinh (z₁ / sqrt (x₁ ^ 2 + y₁ ^ 2)) - arsinh (z₂ / sqrt (x₂ ^ 2 + y₂ ^ 2))) ^ 2
  | .deltaR, x₁, y₁, z₁, x₂, y₂, z₂ =>
    sqrt ((P.mod (P.arctan2 y₁ x₁ - P.arctan2 y₂ x₂ + π) (2 * π) - π) ^ 2
      + (arsinh (z₁ / sqrt (x₁ ^ 2 + y₁ ^ 2)) - arsinh (z₂ / sqrt (x₂ ^ 2 + y₂ ^ 2))) ^ 2)
  | .deltaangle, x₁, y₁, z₁, x₂, y₂, z₂ =>
    arccos (max (-1) (min 1 ((x₁ * x₂ + y₁ * y₂ + z₁ * z₂)
      / sqrt (x₁ ^ 2 + y₁ ^ 2 + z₁ ^ 2) / sqrt (x₂ ^ 2 + y₂ ^ 2 + z₂ ^ 2))))

noncomputable def on3 (f : ℝ → ℝ → ℝ → ℝ) : List ℝ → ℝ
  | [x, y, z] => f x y z
  | _ => 0

noncomputable def on33 (f : ℝ → ℝ → ℝ → ℝ → ℝ → ℝ → ℝ) : List ℝ → List ℝ → ℝ
  | [x₁, y₁, z₁], [x₂, y₂, z₂] => f x₁ y₁ z₁ x₂ y₂ z₂
  | _, _ => 0

/-- **the specification** of a scalar expression -/
noncomputable def evalSS (ρS : Nat → List ℝ) : S3 → ℝ
  | .un f a => on3 (uspec f) (evalS ρS a)
  | .bi f a b => on33 (bspec f) (evalS ρS a) (evalS ρS b)

/-- off the half line `y = 0, x < 0`, where the azimuth jumps: a polar vector may be stored there with `φ = -π`
(`c13c_planar_rotateZ_pi`: `rectify` yields `[-π, π)`) while `arctan2` gives `+π` -/
def PhiOK : List ℝ → Prop
  | [x, y, _] => ¬ (y = 0 ∧ x < 0)
  | _ => True

/-- genericity of a scalar expression: all operands generic; for `phi` additionally off the half line of the jump -/
def GenericS (ρS : Nat → List ℝ) : S3 → Prop
  | .un f a => GenericAll ρS a ∧ (f = .phi → PhiOK (evalS ρS a))
  | .bi _ a b => GenericAll ρS a ∧ GenericAll ρS b

theorem canonPhi_of {az : Az} {a b : ℝ} (hA : AzOK az a b) (hr : 0 < rhoOf az a b)
    (h : ¬ (yOf az a b = 0 ∧ xOf az a b < 0)) : CanonPhi az a b := by
  cases az
  · trivial
  · refine ⟨lt_of_le_of_ne hA.2.1 ?_, hA.2.2⟩
    intro e
    apply h
    subst e
    have ha : 0 < a := hr
    simp only [xOf, yOf, sin_neg, sin_pi, cos_neg, cos_pi]
    constructor
    · simp
    · linarith

/-- the properties of the spatial part of a 3D or 4D vector (`rest` is `[]` or `[t]`), from the facts on its raw stored
coordinates -/
theorem sp_case (f : UnS) {va : Vec ℝ} {x y z : ℝ} {rest : List ℝ} (hv : C01M.WFV va)
    (da : denote va = some (x :: y :: z :: rest))
    (hs : Stored3 (fun k l a b c => 0 < rhoOf k a b ∧ Canon3 k l a b c ∧ TanOK l c ∧ SinOK l c ∧ 0 < mag2Of k l a b c) va)
    (hphi : f = .phi → Stored2 CanonPhi va) : call evR K A f.name va [] = .ok (.scalar (uspec f x y z)) := by
  obtain ⟨hr, hC3, hT, hS, hm⟩ := hs
  cases f
  · exact c01m_acc_x K A va hv x y _ da
  · exact c01m_acc_y K A va hv x y _ da
  · exact c01m_acc_z K A va hv hT x y z rest da
  · exact c01m_acc_rho K A va hv hC3.1 x y _ da
  · exact c01m_acc_rho2 K A va hv x y _ da
  · exact c01m_acc_phi K A va hv ⟨hr, hphi rfl⟩ x y _ da
  · exact c01m_acc_eta K A va hv ⟨hr, hC3.2⟩ x y z rest da
  · exact c01m_acc_theta K A va hv ⟨hC3, hm⟩ x y z rest da
  · exact c01m_acc_costheta K A va hv ⟨hC3, hm⟩ x y z rest da
  · exact c01m_acc_cottheta K A va hv ⟨hr, hT⟩ x y z rest da
  · exact c01m_acc_mag K A va hv ⟨hC3.1, hS⟩ x y z rest da
  · exact c01m_acc_mag2 K A va hv hS x y z rest da

theorem un_case (f : UnS) (ha : Good va)
    (da : denote va = some pa) (ga : Generic3 pa) (hphi : f = .phi → PhiOK pa) :
    call evR K A f.name va [] = .ok (.scalar (on3 (uspec f) pa)) := by
  obtain ⟨be, mom, az, l, a, b, c, rfl, rfl, h⟩ := good3_core ha da ga
  exact sp_case K A f ha.1 da ⟨h.rho, h.canon, h.tan, h.sin, h.mag⟩ fun e => canonPhi_of h.azOK h.rho (hphi e)

theorem deltaphi_case {va vb : Vec ℝ} {x₁ y₁ x₂ y₂ : ℝ} {r₁ r₂ : List ℝ}
    (ha : C01M.WFV va) (hb : C01M.WFV vb) (hra : Stored2 (fun k a b => 0 < rhoOf k a b) va)
    (hrb : Stored2 (fun k a b => 0 < rhoOf k a b) vb) (da : denote va = some (x₁ :: y₁ :: r₁))
    (db : denote vb = some (x₂ :: y₂ :: r₂)) :
    call evR K A "deltaphi" va [.v vb] =
      .ok (.scalar (P.mod (P.arctan2 y₁ x₁ - P.arctan2 y₂ x₂ + π) (2 * π) - π)) := by
  rw [C04M.deltaphi_eval K A va vb ha hb, refine_spatial_deltaphi_key _ _ _ _ _ _ hra hrb,
    ← (denote_planar da).1, ← (denote_planar da).2, ← (denote_planar db).1, ← (denote_planar db).2]
  rfl

theorem ang_case (f : BinS) (hf : f ≠ .dot) {va vb : Vec ℝ} {x₁ y₁ z₁ x₂ y₂ z₂ : ℝ}
    {r₁ r₂ : List ℝ} (ha : C01M.WFV va) (hb : C01M.WFV vb) (da : denote va = some (x₁ :: y₁ :: z₁ :: r₁))
    (db : denote vb = some (x₂ :: y₂ :: z₂ :: r₂))
    (hsa : Stored3 (fun k l a b c => 0 < rhoOf k a b ∧ Canon3 k l a b c ∧ TanOK l c ∧ SinOK l c) va)
    (hsb : Stored3 (fun k l a b c => 0 < rhoOf k a b ∧ Canon3 k l a b c ∧ TanOK l c ∧ SinOK l c) vb) :
    call evR K A f.name va [.v vb] = .ok (.scalar (bspec f x₁ y₁ z₁ x₂ y₂ z₂)) := by
  obtain ⟨hra, hCa, hTa, hSa⟩ := hsa
  obtain ⟨hrb, hCb, hTb, hSb⟩ := hsb
  cases f
  · exact absurd rfl hf
  · exact deltaphi_case K A ha hb hra hrb da db
  · exact C04M.c04m_deltaeta K A va vb ha hb ⟨hra, hCa.2⟩ ⟨hrb, hCb.2⟩ _ _ _ _ _ _ _ _ da db
  · exact C04M.c04m_deltaR2 K A va vb ha hb ⟨hra, hCa.2⟩ ⟨hrb, hCb.2⟩ _ _ _ _ _ _ _ _ da db
  · exact C04M.c04m_deltaR K A va vb ha hb ⟨hra, hCa.2⟩ ⟨hrb, hCb.2⟩ _ _ _ _ _ _ _ _ da db
  · exact C04M.c04m_deltaangle K A va vb ha hb ⟨hCa.1, hTa, hSa⟩ ⟨hCb.1, hTb, hSb⟩ _ _ _ _ _ _ _ _ da db

theorem bi_case (f : BinS) (ha : Good va) (hb : Good vb)
    (da : denote va = some pa) (db : denote vb = some pb) (ga : Generic3 pa) (gb : Generic3 pb) :
    call evR K A f.name va [.v vb] = .ok (.scalar (on33 (bspec f) pa pb)) := by
  obtain ⟨be1, mom1, az1, l1, a0, a1, a2, rfl, rfl, h1⟩ := good3_core ha da ga
  obtain ⟨be2, mom2, az2, l2, b0, b1, b2, rfl, rfl, h2⟩ := good3_core hb db gb
  cases f
  · obtain ⟨p, q, hp, hq, hcall⟩ := c11m_dot K A _ _ ha.1 hb.1 rfl h1.tan h2.tan (fun h => by cases h) (fun h => by cases h)
      trivial trivial
    cases da.symm.trans hp
    cases db.symm.trans hq
    exact hcall
  all_goals
    exact ang_case K A _ (by nofun) ha.1 hb.1 da db ⟨h1.rho, h1.canon, h1.tan, h1.sin⟩ ⟨h2.rho, h2.canon, h2.tan, h2.sin⟩

/-- **scalar expressions**: the model returns the specified scalar -/
theorem c01e_evalS3 (hK : K.negOne = -1) (ρ : Nat → Vec ℝ) (ρS : Nat → List ℝ)
    (hρ : ∀ i, Good3 (ρ i)) (hS : ∀ i, denote (ρ i) = some (ρS i)) (s : S3) (hg : GenericS ρS s) :
    evalMS K A ρ s = .ok (.scalar (evalSS ρS s)) := by
  cases s with
  | un f a =>
    exact unS_step (c01e_eval3 K A hK ρ ρS hρ hS a hg.1) fun va ha da =>
      un_case K A f ha da (genericAll_self hg.1) hg.2
  | bi f a b =>
    exact binS_step (c01e_eval3 K A hK ρ ρS hρ hS a hg.1) (c01e_eval3 K A hK ρ ρS hρ hS b hg.2)
      fun va vb ha hb da db => bi_case K A f ha hb da db (genericAll_self hg.1) (genericAll_self hg.2)

/-- **C01 for scalar expressions**: the same geometric vectors in any storages give the same number -/
theorem c01e_indepS3 (K : Consts ℝ) (A : Arith ℝ) (hK : K.negOne = -1) (ρ₁ ρ₂ : Nat → Vec ℝ)
    (h₁ : ∀ i, Good3 (ρ₁ i)) (h₂ : ∀ i, Good3 (ρ₂ i)) (hd : ∀ i, denote (ρ₁ i) = denote (ρ₂ i)) (s : S3)
    (hg : GenericS (specEnv ρ₁) s) :
    evalMS K A ρ₁ s = evalMS K A ρ₂ s ∧ evalMS K A ρ₁ s = .ok (.scalar (evalSS (specEnv ρ₁) s)) := by
  have hs := denote_specEnv fun i => good_of3 (h₁ i)
  have e₁ := c01e_evalS3 K A hK ρ₁ _ h₁ hs s hg
  exact ⟨e₁.trans (c01e_evalS3 K A hK ρ₂ _ h₂ (fun i => (hd i).symm.trans (hs i)) s hg).symm, e₁⟩

/-! ## 11. Non-vacuity: a depth-5 expression mixing (x, y, z), (x, y, θ) and (ρ, φ, η) variables -/

/-- variable 0: `(x, y, z) = (1, 2, 3)`; variable 1: a numpy momentum vector `(x, y, θ) = (1, 0, π/4)`, the point `(1, 0, 1)`;
the others: an object momentum vector `(ρ, φ, η) = (2, 0, arsinh 1)`, the point `(2, 0, 2)` -/
noncomputable def exEnv : Nat → Vec ℝ
  | 0 => C11M.V3 .obj false .xy .z 1 2 3
  | 1 => C11M.V3 .np true .xy .theta 1 0 (π / 4)
  | _ => C11M.V3 .obj true .rhophi .eta 2 0 (arsinh 1)

/-- the same three points, all stored as Cartesian object vectors -/
noncomputable def exEnv' : Nat → Vec ℝ
  | 0 => C11M.V3 .obj false .xy .z 1 2 3
  | 1 => C11M.V3 .obj false .xy .z 1 0 1
  | _ => C11M.V3 .obj false .xy .z 2 0 2

def exSpec : Nat → List ℝ
  | 0 => [1, 2, 3]
  | 1 => [1, 0, 1]
  | _ => [2, 0, 2]

/-- `to_rhophitheta( (2·v₁ + v₂) × (rotateX(π, v₀) − (−v₂)) )` -/
noncomputable def exE : E3 :=
  .conv .rhophi .theta (.cross (.add (.scale 2 (.var 1)) (.var 2)) (.sub (.rotateX π (.var 0)) (.neg (.var 2))))

theorem theta_quarter_ok : LonOK .theta (π / 4) ∧ SinOK .theta (π / 4) := by
  have hpi := pi_pos
  refine ⟨⟨by positivity, by linarith⟩, ?_⟩
  show sin (π / 4) ≠ 0
  rw [sin_pi_div_four]; positivity

theorem denote_theta_quarter (be : Backend) (mom : Bool) :
    denote (C11M.V3 be mom .xy .theta 1 0 (π / 4)) = some [1, 0, 1] := by
  have h1 : sqrt ((1 : ℝ) ^ 2 + 0 ^ 2) = 1 := by norm_num
  have h2 : cos (π / 4) / sin (π / 4) = 1 := by
    rw [cos_pi_div_four, sin_pi_div_four]; exact div_self (by positivity)
  simp only [denote, xOf, yOf, zOf, rhoOf, h1, h2, mul_one]

theorem exEnv_good : ∀ i, Good3 (exEnv i) := by
  intro i
  have hpi := pi_pos
  match i with
  | 0 => exact good3_mk _ _ _ _ _ _ _ trivial trivial trivial
  | 1 => exact good3_mk _ _ _ _ _ _ _ trivial theta_quarter_ok.1 theta_quarter_ok.2
  | (n + 2) => exact good3_mk _ _ _ _ _ _ _ ⟨by norm_num, by linarith, by linarith⟩ trivial trivial

theorem exEnv'_good : ∀ i, Good3 (exEnv' i) := by
  intro i
  match i with
  | 0 => exact good3_mk _ _ _ _ _ _ _ trivial trivial trivial
  | 1 => exact good3_mk _ _ _ _ _ _ _ trivial trivial trivial
  | (n + 2) => exact good3_mk _ _ _ _ _ _ _ trivial trivial trivial

theorem exEnv_denote : ∀ i, denote (exEnv i) = some (exSpec i) := by
  intro i
  match i with
  | 0 => rfl
  | 1 => exact denote_theta_quarter _ _
  | (n + 2) =>
    simp only [exEnv, exSpec, denote, xOf, yOf, zOf, rhoOf, cos_zero, sin_zero, sinh_arsinh, mul_one, mul_zero]

theorem exEnv'_denote : ∀ i, denote (exEnv' i) = some (exSpec i) := by
  intro i
  match i with
  | 0 => rfl
  | 1 => rfl
  | (n + 2) => rfl

/-- **`GenericAll` is satisfiable** for the depth-5 expression `exE` over the mixed-storage environment -/
theorem exE_generic : GenericAll exSpec exE := by
  simp only [exE, GenericAll, evalS, exSpec, List.map_cons, List.map_nil, List.zipWith_cons_cons, List.zipWith_nil_right,
    crossL, onSpatial, rotX, cos_pi, sin_pi, generic3_iff]
  norm_num

example (K : Consts ℝ) (A : Arith ℝ) (hK : K.negOne = -1) :
    ∃ v, evalM K A exEnv exE = .ok v ∧ Good3 v ∧ denote v = some (evalS exSpec exE) := by
  obtain ⟨v, e, h, d⟩ := c01e_eval3 K A hK exEnv exSpec exEnv_good exEnv_denote exE exE_generic
  exact ⟨v, e, good_to3 h d (generic3_length (genericAll_self exE_generic)), d⟩

example : evalS exSpec exE = [8, 16, -8] := by
  simp only [exE, evalS, exSpec, List.map_cons, List.map_nil, List.zipWith_cons_cons, List.zipWith_nil_right,
    crossL, onSpatial, rotX, cos_pi, sin_pi]
  norm_num

/-- the mixed-storage run and the all-Cartesian run of `exE` denote the same point -/
example (K : Consts ℝ) (A : Arith ℝ) (hK : K.negOne = -1) :
    ∃ v₁ v₂, evalM K A exEnv exE = .ok v₁ ∧ evalM K A exEnv' exE = .ok v₂ ∧ denote v₁ = denote v₂ := by
  have hs : specEnv exEnv = exSpec := by
    funext i; simp only [specEnv, exEnv_denote i, Option.getD_some]
  obtain ⟨v₁, v₂, e₁, e₂, h, -⟩ := c01e_indep3 K A hK exEnv exEnv' exEnv_good exEnv'_good
    (fun i => by rw [exEnv_denote, exEnv'_denote]) exE (hs ▸ exE_generic)
  exact ⟨v₁, v₂, e₁, e₂, h⟩

/-- a generic scalar expression over the same environment: `deltaR(2·v₁ + v₂, v₀)` and `phi(v₀ × v₁)` -/
example : GenericS exSpec (.bi .deltaR (.add (.scale 2 (.var 1)) (.var 2)) (.var 0)) ∧
    GenericS exSpec (.un .phi (.cross (.var 0) (.var 1))) := by
  simp only [GenericS, GenericAll, evalS, exSpec, List.map_cons, List.map_nil, List.zipWith_cons_cons,
    List.zipWith_nil_right, crossL, generic3_iff, PhiOK]
  norm_num

/-! ## 12. The same for 2D vectors

In 2D nothing can go wrong except at the origin: genericity (`0 < x² + y²`) is needed only for the operand of `unit`.
(There is no scalar language over `E2`; 2D scalars are those of `SU`, §14.) -/

inductive E2 : Type
  | var (i : Nat)
  | add (a b : E2)
  | sub (a b : E2)
  | scale (k : ℝ) (a : E2)
  | neg (a : E2)
  | rotateZ (ang : ℝ) (a : E2)
  | unit (a : E2)
  | conv (az : Az) (a : E2)   -- `to_xy()` / `to_rhophi()`

def convName2 : Az → String
  | .xy => "to_xy" | .rhophi => "to_rhophi"

noncomputable def evalM2 (K : Consts ℝ) (A : Arith ℝ) (ρ : Nat → Vec ℝ) : E2 → Except Err (Vec ℝ)
  | .var i => .ok (ρ i)
  | .add a b => bin (evalM2 K A ρ a) (evalM2 K A ρ b) fun va vb => call evR K A "add" va [.v vb]
  | .sub a b => bin (evalM2 K A ρ a) (evalM2 K A ρ b) fun va vb => call evR K A "subtract" va [.v vb]
  | .scale k a => un (evalM2 K A ρ a) fun va => call evR K A "scale" va [.sc k]
  | .neg a => un (evalM2 K A ρ a) fun va => operator evR K A "neg" va []
  | .rotateZ ang a => un (evalM2 K A ρ a) fun va => call evR K A "rotateZ" va [.sc ang]
  | .unit a => un (evalM2 K A ρ a) fun va => call evR K A "unit" va []
  | .conv az a => un (evalM2 K A ρ a) fun va => call evR K A (convName2 az) va []

noncomputable def evalS2 (ρS : Nat → List ℝ) : E2 → List ℝ
  | .var i => ρS i
  | .add a b => List.zipWith (· + ·) (evalS2 ρS a) (evalS2 ρS b)
  | .sub a b => List.zipWith (· - ·) (evalS2 ρS a) (evalS2 ρS b)
  | .scale k a => (evalS2 ρS a).map (k * ·)
  | .neg a => (evalS2 ρS a).map (fun x => -x)
  | .rotateZ ang a => onPlanar (rotZ2 ang) (evalS2 ρS a)
  | .unit a => (evalS2 ρS a).map (fun x => 1 / normL (evalS2 ρS a) * x)
  | .conv _ a => evalS2 ρS a

/-- the operand of every `unit` node is not the origin -/
def GenericAll2 (ρS : Nat → List ℝ) : E2 → Prop
  | .var _ => True
  | .add a b => GenericAll2 ρS a ∧ GenericAll2 ρS b
  | .sub a b => GenericAll2 ρS a ∧ GenericAll2 ρS b
  | .scale _ a => GenericAll2 ρS a
  | .neg a => GenericAll2 ρS a
  | .rotateZ _ a => GenericAll2 ρS a
  | .unit a => GenericAll2 ρS a ∧ Generic2 (evalS2 ρS a)
  | .conv _ a => GenericAll2 ρS a

/-- a good 2D vector (the hypothesis on the variables of a 2D expression) -/
structure Good2 (v : Vec ℝ) : Prop where
  wf : C01M.WFV v
  dim : v.ty.dim = 2
  rng : StoredInRange v

theorem good_of2 {v : Vec ℝ} (h : Good2 v) : Good v := by
  obtain ⟨hv, hd, hr⟩ := h
  rcases wfv_cases hv with ⟨be, mom, az, a, b, rfl⟩ | ⟨be, mom, az, l, a, b, c, rfl⟩ |
    ⟨be, mom, az, l, t, a, b, c, d, rfl⟩
  · exact ⟨hv, hr, trivial⟩
  · simp [VT.dim] at hd
  · simp [VT.dim] at hd

theorem good2_mk (be : Backend) (mom : Bool) (az : Az) (a b : ℝ) (hA : AzOK az a b) : Good2 (C11M.V2 be mom az a b) :=
  ⟨⟨by simp, rfl⟩, rfl, ⟨hA, trivial, trivial⟩⟩

theorem convName2_target (az : Az) : C04.toTarget (convName2 az) = some (az, none, none) := by
  cases az <;> decide

/-- `to_xy()` / `to_rhophi()` on a vector of any dimension: the azimuthal part, converted -/
theorem proj2_case (az : Az) (ha : Good va)
    (da : denote va = some pa) :
    ∃ r, call evR K A (convName2 az) va [] = .ok (.vec r) ∧ Good r ∧ denote r = some (pa.take 2) := by
  have he := call_of_target K A (convName2 az) az none none (convName2_target az) va
  have hd : ∀ be mom az0 a b, denote (C11M.V2 be mom az (C04M.conv2 az0 az a b).1 (C04M.conv2 az0 az a b).2) =
      some [xOf az0 a b, yOf az0 a b] := fun be mom az0 a b => by simp only [denote, C04M.conv2_x, C04M.conv2_y]
  rcases good_cases ha da with ⟨be, mom, az0, a, b, rfl, rfl, hA⟩ | ⟨be, mom, az0, l0, a, b, c, rfl, rfl, hA, -⟩ |
    ⟨be, mom, az0, l0, t0, a, b, c, d, rfl, rfl, hA, -⟩
  · rw [C04M.toSystem_eval2] at he
    exact ⟨_, he, good_of2 (good2_mk _ _ _ _ _ (conv_range_az hA)), hd be mom az0 a b⟩
  · rw [C04M.toSystem_eval32] at he
    exact ⟨_, he, good_of2 (good2_mk _ _ _ _ _ (conv_range_az hA)), hd be mom az0 a b⟩
  · rw [C04M.toSystem_eval42] at he
    exact ⟨_, he, good_of2 (good2_mk _ _ _ _ _ (conv_range_az hA)), hd be mom az0 a b⟩

theorem onPlanar_length (f : ℝ × ℝ → ℝ × ℝ) : ∀ p : List ℝ, (onPlanar f p).length = p.length
  | [] => rfl
  | [_] => rfl
  | _ :: _ :: _ => rfl

theorem evalS2_length {ρS : Nat → List ℝ} (h : ∀ i, (ρS i).length = 2) (e : E2) : (evalS2 ρS e).length = 2 := by
  induction e <;> simp only [evalS2, List.length_zipWith, List.length_map, onPlanar_length, min_self, *]

theorem c01e_eval2 (hK : K.negOne = -1) (ρ : Nat → Vec ℝ) (ρS : Nat → List ℝ)
    (hρ : ∀ i, Good2 (ρ i)) (hS : ∀ i, denote (ρ i) = some (ρS i)) (e : E2) (hg : GenericAll2 ρS e) :
    ∃ v, evalM2 K A ρ e = .ok v ∧ Good v ∧ denote v = some (evalS2 ρS e) := by
  have hl := evalS2_length fun i => ((dim_of_denote (good_of2 (hρ i)) (hS i)).symm.trans (hρ i).dim)
  induction e with
  | var i => exact ⟨ρ i, rfl, good_of2 (hρ i), hS i⟩
  | add a b iha ihb =>
    exact bin_step (iha hg.1) (ihb hg.2) fun va vb ha hb => add2_case K A ha.1 hb.1 ha.2 hb.2 (hl a) (hl b)
  | sub a b iha ihb =>
    exact bin_step (iha hg.1) (ihb hg.2) fun va vb ha hb => sub2_case K A ha.1 hb.1 ha.2 hb.2 (hl a) (hl b)
  | scale k a iha => exact un_step (iha hg) fun va ha => scale2_case K A k ha.1 ha.2 (hl a)
  | neg a iha =>
    exact un_step (iha hg) fun va ha => neg_sound K A hK ha (.inl (hl a)) (.inl (hl (.neg a)))
  | rotateZ ang a iha => exact un_step (iha hg) fun va ha => rotateZ_case K A ang ha.1 ha.2
  | unit a iha => exact un_step (iha hg.1) fun va ha => unit2_case K A ha.1 ha.2 hg.2
  | conv az a iha =>
    exact un_step (iha hg) fun va ha => List.take_of_length_le (hl a).le ▸ proj2_case K A az ha.1 ha.2

/-- **C01 for 2D computations** -/
theorem c01e_indep2 (K : Consts ℝ) (A : Arith ℝ) (hK : K.negOne = -1) (ρ₁ ρ₂ : Nat → Vec ℝ)
    (h₁ : ∀ i, Good2 (ρ₁ i)) (h₂ : ∀ i, Good2 (ρ₂ i)) (hd : ∀ i, denote (ρ₁ i) = denote (ρ₂ i)) (e : E2)
    (hg : GenericAll2 (specEnv ρ₁) e) :
    ∃ v₁ v₂, evalM2 K A ρ₁ e = .ok v₁ ∧ evalM2 K A ρ₂ e = .ok v₂ ∧ denote v₁ = denote v₂ ∧
      denote v₁ = some (evalS2 (specEnv ρ₁) e) :=
  have hs := denote_specEnv fun i => good_of2 (h₁ i)
  indep_of_runs (c01e_eval2 K A hK ρ₁ _ h₁ hs e hg) (c01e_eval2 K A hK ρ₂ _ h₂ (fun i => (hd i).symm.trans (hs i)) e hg)

/-- satisfiable: `unit(rotateZ(1, 3·v₀ − v₁)).to_rhophi()` with `v₀ = (ρ, φ) = (2, 0)`, `v₁ = (x, y) = (1, 1)`
(the operand of `unit` is a rotation of `(5, -1)`) -/
example : GenericAll2 (fun i => if i = 0 then [2, 0] else [1, 1])
    (.conv .rhophi (.unit (.rotateZ 1 (.sub (.scale 3 (.var 0)) (.var 1))))) := by
  simp only [GenericAll2, evalS2, if_true, if_false, one_ne_zero, List.map_cons, List.map_nil, List.zipWith_cons_cons,
    List.zipWith_nil_right, onPlanar, rotZ2, generic2_iff, true_and, and_true]
  have h := cos_sq_add_sin_sq (1 : ℝ)
  nlinarith [sq_nonneg (cos 1), sq_nonneg (sin 1)]

/-! ## 13. 4D vectors: generic = spatial part generic, forward time-like -/

inductive E4 : Type
  | var (i : Nat)
  | add (a b : E4)
  | scale (k : ℝ) (a : E4)
  | rotateZ (ang : ℝ) (a : E4)
  | rotateX (ang : ℝ) (a : E4)
  | rotateY (ang : ℝ) (a : E4)
  | boostX (β : ℝ) (a : E4)
  | boostY (β : ℝ) (a : E4)
  | boostZ (β : ℝ) (a : E4)
  | boost_p4 (a b : E4)       -- `a.boost_p4(b)`
  | sub (a b : E4)
  | unit (a : E4)
  | conv (az : Az) (lon : Lon) (tmp : Tmp) (a : E4)   -- `to_<system>()` into the named 4D system

/-- the public name of the conversion into the 4D system `(az, lon, tmp)` -/
def convName4 : Az → Lon → Tmp → String
  | .xy, .z, .t => "to_xyzt" | .xy, .z, .tau => "to_xyztau"
  | .xy, .theta, .t => "to_xythetat" | .xy, .theta, .tau => "to_xythetatau"
  | .xy, .eta, .t => "to_xyetat" | .xy, .eta, .tau => "to_xyetatau"
  | .rhophi, .z, .t => "to_rhophizt" | .rhophi, .z, .tau => "to_rhophiztau"
  | .rhophi, .theta, .t => "to_rhophithetat" | .rhophi, .theta, .tau => "to_rhophithetatau"
  | .rhophi, .eta, .t => "to_rhophietat" | .rhophi, .eta, .tau => "to_rhophietatau"

noncomputable def evalM4 (K : Consts ℝ) (A : Arith ℝ) (ρ : Nat → Vec ℝ) : E4 → Except Err (Vec ℝ)
  | .var i => .ok (ρ i)
  | .add a b => bin (evalM4 K A ρ a) (evalM4 K A ρ b) fun va vb => call evR K A "add" va [.v vb]
  | .scale k a => un (evalM4 K A ρ a) fun va => call evR K A "scale" va [.sc k]
  | .rotateZ ang a => un (evalM4 K A ρ a) fun va => call evR K A "rotateZ" va [.sc ang]
  | .rotateX ang a => un (evalM4 K A ρ a) fun va => call evR K A "rotateX" va [.sc ang]
  | .rotateY ang a => un (evalM4 K A ρ a) fun va => call evR K A "rotateY" va [.sc ang]
  | .boostX β a => un (evalM4 K A ρ a) fun va => call evR K A "boostX" va [.kw "beta" β]
  | .boostY β a => un (evalM4 K A ρ a) fun va => call evR K A "boostY" va [.kw "beta" β]
  | .boostZ β a => un (evalM4 K A ρ a) fun va => call evR K A "boostZ" va [.kw "beta" β]
  | .boost_p4 a b => bin (evalM4 K A ρ a) (evalM4 K A ρ b) fun va vb => call evR K A "boost_p4" va [.v vb]
  | .sub a b => bin (evalM4 K A ρ a) (evalM4 K A ρ b) fun va vb => call evR K A "subtract" va [.v vb]
  | .unit a => un (evalM4 K A ρ a) fun va => call evR K A "unit" va []
  | .conv az lon tmp a => un (evalM4 K A ρ a) fun va => call evR K A (convName4 az lon tmp) va []

/-- `boost_p4` on component lists: the Cartesian kernel `bp4` of Props/C09 -/
noncomputable def bp4L : List ℝ → List ℝ → List ℝ
  | [x, y, z, t], [px, py, pz, E] => l4 (bp4 (x, y, z, t) (px, py, pz, E))
  | p, _ => p

/-- the specification: rotations act on the spatial part; the boosts are the Cartesian kernels `bXβ`, `bYβ`, `bZβ`, `bp4`
(the library's formulas on `(x, y, z, t)` components, Props/C09 proves them to be Lorentz transformations) -/
noncomputable def evalS4 (ρS : Nat → List ℝ) : E4 → List ℝ
  | .var i => ρS i
  | .add a b => List.zipWith (· + ·) (evalS4 ρS a) (evalS4 ρS b)
  | .scale k a => (evalS4 ρS a).map (k * ·)
  | .rotateZ ang a => onSpatial (rotZ ang) (evalS4 ρS a)
  | .rotateX ang a => onSpatial (rotX ang) (evalS4 ρS a)
  | .rotateY ang a => onSpatial (rotY ang) (evalS4 ρS a)
  | .boostX β a => on4 (bXβ β) (evalS4 ρS a)
  | .boostY β a => on4 (bYβ β) (evalS4 ρS a)
  | .boostZ β a => on4 (bZβ β) (evalS4 ρS a)
  | .boost_p4 a b => bp4L (evalS4 ρS a) (evalS4 ρS b)
  | .sub a b => List.zipWith (· - ·) (evalS4 ρS a) (evalS4 ρS b)
  | .unit a => (evalS4 ρS a).map (fun x => 1 / normL (evalS4 ρS a) * x)
  | .conv _ _ _ a => evalS4 ρS a

/-- every subexpression's specified value is generic; boost parameters are subluminal -/
def GenericAll4 (ρS : Nat → List ℝ) : E4 → Prop
  | .var i => Generic4 (ρS i)
  | .add a b => (GenericAll4 ρS a ∧ GenericAll4 ρS b) ∧ Generic4 (evalS4 ρS (.add a b))
  | .scale k a => GenericAll4 ρS a ∧ Generic4 (evalS4 ρS (.scale k a))
  | .rotateZ ang a => GenericAll4 ρS a ∧ Generic4 (evalS4 ρS (.rotateZ ang a))
  | .rotateX ang a => GenericAll4 ρS a ∧ Generic4 (evalS4 ρS (.rotateX ang a))
  | .rotateY ang a => GenericAll4 ρS a ∧ Generic4 (evalS4 ρS (.rotateY ang a))
  | .boostX β a => (GenericAll4 ρS a ∧ |β| < 1) ∧ Generic4 (evalS4 ρS (.boostX β a))
  | .boostY β a => (GenericAll4 ρS a ∧ |β| < 1) ∧ Generic4 (evalS4 ρS (.boostY β a))
  | .boostZ β a => (GenericAll4 ρS a ∧ |β| < 1) ∧ Generic4 (evalS4 ρS (.boostZ β a))
  | .boost_p4 a b => (GenericAll4 ρS a ∧ GenericAll4 ρS b) ∧ Generic4 (evalS4 ρS (.boost_p4 a b))
  | .sub a b => (GenericAll4 ρS a ∧ GenericAll4 ρS b) ∧ Generic4 (evalS4 ρS (.sub a b))
  | .unit a => GenericAll4 ρS a ∧ Generic4 (evalS4 ρS (.unit a))
  | .conv az lon tmp a => GenericAll4 ρS a ∧ Generic4 (evalS4 ρS (.conv az lon tmp a))

theorem genericAll4_self {ρS : Nat → List ℝ} {e : E4} (h : GenericAll4 ρS e) : Generic4 (evalS4 ρS e) := by
  cases e <;> first | exact h | exact h.2

/-- a good 4D vector (the hypothesis on the variables of a 4D expression) -/
structure Good4 (v : Vec ℝ) : Prop where
  wf : C01M.WFV v
  dim : v.ty.dim = 4
  rng : StoredInRange v
  sin : SinOKAll v

theorem good_of4 {v : Vec ℝ} (h : Good4 v) : Good v := ⟨h.wf, h.rng, h.sin⟩

theorem good_to4 {v : Vec ℝ} {p : List ℝ} (h : Good v) (hd : denote v = some p) (hl : p.length = 4) : Good4 v :=
  ⟨h.1, by rw [dim_of_denote h hd, hl], h.2.1, h.2.2⟩

theorem good4_mk (be : Backend) (mom : Bool) (az : Az) (l : Lon) (tm : Tmp) (a b c d : ℝ) (hA : AzOK az a b)
    (hL : LonOK l c) (hT : InTmp tm d) (hS : SinOK l c) : Good4 (C11M.V4 be mom az l tm a b c d) :=
  ⟨⟨by simp, rfl⟩, rfl, ⟨hA, hL, hT⟩, hS⟩

theorem good4_result {be mom az l tm} {a b c d : ℝ} {p : List ℝ} (hA : AzOK az a b) (hL : LonOK l c) (hT : InTmp tm d)
    (hd : denote (C11M.V4 be mom az l tm a b c d) = some p) (hg : Generic4 p) :
    Good (C11M.V4 be mom az l tm a b c d) :=
  (rep_of_rng (r := C11M.V4 be mom az l tm a b c d) ⟨by simp, rfl⟩ ⟨hA, hL, hT⟩ hd (.of4 hg)).1

theorem boostOK_of (ha : Rep va pa) (ga : Generic4 pa) : va.ty.dim = 4 ∧ BoostOK va := by
  obtain ⟨be, mom, az, l, tm, a, b, c, d, rfl, rfl, h⟩ := good4_core ha.1 ha.2 ga
  exact ⟨rfl, h.tan, h.sin, h.ctmp⟩

/-- the axis boosts (`boostX/Y/Z`, by `beta=` or `gamma=`): `hsingle` is the single-call theorem -/
theorem axis_sound {C : Vec ℝ → Except Err (Res ℝ Prop)} {f : ℝ × ℝ × ℝ × ℝ → ℝ × ℝ × ℝ × ℝ}
    (hsingle : ∀ v, C01M.WFV v → v.ty.dim = 4 → BoostOK v → ∃ w, C v = .ok (.vec w) ∧ C01M.WFV w ∧
      denote w = (denote v).map (on4 f) ∧ (StoredInRange v → StoredInRange w))
    (ha : Rep va pa) (ga : Generic4 pa) (gr : Generic4 (on4 f pa)) : Yields (C va) (on4 f pa) := by
  obtain ⟨w, hcall, hwf, hden, hrng⟩ := hsingle va ha.wf (boostOK_of ha ga).1 (boostOK_of ha ga).2
  rw [ha.2] at hden
  exact ⟨w, hcall, rep_of_rng hwf (hrng ha.rng) hden (.of4 gr)⟩

/-- the node of an axis boost by `beta=`, the axis a parameter -/
theorem boostA4_case (ax : Spec10.Axis) (β : ℝ) (hβ : |β| < 1) (ha : Good va)
    (da : denote va = some pa) (ga : Generic4 pa) (gr : Generic4 (on4 (bAβ ax β) pa)) :
    ∃ r, call evR K A (boostName ax) va [.kw "beta" β] = .ok (.vec r) ∧ Good r ∧ denote r = some (on4 (bAβ ax β) pa) :=
  axis_sound (C := fun v => call evR K A (boostName ax) v [.kw "beta" β])
    (fun v hv hd hB => (c09m_boostA_beta_rng K A ax v hv hd hB β fun _ => hβ).imp fun _ h => ⟨h.1, h.2.2.2⟩) ⟨ha, da⟩ ga gr

/-- … and by `gamma=` -/
theorem boostAg4_case (ax : Spec10.Axis) (γ : ℝ) (hγ : 1 ≤ |γ|) (ha : Good va)
    (da : denote va = some pa) (ga : Generic4 pa) (gr : Generic4 (on4 (bAγ ax γ) pa)) :
    ∃ r, call evR K A (boostName ax) va [.kw "gamma" γ] = .ok (.vec r) ∧ Good r ∧ denote r = some (on4 (bAγ ax γ) pa) :=
  axis_sound (C := fun v => call evR K A (boostName ax) v [.kw "gamma" γ])
    (fun v hv hd hB => (c09m_boostA_gamma_rng K A ax v hv hd hB γ fun _ => hγ).imp fun _ h => ⟨h.1, h.2.2⟩) ⟨ha, da⟩ ga gr

theorem boostX4_case (β : ℝ) (hβ : |β| < 1) (ha : Good va)
    (da : denote va = some pa) (ga : Generic4 pa) (gr : Generic4 (on4 (bXβ β) pa)) :
    ∃ r, call evR K A "boostX" va [.kw "beta" β] = .ok (.vec r) ∧ Good r ∧ denote r = some (on4 (bXβ β) pa) :=
  boostA4_case K A .x β hβ ha da ga gr

theorem boostY4_case (β : ℝ) (hβ : |β| < 1) (ha : Good va)
    (da : denote va = some pa) (ga : Generic4 pa) (gr : Generic4 (on4 (bYβ β) pa)) :
    ∃ r, call evR K A "boostY" va [.kw "beta" β] = .ok (.vec r) ∧ Good r ∧ denote r = some (on4 (bYβ β) pa) :=
  boostA4_case K A .y β hβ ha da ga gr

theorem boostZ4_case (β : ℝ) (hβ : |β| < 1) (ha : Good va)
    (da : denote va = some pa) (ga : Generic4 pa) (gr : Generic4 (on4 (bZβ β) pa)) :
    ∃ r, call evR K A "boostZ" va [.kw "beta" β] = .ok (.vec r) ∧ Good r ∧ denote r = some (on4 (bZβ β) pa) :=
  boostA4_case K A .z β hβ ha da ga gr

theorem boost_p4_case (ha : Good va) (hb : Good vb)
    (da : denote va = some pa) (db : denote vb = some pb) (ga : Generic4 pa) (gb : Generic4 pb)
    (gr : Generic (bp4L pa pb)) :
    ∃ r, call evR K A "boost_p4" va [.v vb] = .ok (.vec r) ∧ Good r ∧ denote r = some (bp4L pa pb) := by
  obtain ⟨be1, mom1, az1, l1, t1, a0, a1, a2, a3, rfl, rfl, h1⟩ := good4_core ha da ga
  obtain ⟨be2, mom2, az2, l2, t2, b0, b1, b2, b3, rfl, rfl, h2⟩ := good4_core hb db gb
  obtain ⟨w, hcall, -, hwf, hden⟩ := c09m_boost_p4 K A _ _ ha.1 rfl hb.1 rfl ⟨h1.tan, h1.ctmp⟩
    ⟨h2.tan, h2.sin, h2.ctmp⟩ _ _ _ _ _ _ _ _ da db (fun _ => ⟨h2.lt, h2.pos⟩)
  exact ⟨w, hcall, (rep_of_rng hwf (c09m_boost_p4_rng K A ha.1 rfl hb.1 rfl hcall ha.2.1) hden (.inr gr)).1, hden⟩

theorem convName4_target (az : Az) (l : Lon) (tm : Tmp) :
    C04.toTarget (convName4 az l tm) = some (az, some l, some tm) := by
  cases az <;> cases l <;> cases tm <;> decide

/-- the converted temporal coordinate is in range: `τ = sign(s)√|s| ≥ 0` for a causal vector -/
theorem convTmp_range {az0 : Az} {l0 : Lon} {t0 tm : Tmp} {a b c d : ℝ} (hCL : CanonLon az0 l0 a b c)
    (hC : CanonTmp t0 d) (hs : mag2Of az0 l0 a b c ≤ tOf az0 l0 t0 a b c d ^ 2) :
    InTmp tm (C04M.convTmp az0 l0 t0 tm a b c d) := by
  cases tm
  · trivial
  · show 0 ≤ lorentz_tau.eval az0 l0 t0 a b c d
    rw [refine_lorentz_tau az0 l0 t0 a b c d hCL hC]
    exact C04M.sign_mul_sqrt_abs_nonneg (by linarith)

theorem conv4_case (az : Az) (l : Lon) (tm : Tmp) 
    (ha : Good va) (da : denote va = some pa) (ga : Generic4 pa) :
    ∃ r, call evR K A (convName4 az l tm) va [] = .ok (.vec r) ∧ Good r ∧ denote r = some pa := by
  obtain ⟨be, mom, az0, l0, t0, a, b, c, d, rfl, rfl, h⟩ := good4_core ha da ga
  have hF := C04M.lonOK_of_RT (l := l) h.rho h.canon.2 h.tan
  have hF' : C04M.TmpOK az0 l0 t0 tm a b c d := by
    cases t0 <;> cases tm
    · trivial
    · exact ⟨h.canon.2, h.pos.le, h.lt.le⟩
    · exact ⟨h.canon.2, h.tmp⟩
    · trivial
  have he := call_of_target K A _ az (some l) (some tm) (convName4_target az l tm) (C11M.V4 be mom az0 l0 t0 a b c d)
  rw [C04M.toSystem_eval4] at he
  have hden : denote (C11M.V4 be mom az l tm (C04M.conv2 az0 az a b).1 (C04M.conv2 az0 az a b).2
      (C04M.convLon az0 l0 l a b c) (C04M.convTmp az0 l0 t0 tm a b c d)) =
      some [xOf az0 a b, yOf az0 a b, zOf az0 l0 a b c, tOf az0 l0 t0 a b c d] := by
    simp only [denote, C04M.conv2_x, C04M.conv2_y, C04M.convLon_z _ _ _ _ _ _ _ hF,
      C04M.convTmp_t _ _ _ _ _ _ _ _ _ _ hF hF']
  exact ⟨_, he, good4_result (conv_range_az h.azOK) (conv_range_lon h.rho h.canon.2) (convTmp_range h.canon.2 h.ctmp h.lt.le)
    hden ga, hden⟩

theorem c01e_eval4 (ρ : Nat → Vec ℝ) (ρS : Nat → List ℝ)
    (hρ : ∀ i, Good4 (ρ i)) (hS : ∀ i, denote (ρ i) = some (ρS i)) (e : E4) (hg : GenericAll4 ρS e) :
    ∃ v, evalM4 K A ρ e = .ok v ∧ Good v ∧ denote v = some (evalS4 ρS e) := by
  induction e with
  | var i => exact ⟨ρ i, rfl, good_of4 (hρ i), hS i⟩
  | add a b iha ihb =>
    obtain ⟨⟨ga, gb⟩, gr⟩ := hg
    exact bin_step (iha ga) (ihb gb) fun va vb ha hb =>
      add4_case K A ha.1 hb.1 ha.2 hb.2 (genericAll4_self ga) (genericAll4_self gb) gr
  | scale k a iha =>
    obtain ⟨ga, gr⟩ := hg
    exact un_step (iha ga) fun va ha => scale4_case K A k ha.1 ha.2 (genericAll4_self ga) gr
  | rotateZ ang a iha =>
    obtain ⟨ga, gr⟩ := hg
    refine un_step (iha ga) fun va ha => ?_
    rw [evalS4, onSpatial_rotZ ang (Nat.le_of_succ_le (generic4_length (genericAll4_self ga)).ge)]
    exact rotateZ_case K A ang ha.1 ha.2
  | rotateX ang a iha =>
    obtain ⟨ga, gr⟩ := hg
    have g := genericAll4_self ga
    exact un_step (iha ga) fun va ha => spat_sound (fun v => call evR K A "rotateX" v [.sc ang]) (rotX ang)
      (fun v hv hd hT => c01m_rotateX K A v hv hd hT ang) ha (.of4 g) (by rw [generic4_length g]; decide)
      (.of4 gr)
  | rotateY ang a iha =>
    obtain ⟨ga, gr⟩ := hg
    have g := genericAll4_self ga
    exact un_step (iha ga) fun va ha => spat_sound (fun v => call evR K A "rotateY" v [.sc ang]) (rotY ang)
      (fun v hv hd hT => c01m_rotateY K A v hv hd hT ang) ha (.of4 g) (by rw [generic4_length g]; decide)
      (.of4 gr)
  | boostX β a iha =>
    obtain ⟨⟨ga, hβ⟩, gr⟩ := hg
    exact un_step (iha ga) fun va ha => boostX4_case K A β hβ ha.1 ha.2 (genericAll4_self ga) gr
  | boostY β a iha =>
    obtain ⟨⟨ga, hβ⟩, gr⟩ := hg
    exact un_step (iha ga) fun va ha => boostY4_case K A β hβ ha.1 ha.2 (genericAll4_self ga) gr
  | boostZ β a iha =>
    obtain ⟨⟨ga, hβ⟩, gr⟩ := hg
    exact un_step (iha ga) fun va ha => boostZ4_case K A β hβ ha.1 ha.2 (genericAll4_self ga) gr
  | boost_p4 a b iha ihb =>
    obtain ⟨⟨ga, gb⟩, gr⟩ := hg
    exact bin_step (iha ga) (ihb gb) fun va vb ha hb =>
      boost_p4_case K A ha.1 hb.1 ha.2 hb.2 (genericAll4_self ga) (genericAll4_self gb) (.inr (.inr gr))
  | sub a b iha ihb =>
    obtain ⟨⟨ga, gb⟩, gr⟩ := hg
    exact bin_step (iha ga) (ihb gb) fun va vb ha hb =>
      sub4_case K A ha.1 hb.1 ha.2 hb.2 (genericAll4_self ga) (genericAll4_self gb) gr
  | unit a iha =>
    obtain ⟨ga, gr⟩ := hg
    exact un_step (iha ga) fun va ha => unit4_case K A ha.1 ha.2 (genericAll4_self ga) gr
  | conv az l tm a iha =>
    obtain ⟨ga, gr⟩ := hg
    exact un_step (iha ga) fun va ha => conv4_case K A az l tm ha.1 ha.2 gr

/-- **C01 for 4D computations** (any of the 12 storages per variable, any flavors/backends) -/
theorem c01e_indep4 (K : Consts ℝ) (A : Arith ℝ) (ρ₁ ρ₂ : Nat → Vec ℝ)
    (h₁ : ∀ i, Good4 (ρ₁ i)) (h₂ : ∀ i, Good4 (ρ₂ i)) (hd : ∀ i, denote (ρ₁ i) = denote (ρ₂ i)) (e : E4)
    (hg : GenericAll4 (specEnv ρ₁) e) :
    ∃ v₁ v₂, evalM4 K A ρ₁ e = .ok v₁ ∧ evalM4 K A ρ₂ e = .ok v₂ ∧ denote v₁ = denote v₂ ∧
      denote v₁ = some (evalS4 (specEnv ρ₁) e) :=
  have hs := denote_specEnv fun i => good_of4 (h₁ i)
  indep_of_runs (c01e_eval4 K A ρ₁ _ h₁ hs e hg) (c01e_eval4 K A ρ₂ _ h₂ (fun i => (hd i).symm.trans (hs i)) e hg)

/-! ### non-vacuity, 4D: `boostX(3/5, 2·rotateZ(π, v₀) + v₁ + v₂)` over (x,y,z,t), (ρ,φ,η,τ) and (x,y,θ,t) variables -/

/-- `v₀ = (x, y, z, t) = (1, 1, 1, 3)`; `v₁ = (ρ, φ, η, τ) = (2, 0, arsinh ½, 2)`, the point `(2, 0, 1, 3)`;
`v₂ = (x, y, θ, t) = (1, 0, π/4, 5)`, the point `(1, 0, 1, 5)` -/
noncomputable def exEnv4 : Nat → Vec ℝ
  | 0 => C11M.V4 .obj false .xy .z .t 1 1 1 3
  | 1 => C11M.V4 .obj true .rhophi .eta .tau 2 0 (arsinh (1 / 2)) 2
  | _ => C11M.V4 .np true .xy .theta .t 1 0 (π / 4) 5

def exSpec4 : Nat → List ℝ
  | 0 => [1, 1, 1, 3]
  | 1 => [2, 0, 1, 3]
  | _ => [1, 0, 1, 5]

noncomputable def exE4 : E4 :=
  .boostX (3 / 5) (.add (.add (.scale 2 (.rotateZ π (.var 0))) (.var 1)) (.var 2))

theorem exEnv4_good : ∀ i, Good4 (exEnv4 i) := by
  intro i
  have hpi := pi_pos
  match i with
  | 0 => exact good4_mk _ _ _ _ _ _ _ _ _ trivial trivial trivial trivial
  | 1 =>
    exact good4_mk _ _ _ _ _ _ _ _ _ ⟨by norm_num, by linarith, by linarith⟩ trivial (show (0 : ℝ) ≤ 2 by norm_num) trivial
  | (n + 2) => exact good4_mk _ _ _ _ _ _ _ _ _ trivial theta_quarter_ok.1 trivial theta_quarter_ok.2

theorem denote_eta_tau (be : Backend) (mom : Bool) :
    denote (C11M.V4 be mom .rhophi .eta .tau 2 0 (arsinh (1 / 2)) 2) = some [2, 0, 1, 3] := by
  have h9 : sqrt ((2 : ℝ) ^ 2 + ((2 * 1) ^ 2 + (2 * 0) ^ 2 + (2 * (1 / 2)) ^ 2)) = 3 := by
    rw [show (2 : ℝ) ^ 2 + ((2 * 1) ^ 2 + (2 * 0) ^ 2 + (2 * (1 / 2)) ^ 2) = 3 ^ 2 by norm_num]
    exact sqrt_sq (by norm_num)
  simp only [denote, xOf, yOf, zOf, tOf, mag2Of, rhoOf, cos_zero, sin_zero, sinh_arsinh, h9]
  norm_num

theorem exEnv4_denote : ∀ i, denote (exEnv4 i) = some (exSpec4 i) := by
  intro i
  match i with
  | 0 => rfl
  | 1 => exact denote_eta_tau _ _
  | (n + 2) =>
    have h := denote_theta_quarter .np true
    simp only [denote, Option.some.injEq, List.cons.injEq, and_true] at h
    simp only [exEnv4, exSpec4, denote, tOf, h.1, h.2.1, h.2.2]

theorem gam35 : P.rpow (1 - (3 / 5 : ℝ) ^ 2) (-(0.5 : ℝ)) = 5 / 4 := by
  have h : (1 - (3 / 5 : ℝ) ^ 2) = (4 / 5 : ℝ) ^ (2 : ℝ) := by rw [Real.rpow_two]; norm_num
  show (1 - (3 / 5 : ℝ) ^ 2) ^ (-(0.5 : ℝ)) = 5 / 4
  rw [h, ← Real.rpow_mul (by norm_num)]
  norm_num [Real.rpow_neg_one]

/-- **`GenericAll4` is satisfiable** (depth 6; the boost is a genuine one, `γ = 5/4`) -/
theorem exE4_generic : GenericAll4 exSpec4 exE4 := by
  simp only [exE4, GenericAll4, evalS4, exSpec4, List.map_cons, List.map_nil, List.zipWith_cons_cons,
    List.zipWith_nil_right, onSpatial, rotZ, cos_pi, sin_pi, on4, l4, bXβ, lorentz_boostX_beta.eval,
    lorentz_boostX_beta.xy_z_t, gam35, generic4_iff]
  norm_num [abs_lt]

example (K : Consts ℝ) (A : Arith ℝ) :
    ∃ v, evalM4 K A exEnv4 exE4 = .ok v ∧ Good4 v ∧ denote v = some (evalS4 exSpec4 exE4) := by
  obtain ⟨v, e, h, d⟩ := c01e_eval4 K A exEnv4 exSpec4 exEnv4_good exEnv4_denote exE4 exE4_generic
  exact ⟨v, e, good_to4 h d (generic4_length (genericAll4_self exE4_generic)), d⟩

/-! ### scalar expressions over 4D vectors -/

/-- properties of one 4D vector: the planar / spatial ones of its spatial part, and the temporal ones -/
inductive UnS4
  | sp (f : UnS)
  | t | t2 | tau | tau2 | beta | gamma | rapidity

def UnS4.name : UnS4 → String
  | .sp f => f.name
  | .t => "t" | .t2 => "t2" | .tau => "tau" | .tau2 => "tau2" | .beta => "beta" | .gamma => "gamma"
  | .rapidity => "rapidity"

inductive S4 : Type
  | un (f : UnS4) (a : E4)
  | bi (f : BinS) (a b : E4)

noncomputable def evalMS4 (K : Consts ℝ) (A : Arith ℝ) (ρ : Nat → Vec ℝ) : S4 → Except Err (Res ℝ Prop)
  | .un f a => unS (evalM4 K A ρ a) fun va => call evR K A f.name va []
  | .bi f a b => binS (evalM4 K A ρ a) (evalM4 K A ρ b) fun va vb => call evR K A f.name va [.v vb]

/-- specification on `(x, y, z, t)`; for the (forward time-like) generic vectors `τ = √(t² − |p|²)` -/
noncomputable def uspec4 : UnS4 → ℝ → ℝ → ℝ → ℝ → ℝ
  | .sp f, x, y, z, _ => uspec f x y z
  | .t, _, _, _, t => t
  | .t2, _, _, _, t => t ^ 2
  | .tau, x, y, z, t => sqrt (t ^ 2 - (x ^ 2 + y ^ 2 + z ^ 2))
  | .tau2, x, y, z, t => t ^ 2 - (x ^ 2 + y ^ 2 + z ^ 2)
  | .beta, x, y, z, t => sqrt (x ^ 2 + y ^ 2 + z ^ 2) / t
  | .gamma, x, y, z, t => t / sqrt (t ^ 2 - (x ^ 2 + y ^ 2 + z ^ 2))
  | .rapidity, _, _, z, t => 1 / 2 * Real.log ((t + z) / (t - z))

/-- `dot` is the Minkowski product; the angular methods act on the spatial parts -/
noncomputable def bspec4 : BinS → ℝ → ℝ → ℝ → ℝ → ℝ → ℝ → ℝ → ℝ → ℝ
  | .dot, x₁, y₁, z₁, t₁, x₂, y₂, z₂, t₂ => t₁ * t₂ - x₁ * x₂ - y₁ * y₂ - z₁ * z₂
  | .deltaphi, x₁, y₁, z₁, _, x₂, y₂, z₂, _ => bspec .deltaphi x₁ y₁ z₁ x₂ y₂ z₂
  | .deltaeta, x₁, y₁, z₁, _, x₂, y₂, z₂, _ => bspec .deltaeta x₁ y₁ z₁ x₂ y₂ z₂
  | .deltaR2, x₁, y₁, z₁, _, x₂, y₂, z₂, _ => bspec .deltaR2 x₁ y₁ z₁ x₂ y₂ z₂
  | .deltaR, x₁, y₁, z₁, _, x₂, y₂, z₂, _ => bspec .deltaR x₁ y₁ z₁ x₂ y₂ z₂
  | .deltaangle, x₁, y₁, z₁, _, x₂, y₂, z₂, _ => bspec .deltaangle x₁ y₁ z₁ x₂ y₂ z₂

noncomputable def on4s (f : ℝ → ℝ → ℝ → ℝ → ℝ) : List ℝ → ℝ
  | [x, y, z, t] => f x y z t
  | _ => 0

noncomputable def on44 (f : ℝ → ℝ → ℝ → ℝ → ℝ → ℝ → ℝ → ℝ → ℝ) : List ℝ → List ℝ → ℝ
  | [x₁, y₁, z₁, t₁], [x₂, y₂, z₂, t₂] => f x₁ y₁ z₁ t₁ x₂ y₂ z₂ t₂
  | _, _ => 0

noncomputable def evalSS4 (ρS : Nat → List ℝ) : S4 → ℝ
  | .un f a => on4s (uspec4 f) (evalS4 ρS a)
  | .bi f a b => on44 (bspec4 f) (evalS4 ρS a) (evalS4 ρS b)

def PhiOK4 : List ℝ → Prop
  | [x, y, _, _] => ¬ (y = 0 ∧ x < 0)
  | _ => True

def GenericS4 (ρS : Nat → List ℝ) : S4 → Prop
  | .un f a => GenericAll4 ρS a ∧ (f = .sp .phi → PhiOK4 (evalS4 ρS a))
  | .bi _ a b => GenericAll4 ρS a ∧ GenericAll4 ρS b

/-- a forward time-like vector has `|z| < t` (the domain of the rapidity) -/
theorem abs_z_lt {x y z t : ℝ} (h : x ^ 2 + y ^ 2 + z ^ 2 < t ^ 2) (ht : 0 < t) : |z| < t :=
  abs_lt_of_sq_lt_sq (by linarith [sq_nonneg x, sq_nonneg y]) ht.le

theorem un4_case (f : UnS4) (ha : Good va)
    (da : denote va = some pa) (ga : Generic4 pa) (hphi : f = .sp .phi → PhiOK4 pa) :
    call evR K A f.name va [] = .ok (.scalar (on4s (uspec4 f) pa)) := by
  obtain ⟨be, mom, az, l, tm, a, b, c, d, rfl, rfl, h⟩ := good4_core ha da ga
  have hs := sub_pos.mpr h.lt
  cases f with
  | sp f =>
    exact sp_case K A f ha.1 da ⟨h.rho, h.canon, h.tan, h.sin, h.mag⟩ fun e =>
      canonPhi_of h.azOK h.rho (hphi (congrArg UnS4.sp e))
  | t => exact c09m_acc_t K A _ ha.1 ⟨h.sin, h.ctmp⟩ _ _ _ _ da
  | t2 => exact c09m_acc_t2 K A _ ha.1 ⟨h.canon.2, h.ctmp⟩ _ _ _ _ da
  | tau => exact c09m_acc_tau_timelike K A _ ha.1 ⟨h.canon.2, h.ctmp⟩ _ _ _ _ da hs
  | tau2 => exact c09m_acc_tau2 K A _ ha.1 ⟨h.canon.2, h.ctmp⟩ _ _ _ _ da
  | beta => exact c09m_acc_beta K A _ ha.1 ⟨h.canon, h.ctmp⟩ _ _ _ _ da h.pos.ne'
  | gamma => exact c09m_acc_gamma K A _ ha.1 ⟨h.canon.2, h.ctmp⟩ _ _ _ _ da hs
  | rapidity => exact c09m_acc_rapidity K A _ ha.1 ⟨h.canon.2, h.tan, h.ctmp⟩ _ _ _ _ da (abs_z_lt h.lt h.pos)

theorem bi4_case (f : BinS) (ha : Good va)
    (hb : Good vb) (da : denote va = some pa) (db : denote vb = some pb) (ga : Generic4 pa) (gb : Generic4 pb) :
    call evR K A f.name va [.v vb] = .ok (.scalar (on44 (bspec4 f) pa pb)) := by
  obtain ⟨be1, mom1, az1, l1, t1, a0, a1, a2, a3, rfl, rfl, h1⟩ := good4_core ha da ga
  obtain ⟨be2, mom2, az2, l2, t2, b0, b1, b2, b3, rfl, rfl, h2⟩ := good4_core hb db gb
  cases f
  · obtain ⟨p, q, hp, hq, hcall⟩ := c11m_dot K A _ _ ha.1 hb.1 rfl h1.tan h2.tan (fun _ => h1.sin) (fun _ => h2.sin)
      h1.ctmp h2.ctmp
    cases da.symm.trans hp
    cases db.symm.trans hq
    exact hcall
  all_goals
    exact ang_case K A _ (by nofun) ha.1 hb.1 da db ⟨h1.rho, h1.canon, h1.tan, h1.sin⟩ ⟨h2.rho, h2.canon, h2.tan, h2.sin⟩

/-- **scalar expressions over 4D vectors**: the model returns the specified scalar -/
theorem c01e_evalS4 (ρ : Nat → Vec ℝ) (ρS : Nat → List ℝ)
    (hρ : ∀ i, Good4 (ρ i)) (hS : ∀ i, denote (ρ i) = some (ρS i)) (s : S4) (hg : GenericS4 ρS s) :
    evalMS4 K A ρ s = .ok (.scalar (evalSS4 ρS s)) := by
  cases s with
  | un f a =>
    exact unS_step (c01e_eval4 K A ρ ρS hρ hS a hg.1) fun va ha da =>
      un4_case K A f ha da (genericAll4_self hg.1) hg.2
  | bi f a b =>
    exact binS_step (c01e_eval4 K A ρ ρS hρ hS a hg.1) (c01e_eval4 K A ρ ρS hρ hS b hg.2)
      fun va vb ha hb da db => bi4_case K A f ha hb da db (genericAll4_self hg.1) (genericAll4_self hg.2)

/-- **C01 for scalar expressions over 4D vectors** -/
theorem c01e_indepS4 (K : Consts ℝ) (A : Arith ℝ) (ρ₁ ρ₂ : Nat → Vec ℝ)
    (h₁ : ∀ i, Good4 (ρ₁ i)) (h₂ : ∀ i, Good4 (ρ₂ i)) (hd : ∀ i, denote (ρ₁ i) = denote (ρ₂ i)) (s : S4)
    (hg : GenericS4 (specEnv ρ₁) s) :
    evalMS4 K A ρ₁ s = evalMS4 K A ρ₂ s ∧ evalMS4 K A ρ₁ s = .ok (.scalar (evalSS4 (specEnv ρ₁) s)) := by
  have hs := denote_specEnv fun i => good_of4 (h₁ i)
  have e₁ := c01e_evalS4 K A ρ₁ _ h₁ hs s hg
  exact ⟨e₁.trans (c01e_evalS4 K A ρ₂ _ h₂ (fun i => (hd i).symm.trans (hs i)) s hg).symm, e₁⟩

/-! ## 14. ONE language for all dimensions, with the dimension-changing nodes

`to_Vector2D`, `to_Vector3D` (projection), `to_Vector3D(z= / theta= / eta=)`, `to_Vector4D(t= / tau=)` (embeddings) and
`boost_beta3` (4D by a 3D velocity) join the three languages above.  The model and the specification are both
dimension-agnostic; well-dimensionedness of an expression is part of `GenericAllU` (a condition on the LENGTHS of the
specified values).  This section has the languages `E`, `SU` and the lemmas of their nodes only: `E` is a sub-language of
`C01F.F`, and its theorems `c01e_eval`, `c01e_indep`, `c01e_evalSU`, `c01e_indepSU` are derived at the end of
`Props/MethodExpr2.lean`. -/

inductive E : Type
  | var (i : Nat)
  | add (a b : E)
  | sub (a b : E)
  | scale (k : ℝ) (a : E)
  | unit (a : E)
  | rotateZ (ang : ℝ) (a : E)
  | rotateX (ang : ℝ) (a : E)
  | rotateY (ang : ℝ) (a : E)
  | cross (a b : E)
  | boostX (β : ℝ) (a : E)
  | boostY (β : ℝ) (a : E)
  | boostZ (β : ℝ) (a : E)
  | boost_p4 (a b : E)
  | boost_beta3 (a b : E)
  | conv2 (az : Az) (a : E)
  | conv3 (az : Az) (lon : Lon) (a : E)
  | conv4 (az : Az) (lon : Lon) (tmp : Tmp) (a : E)
  | to2D (a : E)                          -- `to_Vector2D()`
  | to3D (a : E)                          -- `to_Vector3D()` of a 3D / 4D vector
  | to3D_kw (l : Lon) (s : ℝ) (a : E)     -- `to_Vector3D(z=s)` / `(theta=s)` / `(eta=s)` of a 2D vector
  | to4D_kw (tm : Tmp) (s : ℝ) (a : E)    -- `to_Vector4D(t=s)` / `(tau=s)` of a 3D vector

def lonKw : Lon → String | .z => "z" | .theta => "theta" | .eta => "eta"
def tmpKw : Tmp → String | .t => "t" | .tau => "tau"

noncomputable def evalMU (K : Consts ℝ) (A : Arith ℝ) (ρ : Nat → Vec ℝ) : E → Except Err (Vec ℝ)
  | .var i => .ok (ρ i)
  | .add a b => bin (evalMU K A ρ a) (evalMU K A ρ b) fun va vb => call evR K A "add" va [.v vb]
  | .sub a b => bin (evalMU K A ρ a) (evalMU K A ρ b) fun va vb => call evR K A "subtract" va [.v vb]
  | .scale k a => un (evalMU K A ρ a) fun va => call evR K A "scale" va [.sc k]
  | .unit a => un (evalMU K A ρ a) fun va => call evR K A "unit" va []
  | .rotateZ ang a => un (evalMU K A ρ a) fun va => call evR K A "rotateZ" va [.sc ang]
  | .rotateX ang a => un (evalMU K A ρ a) fun va => call evR K A "rotateX" va [.sc ang]
  | .rotateY ang a => un (evalMU K A ρ a) fun va => call evR K A "rotateY" va [.sc ang]
  | .cross a b => bin (evalMU K A ρ a) (evalMU K A ρ b) fun va vb => call evR K A "cross" va [.v vb]
  | .boostX β a => un (evalMU K A ρ a) fun va => call evR K A "boostX" va [.kw "beta" β]
  | .boostY β a => un (evalMU K A ρ a) fun va => call evR K A "boostY" va [.kw "beta" β]
  | .boostZ β a => un (evalMU K A ρ a) fun va => call evR K A "boostZ" va [.kw "beta" β]
  | .boost_p4 a b => bin (evalMU K A ρ a) (evalMU K A ρ b) fun va vb => call evR K A "boost_p4" va [.v vb]
  | .boost_beta3 a b => bin (evalMU K A ρ a) (evalMU K A ρ b) fun va vb => call evR K A "boost_beta3" va [.v vb]
  | .conv2 az a => un (evalMU K A ρ a) fun va => call evR K A (convName2 az) va []
  | .conv3 az l a => un (evalMU K A ρ a) fun va => call evR K A (convName az l) va []
  | .conv4 az l tm a => un (evalMU K A ρ a) fun va => call evR K A (convName4 az l tm) va []
  | .to2D a => un (evalMU K A ρ a) fun va => call evR K A "to_Vector2D" va []
  | .to3D a => un (evalMU K A ρ a) fun va => call evR K A "to_Vector3D" va []
  | .to3D_kw l s a => un (evalMU K A ρ a) fun va => call evR K A "to_Vector3D" va [.kw (lonKw l) s]
  | .to4D_kw tm s a => un (evalMU K A ρ a) fun va => call evR K A "to_Vector4D" va [.kw (tmpKw tm) s]

/-- `boost_beta3` on component lists: the Cartesian kernel `bβ3` of Props/C09 -/
noncomputable def bβ3L : List ℝ → List ℝ → List ℝ
  | [x, y, z, t], [bx, by', bz] => l4 (bβ3 (x, y, z, t) (bx, by', bz))
  | p, _ => p

/-- the `z` a longitudinal keyword value denotes, given the transverse length -/
noncomputable def zKw : Lon → ℝ → ℝ → ℝ
  | .z, _, s => s
  | .theta, r, s => r * (cos s / sin s)
  | .eta, r, s => r * sinh s

/-- the `t` a temporal keyword value denotes, given `|p|²` -/
noncomputable def tKw : Tmp → ℝ → ℝ → ℝ
  | .t, _, s => s
  | .tau, m, s => sqrt (s ^ 2 + m)

noncomputable def embL (l : Lon) (s : ℝ) : List ℝ → List ℝ
  | [x, y] => [x, y, zKw l (sqrt (x ^ 2 + y ^ 2)) s]
  | p => p

noncomputable def embT (tm : Tmp) (s : ℝ) : List ℝ → List ℝ
  | [x, y, z] => [x, y, z, tKw tm (x ^ 2 + y ^ 2 + z ^ 2) s]
  | p => p

noncomputable def evalSU (ρS : Nat → List ℝ) : E → List ℝ
  | .var i => ρS i
  | .add a b => List.zipWith (· + ·) (evalSU ρS a) (evalSU ρS b)
  | .sub a b => List.zipWith (· - ·) (evalSU ρS a) (evalSU ρS b)
  | .scale k a => (evalSU ρS a).map (k * ·)
  | .unit a => (evalSU ρS a).map (fun x => 1 / normL (evalSU ρS a) * x)
  | .rotateZ ang a => onPlanar (rotZ2 ang) (evalSU ρS a)
  | .rotateX ang a => onSpatial (rotX ang) (evalSU ρS a)
  | .rotateY ang a => onSpatial (rotY ang) (evalSU ρS a)
  | .cross a b => crossL (evalSU ρS a) (evalSU ρS b)
  | .boostX β a => on4 (bXβ β) (evalSU ρS a)
  | .boostY β a => on4 (bYβ β) (evalSU ρS a)
  | .boostZ β a => on4 (bZβ β) (evalSU ρS a)
  | .boost_p4 a b => bp4L (evalSU ρS a) (evalSU ρS b)
  | .boost_beta3 a b => bβ3L (evalSU ρS a) (evalSU ρS b)
  | .conv2 _ a => evalSU ρS a
  | .conv3 _ _ a => evalSU ρS a
  | .conv4 _ _ _ a => evalSU ρS a
  | .to2D a => (evalSU ρS a).take 2
  | .to3D a => (evalSU ρS a).take 3
  | .to3D_kw l s a => embL l s (evalSU ρS a)
  | .to4D_kw tm s a => embT tm s (evalSU ρS a)

/-- a longitudinal keyword value in range: `0 < θ < π` -/
def LonParamOK : Lon → ℝ → Prop
  | .theta, s => 0 < s ∧ s < π
  | _, _ => True

/-- a temporal keyword value in range: `0 ≤ τ` -/
def TmpParamOK : Tmp → ℝ → Prop
  | .tau, s => 0 ≤ s
  | _, _ => True

def SubLum : List ℝ → Prop
  | [bx, by', bz] => bx ^ 2 + by' ^ 2 + bz ^ 2 < 1
  | _ => False

/-- every subexpression's specified value is generic in its dimension, the expression is well-dimensioned (conditions on
the lengths of the specified values), and the parameters are in range (`|β| < 1`, `0 < θ < π`, `0 ≤ τ`, `|β⃗| < 1`) -/
def GenericAllU (ρS : Nat → List ℝ) : E → Prop
  | .var i => Generic (ρS i)
  | .add a b => (GenericAllU ρS a ∧ GenericAllU ρS b) ∧ (evalSU ρS a).length = (evalSU ρS b).length ∧
      Generic (evalSU ρS (.add a b))
  | .sub a b => (GenericAllU ρS a ∧ GenericAllU ρS b) ∧ (evalSU ρS a).length = (evalSU ρS b).length ∧
      Generic (evalSU ρS (.sub a b))
  | .scale k a => GenericAllU ρS a ∧ True ∧ Generic (evalSU ρS (.scale k a))
  | .unit a => GenericAllU ρS a ∧ True ∧ Generic (evalSU ρS (.unit a))
  | .rotateZ ang a => GenericAllU ρS a ∧ True ∧ Generic (evalSU ρS (.rotateZ ang a))
  | .rotateX ang a => GenericAllU ρS a ∧ 3 ≤ (evalSU ρS a).length ∧ Generic (evalSU ρS (.rotateX ang a))
  | .rotateY ang a => GenericAllU ρS a ∧ 3 ≤ (evalSU ρS a).length ∧ Generic (evalSU ρS (.rotateY ang a))
  | .cross a b => (GenericAllU ρS a ∧ GenericAllU ρS b) ∧
      ((evalSU ρS a).length = 3 ∧ (evalSU ρS b).length = 3) ∧ Generic (evalSU ρS (.cross a b))
  | .boostX β a => GenericAllU ρS a ∧ ((evalSU ρS a).length = 4 ∧ |β| < 1) ∧ Generic (evalSU ρS (.boostX β a))
  | .boostY β a => GenericAllU ρS a ∧ ((evalSU ρS a).length = 4 ∧ |β| < 1) ∧ Generic (evalSU ρS (.boostY β a))
  | .boostZ β a => GenericAllU ρS a ∧ ((evalSU ρS a).length = 4 ∧ |β| < 1) ∧ Generic (evalSU ρS (.boostZ β a))
  | .boost_p4 a b => (GenericAllU ρS a ∧ GenericAllU ρS b) ∧
      ((evalSU ρS a).length = 4 ∧ (evalSU ρS b).length = 4) ∧ Generic (evalSU ρS (.boost_p4 a b))
  | .boost_beta3 a b => (GenericAllU ρS a ∧ GenericAllU ρS b) ∧
      ((evalSU ρS a).length = 4 ∧ SubLum (evalSU ρS b)) ∧ Generic (evalSU ρS (.boost_beta3 a b))
  | .conv2 az a => GenericAllU ρS a ∧ (evalSU ρS a).length = 2 ∧ Generic (evalSU ρS (.conv2 az a))
  | .conv3 az l a => GenericAllU ρS a ∧ (evalSU ρS a).length = 3 ∧ Generic (evalSU ρS (.conv3 az l a))
  | .conv4 az l tm a => GenericAllU ρS a ∧ (evalSU ρS a).length = 4 ∧ Generic (evalSU ρS (.conv4 az l tm a))
  | .to2D a => GenericAllU ρS a ∧ True ∧ Generic (evalSU ρS (.to2D a))
  | .to3D a => GenericAllU ρS a ∧ 3 ≤ (evalSU ρS a).length ∧ Generic (evalSU ρS (.to3D a))
  | .to3D_kw l s a => GenericAllU ρS a ∧ ((evalSU ρS a).length = 2 ∧ LonParamOK l s) ∧
      Generic (evalSU ρS (.to3D_kw l s a))
  | .to4D_kw tm s a => GenericAllU ρS a ∧ ((evalSU ρS a).length = 3 ∧ TmpParamOK tm s) ∧
      Generic (evalSU ρS (.to4D_kw tm s a))

theorem genericAllU_self {ρS : Nat → List ℝ} {e : E} (h : GenericAllU ρS e) : Generic (evalSU ρS e) := by
  cases e <;> first | exact h | exact h.2.2

theorem onSpatial_length (f : ℝ × ℝ × ℝ → ℝ × ℝ × ℝ) : ∀ p : List ℝ, (onSpatial f p).length = p.length
  | [] => rfl
  | [_] => rfl
  | [_, _] => rfl
  | _ :: _ :: _ :: _ => rfl

theorem on4_length (f : ℝ × ℝ × ℝ × ℝ → ℝ × ℝ × ℝ × ℝ) : ∀ p : List ℝ, (on4 f p).length = p.length
  | [] => rfl
  | [_] => rfl
  | [_, _] => rfl
  | [_, _, _] => rfl
  | [_, _, _, _] => rfl
  | _ :: _ :: _ :: _ :: _ :: _ => rfl

/-! #### the dimension-changing nodes -/

theorem boost_beta3_case (ha : Good va) (hb : Good vb)
    (da : denote va = some pa) (db : denote vb = some pb) (ga : Generic4 pa) (gb : Generic3 pb) (hsub : SubLum pb)
    (gr : Generic (bβ3L pa pb)) :
    ∃ r, call evR K A "boost_beta3" va [.v vb] = .ok (.vec r) ∧ Good r ∧ denote r = some (bβ3L pa pb) := by
  obtain ⟨be1, mom1, az1, l1, t1, a0, a1, a2, a3, rfl, rfl, h1⟩ := good4_core ha da ga
  obtain ⟨be2, mom2, az2, l2, b0, b1, b2, rfl, rfl, h2⟩ := good3_core hb db gb
  obtain ⟨w, hcall, -, hwf, hden⟩ := c09m_boost_beta3 K A _ _ ha.1 rfl hb.1 rfl ⟨h1.tan, h1.ctmp⟩ h2.tan
    _ _ _ _ _ _ _ da db (fun _ => hsub)
  exact ⟨w, hcall, (rep_of_rng hwf (c09m_boost_beta3_rng K A ha.1 rfl hb.1 rfl hcall ha.2.1) hden (.inr gr)).1, hden⟩

/-- `to_Vector2D()`: the stored azimuthal coordinates are kept — no hypothesis beyond the invariant -/
theorem to2D_case (ha : Good va) (da : denote va = some pa) :
    ∃ r, call evR K A "to_Vector2D" va [] = .ok (.vec r) ∧ Good r ∧ denote r = some (pa.take 2) := by
  rcases good_cases ha da with ⟨be, mom, az, a, b, rfl, rfl, hA⟩ | ⟨be, mom, az, l, a, b, c, rfl, rfl, hA, -⟩ |
    ⟨be, mom, az, l, t, a, b, c, d, rfl, rfl, hA, -⟩ <;>
  exact ⟨C11M.V2 be mom az a b, rfl, good_of2 (good2_mk _ _ _ _ _ hA), rfl⟩

/-- `to_Vector3D()` of a 3D / 4D vector: the stored azimuthal and longitudinal coordinates are kept -/
theorem to3D_case (ha : Good va) (da : denote va = some pa)
    (hl : 3 ≤ pa.length) :
    ∃ r, call evR K A "to_Vector3D" va [] = .ok (.vec r) ∧ Good r ∧ denote r = some (pa.take 3) := by
  rcases good_cases ha da with ⟨be, mom, az, a, b, rfl, rfl, hA⟩ | ⟨be, mom, az, l, a, b, c, rfl, rfl, hA, hL, hS⟩ |
    ⟨be, mom, az, l, t, a, b, c, d, rfl, rfl, hA, hL, -, hS⟩
  · simp at hl
  · exact ⟨C11M.V3 be mom az l a b c, rfl, good_of3 (good3_mk _ _ _ _ _ _ _ hA hL hS), rfl⟩
  · exact ⟨C11M.V3 be mom az l a b c, rfl, good_of3 (good3_mk _ _ _ _ _ _ _ hA hL hS), rfl⟩

/-- `to_Vector3D(z=s)` / `(theta=s)` / `(eta=s)` of a 2D vector: the keyword value is STORED as given (it must be in range:
`0 < θ < π`) and denotes `z = s`, `ρ cot s`, `ρ sinh s` -/
theorem to3D_kw_case (l : Lon) (s : ℝ) (hs : LonParamOK l s) 
    (ha : Good va) (da : denote va = some pa) (hl : pa.length = 2) :
    ∃ r, call evR K A "to_Vector3D" va [.kw (lonKw l) s] = .ok (.vec r) ∧ Good r ∧ denote r = some (embL l s pa) := by
  obtain ⟨be, mom, az, a, b, rfl, rfl, hA⟩ := good2_shape ha da hl
  have hρ := rhoOf_eq_sqrt (canon2_of_azOK hA)
  have hcall : call evR K A "to_Vector3D" (C11M.V2 be mom az a b) [.kw (lonKw l) s] =
      .ok (.vec (C11M.V3 be mom az l a b s)) := by
    cases l
    · exact to_Vector3D_kw_eval K A be mom az a b s ("z", .z) (by simp)
    · exact to_Vector3D_kw_eval K A be mom az a b s ("theta", .theta) (by simp)
    · exact to_Vector3D_kw_eval K A be mom az a b s ("eta", .eta) (by simp)
  refine ⟨_, hcall, good_of3 (good3_mk _ _ _ _ _ _ _ hA ?_ ?_), ?_⟩
  · cases l
    · trivial
    · exact ⟨hs.1.le, hs.2.le⟩
    · trivial
  · cases l
    · trivial
    · exact (sin_pos_of_pos_of_lt_pi hs.1 hs.2).ne'
    · trivial
  · cases l <;> simp only [denote, embL, zKw, zOf, hρ]

/-- `to_Vector4D(t=s)` / `(tau=s)` of a 3D vector (`0 ≤ τ`) -/
theorem to4D_kw_case (tm : Tmp) (s : ℝ) (hs : TmpParamOK tm s) 
    (ha : Good va) (da : denote va = some pa) (hl : pa.length = 3) :
    ∃ r, call evR K A "to_Vector4D" va [.kw (tmpKw tm) s] = .ok (.vec r) ∧ Good r ∧ denote r = some (embT tm s pa) := by
  obtain ⟨be, mom, az, l, a, b, c, rfl, rfl, hA, hL, hS⟩ := good3_shape ha da hl
  have hcall : call evR K A "to_Vector4D" (C11M.V3 be mom az l a b c) [.kw (tmpKw tm) s] =
      .ok (.vec (C11M.V4 be mom az l tm a b c s)) := by
    cases tm
    · exact to_Vector4D_kw_eval K A be mom az l a b c s ("t", .t) (by simp)
    · exact to_Vector4D_kw_eval K A be mom az l a b c s ("tau", .tau) (by simp)
  refine ⟨_, hcall, good_of4 (good4_mk _ _ _ _ _ _ _ _ _ hA hL ?_ hS), ?_⟩
  · cases tm
    · trivial
    · exact hs
  · cases tm <;> rfl

/-! #### non-vacuity: a depth-5 expression over a 4D, a 3D and a 2D variable -/

/-- `v₀ = (x, y, z, t) = (1, 1, 1, 3)` (4D), `v₁ = (x, y, θ) = (1, 0, π/4)` (3D, the point `(1, 0, 1)`),
`v₂ = (ρ, φ) = (2, π/2)` (2D, the point `(0, 2)`) -/
noncomputable def exEnvU : Nat → Vec ℝ
  | 0 => C11M.V4 .obj false .xy .z .t 1 1 1 3
  | 1 => C11M.V3 .np true .xy .theta 1 0 (π / 4)
  | _ => C11M.V2 .obj true .rhophi 2 (π / 2)

def exSpecU : Nat → List ℝ
  | 0 => [1, 1, 1, 3]
  | 1 => [1, 0, 1]
  | _ => [0, 2]

/-- `to_Vector4D(t=4)` of `v₀.to_Vector3D() + v₁ × v₂.to_Vector3D(eta=arsinh 1)` -/
noncomputable def exEU : E :=
  .to4D_kw .t 4 (.add (.to3D (.var 0)) (.cross (.var 1) (.to3D_kw .eta (arsinh 1) (.var 2))))

theorem exEnvU_good : ∀ i, Good (exEnvU i) := by
  intro i
  have hpi := pi_pos
  match i with
  | 0 => exact good_of4 (good4_mk _ _ _ _ _ _ _ _ _ trivial trivial trivial trivial)
  | 1 => exact good_of3 (good3_mk _ _ _ _ _ _ _ trivial theta_quarter_ok.1 theta_quarter_ok.2)
  | (n + 2) => exact good_of2 (good2_mk _ _ _ _ _ ⟨by norm_num, by linarith, by linarith⟩)

theorem exEnvU_denote : ∀ i, denote (exEnvU i) = some (exSpecU i) := by
  intro i
  match i with
  | 0 => rfl
  | 1 => exact denote_theta_quarter _ _
  | (n + 2) =>
    simp only [exEnvU, exSpecU, denote, xOf, yOf, cos_pi_div_two, sin_pi_div_two, mul_zero, mul_one]

/-- **`GenericAllU` is satisfiable** for a well-dimensioned expression mixing the three dimensions -/
theorem exEU_generic : GenericAllU exSpecU exEU := by
  have h2 : sqrt ((0 : ℝ) ^ 2 + 2 ^ 2) = 2 := by
    rw [show (0 : ℝ) ^ 2 + 2 ^ 2 = 2 ^ 2 by norm_num]; exact sqrt_sq (by norm_num)
  simp only [exEU, GenericAllU, evalSU, exSpecU, List.take, List.zipWith_cons_cons, List.zipWith_nil_right, crossL,
    embL, embT, zKw, tKw, h2, sinh_arsinh, generic_iff2, generic_iff3, generic_iff4, List.length_cons, List.length_nil,
    LonParamOK, TmpParamOK]
  norm_num

/-! #### scalar expressions over the unified language -/

/-- the planar properties exist in every dimension -/
def UnS.planar : UnS → Prop
  | .x | .y | .rho | .rho2 | .phi => True
  | _ => False

/-- the dimensions on which a property exists: planar ones everywhere, spatial ones on 3D / 4D, temporal ones on 4D -/
def UnS4.dimOK : UnS4 → Nat → Prop
  | .sp f, n => f.planar ∨ 3 ≤ n
  | _, n => n = 4

inductive SU : Type
  | un (f : UnS4) (a : E)
  | bi (f : BinS) (a b : E)

noncomputable def evalMSU (K : Consts ℝ) (A : Arith ℝ) (ρ : Nat → Vec ℝ) : SU → Except Err (Res ℝ Prop)
  | .un f a => unS (evalMU K A ρ a) fun va => call evR K A f.name va []
  | .bi f a b => binS (evalMU K A ρ a) (evalMU K A ρ b) fun va vb => call evR K A f.name va [.v vb]

noncomputable def unSpecL (f : UnS4) : List ℝ → ℝ
  | [x, y] => uspec4 f x y 0 0
  | [x, y, z] => uspec4 f x y z 0
  | [x, y, z, t] => uspec4 f x y z t
  | _ => 0

/-- two 2D vectors: `dot` and `deltaphi` -/
noncomputable def bspec2 : BinS → ℝ → ℝ → ℝ → ℝ → ℝ
  | .dot, x₁, y₁, x₂, y₂ => x₁ * x₂ + y₁ * y₂
  | .deltaphi, x₁, y₁, x₂, y₂ => P.mod (P.arctan2 y₁ x₁ - P.arctan2 y₂ x₂ + π) (2 * π) - π
  | _, _, _, _, _ => 0

noncomputable def biSpecL (f : BinS) : List ℝ → List ℝ → ℝ
  | [x₁, y₁], [x₂, y₂] => bspec2 f x₁ y₁ x₂ y₂
  | [x₁, y₁, z₁], [x₂, y₂, z₂] => bspec f x₁ y₁ z₁ x₂ y₂ z₂
  | [x₁, y₁, z₁, t₁], [x₂, y₂, z₂, t₂] => bspec4 f x₁ y₁ z₁ t₁ x₂ y₂ z₂ t₂
  | _, _ => 0

noncomputable def evalSSU (ρS : Nat → List ℝ) : SU → ℝ
  | .un f a => unSpecL f (evalSU ρS a)
  | .bi f a b => biSpecL f (evalSU ρS a) (evalSU ρS b)

def PhiOKU : List ℝ → Prop
  | x :: y :: _ => ¬ (y = 0 ∧ x < 0)
  | _ => True

/-- operands generic and of a dimension on which the property / method exists (two operands: of equal dimension; 2D:
`dot`, `deltaphi`); for `phi`, off the half line of the jump -/
def GenericSU (ρS : Nat → List ℝ) : SU → Prop
  | .un f a => GenericAllU ρS a ∧ f.dimOK (evalSU ρS a).length ∧ (f = .sp .phi → PhiOKU (evalSU ρS a))
  | .bi f a b => (GenericAllU ρS a ∧ GenericAllU ρS b) ∧ (evalSU ρS a).length = (evalSU ρS b).length ∧
      ((evalSU ρS a).length = 2 → f = .dot ∨ f = .deltaphi)

theorem un2_case (f : UnS) (hf : f.planar) (ha : Good va)
    (da : denote va = some pa) (ga : Generic2 pa) (hphi : f = .phi → PhiOKU pa) :
    call evR K A f.name va [] = .ok (.scalar (unSpecL (.sp f) pa)) := by
  obtain ⟨be, mom, az, a, b, rfl, rfl, hA⟩ := good2_shape ha da (generic2_length ga)
  have hr := rho_pos_of hA ((generic2_iff _ _).1 ga)
  cases f
  · exact c01m_acc_x K A _ ha.1 _ _ [] da
  · exact c01m_acc_y K A _ ha.1 _ _ [] da
  · exact hf.elim
  · exact c01m_acc_rho K A _ ha.1 (canon2_of_azOK hA) _ _ [] da
  · exact c01m_acc_rho2 K A _ ha.1 _ _ [] da
  · exact c01m_acc_phi K A _ ha.1 ⟨hr, canonPhi_of hA hr (hphi rfl)⟩ _ _ [] da
  all_goals exact hf.elim

theorem bi2_case (f : BinS) (hf : f = .dot ∨ f = .deltaphi) {va vb : Vec ℝ}
    {pa pb : List ℝ} (ha : Good va) (hb : Good vb) (da : denote va = some pa) (db : denote vb = some pb)
    (ga : Generic2 pa) (gb : Generic2 pb) :
    call evR K A f.name va [.v vb] = .ok (.scalar (biSpecL f pa pb)) := by
  obtain ⟨be1, mom1, az1, a0, a1, rfl, rfl, hA1⟩ := good2_shape ha da (generic2_length ga)
  obtain ⟨be2, mom2, az2, b0, b1, rfl, rfl, hA2⟩ := good2_shape hb db (generic2_length gb)
  rcases hf with rfl | rfl
  · obtain ⟨p, q, hp, hq, hcall⟩ := c11m_dot K A _ _ ha.1 hb.1 rfl trivial trivial (fun h => by cases h)
      (fun h => by cases h) trivial trivial
    cases da.symm.trans hp
    cases db.symm.trans hq
    exact hcall
  · exact deltaphi_case K A ha.1 hb.1 (rho_pos_of hA1 ((generic2_iff _ _).1 ga))
      (rho_pos_of hA2 ((generic2_iff _ _).1 gb)) da db

theorem unU_case (f : UnS4) (ha : Good va)
    (da : denote va = some pa) (ga : Generic pa) (hdim : f.dimOK pa.length) (hphi : f = .sp .phi → PhiOKU pa) :
    call evR K A f.name va [] = .ok (.scalar (unSpecL f pa)) := by
  rcases ga with g | g | g
  · cases f with
    | sp f' =>
      exact un2_case K A f' (hdim.resolve_right (by simp [generic2_length g])) ha da g
        fun e => hphi (congrArg UnS4.sp e)
    | _ => simp [UnS4.dimOK, generic2_length g] at hdim
  · obtain ⟨x, y, z, rfl, -⟩ := id g
    cases f with
    | sp f' => exact un_case K A f' ha da g fun e => hphi (congrArg UnS4.sp e)
    | _ => simp [UnS4.dimOK] at hdim
  · obtain ⟨x, y, z, t, rfl, -⟩ := id g
    exact un4_case K A f ha da g hphi

theorem biU_case (f : BinS) (ha : Good va) (hb : Good vb)
    (da : denote va = some pa) (db : denote vb = some pb) (ga : Generic pa) (gb : Generic pb)
    (hl : pa.length = pb.length) (h2D : pa.length = 2 → f = .dot ∨ f = .deltaphi) :
    call evR K A f.name va [.v vb] = .ok (.scalar (biSpecL f pa pb)) := by
  rcases ga with g | g | g
  · exact bi2_case K A f (h2D (generic2_length g)) ha hb da db g (generic_len2 gb (hl ▸ generic2_length g))
  · have g' := generic_len3 gb (hl ▸ generic3_length g)
    obtain ⟨x, y, z, rfl, -⟩ := id g
    obtain ⟨x', y', z', rfl, -⟩ := id g'
    exact bi_case K A f ha hb da db g g'
  · have g' := generic_len4 gb (hl ▸ generic4_length g)
    obtain ⟨x, y, z, t, rfl, -⟩ := id g
    obtain ⟨x', y', z', t', rfl, -⟩ := id g'
    exact bi4_case K A f ha hb da db g g'

/-- satisfiable: the invariant mass `tau` of the 4D example expression, and `deltaphi` of the two 2D projections -/
example : GenericSU exSpecU (.un .tau exEU) ∧ GenericSU exSpecU (.bi .deltaphi (.to2D (.var 0)) (.var 2)) := by
  refine ⟨⟨exEU_generic, ?_, fun h => by cases h⟩, ?_⟩
  · simp only [UnS4.dimOK, exEU, evalSU, exSpecU, List.take, List.zipWith_cons_cons, List.zipWith_nil_right, crossL,
      embL, embT, List.length_cons, List.length_nil]
  · simp only [GenericSU, GenericAllU, evalSU, exSpecU, List.take, generic_iff2, generic_iff4, List.length_cons,
      List.length_nil]
    norm_num

/-! ## 15. A convention seam: `phi` is NOT coordinate independent on the half line `y = 0, x < 0` (why `PhiOK` is needed)

The operations produce polar azimuths through `rectify`, i.e. in `[-π, π)`; the accessor `phi` of a Cartesian vector uses
`arctan2`, i.e. `(-π, π]`.  For the SAME geometric vector `(-1, 0)`, stored as `(ρ, φ) = (1, π)` resp. `(x, y) = (-1, 0)`
— both inside the documented ranges —, the expression `v.rotateZ(0).phi` evaluates to `-π` resp. `+π`. -/
theorem c01e_phi_jump (K : Consts ℝ) (A : Arith ℝ) :
    ∃ ρ₁ ρ₂ : Nat → Vec ℝ, (∀ i, Good (ρ₁ i)) ∧ (∀ i, Good (ρ₂ i)) ∧ (∀ i, denote (ρ₁ i) = denote (ρ₂ i)) ∧
      GenericAllU (specEnv ρ₁) (.rotateZ 0 (.var 0)) ∧
      evalMSU K A ρ₁ (.un (.sp .phi) (.rotateZ 0 (.var 0))) = .ok (.scalar (-π)) ∧
      evalMSU K A ρ₂ (.un (.sp .phi) (.rotateZ 0 (.var 0))) = .ok (.scalar π) ∧ (-π : ℝ) ≠ π := by
  have hpi := pi_pos
  have hd1 : denote (C11M.V2 .obj false .rhophi 1 π) = some [-1, 0] := by
    simp only [denote, xOf, yOf, cos_pi, sin_pi, mul_zero, mul_neg, mul_one]
  have hd2 : denote (C11M.V2 .obj false .xy (-1) 0) = some [-1, 0] := rfl
  have hg1 : Good (C11M.V2 .obj false .rhophi 1 π) := good_of2 (good2_mk _ _ _ _ _ ⟨by norm_num, by linarith, le_rfl⟩)
  have hg2 : Good (C11M.V2 .obj false .xy (-1) 0) := good_of2 (good2_mk _ _ _ _ _ trivial)
  have hs : specEnv (fun _ => C11M.V2 .obj false .rhophi 1 π) = fun _ => [-1, 0] := by
    funext i; simp only [specEnv, hd1, Option.getD_some]
  have hatan : P.arctan2 0 (-1) = π := by
    have h := L.arctan2_polar (r := 1) (p := π) one_pos (by linarith) le_rfl
    simpa [sin_pi, cos_pi] using h
  refine ⟨fun _ => C11M.V2 .obj false .rhophi 1 π, fun _ => C11M.V2 .obj false .xy (-1) 0, fun _ => hg1, fun _ => hg2,
    fun _ => by rw [hd1, hd2], ?_, ?_, ?_, by linarith⟩
  · rw [hs]
    simp only [GenericAllU, evalSU, onPlanar, rotZ2, cos_zero, sin_zero, generic_iff2]
    norm_num
  · have e1 : call evR K A "rotateZ" (C11M.V2 .obj false .rhophi 1 π) [.sc 0] =
        .ok (.vec (C11M.V2 .obj false .rhophi 1 (-π))) := by
      rw [rotateZ_eval K A _ ⟨by simp, rfl⟩]
      show Except.ok (Res.vec (C11M.V2 .obj false .rhophi (planar_rotateZ.eval .rhophi 0 1 π).1
        (planar_rotateZ.eval .rhophi 0 1 π).2)) = _
      rw [c13c_planar_rotateZ_pi]
    have e2 : call evR K A "phi" (C11M.V2 .obj false .rhophi 1 (-π)) [] = .ok (.scalar (-π)) := by
      rw [call_accR K A (a := .phi) rfl ⟨by simp, rfl⟩ (two_le_dim _) (.inl rfl)]; rfl
    simp only [evalMSU, evalMU, un, unS, e1, vecOf]
    exact e2
  · have h0 : planar_rotateZ.eval .xy 0 (-1) 0 = (-1, 0) := by
      simp only [planar_rotateZ.eval, planar_rotateZ.xy, cos_zero, sin_zero]; norm_num
    have e1 : call evR K A "rotateZ" (C11M.V2 .obj false .xy (-1) 0) [.sc 0] =
        .ok (.vec (C11M.V2 .obj false .xy (-1) 0)) := by
      rw [rotateZ_eval K A _ ⟨by simp, rfl⟩]
      show Except.ok (Res.vec (C11M.V2 .obj false .xy (planar_rotateZ.eval .xy 0 (-1) 0).1
        (planar_rotateZ.eval .xy 0 (-1) 0).2)) = _
      rw [h0]
    have e2 : call evR K A "phi" (C11M.V2 .obj false .xy (-1) 0) [] = .ok (.scalar π) := by
      rw [call_accR K A (a := .phi) rfl ⟨by simp, rfl⟩ (two_le_dim _) (.inl rfl)]
      show Except.ok (Res.scalar (P.arctan2 0 (-1))) = _
      rw [hatan]
    simp only [evalMSU, evalMU, un, unS, e1, vecOf]
    exact e2

/-! ## 16. Helper for discharging `GenericAll4`: axis boosts with `|β| < 1` preserve forward time-like-ness

(so at a boost node only the spatial genericity of the boosted value has to be checked) -/

/-- a map of ℝ⁴ that keeps the Minkowski square, and `t` positive, keeps forward time-like vectors forward time-like -/
private theorem timelike_of_mdot {p q : ℝ × ℝ × ℝ × ℝ} (hm : VR.mdot q q = VR.mdot p p)
    (h : p.1 ^ 2 + p.2.1 ^ 2 + p.2.2.1 ^ 2 < p.2.2.2 ^ 2) (hq : 0 < q.2.2.2) :
    q.1 ^ 2 + q.2.1 ^ 2 + q.2.2.1 ^ 2 < q.2.2.2 ^ 2 ∧ 0 < q.2.2.2 := by
  simp only [VR.mdot] at hm
  exact ⟨by linarith, hq⟩

/-- the boosted time component `βγu + γt` is positive when `|u| < t` -/
private theorem boost_t_pos {β u t : ℝ} (hβ : |β| < 1) (hu : u ^ 2 < t ^ 2) (ht : 0 < t) :
    0 < β * P.rpow (1 - β ^ 2) (-(0.5 : ℝ)) * u + P.rpow (1 - β ^ 2) (-(0.5 : ℝ)) * t := by
  have hg : 0 < P.rpow (1 - β ^ 2) (-(0.5 : ℝ)) := Real.rpow_pos_of_pos (by nlinarith [abs_lt.mp hβ]) _
  have h1 : |β * u| < t := by
    rw [abs_mul]
    calc |β| * |u| ≤ 1 * |u| := mul_le_mul_of_nonneg_right hβ.le (abs_nonneg u)
      _ = |u| := one_mul _
      _ < t := abs_lt_of_sq_lt_sq hu ht.le
  have := mul_pos hg (show 0 < β * u + t by linarith [(abs_lt.mp h1).1])
  linarith

theorem c01e_boostX_timelike (β : ℝ) (hβ : |β| < 1) (x y z t : ℝ) (h : x ^ 2 + y ^ 2 + z ^ 2 < t ^ 2) (ht : 0 < t) :
    (bXβ β (x, y, z, t)).1 ^ 2 + (bXβ β (x, y, z, t)).2.1 ^ 2 + (bXβ β (x, y, z, t)).2.2.1 ^ 2
        < (bXβ β (x, y, z, t)).2.2.2 ^ 2 ∧ 0 < (bXβ β (x, y, z, t)).2.2.2 :=
  timelike_of_mdot (c09_boostX_beta_mdot β (x, y, z, t) (x, y, z, t) hβ) h
    (boost_t_pos hβ (by linarith [sq_nonneg y, sq_nonneg z]) ht)

theorem c01e_boostY_timelike (β : ℝ) (hβ : |β| < 1) (x y z t : ℝ) (h : x ^ 2 + y ^ 2 + z ^ 2 < t ^ 2) (ht : 0 < t) :
    (bYβ β (x, y, z, t)).1 ^ 2 + (bYβ β (x, y, z, t)).2.1 ^ 2 + (bYβ β (x, y, z, t)).2.2.1 ^ 2
        < (bYβ β (x, y, z, t)).2.2.2 ^ 2 ∧ 0 < (bYβ β (x, y, z, t)).2.2.2 :=
  timelike_of_mdot (c09_boostY_beta_mdot β (x, y, z, t) (x, y, z, t) hβ) h
    (boost_t_pos hβ (by linarith [sq_nonneg x, sq_nonneg z]) ht)

theorem c01e_boostZ_timelike (β : ℝ) (hβ : |β| < 1) (x y z t : ℝ) (h : x ^ 2 + y ^ 2 + z ^ 2 < t ^ 2) (ht : 0 < t) :
    (bZβ β (x, y, z, t)).1 ^ 2 + (bZβ β (x, y, z, t)).2.1 ^ 2 + (bZβ β (x, y, z, t)).2.2.1 ^ 2
        < (bZβ β (x, y, z, t)).2.2.2 ^ 2 ∧ 0 < (bZβ β (x, y, z, t)).2.2.2 :=
  timelike_of_mdot (c09_boostZ_beta_mdot β (x, y, z, t) (x, y, z, t) hβ) h
    (boost_t_pos hβ (by linarith [sq_nonneg x, sq_nonneg y]) ht)

/-- hence: at a `boostX` node of `E4` the time-like part of `Generic4` comes for free -/
theorem c01e_generic4_boostX (β : ℝ) (hβ : |β| < 1) {p : List ℝ} (hp : Generic4 p)
    (hs : ∀ x y z t, p = [x, y, z, t] → 0 < (bXβ β (x, y, z, t)).1 ^ 2 + (bXβ β (x, y, z, t)).2.1 ^ 2) :
    Generic4 (on4 (bXβ β) p) := by
  obtain ⟨x, y, z, t, rfl, h1, h2, h3, h4⟩ := hp
  obtain ⟨h5, h6⟩ := c01e_boostX_timelike β hβ x y z t h3 h4
  exact ⟨_, _, _, _, rfl, hs x y z t rfl, h2, h5, h6⟩

end C01E
end VR
