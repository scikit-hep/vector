/-
C09 — boosts are Lorentz transformations with the documented relations.
Theorems about the *generated* real-number model of
`_compute/lorentz/{boostX_beta,boostY_beta,boostZ_beta,boostX_gamma,boostY_gamma,boostZ_gamma,
boost_beta3,boost_p4,to_beta3,dot,tau}.py` (Cartesian variants).
-/
import VectorModel.Props.C10
import VectorModel.Refine.LorentzBin

namespace VR
open VK

def mdot (a b : ℝ × ℝ × ℝ × ℝ) : ℝ :=
  a.2.2.2 * b.2.2.2 - a.1 * b.1 - a.2.1 * b.2.1 - a.2.2.1 * b.2.2.1

theorem c09_mdot_eq_dot (a b : ℝ × ℝ × ℝ × ℝ) :
    lorentz_dot.eval .xy .z .t .xy .z .t a.1 a.2.1 a.2.2.1 a.2.2.2 b.1 b.2.1 b.2.2.1 b.2.2.2 = mdot a b := by
  simp only [d_lorentz_dot, d_lorentz_t, d_spatial_dot, mdot]
  ring

/-! ### the Lorentz factor -/

private theorem gam_pos {u : ℝ} (hu : 0 < u) : 0 < P.rpow u (-(0.5 : ℝ)) := L.rpow_neg_half_pos hu

private theorem gam_unique {u h : ℝ} (hu : 0 < u) (hh : 0 < h) (h1 : h ^ 2 * u = 1) :
    P.rpow u (-(0.5 : ℝ)) = h := by
  have hg := L.rpow_neg_half_sq hu
  have hp := gam_pos hu
  set g := P.rpow u (-(0.5 : ℝ))
  have h3 : (g - h) * ((g + h) * u) = 0 := by linear_combination hg - h1
  rcases mul_eq_zero.mp h3 with h4 | h4
  · linarith
  · exact absurd h4 (by positivity)

/-! ### the generated Cartesian boosts as maps on four-vectors `(x, y, z, t)` -/

/-- four-vector `(x, y, z, t)` -/
abbrev V4 := ℝ × ℝ × ℝ × ℝ
abbrev V3 := ℝ × ℝ × ℝ

/-- `v.boostX(beta=β)` on Cartesian `v` -/
noncomputable abbrev bXβ (β : ℝ) (v : V4) : V4 := lorentz_boostX_beta.eval .xy .z .t β v.1 v.2.1 v.2.2.1 v.2.2.2
/-- `v.boostY(beta=β)` -/
noncomputable abbrev bYβ (β : ℝ) (v : V4) : V4 := lorentz_boostY_beta.eval .xy .z .t β v.1 v.2.1 v.2.2.1 v.2.2.2
/-- `v.boostZ(beta=β)` -/
noncomputable abbrev bZβ (β : ℝ) (v : V4) : V4 := lorentz_boostZ_beta.eval .xy .z .t β v.1 v.2.1 v.2.2.1 v.2.2.2
/-- `v.boostX(gamma=γ)` -/
noncomputable abbrev bXγ (γ : ℝ) (v : V4) : V4 := lorentz_boostX_gamma.eval .xy .z .t γ v.1 v.2.1 v.2.2.1 v.2.2.2
/-- `v.boostY(gamma=γ)` -/
noncomputable abbrev bYγ (γ : ℝ) (v : V4) : V4 := lorentz_boostY_gamma.eval .xy .z .t γ v.1 v.2.1 v.2.2.1 v.2.2.2
/-- `v.boostZ(gamma=γ)` -/
noncomputable abbrev bZγ (γ : ℝ) (v : V4) : V4 := lorentz_boostZ_gamma.eval .xy .z .t γ v.1 v.2.1 v.2.2.1 v.2.2.2
/-- `v.boost_beta3(b)` with Cartesian `b` -/
noncomputable abbrev bβ3 (v : V4) (b : V3) : V4 :=
  lorentz_boost_beta3.eval .xy .z .t .xy .z v.1 v.2.1 v.2.2.1 v.2.2.2 b.1 b.2.1 b.2.2
/-- `v.boost_p4(p)` with Cartesian `p` -/
noncomputable abbrev bp4 (v p : V4) : V4 :=
  lorentz_boost_p4.eval .xy .z .t .xy .z .t v.1 v.2.1 v.2.2.1 v.2.2.2 p.1 p.2.1 p.2.2.1 p.2.2.2
/-- `p.to_beta3()` -/
noncomputable abbrev toβ3 (p : V4) : V3 := lorentz_to_beta3.eval .xy .z .t p.1 p.2.1 p.2.2.1 p.2.2.2

/-! ### the axis as a parameter

`boostX/Y/Z` of `Spec/LorentzBin.lean` and the generated `boostX/Y/Z(beta=…)`, `boostX/Y/Z(gamma=…)` indexed by the coordinate
axis: every statement about "the boost along an axis" below is proved once, for `ax`, and read off at `.x`, `.y`, `.z`. -/

/-- the boost of `Spec/LorentzBin.lean` along a coordinate axis, `g = γ`, `bg = βγ` -/
def boostAx : Spec10.Axis → ℝ → ℝ → V4 → V4
  | .x => Spec.boostX | .y => Spec.boostY | .z => Spec.boostZ
/-- `v.boostX/Y/Z(beta=β)` -/
noncomputable def bAβ : Spec10.Axis → ℝ → V4 → V4
  | .x => bXβ | .y => bYβ | .z => bZβ
/-- `v.boostX/Y/Z(gamma=γ)` -/
noncomputable def bAγ : Spec10.Axis → ℝ → V4 → V4
  | .x => bXγ | .y => bYγ | .z => bZγ
def axisVec (β : ℝ) : Spec10.Axis → V3
  | .x => (β, 0, 0) | .y => (0, β, 0) | .z => (0, 0, β)

theorem bAβ_eq (ax : Spec10.Axis) (β : ℝ) (v : V4) :
    bAβ ax β v = boostAx ax (P.rpow (1 - β ^ 2) (-(0.5 : ℝ))) (β * P.rpow (1 - β ^ 2) (-(0.5 : ℝ))) v := by
  cases ax <;> rfl

theorem bAγ_eq (ax : Spec10.Axis) (γ : ℝ) (v : V4) :
    bAγ ax γ v = boostAx ax |γ| (P.copysign (√(|γ| ^ 2 - 1)) γ) v := by
  cases ax <;> rfl

theorem mdot_boostAx (ax : Spec10.Axis) {g bg : ℝ} (hg : g ^ 2 - bg ^ 2 = 1) (v w : V4) :
    mdot (boostAx ax g bg v) (boostAx ax g bg w) = mdot v w := by
  cases ax
  exacts [mdot_boostX hg v w, mdot_boostY hg v w, mdot_boostZ hg v w]

private theorem boostAx_neg (ax : Spec10.Axis) {g bg : ℝ} (hg : g ^ 2 - bg ^ 2 = 1) (v : V4) :
    boostAx ax g (-bg) (boostAx ax g bg v) = v := by
  obtain ⟨x, y, z, t⟩ := v
  cases ax <;> simp only [boostAx, Spec.boostX, Spec.boostY, Spec.boostZ, Prod.mk.injEq, true_and]
  · exact ⟨by linear_combination x * hg, by linear_combination t * hg⟩
  · exact ⟨by linear_combination y * hg, by linear_combination t * hg⟩
  · exact ⟨by linear_combination z * hg, by linear_combination t * hg⟩

/-- boosts along one axis compose like the matrices `(γ, βγ; βγ, γ)` (no hypothesis) -/
private theorem boostAx_comp (ax : Spec10.Axis) (g₁ bg₁ g₂ bg₂ : ℝ) (v : V4) :
    boostAx ax g₂ bg₂ (boostAx ax g₁ bg₁ v) = boostAx ax (g₁ * g₂ + bg₁ * bg₂) (bg₁ * g₂ + g₁ * bg₂) v := by
  obtain ⟨x, y, z, t⟩ := v
  cases ax <;> simp only [boostAx, Spec.boostX, Spec.boostY, Spec.boostZ, Prod.mk.injEq, true_and] <;>
    exact ⟨by ring, by ring⟩

private theorem boostU_neg {G ux uy uz : ℝ} (hG : G ^ 2 = 1 + (ux ^ 2 + uy ^ 2 + uz ^ 2)) (hG1 : G + 1 ≠ 0) (v : V4) :
    Spec.boostU G (-ux) (-uy) (-uz) (Spec.boostU G ux uy uz v) = v := by
  obtain ⟨x, y, z, t⟩ := v
  simp only [Spec.boostU]
  -- as in `mdot_boostU`: polynomial in `c = u·p/(G+1) + t` and the corresponding `c'` of the second boost
  generalize hc : (ux * x + uy * y + uz * z) / (G + 1) + t = c
  have ha : ux * x + uy * y + uz * z = (c - t) * (G + 1) := by
    rw [← hc, add_sub_cancel_right, div_mul_cancel₀ _ hG1]
  generalize hc' : (-ux * (x + c * ux) + -uy * (y + c * uy) + -uz * (z + c * uz)) / (G + 1)
    + (ux * x + uy * y + uz * z + G * t) = c'
  have ha' : -ux * (x + c * ux) + -uy * (y + c * uy) + -uz * (z + c * uz)
      = (c' - (ux * x + uy * y + uz * z + G * t)) * (G + 1) := by
    rw [← hc', add_sub_cancel_right, div_mul_cancel₀ _ hG1]
  -- `c' = c`: from `ha`, `ha'`, `hG`, dividing by `G + 1`
  have hcc : c' = c := by
    apply mul_right_cancel₀ hG1
    linear_combination G * ha - ha' + c * hG
  rw [hcc]
  refine Prod.ext ?_ (Prod.ext ?_ (Prod.ext ?_ ?_))
  · show x + c * ux + c * -ux = x
    ring
  · show y + c * uy + c * -uy = y
    ring
  · show z + c * uz + c * -uz = z
    ring
  · show -ux * (x + c * ux) + -uy * (y + c * uy) + -uz * (z + c * uz) + G * (ux * x + uy * y + uz * z + G * t) = t
    linear_combination (G - 1) * ha + c * hG

/-- the code's Lorentz factor `(1 − β²) ** −0.5` -/
private noncomputable abbrev gam (β : ℝ) : ℝ := P.rpow (1 - β ^ 2) (-(0.5 : ℝ))

/-! ### 1. axis boosts by velocity: Minkowski product, inverse, velocity addition -/

theorem c09_axis_beta_mdot (ax : Spec10.Axis) (β : ℝ) (v w : V4) (hβ : |β| < 1) :
    mdot (bAβ ax β v) (bAβ ax β w) = mdot v w := by
  rw [bAβ_eq, bAβ_eq]
  exact mdot_boostAx ax (L.gam_beta hβ).1 v w

theorem c09_boostX_beta_mdot (β : ℝ) (v w : V4) (hβ : |β| < 1) :
    mdot (bXβ β v) (bXβ β w) = mdot v w :=
  c09_axis_beta_mdot .x β v w hβ

theorem c09_boostY_beta_mdot (β : ℝ) (v w : V4) (hβ : |β| < 1) :
    mdot (bYβ β v) (bYβ β w) = mdot v w :=
  c09_axis_beta_mdot .y β v w hβ

theorem c09_boostZ_beta_mdot (β : ℝ) (v w : V4) (hβ : |β| < 1) :
    mdot (bZβ β v) (bZβ β w) = mdot v w :=
  c09_axis_beta_mdot .z β v w hβ

theorem c09_axis_beta_inv (ax : Spec10.Axis) (β : ℝ) (v : V4) (hβ : |β| < 1) : bAβ ax (-β) (bAβ ax β v) = v := by
  rw [bAβ_eq, bAβ_eq, neg_sq, neg_mul]
  exact boostAx_neg ax (L.gam_beta hβ).1 v

/-! relativistic velocity addition -/

private theorem one_add_mul_pos {a b : ℝ} (ha : |a| < 1) (hb : |b| < 1) : 0 < 1 + a * b := by
  have h : |a * b| < 1 := by
    rw [abs_mul]; exact mul_lt_one_of_nonneg_of_lt_one_left (abs_nonneg a) ha hb.le
  linarith [neg_abs_le (a * b)]

private theorem one_sub_addvel_sq {a b : ℝ} (ha : |a| < 1) (hb : |b| < 1) :
    1 - ((a + b) / (1 + a * b)) ^ 2 = (1 - a ^ 2) * (1 - b ^ 2) / (1 + a * b) ^ 2 := by
  have h := (one_add_mul_pos ha hb).ne'
  field_simp
  ring

theorem c09_addvel_abs_lt_one {a b : ℝ} (ha : |a| < 1) (hb : |b| < 1) :
    |(a + b) / (1 + a * b)| < 1 := by
  have h := one_add_mul_pos ha hb
  have h3 : 0 < 1 - ((a + b) / (1 + a * b)) ^ 2 := by
    rw [one_sub_addvel_sq ha hb]
    have := L.one_sub_sq_pos ha
    have := L.one_sub_sq_pos hb
    positivity
  exact (sq_lt_one_iff_abs_lt_one _).mp (sub_pos.mp h3)

private theorem gam_addvel {a b : ℝ} (ha : |a| < 1) (hb : |b| < 1) :
    gam ((a + b) / (1 + a * b)) = gam a * gam b * (1 + a * b) := by
  have h := one_add_mul_pos ha hb
  have ha' := L.one_sub_sq_pos ha
  have hb' := L.one_sub_sq_pos hb
  have hga := L.rpow_neg_half_sq ha'
  have hgb := L.rpow_neg_half_sq hb'
  have hpa := gam_pos ha'
  have hpb := gam_pos hb'
  apply gam_unique
  · rw [one_sub_addvel_sq ha hb]; positivity
  · positivity
  · rw [one_sub_addvel_sq ha hb]
    field_simp
    linear_combination (gam b ^ 2 * (1 - b ^ 2)) * hga + hgb

/-- `γ` and `βγ` of the composed velocity, in the form in which the composition of two axis boosts produces them -/
private theorem addvel_facts {a b : ℝ} (ha : |a| < 1) (hb : |b| < 1) :
    gam ((a + b) / (1 + a * b)) = gam a * gam b + a * gam a * (b * gam b)
      ∧ (a + b) / (1 + a * b) * gam ((a + b) / (1 + a * b)) = a * gam a * gam b + gam a * (b * gam b) := by
  have h := (one_add_mul_pos ha hb).ne'
  rw [gam_addvel ha hb]
  constructor
  · ring
  · field_simp

/-- two successive boosts along an axis compose by relativistic velocity addition -/
theorem c09_axis_beta_comp (ax : Spec10.Axis) (β₁ β₂ : ℝ) (v : V4) (h₁ : |β₁| < 1) (h₂ : |β₂| < 1) :
    bAβ ax β₂ (bAβ ax β₁ v) = bAβ ax ((β₁ + β₂) / (1 + β₁ * β₂)) v := by
  rw [bAβ_eq, bAβ_eq, bAβ_eq, boostAx_comp, ← (addvel_facts h₁ h₂).2, ← (addvel_facts h₁ h₂).1]

theorem c09_boostX_beta_comp (β₁ β₂ : ℝ) (v : V4) (h₁ : |β₁| < 1) (h₂ : |β₂| < 1) :
    bXβ β₂ (bXβ β₁ v) = bXβ ((β₁ + β₂) / (1 + β₁ * β₂)) v :=
  c09_axis_beta_comp .x β₁ β₂ v h₁ h₂

theorem c09_boostY_beta_comp (β₁ β₂ : ℝ) (v : V4) (h₁ : |β₁| < 1) (h₂ : |β₂| < 1) :
    bYβ β₂ (bYβ β₁ v) = bYβ ((β₁ + β₂) / (1 + β₁ * β₂)) v :=
  c09_axis_beta_comp .y β₁ β₂ v h₁ h₂

theorem c09_boostZ_beta_comp (β₁ β₂ : ℝ) (v : V4) (h₁ : |β₁| < 1) (h₂ : |β₂| < 1) :
    bZβ β₂ (bZβ β₁ v) = bZβ ((β₁ + β₂) / (1 + β₁ * β₂)) v :=
  c09_axis_beta_comp .z β₁ β₂ v h₁ h₂

/-! non-vacuity of the hypotheses of section 1 -/
example : |(0.6 : ℝ)| < 1 ∧ |(-0.8 : ℝ)| < 1 := by
  constructor <;> rw [abs_lt] <;> constructor <;> norm_num

/-! ### 2. `boost_beta3`: Minkowski product and inverse -/

/-- the code's `γ = 1/√(1 − |β|²)` of a velocity vector -/
private noncomputable abbrev gam3 (b : V3) : ℝ := 1 / √(1 - (b.1 ^ 2 + b.2.1 ^ 2 + b.2.2 ^ 2))

private theorem bβ3_eq (v : V4) (b : V3) :
    bβ3 v b = Spec.boostU (gam3 b) (gam3 b * b.1) (gam3 b * b.2.1) (gam3 b * b.2.2) v :=
  refine_lorentz_boost_beta3_cart_t v.1 v.2.1 v.2.2.1 v.2.2.2 b.1 b.2.1 b.2.2

/-- `(γβ, γ)` is a four-velocity -/
private theorem gam3_facts {b : V3} (hb : b.1 ^ 2 + b.2.1 ^ 2 + b.2.2 ^ 2 < 1) :
    gam3 b ^ 2 = 1 + ((gam3 b * b.1) ^ 2 + (gam3 b * b.2.1) ^ 2 + (gam3 b * b.2.2) ^ 2) ∧ gam3 b + 1 ≠ 0 := by
  have h := L.inv_sqrt_sq (sub_pos.mpr hb)
  exact ⟨by linear_combination h.1, (add_pos h.2 one_pos).ne'⟩

theorem c09_boost_beta3_mdot (v w : V4) (b : V3) (hb : b.1 ^ 2 + b.2.1 ^ 2 + b.2.2 ^ 2 < 1) :
    mdot (bβ3 v b) (bβ3 w b) = mdot v w := by
  rw [bβ3_eq, bβ3_eq]
  exact mdot_boostU (gam3_facts hb).1 (gam3_facts hb).2 v w

theorem c09_boost_beta3_inv (v : V4) (b : V3) (hb : b.1 ^ 2 + b.2.1 ^ 2 + b.2.2 ^ 2 < 1) :
    bβ3 (bβ3 v b) (-b.1, -b.2.1, -b.2.2) = v := by
  rw [bβ3_eq, bβ3_eq]
  simp only [gam3, neg_sq, mul_neg]
  exact boostU_neg (gam3_facts hb).1 (gam3_facts hb).2 v

/-! non-vacuity of the hypothesis of section 2 -/
example : ((0.3, 0.4, -0.5) : V3).1 ^ 2 + ((0.3, 0.4, -0.5) : V3).2.1 ^ 2 + ((0.3, 0.4, -0.5) : V3).2.2 ^ 2 < 1 := by
  norm_num

/-! ### 3. the different spellings agree -/

/-- the general boost with velocity `β` along a coordinate axis is the axis boost (`g = γ`, `g²(1 − β²) = 1`) -/
private theorem boostU_axis (ax : Spec10.Axis) {g β : ℝ} (hg : g ^ 2 * (1 - β ^ 2) = 1) (hg1 : g + 1 ≠ 0) (v : V4) :
    Spec.boostU g (g * (axisVec β ax).1) (g * (axisVec β ax).2.1) (g * (axisVec β ax).2.2) v
      = boostAx ax g (β * g) v := by
  obtain ⟨x, y, z, t⟩ := v
  -- `(u·p/(g+1)) u = (g − 1) p` along the axis
  have hq : ∀ p : ℝ, g * β * p / (g + 1) * (g * β) = (g - 1) * p := fun p => by
    rw [div_mul_eq_mul_div, div_eq_iff hg1]; linear_combination (-p) * hg
  cases ax <;> simp only [axisVec, Spec.boostU, boostAx, Spec.boostX, Spec.boostY, Spec.boostZ, Prod.mk.injEq]
  · exact ⟨by linear_combination hq x, by ring, by ring, by ring⟩
  · exact ⟨by ring, by linear_combination hq y, by ring, by ring⟩
  · exact ⟨by ring, by ring, by linear_combination hq z, by ring⟩

/-- `boostX/Y/Z(beta=β)` is `boost_beta3` with the velocity `β` along the axis -/
theorem c09_axis_beta_eq_beta3 (ax : Spec10.Axis) (β : ℝ) (v : V4) (hβ : |β| < 1) :
    bAβ ax β v = bβ3 v (axisVec β ax) := by
  have hu := L.one_sub_sq_pos hβ
  have e : gam3 (axisVec β ax) = gam β := by
    rw [gam, L.rpow_neg_half hu]
    cases ax <;> simp only [gam3, axisVec] <;> ring_nf
  rw [bβ3_eq, bAβ_eq, e]
  exact (boostU_axis ax (L.rpow_neg_half_sq hu) (add_pos (gam_pos hu) one_pos).ne' v).symm

theorem c09_boostX_beta_eq_beta3 (β : ℝ) (v : V4) (hβ : |β| < 1) : bXβ β v = bβ3 v (β, 0, 0) :=
  c09_axis_beta_eq_beta3 .x β v hβ

theorem c09_boostY_beta_eq_beta3 (β : ℝ) (v : V4) (hβ : |β| < 1) : bYβ β v = bβ3 v (0, β, 0) :=
  c09_axis_beta_eq_beta3 .y β v hβ

theorem c09_boostZ_beta_eq_beta3 (β : ℝ) (v : V4) (hβ : |β| < 1) : bZβ β v = bβ3 v (0, 0, β) :=
  c09_axis_beta_eq_beta3 .z β v hβ

/-- the invariant mass `√(E² − |p|²)` the code computes from a `t`-stored booster -/
private noncomputable abbrev mass (p : V4) : ℝ := √(p.2.2.2 ^ 2 - (p.1 ^ 2 + p.2.1 ^ 2 + p.2.2.1 ^ 2))

private theorem bp4_eq (v p : V4) (hM : 0 < p.2.2.2 ^ 2 - (p.1 ^ 2 + p.2.1 ^ 2 + p.2.2.1 ^ 2)) :
    bp4 v p = Spec.boostU (p.2.2.2 / mass p) (p.1 / mass p) (p.2.1 / mass p) (p.2.2.1 / mass p) v :=
  refine_lorentz_boost_p4_cart_t v.1 v.2.1 v.2.2.1 v.2.2.2 p.1 p.2.1 p.2.2.1 p.2.2.2 hM

/-- `p / m` is a four-velocity for a forward timelike `p` -/
private theorem mass_facts {p : V4} (hE : 0 < p.2.2.2) (hM : 0 < p.2.2.2 ^ 2 - (p.1 ^ 2 + p.2.1 ^ 2 + p.2.2.1 ^ 2)) :
    (p.2.2.2 / mass p) ^ 2 = 1 + ((p.1 / mass p) ^ 2 + (p.2.1 / mass p) ^ 2 + (p.2.2.1 / mass p) ^ 2)
      ∧ p.2.2.2 / mass p + 1 ≠ 0 :=
  ⟨L.four_velocity_p4 (Real.sq_sqrt hM.le) (Real.sqrt_pos.mpr hM).ne',
    (add_pos (div_pos hE (Real.sqrt_pos.mpr hM)) one_pos).ne'⟩

/-- `boost_p4(p)` is `boost_beta3(p.to_beta3())` for a forward timelike `p` -/
theorem c09_boost_p4_eq_beta3 (v p : V4) (hE : 0 < p.2.2.2)
    (hp : p.1 ^ 2 + p.2.1 ^ 2 + p.2.2.1 ^ 2 < p.2.2.2 ^ 2) : bp4 v p = bβ3 v (toβ3 p) := by
  obtain ⟨px, py, pz, E⟩ := p
  have hM : 0 < E ^ 2 - (px ^ 2 + py ^ 2 + pz ^ 2) := sub_pos.mpr hp
  have hE0 : E ≠ 0 := hE.ne'
  -- `γ = 1/√(1 − |p/E|²) = E/m`, hence `γ p/E = p/m`
  have hG : 1 / √(1 - ((px / E) ^ 2 + (py / E) ^ 2 + (pz / E) ^ 2)) =
      E / √(E ^ 2 - (px ^ 2 + py ^ 2 + pz ^ 2)) := by
    have h1 : 1 - ((px / E) ^ 2 + (py / E) ^ 2 + (pz / E) ^ 2) =
        (E ^ 2 - (px ^ 2 + py ^ 2 + pz ^ 2)) / E ^ 2 := by
      field_simp
    rw [h1, Real.sqrt_div hM.le, Real.sqrt_sq hE.le, one_div_div]
  have e : ∀ q m : ℝ, E / m * (q / E) = q / m := fun q m => by field_simp
  rw [bp4_eq _ _ hM, bβ3_eq]
  simp only [gam3, mass, d_lorentz_to_beta3]
  rw [hG, e, e, e]

/-- the velocity spelled by a Lorentz factor `γ` (`|γ| ≥ 1`; the sign of `γ` gives the direction) -/
noncomputable def betaOfGamma (γ : ℝ) : ℝ := P.sign γ * √(1 - 1 / γ ^ 2)

private theorem gamma_facts {γ : ℝ} (h : 1 ≤ |γ|) :
    |betaOfGamma γ| < 1 ∧ P.rpow (1 - betaOfGamma γ ^ 2) (-(0.5 : ℝ)) = |γ| ∧
      betaOfGamma γ * |γ| = P.copysign (√(|γ| ^ 2 - 1)) γ := by
  have hpos : 0 < |γ| := by linarith
  have hγ0 : γ ≠ 0 := abs_pos.mp hpos
  have hsq : 1 ≤ γ ^ 2 := by rw [← sq_abs]; nlinarith
  have hu : 0 ≤ 1 - 1 / γ ^ 2 := by
    rw [sub_nonneg, div_le_one (by positivity)]; exact hsq
  have hs2 : P.sign γ ^ 2 = 1 := by
    unfold P.sign
    rcases lt_or_gt_of_ne hγ0 with hn | hp
    · rw [Real.sign_of_neg hn]; norm_num
    · rw [Real.sign_of_pos hp]; norm_num
  have hb2 : betaOfGamma γ ^ 2 = 1 - 1 / γ ^ 2 := by
    unfold betaOfGamma
    rw [mul_pow, hs2, Real.sq_sqrt hu, one_mul]
  have h1 : 1 - betaOfGamma γ ^ 2 = 1 / γ ^ 2 := by rw [hb2]; ring
  have hmul : √(1 - 1 / γ ^ 2) * |γ| = √(|γ| ^ 2 - 1) := by
    rw [← Real.sqrt_sq_eq_abs, ← Real.sqrt_mul hu, Real.sq_sqrt (by positivity)]
    congr 1
    field_simp
  refine ⟨?_, ?_, ?_⟩
  · have : betaOfGamma γ ^ 2 < 1 ^ 2 := by
      rw [hb2]
      have : 0 < 1 / γ ^ 2 := by positivity
      linarith
    exact abs_lt_of_sq_lt_sq this (by norm_num) |> fun h => by simpa using h
  · rw [h1]
    apply gam_unique (by positivity) hpos
    rw [sq_abs]; field_simp
  · unfold betaOfGamma P.copysign P.sign
    rw [mul_assoc, hmul, abs_of_nonneg (Real.sqrt_nonneg _)]
    rcases lt_or_gt_of_ne hγ0 with hn | hp
    · rw [Real.sign_of_neg hn, if_neg (not_le.mpr hn)]; ring
    · rw [Real.sign_of_pos hp, if_pos hp.le]; ring

/-- `boostX/Y/Z(gamma=γ)` is `boostX/Y/Z(beta=β)` for `β = sign γ · √(1 - 1/γ²)` -/
theorem c09_axis_gamma_eq_beta (ax : Spec10.Axis) (γ : ℝ) (v : V4) (hγ : 1 ≤ |γ|) :
    bAγ ax γ v = bAβ ax (betaOfGamma γ) v := by
  rw [bAγ_eq, bAβ_eq, (gamma_facts hγ).2.1, (gamma_facts hγ).2.2]

/-- the signed Lorentz factor spelling the velocity `β` -/
noncomputable def gammaOfBeta (β : ℝ) : ℝ := P.copysign (P.rpow (1 - β ^ 2) (-(0.5 : ℝ))) β

private theorem beta_facts {β : ℝ} (hβ : |β| < 1) :
    |gammaOfBeta β| = P.rpow (1 - β ^ 2) (-(0.5 : ℝ)) ∧
      P.copysign (√(P.rpow (1 - β ^ 2) (-(0.5 : ℝ)) ^ 2 - 1)) (gammaOfBeta β) =
        β * P.rpow (1 - β ^ 2) (-(0.5 : ℝ)) := by
  have hu := L.one_sub_sq_pos hβ
  have hg := L.rpow_neg_half_sq hu
  have hp := gam_pos hu
  unfold gammaOfBeta
  set g := P.rpow (1 - β ^ 2) (-(0.5 : ℝ))
  have hs : √(g ^ 2 - 1) = |β| * g := by
    have : g ^ 2 - 1 = (|β| * g) ^ 2 := by rw [mul_pow, sq_abs]; linear_combination hg
    rw [this, Real.sqrt_sq (by positivity)]
  unfold P.copysign
  by_cases h0 : 0 ≤ β
  · rw [if_pos h0, abs_abs, abs_of_pos hp]
    refine ⟨rfl, ?_⟩
    rw [if_pos hp.le, hs, abs_of_nonneg (by positivity), abs_of_nonneg h0]
  · rw [if_neg h0, abs_neg, abs_abs, abs_of_pos hp]
    refine ⟨rfl, ?_⟩
    have hn : ¬ (0 ≤ -g) := by linarith
    rw [if_neg hn, hs, abs_of_nonneg (by positivity), abs_of_neg (not_le.mp h0)]
    ring

/-- `boostX/Y/Z(beta=β)` is `boostX/Y/Z(gamma=±(1-β²)^(-1/2))`, the sign being that of `β` -/
theorem c09_axis_beta_eq_gamma (ax : Spec10.Axis) (β : ℝ) (v : V4) (hβ : |β| < 1) :
    bAβ ax β v = bAγ ax (gammaOfBeta β) v := by
  rw [bAγ_eq, bAβ_eq, (beta_facts hβ).1, (beta_facts hβ).2]

theorem c09_boostX_beta_eq_gamma (β : ℝ) (v : V4) (hβ : |β| < 1) : bXβ β v = bXγ (gammaOfBeta β) v :=
  c09_axis_beta_eq_gamma .x β v hβ

theorem c09_boostY_beta_eq_gamma (β : ℝ) (v : V4) (hβ : |β| < 1) : bYβ β v = bYγ (gammaOfBeta β) v :=
  c09_axis_beta_eq_gamma .y β v hβ

theorem c09_boostZ_beta_eq_gamma (β : ℝ) (v : V4) (hβ : |β| < 1) : bZβ β v = bZγ (gammaOfBeta β) v :=
  c09_axis_beta_eq_gamma .z β v hβ

/-- the signed Lorentz factor of a subluminal velocity lies in the domain `|γ| ≥ 1` of the `gamma` spelling -/
theorem c09_gammaOfBeta_abs_ge_one {β : ℝ} (hβ : |β| < 1) : 1 ≤ |gammaOfBeta β| := by
  rw [(beta_facts hβ).1]
  have hu := L.one_sub_sq_pos hβ
  have hg := L.rpow_neg_half_sq hu
  have hp := gam_pos hu
  nlinarith [sq_nonneg β, sq_nonneg (P.rpow (1 - β ^ 2) (-(0.5 : ℝ)))]

theorem c09_betaOfGamma_abs_lt_one {γ : ℝ} (hγ : 1 ≤ |γ|) : |betaOfGamma γ| < 1 := (gamma_facts hγ).1

theorem c09_betaOfGamma_gamma {γ : ℝ} (hγ : 1 ≤ |γ|) : P.rpow (1 - betaOfGamma γ ^ 2) (-(0.5 : ℝ)) = |γ| :=
  (gamma_facts hγ).2.1

theorem c09_betaOfGamma_neg (γ : ℝ) : betaOfGamma (-γ) = -betaOfGamma γ := by
  unfold betaOfGamma P.sign
  rw [Real.sign_neg, neg_sq]; ring

/-! non-vacuity of the hypotheses of section 3 -/
example : (1 : ℝ) ≤ |(-1.25 : ℝ)| := by rw [abs_of_neg (by norm_num)]; norm_num
example : (0 : ℝ) < ((0.3, 0.4, 1.2, 2) : V4).2.2.2 ∧
    ((0.3, 0.4, 1.2, 2) : V4).1 ^ 2 + ((0.3, 0.4, 1.2, 2) : V4).2.1 ^ 2 + ((0.3, 0.4, 1.2, 2) : V4).2.2.1 ^ 2 <
      ((0.3, 0.4, 1.2, 2) : V4).2.2.2 ^ 2 := by
  norm_num

/-! ### 4. boosting into the own rest frame (`v.boostCM_of_p4(v)` is `v.boost_p4(-v)`) -/

/-- the boost with four-velocity `(−p, t)/M` takes `(p, t)` to rest -/
private theorem boostU_rest {x y z t M : ℝ} (hM : M ^ 2 = t ^ 2 - (x ^ 2 + y ^ 2 + z ^ 2)) (hM0 : 0 < M) (ht : 0 < t) :
    Spec.boostU (t / M) (-x / M) (-y / M) (-z / M) (x, y, z, t) = (0, 0, 0, M) := by
  have hup : -x / M * x + -y / M * y + -z / M * z = (M ^ 2 - t ^ 2) / M := by rw [hM]; ring
  have hc : (M ^ 2 - t ^ 2) / M / (t / M + 1) + t = M := by
    have : t + M ≠ 0 := (add_pos ht hM0).ne'
    field_simp
    ring
  simp only [Spec.boostU, hup, hc]
  refine Prod.ext ?_ (Prod.ext ?_ (Prod.ext ?_ ?_))
  · show x + M * (-x / M) = 0
    field_simp; ring
  · show y + M * (-y / M) = 0
    field_simp; ring
  · show z + M * (-z / M) = 0
    field_simp; ring
  · show (M ^ 2 - t ^ 2) / M + t / M * t = M
    field_simp; ring

theorem c09_boostCM_of_self (v : V4) (hE : 0 < v.2.2.2)
    (hv : v.1 ^ 2 + v.2.1 ^ 2 + v.2.2.1 ^ 2 < v.2.2.2 ^ 2) :
    bp4 v (-v.1, -v.2.1, -v.2.2.1, v.2.2.2) =
      (0, 0, 0, √(v.2.2.2 ^ 2 - v.1 ^ 2 - v.2.1 ^ 2 - v.2.2.1 ^ 2)) := by
  obtain ⟨x, y, z, t⟩ := v
  have hM : 0 < t ^ 2 - (x ^ 2 + y ^ 2 + z ^ 2) := sub_pos.mpr hv
  have e : t ^ 2 - x ^ 2 - y ^ 2 - z ^ 2 = t ^ 2 - (x ^ 2 + y ^ 2 + z ^ 2) := by ring
  rw [bp4_eq _ _ (by simpa only [neg_sq] using hM)]
  simp only [mass, neg_sq, e]
  exact boostU_rest (Real.sq_sqrt hM.le) (Real.sqrt_pos.mpr hM) hE

/-- `p.neg3D` (the method is `spatial.scale(-1, p)`, the temporal coordinate is kept) -/
noncomputable abbrev neg3D (p : V4) : V4 :=
  ((spatial_scale.eval .xy .z (-1) p.1 p.2.1 p.2.2.1).1, (spatial_scale.eval .xy .z (-1) p.1 p.2.1 p.2.2.1).2.1,
    (spatial_scale.eval .xy .z (-1) p.1 p.2.1 p.2.2.1).2.2, p.2.2.2)

/-- `v.boostCM_of_p4(p)` is `boost_p4.dispatch(v, p.neg3D)` -/
noncomputable abbrev boostCMp4 (v p : V4) : V4 := bp4 v (neg3D p)

/-- `v.tau` -/
noncomputable abbrev tauOf (v : V4) : ℝ := lorentz_tau.eval .xy .z .t v.1 v.2.1 v.2.2.1 v.2.2.2

theorem c09_neg3D (p : V4) : neg3D p = (-p.1, -p.2.1, -p.2.2.1, p.2.2.2) := by
  simp only [neg3D, d_spatial_scale, mul_neg, mul_one]

/-- `v.boostCM_of_p4(v)` has zero spatial part and time component `v.tau` -/
theorem c09_boostCM_of_p4_self (v : V4) (hE : 0 < v.2.2.2)
    (hv : v.1 ^ 2 + v.2.1 ^ 2 + v.2.2.1 ^ 2 < v.2.2.2 ^ 2) :
    boostCMp4 v v = (0, 0, 0, tauOf v) := by
  rw [boostCMp4, c09_neg3D, c09_boostCM_of_self v hE hv]
  obtain ⟨x, y, z, t⟩ := v
  have hM : 0 < t ^ 2 - (x ^ 2 + y ^ 2 + z ^ 2) := sub_pos.mpr hv
  have e : t ^ 2 - x ^ 2 - y ^ 2 - z ^ 2 = t ^ 2 - (x ^ 2 + y ^ 2 + z ^ 2) := by ring
  simp only [d_lorentz_tau, d_lorentz_tau2, d_spatial_mag2, P.copysign, e, if_pos hM.le, abs_of_pos hM,
    abs_of_nonneg (Real.sqrt_nonneg _)]

/-! ### corollaries: `boost_p4` and the `gamma` spellings are Lorentz transformations too -/

theorem c09_to_beta3_subluminal (p : V4) (hE : 0 < p.2.2.2)
    (hp : p.1 ^ 2 + p.2.1 ^ 2 + p.2.2.1 ^ 2 < p.2.2.2 ^ 2) :
    (toβ3 p).1 ^ 2 + (toβ3 p).2.1 ^ 2 + (toβ3 p).2.2 ^ 2 < 1 := by
  obtain ⟨px, py, pz, E⟩ := p
  show (px / E) ^ 2 + (py / E) ^ 2 + (pz / E) ^ 2 < 1
  rw [div_pow, div_pow, div_pow, ← add_div, ← add_div, div_lt_one (pow_pos hE 2)]
  exact hp

theorem c09_boost_p4_mdot (v w p : V4) (hE : 0 < p.2.2.2)
    (hp : p.1 ^ 2 + p.2.1 ^ 2 + p.2.2.1 ^ 2 < p.2.2.2 ^ 2) :
    mdot (bp4 v p) (bp4 w p) = mdot v w := by
  have hM := sub_pos.mpr hp
  rw [bp4_eq _ _ hM, bp4_eq _ _ hM]
  exact mdot_boostU (mass_facts hE hM).1 (mass_facts hE hM).2 v w

theorem c09_boost_p4_inv (v p : V4) (hE : 0 < p.2.2.2)
    (hp : p.1 ^ 2 + p.2.1 ^ 2 + p.2.2.1 ^ 2 < p.2.2.2 ^ 2) :
    bp4 (bp4 v p) (neg3D p) = v := by
  have hM := sub_pos.mpr hp
  rw [c09_neg3D, bp4_eq _ _ (by simpa only [neg_sq] using hM), bp4_eq _ _ hM]
  simp only [mass, neg_sq, neg_div]
  exact boostU_neg (mass_facts hE hM).1 (mass_facts hE hM).2 v

theorem c09_axis_gamma_mdot (ax : Spec10.Axis) (γ : ℝ) (v w : V4) (hγ : 1 ≤ |γ|) :
    mdot (bAγ ax γ v) (bAγ ax γ w) = mdot v w := by
  rw [bAγ_eq, bAγ_eq]
  exact mdot_boostAx ax (L.gam_gamma hγ).1 v w

/-- `boostX/Y/Z(gamma=-γ)` undoes `boostX/Y/Z(gamma=γ)` -/
theorem c09_axis_gamma_inv (ax : Spec10.Axis) (γ : ℝ) (v : V4) (hγ : 1 ≤ |γ|) : bAγ ax (-γ) (bAγ ax γ v) = v := by
  rw [c09_axis_gamma_eq_beta ax (-γ) _ (by rwa [abs_neg]), c09_axis_gamma_eq_beta ax γ v hγ, c09_betaOfGamma_neg]
  exact c09_axis_beta_inv ax _ v (c09_betaOfGamma_abs_lt_one hγ)

theorem c09_boostX_gamma_inv (γ : ℝ) (v : V4) (hγ : 1 ≤ |γ|) : bXγ (-γ) (bXγ γ v) = v :=
  c09_axis_gamma_inv .x γ v hγ

theorem c09_boostY_gamma_inv (γ : ℝ) (v : V4) (hγ : 1 ≤ |γ|) : bYγ (-γ) (bYγ γ v) = v :=
  c09_axis_gamma_inv .y γ v hγ

theorem c09_boostZ_gamma_inv (γ : ℝ) (v : V4) (hγ : 1 ≤ |γ|) : bZγ (-γ) (bZγ γ v) = v :=
  c09_axis_gamma_inv .z γ v hγ

/-- `b.neg3D` of a three-vector -/
noncomputable abbrev neg3 (b : V3) : V3 := spatial_scale.eval .xy .z (-1) b.1 b.2.1 b.2.2

/-- `v.boostCM_of_beta3(v.to_beta3())` (that is `boost_beta3(v, v.to_beta3().neg3D)`) has zero spatial part and
time component `v.tau` -/
theorem c09_boostCM_of_beta3_self (v : V4) (hE : 0 < v.2.2.2)
    (hv : v.1 ^ 2 + v.2.1 ^ 2 + v.2.2.1 ^ 2 < v.2.2.2 ^ 2) :
    bβ3 v (neg3 (toβ3 v)) = (0, 0, 0, tauOf v) := by
  have hE' : 0 < (neg3D v).2.2.2 := hE
  have hp' : (neg3D v).1 ^ 2 + (neg3D v).2.1 ^ 2 + (neg3D v).2.2.1 ^ 2 < (neg3D v).2.2.2 ^ 2 := by
    rw [c09_neg3D]; simpa only [neg_sq] using hv
  have h : neg3 (toβ3 v) = toβ3 (neg3D v) := by
    rw [c09_neg3D]
    simp only [neg3, d_spatial_scale, d_lorentz_to_beta3, neg_div, mul_neg, mul_one]
  rw [h, ← c09_boost_p4_eq_beta3 v (neg3D v) hE' hp']
  exact c09_boostCM_of_p4_self v hE hv

/-! ### proper time is preserved (it is a function of the Minkowski square) -/

theorem c09_tau_eq_of_mdot (v : V4) : tauOf v = P.copysign (√|mdot v v|) (mdot v v) := by
  obtain ⟨x, y, z, t⟩ := v
  have e : t ^ 2 - (x ^ 2 + y ^ 2 + z ^ 2) = t * t - x * x - y * y - z * z := by ring
  simp only [d_lorentz_tau, d_lorentz_tau2, d_spatial_mag2, mdot, e]

theorem c09_tau_congr {v w : V4} (h : mdot v v = mdot w w) : tauOf v = tauOf w := by
  rw [c09_tau_eq_of_mdot, c09_tau_eq_of_mdot, h]

theorem c09_boostX_beta_tau (β : ℝ) (v : V4) (hβ : |β| < 1) : tauOf (bXβ β v) = tauOf v :=
  c09_tau_congr (c09_axis_beta_mdot .x β v v hβ)
theorem c09_boostY_beta_tau (β : ℝ) (v : V4) (hβ : |β| < 1) : tauOf (bYβ β v) = tauOf v :=
  c09_tau_congr (c09_axis_beta_mdot .y β v v hβ)
theorem c09_boostZ_beta_tau (β : ℝ) (v : V4) (hβ : |β| < 1) : tauOf (bZβ β v) = tauOf v :=
  c09_tau_congr (c09_axis_beta_mdot .z β v v hβ)
theorem c09_boostX_gamma_tau (γ : ℝ) (v : V4) (hγ : 1 ≤ |γ|) : tauOf (bXγ γ v) = tauOf v :=
  c09_tau_congr (c09_axis_gamma_mdot .x γ v v hγ)
theorem c09_boostY_gamma_tau (γ : ℝ) (v : V4) (hγ : 1 ≤ |γ|) : tauOf (bYγ γ v) = tauOf v :=
  c09_tau_congr (c09_axis_gamma_mdot .y γ v v hγ)
theorem c09_boostZ_gamma_tau (γ : ℝ) (v : V4) (hγ : 1 ≤ |γ|) : tauOf (bZγ γ v) = tauOf v :=
  c09_tau_congr (c09_axis_gamma_mdot .z γ v v hγ)
theorem c09_boost_beta3_tau (v : V4) (b : V3) (hb : b.1 ^ 2 + b.2.1 ^ 2 + b.2.2 ^ 2 < 1) :
    tauOf (bβ3 v b) = tauOf v :=
  c09_tau_congr (c09_boost_beta3_mdot v v b hb)
theorem c09_boost_p4_tau (v p : V4) (hE : 0 < p.2.2.2)
    (hp : p.1 ^ 2 + p.2.1 ^ 2 + p.2.2.1 ^ 2 < p.2.2.2 ^ 2) : tauOf (bp4 v p) = tauOf v :=
  c09_tau_congr (c09_boost_p4_mdot v v p hE hp)

/-! ### other coordinate systems: the generated variants convert to Cartesian and apply the Cartesian kernel

Lifting lemmas for the `t` keys of the six axis boosts and of `boost_beta3` (boosted vector and velocity in any of the 6
spatial systems) and of `boost_p4` (boosted vector in any spatial system, Cartesian `t`-stored booster); for the τ keys, which
return the spatial part of the `t` kernel and the stored τ, of `boostX/Y(beta=…)` (any spatial system) and of `boost_beta3`,
`boost_p4` (Cartesian boosted vector). The statements for every key and both operands are the refinement theorems of
`Refine/LorentzBin.lean`. -/

/-- Cartesian components `(x, y, z, t)` of a four-vector stored with keys `k0 k1 k2` -/
noncomputable abbrev cart4 (k0 : Az) (k1 : Lon) (k2 : Tmp) (a0 a1 a2 a3 : ℝ) : V4 :=
  (planar_x.eval k0 a0 a1, planar_y.eval k0 a0 a1, spatial_z.eval k0 k1 a0 a1 a2, lorentz_t.eval k0 k1 k2 a0 a1 a2 a3)
/-- Cartesian components `(x, y, z)` of a three-vector stored with keys `k0 k1` -/
noncomputable abbrev cart3 (k0 : Az) (k1 : Lon) (a0 a1 a2 : ℝ) : V3 :=
  (planar_x.eval k0 a0 a1, planar_y.eval k0 a0 a1, spatial_z.eval k0 k1 a0 a1 a2)

theorem c09_boostX_beta_eval_t (k0 : Az) (k1 : Lon) (β a0 a1 a2 a3 : ℝ) :
    lorentz_boostX_beta.eval k0 k1 .t β a0 a1 a2 a3 = bXβ β (cart4 k0 k1 .t a0 a1 a2 a3) := by
  cases k0 <;> cases k1 <;> rfl

theorem c09_boostY_beta_eval_t (k0 : Az) (k1 : Lon) (β a0 a1 a2 a3 : ℝ) :
    lorentz_boostY_beta.eval k0 k1 .t β a0 a1 a2 a3 = bYβ β (cart4 k0 k1 .t a0 a1 a2 a3) := by
  cases k0 <;> cases k1 <;> rfl

theorem c09_boostX_gamma_eval_t (k0 : Az) (k1 : Lon) (γ a0 a1 a2 a3 : ℝ) :
    lorentz_boostX_gamma.eval k0 k1 .t γ a0 a1 a2 a3 = bXγ γ (cart4 k0 k1 .t a0 a1 a2 a3) := by
  cases k0 <;> cases k1 <;> rfl

theorem c09_boostY_gamma_eval_t (k0 : Az) (k1 : Lon) (γ a0 a1 a2 a3 : ℝ) :
    lorentz_boostY_gamma.eval k0 k1 .t γ a0 a1 a2 a3 = bYγ γ (cart4 k0 k1 .t a0 a1 a2 a3) := by
  cases k0 <;> cases k1 <;> rfl

/-- for a vector stored with `tau`, the spatial part is that of the Cartesian boost and `tau` is returned unchanged -/
theorem c09_boostX_beta_eval_tau (k0 : Az) (k1 : Lon) (β a0 a1 a2 a3 : ℝ) :
    lorentz_boostX_beta.eval k0 k1 .tau β a0 a1 a2 a3 =
      ((bXβ β (cart4 k0 k1 .tau a0 a1 a2 a3)).1, (bXβ β (cart4 k0 k1 .tau a0 a1 a2 a3)).2.1,
        (bXβ β (cart4 k0 k1 .tau a0 a1 a2 a3)).2.2.1, a3) := by
  cases k0 <;> cases k1 <;> rfl

theorem c09_boostY_beta_eval_tau (k0 : Az) (k1 : Lon) (β a0 a1 a2 a3 : ℝ) :
    lorentz_boostY_beta.eval k0 k1 .tau β a0 a1 a2 a3 =
      ((bYβ β (cart4 k0 k1 .tau a0 a1 a2 a3)).1, (bYβ β (cart4 k0 k1 .tau a0 a1 a2 a3)).2.1,
        (bYβ β (cart4 k0 k1 .tau a0 a1 a2 a3)).2.2.1, a3) := by
  cases k0 <;> cases k1 <;> rfl

/-- `boostZ` keeps the azimuthal coordinates in the system of the input; its `z` and `t` are those of the
Cartesian boost -/
theorem c09_boostZ_beta_eval_t (k0 : Az) (k1 : Lon) (β a0 a1 a2 a3 : ℝ) :
    lorentz_boostZ_beta.eval k0 k1 .t β a0 a1 a2 a3 =
      (a0, a1, (bZβ β (cart4 k0 k1 .t a0 a1 a2 a3)).2.2.1, (bZβ β (cart4 k0 k1 .t a0 a1 a2 a3)).2.2.2) := by
  cases k0 <;> cases k1 <;> rfl

theorem c09_boostZ_gamma_eval_t (k0 : Az) (k1 : Lon) (γ a0 a1 a2 a3 : ℝ) :
    lorentz_boostZ_gamma.eval k0 k1 .t γ a0 a1 a2 a3 =
      (a0, a1, (bZγ γ (cart4 k0 k1 .t a0 a1 a2 a3)).2.2.1, (bZγ γ (cart4 k0 k1 .t a0 a1 a2 a3)).2.2.2) := by
  cases k0 <;> cases k1 <;> rfl

theorem c09_boost_beta3_eval_t (k0 : Az) (k1 : Lon) (k3 : Az) (k4 : Lon) (a0 a1 a2 a3 b0 b1 b2 : ℝ) :
    lorentz_boost_beta3.eval k0 k1 .t k3 k4 a0 a1 a2 a3 b0 b1 b2 =
      bβ3 (cart4 k0 k1 .t a0 a1 a2 a3) (cart3 k3 k4 b0 b1 b2) := by
  cases k0 <;> cases k1 <;> cases k3 <;> cases k4 <;> rfl

theorem c09_boost_p4_eval_t (k0 : Az) (k1 : Lon) (a0 a1 a2 a3 : ℝ) (p : V4) :
    lorentz_boost_p4.eval k0 k1 .t .xy .z .t a0 a1 a2 a3 p.1 p.2.1 p.2.2.1 p.2.2.2 =
      bp4 (cart4 k0 k1 .t a0 a1 a2 a3) p := by
  cases k0 <;> cases k1 <;> rfl

/-- example of the lifting: `boost_beta3` preserves the Minkowski product whatever the coordinate systems
of the two boosted vectors and of the velocity -/
theorem c09_boost_beta3_mdot_allkeys (k0 : Az) (k1 : Lon) (k0' : Az) (k1' : Lon) (k3 : Az) (k4 : Lon)
    (a0 a1 a2 a3 a0' a1' a2' a3' b0 b1 b2 : ℝ)
    (hb : (cart3 k3 k4 b0 b1 b2).1 ^ 2 + (cart3 k3 k4 b0 b1 b2).2.1 ^ 2 + (cart3 k3 k4 b0 b1 b2).2.2 ^ 2 < 1) :
    mdot (lorentz_boost_beta3.eval k0 k1 .t k3 k4 a0 a1 a2 a3 b0 b1 b2)
        (lorentz_boost_beta3.eval k0' k1' .t k3 k4 a0' a1' a2' a3' b0 b1 b2) =
      mdot (cart4 k0 k1 .t a0 a1 a2 a3) (cart4 k0' k1' .t a0' a1' a2' a3') := by
  rw [c09_boost_beta3_eval_t, c09_boost_beta3_eval_t]
  exact c09_boost_beta3_mdot _ _ _ hb

/-- a Cartesian vector stored with `tau`: spatial part of the `t`-kernel applied to `(x, y, z, t(x,y,z,tau))`,
and `tau` is returned unchanged (proper time is preserved by construction) -/
theorem c09_boost_beta3_eval_tau (k3 : Az) (k4 : Lon) (x y z tau b0 b1 b2 : ℝ) :
    lorentz_boost_beta3.eval .xy .z .tau k3 k4 x y z tau b0 b1 b2 =
      ((bβ3 (cart4 .xy .z .tau x y z tau) (cart3 k3 k4 b0 b1 b2)).1,
        (bβ3 (cart4 .xy .z .tau x y z tau) (cart3 k3 k4 b0 b1 b2)).2.1,
        (bβ3 (cart4 .xy .z .tau x y z tau) (cart3 k3 k4 b0 b1 b2)).2.2.1, tau) := by
  cases k3 <;> cases k4 <;> rfl

theorem c09_boost_p4_eval_tau (x y z tau : ℝ) (p : V4) :
    lorentz_boost_p4.eval .xy .z .tau .xy .z .t x y z tau p.1 p.2.1 p.2.2.1 p.2.2.2 =
      ((bp4 (cart4 .xy .z .tau x y z tau) p).1, (bp4 (cart4 .xy .z .tau x y z tau) p).2.1,
        (bp4 (cart4 .xy .z .tau x y z tau) p).2.2.1, tau) :=
  rfl

/-! ### the hypothesis `0 < p.t` of `c09_boost_p4_eq_beta3` is needed: for a timelike booster with negative
energy the two spellings differ (`boost_p4` uses `γ = E/m < 0`, `boost_beta3` uses `γ = 1/√(1-β²) > 0`) -/
theorem c09_boost_p4_ne_beta3_of_neg_energy :
    bp4 (0, 0, 0, 1) (0, 0, 3, -5) ≠ bβ3 (0, 0, 0, 1) (toβ3 (0, 0, 3, -5)) := by
  intro h
  have h4 := congrArg (fun r : V4 => r.2.2.2) h
  simp only [d_lorentz_boost_p4, d_lorentz_to_beta3, d_lorentz_boost_beta3, d_lorentz_transform4D,
    d_spatial_mag2] at h4
  have h1 : (0 : ℝ) < √((-5) ^ 2 - (0 ^ 2 + 0 ^ 2 + 3 ^ 2)) := Real.sqrt_pos.mpr (by norm_num)
  have h2 : (0 : ℝ) < √(1 - ((0 / -5) ^ 2 + (0 / -5) ^ 2 + (3 / -5) ^ 2)) := Real.sqrt_pos.mpr (by norm_num)
  have h3 : (-5 : ℝ) / √((-5) ^ 2 - (0 ^ 2 + 0 ^ 2 + 3 ^ 2)) < 0 := div_neg_of_neg_of_pos (by norm_num) h1
  have h5 : (0 : ℝ) < 1 / √(1 - ((0 / -5) ^ 2 + (0 / -5) ^ 2 + (3 / -5) ^ 2)) := by positivity
  simp only [mul_zero, zero_add, mul_one, add_zero] at h4
  linarith

end VR
