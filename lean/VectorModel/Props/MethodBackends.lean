/-
The Numba model and the SymPy copy over the reals (prefixes `c07m_`, `c08m_`): `Props/C07.lean` and `Props/C08.lean` at the
generated REAL compute layer `evR`, so that the method-level theorems (`c01m_*`, `c11m_*`, `c09m_*`, `c04m_*`) transfer to
compiled code and to the SymPy backend.

* Cross-check (before Part A; nothing below uses it).  `EvTables evR`, the assumption of `Props/C07.lean`, is `c07m_evTables`
  of `Props/EvReal.lean`, proved for every module from `EvalLSpec` of its list wrapper (`real_spec.M`).  The macro command
  `mb_tab_thm M` proves the content of `c07m_evTables` at ONE module `M` by another route, from the definition of `VR.M.evalL`
  and the generated table alone; it is run on five modules, which cover four of the eight key shapes of `ModuleId.info`
  (`[az]`, `[az, lon]`, `[az, lon, az, lon]`, `[az, lon, tmp]`), as a check of the general route on samples.
* Part A, Numba (C07): A.1 `EvTables evR` (`Props/EvReal.lean`); A.2 `numbaCall evR … = call evR …` on every supported call
  (`c07m_call_agree`), then family by family; A.3 denotation theorems for compiled code, as instances of A.2 for the methods
  listed there; A.4 the documented differences, over ℝ.
* Part B, SymPy (C08): the compute layer `evS`, assembled from `Gen/Sym`; B.1 `evS = evR`, on the modules where the two libraries
  agree for every key and argument list, on the others under the regular-domain hypotheses of `Props/C08.lean`; B.2 congruence
  of the glue in the compute layer, hence `call evS … = call evR …`; B.3 denotation theorems for the SymPy backend, as instances
  of B.2 for a sample of methods.
-/
import VectorModel.Props.C07
import VectorModel.Props.MethodLorentz
import VectorModel.Props.MethodConv
import VectorModel.Props.C08

set_option linter.constructorNameAsVariable false
namespace VR
namespace MB
open VK VG Spec C01M

/-! ## Cross-check — the declared results of five modules, from `VR.M.evalL` and the table alone

`mb_tab_thm M` states and proves, as `real_tab.M`: where `VR.M.evalL` is defined, its declared result is the entry of the
generated table.  This is `c07m_evTables` (`Props/EvReal.lean`) at the module `M`; there it is `EvalLSpec.tab` of `real_spec.M`
(the declared result is the executable wrapper's, whose results are the table: `c05_declared_eq_retOf`), here it comes from
the definition of `VR.M.evalL` and the table alone: every key atom is split, every dead branch simplified away, every key
looked up.  The five `real_tab.M` are an independent derivation kept as a cross-check; their key shapes are `[az]`,
`[az, lon]`, `[az, lon, az, lon]` and `[az, lon, tmp]` (twice: `lorentz_Mt2`, `lorentz_scale`), so `[az, az]`, `[az, lon, ord]`,
`[az, lon, tmp, az, lon]` and `[az, lon, tmp, az, lon, tmp]` are not sampled.  No later proof cites them. -/

local macro "mb_cases_one " t:ident : tactic => `(tactic| cases_first $t)
local macro "mb_revert_keys" : tactic => `(tactic| revert_keys)

open Lean in
local macro "mb_tab_thm " m:ident : command => do
  let f := mkIdent (`VR ++ m.getId ++ `evalL)
  let thm := mkIdent (`real_tab ++ m.getId)
  let c := mkIdent (`VK.ModuleId ++ m.getId)
  `(command|
    set_option maxRecDepth 100000 in
    private theorem $thm (k : List KA) (a : List ℝ) (out : Out ℝ Prop) (ret : Ret)
        (h : $f k a = some (out, ret)) : declared $c k = some ret := by
      unfold $f at h
      split at h
      · repeat (mb_cases_one KA <;> simp [KA.az?, KA.lon?, KA.tmp?, KA.ord?] at h)
        obtain ⟨-, h2⟩ := h
        subst h2
        mb_revert_keys
        decide +kernel
      · cases h)

mb_tab_thm planar_rotateZ
mb_tab_thm spatial_rotateX
mb_tab_thm spatial_dot
mb_tab_thm lorentz_Mt2
mb_tab_thm lorentz_scale

/-! ## Part A — Numba over the reals (C07 instantiated at the REAL compute layer `evR`) -/

/-! ### A.1 `EvTables evR`, which `Props/C07.lean` assumes of the compute layer: `c07m_evTables`, proved in `Props/EvReal.lean` -/

/-! ### A.2 agreement, family by family (object operands; equal flavors where a second vector is involved) -/

/-- C07 over the reals: on object operands, whenever the interpreter succeeds on a supported call, the compiled call is the
interpreter's -/
theorem c07m_call_agree (K : Consts ℝ) (A : Arith ℝ) (self : Vec ℝ) (n : String) (args : List (Arg ℝ)) (r : Res ℝ Prop)
    (hbe : self.ty.be = .obj) (hs : Supported K self n args) (h : call evR K A n self args = .ok r) :
    numbaCall evR K A n self args = call evR K A n self args := by
  rw [h]; exact c07_call_agree evR c07m_evTables K A self n args hbe hs r h

/-- the 23 generic accessor names and the 20 momentum spellings numba defines -/
theorem c07m_acc_agree (K : Consts ℝ) (A : Arith ℝ) (self : Vec ℝ) (r : Res ℝ Prop) (hbe : self.ty.be = .obj)
    (p : String × Acc) (hp : p ∈ c07_accNames ++ c07_momNames) (h : call evR K A p.1 self [] = .ok r) :
    numbaCall evR K A p.1 self [] = call evR K A p.1 self [] :=
  c07m_call_agree K A self _ _ r hbe (.acc hp) h

/-- rotations, `scale2D/3D/4D`, `neg2D/3D/4D`, `boostX/Y/Z` (positional, `beta=`, `gamma=`) -/
theorem c07m_selfMethods_agree (K : Consts ℝ) (A : Arith ℝ) (self : Vec ℝ) (a b c d : ℝ) (r : Res ℝ Prop)
    (hbe : self.ty.be = .obj) (e : String × List (Arg ℝ) × ModuleId × Nat × List ℝ × Option Ord)
    (he : e ∈ c07_selfMethods K a b c d) (h : call evR K A e.1 self e.2.1 = .ok r) :
    numbaCall evR K A e.1 self e.2.1 = call evR K A e.1 self e.2.1 :=
  c07m_call_agree K A self _ _ r hbe (.self he) h

theorem c07m_scale_agree (K : Consts ℝ) (A : Arith ℝ) (self : Vec ℝ) (f : ℝ) (r : Res ℝ Prop)
    (hbe : self.ty.be = .obj) (h : call evR K A "scale" self [.sc f] = .ok r) :
    numbaCall evR K A "scale" self [.sc f] = call evR K A "scale" self [.sc f] :=
  c07m_call_agree K A self _ _ r hbe (.scale f) h

theorem c07m_unit_agree (K : Consts ℝ) (A : Arith ℝ) (self : Vec ℝ) (r : Res ℝ Prop)
    (hbe : self.ty.be = .obj) (h : call evR K A "unit" self [] = .ok r) :
    numbaCall evR K A "unit" self [] = call evR K A "unit" self [] :=
  c07m_call_agree K A self _ _ r hbe .unit h

theorem c07m_rotate_euler_ord_agree (K : Consts ℝ) (A : Arith ℝ) (self : Vec ℝ) (p t q : ℝ) (s : String) (o : Ord)
    (r : Res ℝ Prop) (hbe : self.ty.be = .obj) (ho : ordOf s = some o) (hnb : nbOrdOf s = some o)
    (h : call evR K A "rotate_euler" self [.sc p, .sc t, .sc q, .str s] = .ok r) :
    numbaCall evR K A "rotate_euler" self [.sc p, .sc t, .sc q, .str s] =
      call evR K A "rotate_euler" self [.sc p, .sc t, .sc q, .str s] :=
  c07m_call_agree K A self _ _ r hbe (.euler p t q ho hnb) h

/-- `transform2D/3D/4D` on a list of matrix elements.  The list in `he` is the body of `c07_transforms` (`Props/C07.lean`), so
that the statement shows the three rows; the proof reads `he` as membership in `c07_transforms` (definitional unfolding) -/
theorem c07m_transform_agree (K : Consts ℝ) (A : Arith ℝ) (self : Vec ℝ) (l : List ℝ) (r : Res ℝ Prop)
    (hbe : self.ty.be = .obj) (e : String × Nat × ModuleId × Nat)
    (he : e ∈ [("transform2D", 4, ModuleId.planar_transform2D, 1), ("transform3D", 9, .spatial_transform3D, 2),
               ("transform4D", 16, .lorentz_transform4D, 3)])
    (hl : l.length = e.2.1) (h : call evR K A e.1 self (l.map Arg.sc) = .ok r) :
    numbaCall evR K A e.1 self (l.map Arg.sc) = call evR K A e.1 self (l.map Arg.sc) :=
  c07m_call_agree K A self _ _ r hbe (.transform (he : e ∈ c07_transforms) l hl) h

/-- `is_timelike`, `is_spacelike`, `is_lightlike` (default and explicit tolerance) -/
theorem c07m_predicates_agree (K : Consts ℝ) (A : Arith ℝ) (self : Vec ℝ) (t : ℝ) (r : Res ℝ Prop)
    (hbe : self.ty.be = .obj) (e : String × List (Arg ℝ) × ModuleId × List ℝ) (he : e ∈ c07_predicates K t)
    (h : call evR K A e.1 self e.2.1 = .ok r) :
    numbaCall evR K A e.1 self e.2.1 = call evR K A e.1 self e.2.1 :=
  c07m_call_agree K A self _ _ r hbe (.pred he) h

theorem c07m_to_beta3_agree (K : Consts ℝ) (A : Arith ℝ) (self : Vec ℝ) (r : Res ℝ Prop)
    (hbe : self.ty.be = .obj) (h : call evR K A "to_beta3" self [] = .ok r) :
    numbaCall evR K A "to_beta3" self [] = call evR K A "to_beta3" self [] :=
  c07m_call_agree K A self _ _ r hbe .to_beta3 h

/-- `to_Vector2D/3D/4D()` without arguments: equal unconditionally (also when both fail) -/
theorem c07m_to_Vector_agree (K : Consts ℝ) (A : Arith ℝ) (self : Vec ℝ) (hbe : self.ty.be = .obj)
    (n : String) (hn : n ∈ ["to_Vector2D", "to_Vector3D", "to_Vector4D"]) :
    numbaCall evR K A n self [] = call evR K A n self [] :=
  c07_to_Vector_agree evR K A self hbe n hn

/-- the 20 coordinate changes `to_xy … to_rhophietatau` -/
theorem c07m_to_agree (K : Consts ℝ) (A : Arith ℝ) (self : Vec ℝ) (r : Res ℝ Prop) (hbe : self.ty.be = .obj)
    (e : String × Az × Option Lon × Option Tmp) (he : e ∈ nbToTable) (h : call evR K A e.1 self [] = .ok r) :
    numbaCall evR K A e.1 self [] = call evR K A e.1 self [] :=
  c07m_call_agree K A self _ _ r hbe (.to he) h

/-- the 23 two-vector methods on operands of the same flavor -/
theorem c07m_binNames_agree (K : Consts ℝ) (A : Arith ℝ) (self o : Vec ℝ) (r : Res ℝ Prop)
    (hs : self.ty.be = .obj) (ho : o.ty.be = .obj) (hm : self.ty.mom = o.ty.mom) (p : String × Bin)
    (hp : p ∈ c07_binNames) (h : call evR K A p.1 self [.v o] = .ok r) :
    numbaCall evR K A p.1 self [.v o] = call evR K A p.1 self [.v o] :=
  c07m_call_agree K A self _ _ r hs (.bin hp o ho hm) h

/-- `is_parallel / is_antiparallel / is_perpendicular` with an explicit tolerance (any flavors) -/
theorem c07m_tolNames_agree (K : Consts ℝ) (A : Arith ℝ) (self o : Vec ℝ) (t : ℝ) (r : Res ℝ Prop)
    (hs : self.ty.be = .obj) (ho : o.ty.be = .obj)
    (n : String) (hn : n ∈ ["is_parallel", "is_antiparallel", "is_perpendicular"])
    (h : call evR K A n self [.v o, .sc t] = .ok r) :
    numbaCall evR K A n self [.v o, .sc t] = call evR K A n self [.v o, .sc t] :=
  c07m_call_agree K A self _ _ r hs (.tol hn o ho t) h

theorem c07m_rotate_axis_agree (K : Consts ℝ) (A : Arith ℝ) (self axis : Vec ℝ) (a : ℝ) (r : Res ℝ Prop)
    (hs : self.ty.be = .obj) (ha : axis.ty.be = .obj)
    (h : call evR K A "rotate_axis" self [.v axis, .sc a] = .ok r) :
    numbaCall evR K A "rotate_axis" self [.v axis, .sc a] = call evR K A "rotate_axis" self [.v axis, .sc a] :=
  c07m_call_agree K A self _ _ r hs (.rotate_axis axis ha a) h

/-- scalar- and truth-valued two-vector methods agree WHATEVER the flavors -/
theorem c07m_binary_scalar_agree (K : Consts ℝ) (b : Bin) (self o : Vec ℝ) (extra : List ℝ) (r : Res ℝ Prop)
    (hb : b ∉ [Bin.add, .subtract, .cross, .boost_p4, .boost_beta3, .boost, .boostCM_of_p4, .boostCM_of_beta3, .boostCM_of])
    (hx : extra = [] ∨ ∃ t, extra = [t]) (h : binary evR K b self o extra = .ok r) :
    nbBin evR K b self o extra = binary evR K b self o extra := by
  rw [h]; exact c07_binary_scalar_agree evR c07m_evTables K b self o extra hb hx r h


/-! ### A.3 corollaries at the DENOTATION level

What is proved in general is A.2 (`c07m_call_agree`) and, for mixed flavors, `c07_binary_vec_sim`.  A method-level theorem
(`c01m_*`, `c11m_*`, `c09m_*`, `c04m_*`) is of the form "`call evR … = .ok res` and `res` denotes …"; by A.2 the compiled call
returns the same `res` (same flavors) or `res` relabelled with the flavor the overload chooses (mixed flavors, boosts) — the
coordinates, hence the denotation, are the same.  The theorems of this section are the instances for the accessors
`x y rho2 rho phi z mag2 t tau mass`, for `add subtract dot cross scale rotateZ rotateX rotateY`, for `boostX/Y/Z` (`beta=` and
`gamma=`), `boost_p4`, `boost_beta3`, and for `to_<system>`, `to_Vector2D` and `to_Vector3D`; other methods are not
instantiated. -/

theorem withMom_denote (r : Vec ℝ) (m : Bool) : denote (r.withMom m) = denote r := rfl
theorem withMom_wfv (r : Vec ℝ) (m : Bool) : C01M.WFV (r.withMom m) ↔ C01M.WFV r := Iff.rfl

theorem nb_binName {S B : Type} (ev : Ev S B) (K : Consts S) (A : Arith S) (a b : Vec S) (ha : a.ty.be = .obj)
    (hb : b.ty.be = .obj) (p : String × Bin) (hp : p ∈ c07_binNames) :
    numbaCall ev K A p.1 a [.v b] = nbBin ev K p.2 a b [] ∧ call ev K A p.1 a [.v b] = binary ev K p.2 a b [] := by
  have hg : nbGuard a [.v b] = false := nbGuard_obj a _ ha (by simp [hb, Arg.isObj])
  obtain ⟨hc, hn, -⟩ := c07_binNames_eq ev K A a b K.tol p hp
  exact ⟨by rw [hn, hg]; rfl, hc⟩

/-- a vector-valued two-vector method by its name: the compiled call returns the interpreter's vector, with the flavor the
overload chooses -/
theorem nb_binName_vec {S B : Type} (ev : Ev S B) (hev : EvTables ev) (K : Consts S) (A : Arith S) (a b : Vec S)
    (ha : a.ty.be = .obj) (hb : b.ty.be = .obj) (p : String × Bin) (hp : p ∈ c07_binNames)
    (hv : p.2 ∈ [Bin.add, .subtract, .cross, .boost_p4, .boost_beta3, .boost, .boostCM_of_p4, .boostCM_of_beta3, .boostCM_of])
    (r : Vec S) (h : call ev K A p.1 a [.v b] = .ok (.vec r)) :
    numbaCall ev K A p.1 a [.v b] = .ok (.vec (r.withMom (p.2.nbMom a b))) := by
  obtain ⟨e1, e2⟩ := nb_binName ev K A a b ha hb p hp
  obtain ⟨rv, hrv, hnb, -⟩ := c07_binary_vec_sim ev hev K p.2 a b [] ha hb hv _ (e2 ▸ h)
  cases hrv
  exact e1.trans hnb

theorem c07m_acc_denote (K : Consts ℝ) (A : Arith ℝ) (v : Vec ℝ) (hbe : v.ty.be = .obj) (p : String × Acc)
    (hp : p ∈ c07_accNames ++ c07_momNames) (s : ℝ) (h : call evR K A p.1 v [] = .ok (.scalar s)) :
    numbaCall evR K A p.1 v [] = .ok (.scalar s) := by
  rw [c07m_acc_agree K A v _ hbe p hp h, h]

/-- compiled planar accessors return the components / functions of the DENOTATION (transfer of `c01m_acc_*`) -/
theorem c07m_acc_xy_denote (K : Consts ℝ) (A : Arith ℝ) (v : Vec ℝ) (hbe : v.ty.be = .obj) (hv : C01M.WFV v) (x y : ℝ)
    (rest : List ℝ) (h : denote v = some (x :: y :: rest)) :
    numbaCall evR K A "x" v [] = .ok (.scalar x) ∧ numbaCall evR K A "y" v [] = .ok (.scalar y) ∧
    numbaCall evR K A "rho2" v [] = .ok (.scalar (x ^ 2 + y ^ 2)) :=
  ⟨c07m_acc_denote K A v hbe ("x", .x) (by simp [c07_accNames]) _ (c01m_acc_x K A v hv x y rest h),
   c07m_acc_denote K A v hbe ("y", .y) (by simp [c07_accNames]) _ (c01m_acc_y K A v hv x y rest h),
   c07m_acc_denote K A v hbe ("rho2", .rho2) (by simp [c07_accNames]) _ (c01m_acc_rho2 K A v hv x y rest h)⟩

theorem c07m_acc_rho_denote (K : Consts ℝ) (A : Arith ℝ) (v : Vec ℝ) (hbe : v.ty.be = .obj) (hv : C01M.WFV v)
    (hc : Stored2 Canon2 v) (x y : ℝ) (rest : List ℝ) (h : denote v = some (x :: y :: rest)) :
    numbaCall evR K A "rho" v [] = .ok (.scalar (Real.sqrt (x ^ 2 + y ^ 2))) :=
  c07m_acc_denote K A v hbe ("rho", .rho) (by simp [c07_accNames]) _ (c01m_acc_rho K A v hv hc x y rest h)

theorem c07m_acc_phi_denote (K : Consts ℝ) (A : Arith ℝ) (v : Vec ℝ) (hbe : v.ty.be = .obj) (hv : C01M.WFV v)
    (hc : Stored2 (fun k a b => 0 < rhoOf k a b ∧ CanonPhi k a b) v) (x y : ℝ) (rest : List ℝ)
    (h : denote v = some (x :: y :: rest)) : numbaCall evR K A "phi" v [] = .ok (.scalar (P.arctan2 y x)) :=
  c07m_acc_denote K A v hbe ("phi", .phi) (by simp [c07_accNames]) _ (c01m_acc_phi K A v hv hc x y rest h)

theorem c07m_acc_z_denote (K : Consts ℝ) (A : Arith ℝ) (v : Vec ℝ) (hbe : v.ty.be = .obj) (hv : C01M.WFV v)
    (hc : Stored3 (fun _ l _ _ c => TanOK l c) v) (x y z : ℝ) (rest : List ℝ)
    (h : denote v = some (x :: y :: z :: rest)) : numbaCall evR K A "z" v [] = .ok (.scalar z) :=
  c07m_acc_denote K A v hbe ("z", .z) (by simp [c07_accNames]) _ (c01m_acc_z K A v hv hc x y z rest h)

theorem c07m_acc_mag2_denote (K : Consts ℝ) (A : Arith ℝ) (v : Vec ℝ) (hbe : v.ty.be = .obj) (hv : C01M.WFV v)
    (hc : Stored3 (fun _ l _ _ c => SinOK l c) v) (x y z : ℝ) (rest : List ℝ)
    (h : denote v = some (x :: y :: z :: rest)) :
    numbaCall evR K A "mag2" v [] = .ok (.scalar (x ^ 2 + y ^ 2 + z ^ 2)) :=
  c07m_acc_denote K A v hbe ("mag2", .mag2) (by simp [c07_accNames]) _ (c01m_acc_mag2 K A v hv hc x y z rest h)

theorem c07m_acc_t_denote (K : Consts ℝ) (A : Arith ℝ) (v : Vec ℝ) (hbe : v.ty.be = .obj) (hv : C01M.WFV v)
    (hc : Stored4 (fun _ l t _ _ c d => SinOK l c ∧ CanonTmp t d) v) (x y z t : ℝ)
    (h : denote v = some [x, y, z, t]) : numbaCall evR K A "t" v [] = .ok (.scalar t) :=
  c07m_acc_denote K A v hbe ("t", .t) (by simp [c07_accNames]) _ (c09m_acc_t K A v hv hc x y z t h)

theorem c07m_acc_tau_denote (K : Consts ℝ) (A : Arith ℝ) (v : Vec ℝ) (hbe : v.ty.be = .obj) (hv : C01M.WFV v)
    (hc : Stored4 (fun k l t a b c d => CanonLon k l a b c ∧ CanonTmp t d) v) (x y z t : ℝ)
    (h : denote v = some [x, y, z, t]) :
    numbaCall evR K A "tau" v [] = .ok (.scalar (Real.sign (t ^ 2 - (x ^ 2 + y ^ 2 + z ^ 2))
      * Real.sqrt |t ^ 2 - (x ^ 2 + y ^ 2 + z ^ 2)|)) :=
  c07m_acc_denote K A v hbe ("tau", .tau) (by simp [c07_accNames]) _ (c09m_acc_tau K A v hv hc x y z t h)

/-- … and the momentum spelling `mass` of a momentum vector -/
theorem c07m_acc_mass_denote (K : Consts ℝ) (A : Arith ℝ) (v : Vec ℝ) (hbe : v.ty.be = .obj) (s : ℝ)
    (h : call evR K A "mass" v [] = .ok (.scalar s)) : numbaCall evR K A "mass" v [] = .ok (.scalar s) :=
  c07m_acc_denote K A v hbe ("mass", .tau) (by simp [c07_accNames, c07_momNames]) _ h

/-- **compiled `add`**, operands of ANY flavors: same hypotheses and same conclusion as `c11m_add`, except that the
result is a momentum vector only if BOTH operands are (`&&` instead of `||`) -/
theorem c07m_add_denote (K : Consts ℝ) (A : Arith ℝ) (a b : Vec ℝ) (hoa : a.ty.be = .obj) (hob : b.ty.be = .obj)
    (ha : C01M.WFV a) (hb : C01M.WFV b) (hd : a.ty.dim = b.ty.dim)
    (hT1 : TanOKV a) (hT2 : TanOKV b) (hS1 : C11M.SinOKV a) (hS2 : C11M.SinOKV b) (hC1 : C11M.CanonTmpV a)
    (hC2 : C11M.CanonTmpV b) (hrep : C11M.RepAdd a b) :
    ∃ r p q, numbaCall evR K A "add" a [.v b] = .ok (.vec r) ∧ C01M.WFV r ∧ r.ty.dim = a.ty.dim ∧
      r.ty.mom = (a.ty.mom && b.ty.mom) ∧ r.ty.be = .obj ∧ r.ty.tmp = C11M.tmpRes? a.ty.tmp b.ty.tmp ∧
      denote a = some p ∧ denote b = some q ∧ denote r = some (List.zipWith (· + ·) p q) := by
  obtain ⟨r, p, q, hcall, hw, hdim, hmom, hbe', htmp, hp, hq, hr⟩ :=
    C11M.c11m_add K A a b ha hb hd hT1 hT2 hS1 hS2 hC1 hC2 hrep
  refine ⟨r.withMom (a.ty.mom && b.ty.mom), p, q,
    nb_binName_vec evR c07m_evTables K A a b hoa hob ("add", .add) (by simp [c07_binNames]) (by simp) r hcall,
    hw, hdim, rfl, ?_, htmp, hp, hq, hr⟩
  show r.ty.be = .obj
  rw [hbe', hoa, hob]; rfl

/-- **compiled `subtract`**, any flavors (transfer of `c11m_subtract`) -/
theorem c07m_subtract_denote (K : Consts ℝ) (A : Arith ℝ) (a b : Vec ℝ) (hoa : a.ty.be = .obj) (hob : b.ty.be = .obj)
    (ha : C01M.WFV a) (hb : C01M.WFV b) (hd : a.ty.dim = b.ty.dim)
    (hT1 : TanOKV a) (hT2 : TanOKV b) (hS1 : C11M.SinOKV a) (hS2 : C11M.SinOKV b) (hC1 : C11M.CanonTmpV a)
    (hC2 : C11M.CanonTmpV b) (hrep : C11M.RepSub a b) (hcaus : C11M.SubCausal a b) :
    ∃ r p q, numbaCall evR K A "subtract" a [.v b] = .ok (.vec r) ∧ C01M.WFV r ∧ r.ty.dim = a.ty.dim ∧
      r.ty.mom = (a.ty.mom && b.ty.mom) ∧ r.ty.be = .obj ∧ r.ty.tmp = C11M.tmpRes? a.ty.tmp b.ty.tmp ∧
      denote a = some p ∧ denote b = some q ∧ denote r = some (List.zipWith (· - ·) p q) := by
  obtain ⟨r, p, q, hcall, hw, hdim, hmom, hbe', htmp, hp, hq, hr⟩ :=
    C11M.c11m_subtract K A a b ha hb hd hT1 hT2 hS1 hS2 hC1 hC2 hrep hcaus
  refine ⟨r.withMom (a.ty.mom && b.ty.mom), p, q,
    nb_binName_vec evR c07m_evTables K A a b hoa hob ("subtract", .subtract) (by simp [c07_binNames]) (by simp) r hcall,
    hw, hdim, rfl, ?_, htmp, hp, hq, hr⟩
  show r.ty.be = .obj
  rw [hbe', hoa, hob]; rfl

/-- **compiled `dot`**, any flavors: Euclidean (2D, 3D) / Minkowski (4D) product of the denotations -/
theorem c07m_dot_denote (K : Consts ℝ) (A : Arith ℝ) (a b : Vec ℝ) (hoa : a.ty.be = .obj) (hob : b.ty.be = .obj)
    (ha : C01M.WFV a) (hb : C01M.WFV b) (hd : a.ty.dim = b.ty.dim)
    (hT1 : TanOKV a) (hT2 : TanOKV b) (hS1 : C11M.SinOKV a) (hS2 : C11M.SinOKV b) (hC1 : C11M.CanonTmpV a)
    (hC2 : C11M.CanonTmpV b) :
    ∃ p q, denote a = some p ∧ denote b = some q ∧
      numbaCall evR K A "dot" a [.v b] = .ok (.scalar (C11M.dotL p q)) := by
  obtain ⟨p, q, hp, hq, hcall⟩ := C11M.c11m_dot K A a b ha hb hd hT1 hT2 hS1 hS2 hC1 hC2
  obtain ⟨e1, e2⟩ := nb_binName evR K A a b hoa hob ("dot", .dot) (by simp [c07_binNames])
  rw [e2] at hcall
  exact ⟨p, q, hp, hq, e1.trans (c07_binary_scalar_agree evR c07m_evTables K .dot a b [] (by simp) (.inl rfl) _ hcall)⟩

/-- **compiled `cross`** of two 3D vectors, any flavors -/
theorem c07m_cross_denote (K : Consts ℝ) (A : Arith ℝ) (a b : Vec ℝ) (hoa : a.ty.be = .obj) (hob : b.ty.be = .obj)
    (ha : C01M.WFV a) (hb : C01M.WFV b) (hda : a.ty.dim = 3) (hdb : b.ty.dim = 3) (hT1 : TanOKV a) (hT2 : TanOKV b) :
    ∃ r p q, numbaCall evR K A "cross" a [.v b] = .ok (.vec r) ∧ C01M.WFV r ∧
      r.ty = ⟨.obj, a.ty.mom && b.ty.mom, .xy, some .z, none⟩ ∧
      denote a = some p ∧ denote b = some q ∧ denote r = some (C11M.crossL p q) := by
  obtain ⟨r, p, q, hcall, hw, hty, hp, hq, hr⟩ := C11M.c11m_cross K A a b ha hb hda hdb hT1 hT2
  refine ⟨r.withMom (a.ty.mom && b.ty.mom), p, q,
    nb_binName_vec evR c07m_evTables K A a b hoa hob ("cross", .cross) (by simp [c07_binNames]) (by simp) r hcall,
    hw, ?_, hp, hq, hr⟩
  show ({ r.ty with mom := a.ty.mom && b.ty.mom } : VT) = _
  rw [hty, hoa, hob]; rfl

/-- **compiled `scale`** (transfer of `c11m_scale`) -/
theorem c07m_scale_denote (K : Consts ℝ) (A : Arith ℝ) (v : Vec ℝ) (hbe : v.ty.be = .obj) (hv : C01M.WFV v) (f : ℝ)
    (hθ : C11M.ThetaRangeV v) (hf : v.ty.tmp = some .tau → 0 ≤ f) :
    ∃ r p, numbaCall evR K A "scale" v [.sc f] = .ok (.vec r) ∧ r.ty = v.ty ∧ C01M.WFV r ∧
      denote v = some p ∧ denote r = some (p.map (f * ·)) := by
  obtain ⟨r, p, hcall, rest⟩ := C11M.c11m_scale K A v hv f hθ hf
  exact ⟨r, p, (c07m_scale_agree K A v f _ hbe hcall).trans hcall, rest⟩

/-- **compiled `rotateZ`** on 2D, 3D, 4D vectors in every storage (transfer of `c01m_rotateZ`) -/
theorem c07m_rotateZ_denote (K : Consts ℝ) (A : Arith ℝ) (v : Vec ℝ) (hbe : v.ty.be = .obj) (hv : C01M.WFV v) (ang : ℝ) :
    ∃ w, numbaCall evR K A "rotateZ" v [.sc ang] = .ok (.vec w) ∧ w.ty = v.ty ∧ C01M.WFV w ∧
      denote w = (denote v).map (onPlanar (rotZ2 ang)) := by
  obtain ⟨w, hcall, rest⟩ := c01m_rotateZ K A v hv ang
  exact ⟨w, (c07m_selfMethods_agree K A v ang 0 0 0 _ hbe ("rotateZ", [.sc ang], .planar_rotateZ, 1, [ang], none)
    (by simp [c07_selfMethods]) hcall).trans hcall, rest⟩

/-- **compiled `rotateX`** on 3D and 4D vectors in every storage (transfer of `c01m_rotateX`) -/
theorem c07m_rotateX_denote (K : Consts ℝ) (A : Arith ℝ) (v : Vec ℝ) (hbe : v.ty.be = .obj) (hv : C01M.WFV v)
    (hd : 3 ≤ v.ty.dim) (hT : TanOKV v) (ang : ℝ) :
    ∃ w, numbaCall evR K A "rotateX" v [.sc ang] = .ok (.vec w) ∧ w.ty = { v.ty with az := .xy, lon := some .z } ∧
      C01M.WFV w ∧ denote w = (denote v).map (onSpatial (rotX ang)) := by
  obtain ⟨w, hcall, h2, h3, h4, -⟩ := c01m_rotateX K A v hv hd hT ang
  exact ⟨w, (c07m_selfMethods_agree K A v ang 0 0 0 _ hbe ("rotateX", [.sc ang], .spatial_rotateX, 2, [ang], none)
    (by simp [c07_selfMethods]) hcall).trans hcall, h2, h3, h4⟩

/-- **compiled `rotateY`** (transfer of `c01m_rotateY`) -/
theorem c07m_rotateY_denote (K : Consts ℝ) (A : Arith ℝ) (v : Vec ℝ) (hbe : v.ty.be = .obj) (hv : C01M.WFV v)
    (hd : 3 ≤ v.ty.dim) (hT : TanOKV v) (ang : ℝ) :
    ∃ w, numbaCall evR K A "rotateY" v [.sc ang] = .ok (.vec w) ∧ w.ty = { v.ty with az := .xy, lon := some .z } ∧
      C01M.WFV w ∧ denote w = (denote v).map (onSpatial (rotY ang)) := by
  obtain ⟨w, hcall, h2, h3, h4, -⟩ := c01m_rotateY K A v hv hd hT ang
  exact ⟨w, (c07m_selfMethods_agree K A v ang 0 0 0 _ hbe ("rotateY", [.sc ang], .spatial_rotateY, 2, [ang], none)
    (by simp [c07_selfMethods]) hcall).trans hcall, h2, h3, h4⟩


/-- compiled `boostX/Y/Z`, the axis a parameter, in the three call forms (rows of `c07_selfMethods`): what the interpreter
returns, the compiled call returns -/
theorem numba_boostA (K : Consts ℝ) (A : Arith ℝ) (ax : Spec10.Axis) (v : Vec ℝ) (hbe : v.ty.be = .obj) (x : ℝ)
    {args : List (Arg ℝ)} (ha : args ∈ [[Arg.kw "beta" x], [.sc x], [.kw "gamma" x]]) {r : Res ℝ Prop}
    (h : call evR K A (boostName ax) v args = .ok r) : numbaCall evR K A (boostName ax) v args = .ok r := by
  have ⟨m, he⟩ : ∃ m, (boostName ax, args, m, 3, [x], none) ∈ c07_selfMethods K x 0 0 0 := by
    simp only [List.mem_cons, List.not_mem_nil, or_false] at ha
    cases ax <;> rcases ha with rfl | rfl | rfl <;>
      exact ⟨_, by repeat (first | exact .head _ | apply List.Mem.tail)⟩
  exact (c07m_call_agree K A v _ _ r hbe (.self he) h).trans h

/-- **compiled `boostX/Y/Z(beta=β)` and positional `boostX/Y/Z(β)`**, the axis a parameter (transfer of
`c09m_boostA_beta_rng`) -/
theorem c07m_boostA_beta_denote (K : Consts ℝ) (A : Arith ℝ) (ax : Spec10.Axis) (v : Vec ℝ) (hbe : v.ty.be = .obj)
    (hv : C01M.WFV v) (hd : v.ty.dim = 4) (hc : BoostOK v) (β : ℝ) (hβ : v.ty.tmp = some .tau → |β| < 1) :
    ∃ w, numbaCall evR K A (boostName ax) v [.kw "beta" β] = .ok (.vec w) ∧
      numbaCall evR K A (boostName ax) v [.sc β] = .ok (.vec w) ∧
      w.ty = { v.ty with az := boostAz ax v.ty.az, lon := some .z } ∧ C01M.WFV w ∧
      denote w = (denote v).map (on4 (bAβ ax β)) := by
  obtain ⟨w, h1, h2, h3, h4, h5, -⟩ := c09m_boostA_beta_rng K A ax v hv hd hc β hβ
  exact ⟨w, numba_boostA K A ax v hbe β (.head _) h1, numba_boostA K A ax v hbe β (.tail _ (.head _)) h2, h3, h4, h5⟩

/-- **compiled `boostX/Y/Z(gamma=γ)`**, the axis a parameter (transfer of `c09m_boostA_gamma_rng`) -/
theorem c07m_boostA_gamma_denote (K : Consts ℝ) (A : Arith ℝ) (ax : Spec10.Axis) (v : Vec ℝ) (hbe : v.ty.be = .obj)
    (hv : C01M.WFV v) (hd : v.ty.dim = 4) (hc : BoostOK v) (γ : ℝ) (hγ : v.ty.tmp = some .tau → 1 ≤ |γ|) :
    ∃ w, numbaCall evR K A (boostName ax) v [.kw "gamma" γ] = .ok (.vec w) ∧
      w.ty = { v.ty with az := boostAz ax v.ty.az, lon := some .z } ∧ C01M.WFV w ∧
      denote w = (denote v).map (on4 (bAγ ax γ)) := by
  obtain ⟨w, h1, h2, h3, h4, -⟩ := c09m_boostA_gamma_rng K A ax v hv hd hc γ hγ
  exact ⟨w, numba_boostA K A ax v hbe γ (.tail _ (.tail _ (.head _))) h1, h2, h3, h4⟩

/-- **compiled `boostX(beta=β)` and positional `boostX(β)`** (transfer of `c09m_boostX_beta`) -/
theorem c07m_boostX_beta_denote (K : Consts ℝ) (A : Arith ℝ) (v : Vec ℝ) (hbe : v.ty.be = .obj) (hv : C01M.WFV v)
    (hd : v.ty.dim = 4) (hc : BoostOK v) (β : ℝ) (hβ : v.ty.tmp = some .tau → |β| < 1) :
    ∃ w, numbaCall evR K A "boostX" v [.kw "beta" β] = .ok (.vec w) ∧
      numbaCall evR K A "boostX" v [.sc β] = .ok (.vec w) ∧
      w.ty = { v.ty with az := .xy, lon := some .z } ∧ C01M.WFV w ∧ denote w = (denote v).map (on4 (bXβ β)) := by
  exact c07m_boostA_beta_denote K A .x v hbe hv hd hc β hβ

/-- **compiled `boostX(gamma=γ)`** (transfer of `c09m_boostX_gamma`) -/
theorem c07m_boostX_gamma_denote (K : Consts ℝ) (A : Arith ℝ) (v : Vec ℝ) (hbe : v.ty.be = .obj) (hv : C01M.WFV v)
    (hd : v.ty.dim = 4) (hc : BoostOK v) (γ : ℝ) (hγ : v.ty.tmp = some .tau → 1 ≤ |γ|) :
    ∃ w, numbaCall evR K A "boostX" v [.kw "gamma" γ] = .ok (.vec w) ∧
      w.ty = { v.ty with az := .xy, lon := some .z } ∧ C01M.WFV w ∧ denote w = (denote v).map (on4 (bXγ γ)) := by
  exact c07m_boostA_gamma_denote K A .x v hbe hv hd hc γ hγ

/-- **compiled `boostY(beta=β)` and positional `boostY(β)`** (transfer of `c09m_boostY_beta`) -/
theorem c07m_boostY_beta_denote (K : Consts ℝ) (A : Arith ℝ) (v : Vec ℝ) (hbe : v.ty.be = .obj) (hv : C01M.WFV v)
    (hd : v.ty.dim = 4) (hc : BoostOK v) (β : ℝ) (hβ : v.ty.tmp = some .tau → |β| < 1) :
    ∃ w, numbaCall evR K A "boostY" v [.kw "beta" β] = .ok (.vec w) ∧
      numbaCall evR K A "boostY" v [.sc β] = .ok (.vec w) ∧
      w.ty = { v.ty with az := .xy, lon := some .z } ∧ C01M.WFV w ∧ denote w = (denote v).map (on4 (bYβ β)) := by
  exact c07m_boostA_beta_denote K A .y v hbe hv hd hc β hβ

/-- **compiled `boostY(gamma=γ)`** (transfer of `c09m_boostY_gamma`) -/
theorem c07m_boostY_gamma_denote (K : Consts ℝ) (A : Arith ℝ) (v : Vec ℝ) (hbe : v.ty.be = .obj) (hv : C01M.WFV v)
    (hd : v.ty.dim = 4) (hc : BoostOK v) (γ : ℝ) (hγ : v.ty.tmp = some .tau → 1 ≤ |γ|) :
    ∃ w, numbaCall evR K A "boostY" v [.kw "gamma" γ] = .ok (.vec w) ∧
      w.ty = { v.ty with az := .xy, lon := some .z } ∧ C01M.WFV w ∧ denote w = (denote v).map (on4 (bYγ γ)) := by
  exact c07m_boostA_gamma_denote K A .y v hbe hv hd hc γ hγ

/-- **compiled `boostZ(beta=β)` and positional `boostZ(β)`** (transfer of `c09m_boostZ_beta`) -/
theorem c07m_boostZ_beta_denote (K : Consts ℝ) (A : Arith ℝ) (v : Vec ℝ) (hbe : v.ty.be = .obj) (hv : C01M.WFV v)
    (hd : v.ty.dim = 4) (hc : BoostOK v) (β : ℝ) (hβ : v.ty.tmp = some .tau → |β| < 1) :
    ∃ w, numbaCall evR K A "boostZ" v [.kw "beta" β] = .ok (.vec w) ∧
      numbaCall evR K A "boostZ" v [.sc β] = .ok (.vec w) ∧
      w.ty = { v.ty with lon := some .z } ∧ C01M.WFV w ∧ denote w = (denote v).map (on4 (bZβ β)) := by
  exact c07m_boostA_beta_denote K A .z v hbe hv hd hc β hβ

/-- **compiled `boostZ(gamma=γ)`** (transfer of `c09m_boostZ_gamma`) -/
theorem c07m_boostZ_gamma_denote (K : Consts ℝ) (A : Arith ℝ) (v : Vec ℝ) (hbe : v.ty.be = .obj) (hv : C01M.WFV v)
    (hd : v.ty.dim = 4) (hc : BoostOK v) (γ : ℝ) (hγ : v.ty.tmp = some .tau → 1 ≤ |γ|) :
    ∃ w, numbaCall evR K A "boostZ" v [.kw "gamma" γ] = .ok (.vec w) ∧
      w.ty = { v.ty with lon := some .z } ∧ C01M.WFV w ∧ denote w = (denote v).map (on4 (bZγ γ)) := by
  exact c07m_boostA_gamma_denote K A .z v hbe hv hd hc γ hγ

/-- **compiled `boost_p4`**, operands of ANY flavors: the hypotheses and the denotation of `c09m_boost_p4`; the compiled
result has the flavor of `v` ALONE (interpreter: momentum if either operand is) -/
theorem c07m_boost_p4_denote (K : Consts ℝ) (A : Arith ℝ) (v p : Vec ℝ) (hov : v.ty.be = .obj) (hop : p.ty.be = .obj)
    (hv : C01M.WFV v) (hd : v.ty.dim = 4) (hp : C01M.WFV p) (hdp : p.ty.dim = 4)
    (hc : Stored4 (fun _ l t _ _ c d => TanOK l c ∧ CanonTmp t d) v) (hcp : BoostOK p)
    (x y z t px py pz E : ℝ) (h : denote v = some [x, y, z, t]) (h' : denote p = some [px, py, pz, E])
    (hphys : v.ty.tmp = some .tau → px ^ 2 + py ^ 2 + pz ^ 2 < E ^ 2 ∧ 0 < E) :
    ∃ w, numbaCall evR K A "boost_p4" v [.v p] = .ok (.vec w) ∧
      w.ty = ⟨.obj, v.ty.mom, .xy, some .z, v.ty.tmp⟩ ∧ C01M.WFV w ∧
      denote w = some (l4 (bp4 (x, y, z, t) (px, py, pz, E))) := by
  obtain ⟨w, hcall, hty, hw, hden⟩ := c09m_boost_p4 K A v p hv hd hp hdp hc hcp x y z t px py pz E h h' hphys
  refine ⟨w.withMom v.ty.mom,
    nb_binName_vec evR c07m_evTables K A v p hov hop ("boost_p4", .boost_p4) (by simp [c07_binNames]) (by simp) w hcall,
    ?_, hw, hden⟩
  show ({ w.ty with mom := v.ty.mom } : VT) = _
  rw [hty, hov, hop]; rfl

/-- **compiled `boost_beta3`** by a 3D velocity, any flavors (transfer of `c09m_boost_beta3`) -/
theorem c07m_boost_beta3_denote (K : Consts ℝ) (A : Arith ℝ) (v p : Vec ℝ) (hov : v.ty.be = .obj) (hop : p.ty.be = .obj)
    (hv : C01M.WFV v) (hd : v.ty.dim = 4) (hp : C01M.WFV p) (hdp : p.ty.dim = 3)
    (hc : Stored4 (fun _ l t _ _ c d => TanOK l c ∧ CanonTmp t d) v)
    (hcp : Stored3 (fun _ l _ _ c => TanOK l c) p)
    (x y z t bx by' bz : ℝ) (h : denote v = some [x, y, z, t]) (h' : denote p = some [bx, by', bz])
    (hphys : v.ty.tmp = some .tau → bx ^ 2 + by' ^ 2 + bz ^ 2 < 1) :
    ∃ w, numbaCall evR K A "boost_beta3" v [.v p] = .ok (.vec w) ∧
      w.ty = ⟨.obj, v.ty.mom, .xy, some .z, v.ty.tmp⟩ ∧ C01M.WFV w ∧
      denote w = some (l4 (bβ3 (x, y, z, t) (bx, by', bz))) := by
  obtain ⟨w, hcall, hty, hw, hden⟩ := c09m_boost_beta3 K A v p hv hd hp hdp hc hcp x y z t bx by' bz h h' hphys
  refine ⟨w.withMom v.ty.mom,
    nb_binName_vec evR c07m_evTables K A v p hov hop ("boost_beta3", .boost_beta3) (by simp [c07_binNames]) (by simp) w hcall,
    ?_, hw, hden⟩
  show ({ w.ty with mom := v.ty.mom } : VT) = _
  rw [hty, hov, hop]; rfl

/-- each of the 20 names numba defines is one of the interpreter's 40, with the same target system -/
theorem nbToTable_target : ∀ e ∈ nbToTable, C04.toTarget e.1 = some (e.2.1, e.2.2.1, e.2.2.2) := nbToTable_toTable

/-- **all 20 compiled `to_<system>()` conversions** on a vector of the dimension of the target, in every storage: a vector
with the flavor of `v`, stored in the target system, with THE SAME denotation (transfer of `c04m_to_denote`) -/
theorem c07m_to_denote (K : Consts ℝ) (A : Arith ℝ) (e : String × Az × Option Lon × Option Tmp) (he : e ∈ nbToTable)
    (v : Vec ℝ) (hbe : v.ty.be = .obj) (hv : C01M.WFV v) (hl : e.2.2.1.isSome = v.ty.lon.isSome)
    (ht : e.2.2.2.isSome = v.ty.tmp.isSome) (h : C04M.FwdOK v e.2.2.1 e.2.2.2) :
    ∃ r, numbaCall evR K A e.1 v [] = .ok (.vec r) ∧
      r.ty = { v.ty with az := e.2.1, lon := e.2.2.1, tmp := e.2.2.2 } ∧ C01M.WFV r ∧ denote r = denote v := by
  obtain ⟨r, hcall, rest⟩ :=
    C04M.c04m_to_denote_name K A e.1 e.2.1 e.2.2.1 e.2.2.2 (nbToTable_target e he) v hv hl ht h
  exact ⟨r, (c07m_to_agree K A v _ hbe e he hcall).trans hcall, rest⟩

/-- **compiled `to_Vector2D()` / `to_Vector3D()` projections** denote the `[x, y]` / `[x, y, z]` prefix -/
theorem c07m_to_Vector_proj_denote (K : Consts ℝ) (A : Arith ℝ) (v : Vec ℝ) (hbe : v.ty.be = .obj) (hv : C01M.WFV v) :
    (∃ w, numbaCall evR K A "to_Vector2D" v [] = .ok (.vec w) ∧ C01M.WFV w ∧ w.ty.dim = 2 ∧
      denote w = (denote v).map (List.take 2)) ∧
    (3 ≤ v.ty.dim → ∃ w, numbaCall evR K A "to_Vector3D" v [] = .ok (.vec w) ∧ C01M.WFV w ∧ w.ty.dim = 3 ∧
      denote w = (denote v).map (List.take 3)) := by
  refine ⟨?_, fun hd => ?_⟩
  · obtain ⟨w, hcall, rest⟩ := c01m_to_Vector2D K A v hv
    exact ⟨w, (c07m_to_Vector_agree K A v hbe _ (by simp)).trans hcall, rest⟩
  · obtain ⟨w, hcall, rest⟩ := c01m_to_Vector3D_proj K A v hv hd
    exact ⟨w, (c07m_to_Vector_agree K A v hbe _ (by simp)).trans hcall, rest⟩

/-! ### A.4 the documented differences, over ℝ -/

/-- mixed flavors, `add` / `subtract` / `cross`: interpreter → momentum vector, compiled → generic vector with THE SAME
coordinates (hence the same denotation, `withMom_denote`) -/
theorem c07m_mixed_flavor (K : Consts ℝ) (b : Bin) (hb : b = .add ∨ b = .subtract ∨ b = .cross) (self o rv : Vec ℝ)
    (hs : self.ty.be = .obj) (ho : o.ty.be = .obj) (hm : self.ty.mom ≠ o.ty.mom)
    (h : binary evR K b self o [] = .ok (.vec rv)) :
    rv.ty.mom = true ∧ nbBin evR K b self o [] = .ok (.vec (rv.withMom false)) ∧
      denote (rv.withMom false) = denote rv :=
  ⟨(c07_mixed_flavor evR c07m_evTables K b hb self o [] rv hs ho hm h).1,
   (c07_mixed_flavor evR c07m_evTables K b hb self o [] rv hs ho hm h).2, rfl⟩

/-- boosts of a generic vector by a momentum vector: compiled result generic, interpreter's momentum; same coordinates -/
theorem c07m_boost_flavor (K : Consts ℝ) (b : Bin)
    (hb : b ∈ [Bin.boost_p4, .boost_beta3, .boost, .boostCM_of_p4, .boostCM_of_beta3, .boostCM_of])
    (self o rv : Vec ℝ) (hs : self.ty.be = .obj) (ho : o.ty.be = .obj)
    (hsm : self.ty.mom = false) (hom : o.ty.mom = true) (h : binary evR K b self o [] = .ok (.vec rv)) :
    rv.ty.mom = true ∧ nbBin evR K b self o [] = .ok (.vec (rv.withMom false)) ∧
      denote (rv.withMom false) = denote rv :=
  ⟨(c07_boost_flavor evR c07m_evTables K b hb self o [] rv hs ho hsm hom h).1,
   (c07_boost_flavor evR c07m_evTables K b hb self o [] rv hs ho hsm hom h).2, rfl⟩

/-- operands of different dimension, `add` / `subtract`: the interpreter raises `TypeError`; compiled code returns what
the interpreter returns on both operands projected with `to_Vector<min>D()`, with flavor `&&` (`Vec.WF` is the notion of
`Props/C05.lean` and `Props/C07.lean`, for every scalar type; over ℝ it unfolds to `C01M.WFV`) -/
theorem c07m_min_dim_addsub (K : Consts ℝ) (b : Bin) (hb : b = .add ∨ b = .subtract) (self o s' o' : Vec ℝ)
    (r : Res ℝ Prop) (hw1 : self.WF) (hw2 : o.WF) (hs : self.ty.be = .obj) (ho : o.ty.be = .obj)
    (hne : o.ty.dim ≠ self.ty.dim)
    (h1 : nbToVector K.zeroF (min self.ty.dim o.ty.dim) self = .ok s')
    (h2 : nbToVector K.zeroF (min self.ty.dim o.ty.dim) o = .ok o') (h : binary evR K b s' o' [] = .ok r) :
    binary evR K b self o [] = .error .typeError ∧
    ∃ rv, r = .vec rv ∧ rv.ty.dim = min self.ty.dim o.ty.dim ∧
      nbBin evR K b self o [] = .ok (.vec (rv.withMom (self.ty.mom && o.ty.mom))) :=
  c07_min_dim_addsub evR c07m_evTables K b hb self o s' o' r hw1 hw2 hs ho hne h1 h2 h

/-- … and `dot` -/
theorem c07m_min_dim_dot (K : Consts ℝ) (self o s' o' : Vec ℝ) (r : Res ℝ Prop) (hw1 : self.WF) (hw2 : o.WF)
    (hne : o.ty.dim ≠ self.ty.dim)
    (h1 : nbToVector K.zeroF (min self.ty.dim o.ty.dim) self = .ok s')
    (h2 : nbToVector K.zeroF (min self.ty.dim o.ty.dim) o = .ok o') (h : binary evR K .dot s' o' [] = .ok r) :
    binary evR K .dot self o [] = .error .typeError ∧ nbBin evR K .dot self o [] = .ok r :=
  c07_min_dim_dot evR c07m_evTables K self o s' o' r hw1 hw2 hne h1 h2 h

/-- concrete instance over ℝ of the mixed-dimension difference at the DENOTATION level: compiled `add` of the 3D vector
`(1, 2, 3)` and the 2D vector `(10, 20)` is the 2D vector `(11, 22)`; the interpreter raises `TypeError` -/
theorem c07m_min_dim_example (K : Consts ℝ) (A : Arith ℝ) :
    call evR K A "add" ⟨⟨.obj, false, .xy, some .z, none⟩, [1, 2, 3]⟩ [.v ⟨⟨.obj, false, .xy, none, none⟩, [10, 20]⟩] =
      .error .typeError ∧
    ∃ w, numbaCall evR K A "add" ⟨⟨.obj, false, .xy, some .z, none⟩, [1, 2, 3]⟩
        [.v ⟨⟨.obj, false, .xy, none, none⟩, [10, 20]⟩] = .ok (.vec w) ∧ denote w = some [1 + 10, 2 + 20] := by
  refine ⟨rfl, ⟨⟨.obj, false, .xy, none, none⟩, [1 + 10, 2 + 20]⟩, rfl, rfl⟩

-- the hypotheses of Part A are satisfiable: a well-formed object momentum 4-vector (1, 2, 3, 10) in Cartesian storage
example : (⟨⟨.obj, true, .xy, some .z, some .t⟩, [1, 2, 3, 10]⟩ : Vec ℝ).ty.be = .obj ∧
    C01M.WFV (⟨⟨.obj, true, .xy, some .z, some .t⟩, [1, 2, 3, 10]⟩ : Vec ℝ) ∧
    denote (⟨⟨.obj, true, .xy, some .z, some .t⟩, [1, 2, 3, 10]⟩ : Vec ℝ) = some [1, 2, 3, 10] :=
  ⟨rfl, ⟨by simp, rfl⟩, rfl⟩

/-! ## Part B — SymPy over the reals (C08)

`evS`: the compute layer as `vector._lib.SympyLib` evaluates it (`Gen/Sym`, namespace `VS`), assembled from the per-module
`VS.<module>.evalL` wrappers exactly as `Gen/Real/All.lean` assembles `VR.Compute.eval` (`Gen/Sym/All.lean` has no
`Compute.eval`).

The matches on `ModuleId` are written out, without a default.  A new module `M` of the library needs an arm in three places of
this file: `evS`, `symUncond`, and `c08m_ev_eq` if `symUncond M = true` (otherwise a theorem `c08m_ev_M` under its
regular-domain hypotheses); and in two elsewhere: `real_spec.M` with its arm in `real_spec` (`Props/EvReal.lean`),
`exec_spec.M` with its arm in `c05_exec_spec` (`Props/C05.lean`).  A missing arm is a compile error. -/

noncomputable def evS : VG.Ev ℝ Prop := fun m k a =>
  match m with
  | .lorentz_Et => VS.lorentz_Et.evalL k a
  | .lorentz_Et2 => VS.lorentz_Et2.evalL k a
  | .lorentz_Mt => VS.lorentz_Mt.evalL k a
  | .lorentz_Mt2 => VS.lorentz_Mt2.evalL k a
  | .lorentz_add => VS.lorentz_add.evalL k a
  | .lorentz_beta => VS.lorentz_beta.evalL k a
  | .lorentz_boostX_beta => VS.lorentz_boostX_beta.evalL k a
  | .lorentz_boostX_gamma => VS.lorentz_boostX_gamma.evalL k a
  | .lorentz_boostY_beta => VS.lorentz_boostY_beta.evalL k a
  | .lorentz_boostY_gamma => VS.lorentz_boostY_gamma.evalL k a
  | .lorentz_boostZ_beta => VS.lorentz_boostZ_beta.evalL k a
  | .lorentz_boostZ_gamma => VS.lorentz_boostZ_gamma.evalL k a
  | .lorentz_boost_beta3 => VS.lorentz_boost_beta3.evalL k a
  | .lorentz_boost_p4 => VS.lorentz_boost_p4.evalL k a
  | .lorentz_deltaRapidityPhi => VS.lorentz_deltaRapidityPhi.evalL k a
  | .lorentz_deltaRapidityPhi2 => VS.lorentz_deltaRapidityPhi2.evalL k a
  | .lorentz_dot => VS.lorentz_dot.evalL k a
  | .lorentz_equal => VS.lorentz_equal.evalL k a
  | .lorentz_gamma => VS.lorentz_gamma.evalL k a
  | .lorentz_is_lightlike => VS.lorentz_is_lightlike.evalL k a
  | .lorentz_is_spacelike => VS.lorentz_is_spacelike.evalL k a
  | .lorentz_is_timelike => VS.lorentz_is_timelike.evalL k a
  | .lorentz_isclose => VS.lorentz_isclose.evalL k a
  | .lorentz_not_equal => VS.lorentz_not_equal.evalL k a
  | .lorentz_rapidity => VS.lorentz_rapidity.evalL k a
  | .lorentz_scale => VS.lorentz_scale.evalL k a
  | .lorentz_subtract => VS.lorentz_subtract.evalL k a
  | .lorentz_t => VS.lorentz_t.evalL k a
  | .lorentz_t2 => VS.lorentz_t2.evalL k a
  | .lorentz_tau => VS.lorentz_tau.evalL k a
  | .lorentz_tau2 => VS.lorentz_tau2.evalL k a
  | .lorentz_to_beta3 => VS.lorentz_to_beta3.evalL k a
  | .lorentz_transform4D => VS.lorentz_transform4D.evalL k a
  | .lorentz_unit => VS.lorentz_unit.evalL k a
  | .planar_add => VS.planar_add.evalL k a
  | .planar_deltaphi => VS.planar_deltaphi.evalL k a
  | .planar_dot => VS.planar_dot.evalL k a
  | .planar_equal => VS.planar_equal.evalL k a
  | .planar_is_antiparallel => VS.planar_is_antiparallel.evalL k a
  | .planar_is_parallel => VS.planar_is_parallel.evalL k a
  | .planar_is_perpendicular => VS.planar_is_perpendicular.evalL k a
  | .planar_isclose => VS.planar_isclose.evalL k a
  | .planar_not_equal => VS.planar_not_equal.evalL k a
  | .planar_phi => VS.planar_phi.evalL k a
  | .planar_rho => VS.planar_rho.evalL k a
  | .planar_rho2 => VS.planar_rho2.evalL k a
  | .planar_rotateZ => VS.planar_rotateZ.evalL k a
  | .planar_scale => VS.planar_scale.evalL k a
  | .planar_subtract => VS.planar_subtract.evalL k a
  | .planar_transform2D => VS.planar_transform2D.evalL k a
  | .planar_unit => VS.planar_unit.evalL k a
  | .planar_x => VS.planar_x.evalL k a
  | .planar_y => VS.planar_y.evalL k a
  | .spatial_add => VS.spatial_add.evalL k a
  | .spatial_costheta => VS.spatial_costheta.evalL k a
  | .spatial_cottheta => VS.spatial_cottheta.evalL k a
  | .spatial_cross => VS.spatial_cross.evalL k a
  | .spatial_deltaR => VS.spatial_deltaR.evalL k a
  | .spatial_deltaR2 => VS.spatial_deltaR2.evalL k a
  | .spatial_deltaangle => VS.spatial_deltaangle.evalL k a
  | .spatial_deltaeta => VS.spatial_deltaeta.evalL k a
  | .spatial_dot => VS.spatial_dot.evalL k a
  | .spatial_equal => VS.spatial_equal.evalL k a
  | .spatial_eta => VS.spatial_eta.evalL k a
  | .spatial_is_antiparallel => VS.spatial_is_antiparallel.evalL k a
  | .spatial_is_parallel => VS.spatial_is_parallel.evalL k a
  | .spatial_is_perpendicular => VS.spatial_is_perpendicular.evalL k a
  | .spatial_isclose => VS.spatial_isclose.evalL k a
  | .spatial_mag => VS.spatial_mag.evalL k a
  | .spatial_mag2 => VS.spatial_mag2.evalL k a
  | .spatial_not_equal => VS.spatial_not_equal.evalL k a
  | .spatial_rotateX => VS.spatial_rotateX.evalL k a
  | .spatial_rotateY => VS.spatial_rotateY.evalL k a
  | .spatial_rotate_axis => VS.spatial_rotate_axis.evalL k a
  | .spatial_rotate_euler => VS.spatial_rotate_euler.evalL k a
  | .spatial_rotate_quaternion => VS.spatial_rotate_quaternion.evalL k a
  | .spatial_scale => VS.spatial_scale.evalL k a
  | .spatial_subtract => VS.spatial_subtract.evalL k a
  | .spatial_theta => VS.spatial_theta.evalL k a
  | .spatial_transform3D => VS.spatial_transform3D.evalL k a
  | .spatial_unit => VS.spatial_unit.evalL k a
  | .spatial_z => VS.spatial_z.evalL k a

/-! ### B.1 `evS = evR`, module by module -/

/-- `VS.M.evalL k a = VR.M.evalL k a` for a module whose `eval` agrees at every key and argument (`e`): the two wrappers
are the same function of `eval` and of `ret`, and `ret` is the same `match` in both copies — no key is looked at -/
local macro "evalL_same " vs:ident vr:ident e:ident : tactic =>
  `(tactic| (show $vs _ _ = $vr _ _; unfold $vs $vr; simp only [$e:ident]; rfl))

/-- `evS .M k a = evR .M k a` at a key `k` given as a list of atoms, for a module whose `eval` agrees at these atoms and
arguments only (`h`: a theorem of `Props/C08.lean`, under its regular-domain hypotheses): the two layers are unfolded to
`VS.M.evalL k a` and `VR.M.evalL k a`; at such a key both wrappers are `some (eval …, ret …)` with the same `ret`, and `h`
rewrites one `eval` into the other -/
local macro "evalL_same_at " vs:ident vr:ident h:term : tactic =>
  `(tactic| (unfold evS evR Compute.eval
             simp only [$vs:ident, $vr:ident, KA.az?, KA.lon?, KA.tmp?, Option.bind_eq_bind, Option.bind_some, $h:term]
             rfl))

/-- Cross-check of `evalL_same`: the same equality of the two wrappers with nothing assumed of their shape, by splitting both
`match`es, every key atom and every key.  An independent derivation, run on one module (`planar_x`, the `example` below); no
later proof cites it -/
local macro "mb_evalL_eq " vs:ident vr:ident e:ident : tactic =>
  `(tactic| (
    unfold $vs $vr
    split
    · repeat (mb_cases_one KA <;> simp [KA.az?, KA.lon?, KA.tmp?, KA.ord?, $e:ident])
      all_goals
        (repeat (first | mb_cases_one VK.Az | mb_cases_one VK.Lon | mb_cases_one VK.Tmp | mb_cases_one VK.Ord))
      all_goals rfl
    · split
      · first
          | (exfalso; simp_all; done)
          | (exfalso; simp_all; rename_i hx; apply hx <;> rfl)
      · rfl))

example (k : List KA) (a : List ℝ) : VS.planar_x.evalL k a = VR.planar_x.evalL k a := by
  mb_evalL_eq VS.planar_x.evalL VR.planar_x.evalL VS.planar_x.eval_eq

/-- The wrapper equality, stated by name at the four modules of the cross-check sample on which the two libraries agree for
every key and argument (the fifth, `lorentz_Mt2`, agrees only on the regular domain); the other arms of `c08m_ev_eq` prove
theirs in place, by the same tactic -/
private theorem sym_evalL_eq.planar_rotateZ (k : List KA) (a : List ℝ) : VS.planar_rotateZ.evalL k a = VR.planar_rotateZ.evalL k a := by
  evalL_same VS.planar_rotateZ.evalL VR.planar_rotateZ.evalL VS.planar_rotateZ.eval_eq
private theorem sym_evalL_eq.spatial_dot (k : List KA) (a : List ℝ) : VS.spatial_dot.evalL k a = VR.spatial_dot.evalL k a := by
  evalL_same VS.spatial_dot.evalL VR.spatial_dot.evalL VS.spatial_dot.eval_eq
private theorem sym_evalL_eq.spatial_rotateX (k : List KA) (a : List ℝ) : VS.spatial_rotateX.evalL k a = VR.spatial_rotateX.evalL k a := by
  evalL_same VS.spatial_rotateX.evalL VR.spatial_rotateX.evalL VS.spatial_rotateX.eval_eq
private theorem sym_evalL_eq.lorentz_scale (k : List KA) (a : List ℝ) : VS.lorentz_scale.evalL k a = VR.lorentz_scale.evalL k a := by
  evalL_same VS.lorentz_scale.evalL VR.lorentz_scale.evalL VR.c08_lorentz_scale

/-- the modules on which the SymPy and the numeric evaluation agree for ALL keys and ALL arguments (43 syntactically equal
modules + the three `scale` modules, `Props/C08`): everything planar and spatial except `deltaangle` and `isclose`, and
`lorentz_scale` -/
def symUncond : ModuleId → Bool
  | .lorentz_Et => false
  | .lorentz_Et2 => false
  | .lorentz_Mt => false
  | .lorentz_Mt2 => false
  | .lorentz_add => false
  | .lorentz_beta => false
  | .lorentz_boostX_beta => false
  | .lorentz_boostX_gamma => false
  | .lorentz_boostY_beta => false
  | .lorentz_boostY_gamma => false
  | .lorentz_boostZ_beta => false
  | .lorentz_boostZ_gamma => false
  | .lorentz_boost_beta3 => false
  | .lorentz_boost_p4 => false
  | .lorentz_deltaRapidityPhi => false
  | .lorentz_deltaRapidityPhi2 => false
  | .lorentz_dot => false
  | .lorentz_equal => false
  | .lorentz_gamma => false
  | .lorentz_is_lightlike => false
  | .lorentz_is_spacelike => false
  | .lorentz_is_timelike => false
  | .lorentz_isclose => false
  | .lorentz_not_equal => false
  | .lorentz_rapidity => false
  | .lorentz_scale => true
  | .lorentz_subtract => false
  | .lorentz_t => false
  | .lorentz_t2 => false
  | .lorentz_tau => false
  | .lorentz_tau2 => false
  | .lorentz_to_beta3 => false
  | .lorentz_transform4D => false
  | .lorentz_unit => false
  | .planar_add => true
  | .planar_deltaphi => true
  | .planar_dot => true
  | .planar_equal => true
  | .planar_is_antiparallel => true
  | .planar_is_parallel => true
  | .planar_is_perpendicular => true
  | .planar_isclose => false
  | .planar_not_equal => true
  | .planar_phi => true
  | .planar_rho => true
  | .planar_rho2 => true
  | .planar_rotateZ => true
  | .planar_scale => true
  | .planar_subtract => true
  | .planar_transform2D => true
  | .planar_unit => true
  | .planar_x => true
  | .planar_y => true
  | .spatial_add => true
  | .spatial_costheta => true
  | .spatial_cottheta => true
  | .spatial_cross => true
  | .spatial_deltaR => true
  | .spatial_deltaR2 => true
  | .spatial_deltaangle => false
  | .spatial_deltaeta => true
  | .spatial_dot => true
  | .spatial_equal => true
  | .spatial_eta => true
  | .spatial_is_antiparallel => true
  | .spatial_is_parallel => true
  | .spatial_is_perpendicular => true
  | .spatial_isclose => false
  | .spatial_mag => true
  | .spatial_mag2 => true
  | .spatial_not_equal => true
  | .spatial_rotateX => true
  | .spatial_rotateY => true
  | .spatial_rotate_axis => true
  | .spatial_rotate_euler => true
  | .spatial_rotate_quaternion => true
  | .spatial_scale => true
  | .spatial_subtract => true
  | .spatial_theta => true
  | .spatial_transform3D => true
  | .spatial_unit => true
  | .spatial_z => true

/-- B.1 (unconditional part): `evS = evR` on these modules, for every key and every argument list -/
theorem c08m_ev_eq (m : ModuleId) (hm : symUncond m = true) (k : List KA) (a : List ℝ) : evS m k a = evR m k a :=
  match m, hm with
  | .planar_add, _ => by evalL_same VS.planar_add.evalL VR.planar_add.evalL VS.planar_add.eval_eq
  | .planar_deltaphi, _ => by evalL_same VS.planar_deltaphi.evalL VR.planar_deltaphi.evalL VS.planar_deltaphi.eval_eq
  | .planar_dot, _ => by evalL_same VS.planar_dot.evalL VR.planar_dot.evalL VS.planar_dot.eval_eq
  | .planar_equal, _ => by evalL_same VS.planar_equal.evalL VR.planar_equal.evalL VS.planar_equal.eval_eq
  | .planar_is_antiparallel, _ => by evalL_same VS.planar_is_antiparallel.evalL VR.planar_is_antiparallel.evalL VS.planar_is_antiparallel.eval_eq
  | .planar_is_parallel, _ => by evalL_same VS.planar_is_parallel.evalL VR.planar_is_parallel.evalL VS.planar_is_parallel.eval_eq
  | .planar_is_perpendicular, _ => by evalL_same VS.planar_is_perpendicular.evalL VR.planar_is_perpendicular.evalL VS.planar_is_perpendicular.eval_eq
  | .planar_not_equal, _ => by evalL_same VS.planar_not_equal.evalL VR.planar_not_equal.evalL VS.planar_not_equal.eval_eq
  | .planar_phi, _ => by evalL_same VS.planar_phi.evalL VR.planar_phi.evalL VS.planar_phi.eval_eq
  | .planar_rho, _ => by evalL_same VS.planar_rho.evalL VR.planar_rho.evalL VS.planar_rho.eval_eq
  | .planar_rho2, _ => by evalL_same VS.planar_rho2.evalL VR.planar_rho2.evalL VS.planar_rho2.eval_eq
  | .planar_rotateZ, _ => sym_evalL_eq.planar_rotateZ k a
  | .planar_subtract, _ => by evalL_same VS.planar_subtract.evalL VR.planar_subtract.evalL VS.planar_subtract.eval_eq
  | .planar_transform2D, _ => by evalL_same VS.planar_transform2D.evalL VR.planar_transform2D.evalL VS.planar_transform2D.eval_eq
  | .planar_unit, _ => by evalL_same VS.planar_unit.evalL VR.planar_unit.evalL VS.planar_unit.eval_eq
  | .planar_x, _ => by evalL_same VS.planar_x.evalL VR.planar_x.evalL VS.planar_x.eval_eq
  | .planar_y, _ => by evalL_same VS.planar_y.evalL VR.planar_y.evalL VS.planar_y.eval_eq
  | .spatial_add, _ => by evalL_same VS.spatial_add.evalL VR.spatial_add.evalL VS.spatial_add.eval_eq
  | .spatial_costheta, _ => by evalL_same VS.spatial_costheta.evalL VR.spatial_costheta.evalL VS.spatial_costheta.eval_eq
  | .spatial_cottheta, _ => by evalL_same VS.spatial_cottheta.evalL VR.spatial_cottheta.evalL VS.spatial_cottheta.eval_eq
  | .spatial_cross, _ => by evalL_same VS.spatial_cross.evalL VR.spatial_cross.evalL VS.spatial_cross.eval_eq
  | .spatial_deltaR, _ => by evalL_same VS.spatial_deltaR.evalL VR.spatial_deltaR.evalL VS.spatial_deltaR.eval_eq
  | .spatial_deltaR2, _ => by evalL_same VS.spatial_deltaR2.evalL VR.spatial_deltaR2.evalL VS.spatial_deltaR2.eval_eq
  | .spatial_deltaeta, _ => by evalL_same VS.spatial_deltaeta.evalL VR.spatial_deltaeta.evalL VS.spatial_deltaeta.eval_eq
  | .spatial_dot, _ => sym_evalL_eq.spatial_dot k a
  | .spatial_equal, _ => by evalL_same VS.spatial_equal.evalL VR.spatial_equal.evalL VS.spatial_equal.eval_eq
  | .spatial_eta, _ => by evalL_same VS.spatial_eta.evalL VR.spatial_eta.evalL VS.spatial_eta.eval_eq
  | .spatial_is_antiparallel, _ => by evalL_same VS.spatial_is_antiparallel.evalL VR.spatial_is_antiparallel.evalL VS.spatial_is_antiparallel.eval_eq
  | .spatial_is_parallel, _ => by evalL_same VS.spatial_is_parallel.evalL VR.spatial_is_parallel.evalL VS.spatial_is_parallel.eval_eq
  | .spatial_is_perpendicular, _ => by evalL_same VS.spatial_is_perpendicular.evalL VR.spatial_is_perpendicular.evalL VS.spatial_is_perpendicular.eval_eq
  | .spatial_mag, _ => by evalL_same VS.spatial_mag.evalL VR.spatial_mag.evalL VS.spatial_mag.eval_eq
  | .spatial_mag2, _ => by evalL_same VS.spatial_mag2.evalL VR.spatial_mag2.evalL VS.spatial_mag2.eval_eq
  | .spatial_not_equal, _ => by evalL_same VS.spatial_not_equal.evalL VR.spatial_not_equal.evalL VS.spatial_not_equal.eval_eq
  | .spatial_rotateX, _ => sym_evalL_eq.spatial_rotateX k a
  | .spatial_rotateY, _ => by evalL_same VS.spatial_rotateY.evalL VR.spatial_rotateY.evalL VS.spatial_rotateY.eval_eq
  | .spatial_rotate_axis, _ => by evalL_same VS.spatial_rotate_axis.evalL VR.spatial_rotate_axis.evalL VS.spatial_rotate_axis.eval_eq
  | .spatial_rotate_euler, _ => by evalL_same VS.spatial_rotate_euler.evalL VR.spatial_rotate_euler.evalL VS.spatial_rotate_euler.eval_eq
  | .spatial_rotate_quaternion, _ => by evalL_same VS.spatial_rotate_quaternion.evalL VR.spatial_rotate_quaternion.evalL VS.spatial_rotate_quaternion.eval_eq
  | .spatial_subtract, _ => by evalL_same VS.spatial_subtract.evalL VR.spatial_subtract.evalL VS.spatial_subtract.eval_eq
  | .spatial_theta, _ => by evalL_same VS.spatial_theta.evalL VR.spatial_theta.evalL VS.spatial_theta.eval_eq
  | .spatial_transform3D, _ => by evalL_same VS.spatial_transform3D.evalL VR.spatial_transform3D.evalL VS.spatial_transform3D.eval_eq
  | .spatial_unit, _ => by evalL_same VS.spatial_unit.evalL VR.spatial_unit.evalL VS.spatial_unit.eval_eq
  | .spatial_z, _ => by evalL_same VS.spatial_z.evalL VR.spatial_z.evalL VS.spatial_z.eval_eq
  | .planar_scale, _ => by evalL_same VS.planar_scale.evalL VR.planar_scale.evalL VR.c08_planar_scale
  | .spatial_scale, _ => by evalL_same VS.spatial_scale.evalL VR.spatial_scale.evalL VR.c08_spatial_scale
  | .lorentz_scale, _ => sym_evalL_eq.lorentz_scale k a

/-! #### B.1, conditional part: the other modules, on well-shaped keys, under the regular-domain hypotheses of `Props/C08` -/

theorem c08m_ev_lorentz_Et (k0 : Az) (k1 : Lon) (k2 : Tmp) (a0 a1 a2 a3 : ℝ)
    (hc3 : Spec.CanonTmp k2 a3) :
    evS .lorentz_Et [KA.az k0, KA.lon k1, KA.tmp k2] [a0, a1, a2, a3] = evR .lorentz_Et [KA.az k0, KA.lon k1, KA.tmp k2] [a0, a1, a2, a3] := by
  evalL_same_at VS.lorentz_Et.evalL VR.lorentz_Et.evalL (VR.c08_lorentz_Et k0 k1 k2 a0 a1 a2 a3 hc3)

theorem c08m_ev_lorentz_Et2 (k0 : Az) (k1 : Lon) (k2 : Tmp) (a0 a1 a2 a3 : ℝ)
    (hc3 : Spec.CanonTmp k2 a3) :
    evS .lorentz_Et2 [KA.az k0, KA.lon k1, KA.tmp k2] [a0, a1, a2, a3] = evR .lorentz_Et2 [KA.az k0, KA.lon k1, KA.tmp k2] [a0, a1, a2, a3] := by
  evalL_same_at VS.lorentz_Et2.evalL VR.lorentz_Et2.evalL (VR.c08_lorentz_Et2 k0 k1 k2 a0 a1 a2 a3 hc3)

theorem c08m_ev_lorentz_Mt (k0 : Az) (k1 : Lon) (k2 : Tmp) (a0 a1 a2 a3 : ℝ)
    (hc3 : Spec.CanonTmp k2 a3) :
    evS .lorentz_Mt [KA.az k0, KA.lon k1, KA.tmp k2] [a0, a1, a2, a3] = evR .lorentz_Mt [KA.az k0, KA.lon k1, KA.tmp k2] [a0, a1, a2, a3] := by
  evalL_same_at VS.lorentz_Mt.evalL VR.lorentz_Mt.evalL (VR.c08_lorentz_Mt k0 k1 k2 a0 a1 a2 a3 hc3)

theorem c08m_ev_lorentz_Mt2 (k0 : Az) (k1 : Lon) (k2 : Tmp) (a0 a1 a2 a3 : ℝ)
    (hc3 : Spec.CanonTmp k2 a3) :
    evS .lorentz_Mt2 [KA.az k0, KA.lon k1, KA.tmp k2] [a0, a1, a2, a3] = evR .lorentz_Mt2 [KA.az k0, KA.lon k1, KA.tmp k2] [a0, a1, a2, a3] := by
  evalL_same_at VS.lorentz_Mt2.evalL VR.lorentz_Mt2.evalL (VR.c08_lorentz_Mt2 k0 k1 k2 a0 a1 a2 a3 hc3)

theorem c08m_ev_lorentz_add (k0 : Az) (k1 : Lon) (k2 : Tmp) (k3 : Az) (k4 : Lon) (k5 : Tmp) (a0 a1 a2 a3 a4 a5 a6 a7 : ℝ)
    (hc3 : Spec.CanonTmp k2 a3) (hc7 : Spec.CanonTmp k5 a7) (hres : k2 = .tau → k5 = .tau → 0 ≤ (VR.lorentz_add.eval k0 k1 k2 k3 k4 k5 a0 a1 a2 a3 a4 a5 a6 a7).2.2.2) :
    evS .lorentz_add [KA.az k0, KA.lon k1, KA.tmp k2, KA.az k3, KA.lon k4, KA.tmp k5] [a0, a1, a2, a3, a4, a5, a6, a7] = evR .lorentz_add [KA.az k0, KA.lon k1, KA.tmp k2, KA.az k3, KA.lon k4, KA.tmp k5] [a0, a1, a2, a3, a4, a5, a6, a7] := by
  evalL_same_at VS.lorentz_add.evalL VR.lorentz_add.evalL (VR.c08_lorentz_add k0 k1 k2 k3 k4 k5 a0 a1 a2 a3 a4 a5 a6 a7 hc3 hc7 hres)

theorem c08m_ev_lorentz_beta (k0 : Az) (k1 : Lon) (k2 : Tmp) (a0 a1 a2 a3 : ℝ)
    (hc3 : Spec.CanonTmp k2 a3) :
    evS .lorentz_beta [KA.az k0, KA.lon k1, KA.tmp k2] [a0, a1, a2, a3] = evR .lorentz_beta [KA.az k0, KA.lon k1, KA.tmp k2] [a0, a1, a2, a3] := by
  evalL_same_at VS.lorentz_beta.evalL VR.lorentz_beta.evalL (VR.c08_lorentz_beta k0 k1 k2 a0 a1 a2 a3 hc3)

theorem c08m_ev_lorentz_boostX_beta (k0 : Az) (k1 : Lon) (k2 : Tmp) (a0 a1 a2 a3 a4 : ℝ)
    (hc4 : Spec.CanonTmp k2 a4) :
    evS .lorentz_boostX_beta [KA.az k0, KA.lon k1, KA.tmp k2] [a0, a1, a2, a3, a4] = evR .lorentz_boostX_beta [KA.az k0, KA.lon k1, KA.tmp k2] [a0, a1, a2, a3, a4] := by
  evalL_same_at VS.lorentz_boostX_beta.evalL VR.lorentz_boostX_beta.evalL (VR.c08_lorentz_boostX_beta k0 k1 k2 a0 a1 a2 a3 a4 hc4)

theorem c08m_ev_lorentz_boostX_gamma (k0 : Az) (k1 : Lon) (k2 : Tmp) (a0 a1 a2 a3 a4 : ℝ)
    (ha0 : 0 ≤ a0) (hc4 : Spec.CanonTmp k2 a4) :
    evS .lorentz_boostX_gamma [KA.az k0, KA.lon k1, KA.tmp k2] [a0, a1, a2, a3, a4] = evR .lorentz_boostX_gamma [KA.az k0, KA.lon k1, KA.tmp k2] [a0, a1, a2, a3, a4] := by
  evalL_same_at VS.lorentz_boostX_gamma.evalL VR.lorentz_boostX_gamma.evalL (VR.c08_lorentz_boostX_gamma k0 k1 k2 a0 a1 a2 a3 a4 ha0 hc4)

theorem c08m_ev_lorentz_boostY_beta (k0 : Az) (k1 : Lon) (k2 : Tmp) (a0 a1 a2 a3 a4 : ℝ)
    (hc4 : Spec.CanonTmp k2 a4) :
    evS .lorentz_boostY_beta [KA.az k0, KA.lon k1, KA.tmp k2] [a0, a1, a2, a3, a4] = evR .lorentz_boostY_beta [KA.az k0, KA.lon k1, KA.tmp k2] [a0, a1, a2, a3, a4] := by
  evalL_same_at VS.lorentz_boostY_beta.evalL VR.lorentz_boostY_beta.evalL (VR.c08_lorentz_boostY_beta k0 k1 k2 a0 a1 a2 a3 a4 hc4)

theorem c08m_ev_lorentz_boostY_gamma (k0 : Az) (k1 : Lon) (k2 : Tmp) (a0 a1 a2 a3 a4 : ℝ)
    (ha0 : 0 ≤ a0) (hc4 : Spec.CanonTmp k2 a4) :
    evS .lorentz_boostY_gamma [KA.az k0, KA.lon k1, KA.tmp k2] [a0, a1, a2, a3, a4] = evR .lorentz_boostY_gamma [KA.az k0, KA.lon k1, KA.tmp k2] [a0, a1, a2, a3, a4] := by
  evalL_same_at VS.lorentz_boostY_gamma.evalL VR.lorentz_boostY_gamma.evalL (VR.c08_lorentz_boostY_gamma k0 k1 k2 a0 a1 a2 a3 a4 ha0 hc4)

theorem c08m_ev_lorentz_boostZ_beta (k0 : Az) (k1 : Lon) (k2 : Tmp) (a0 a1 a2 a3 a4 : ℝ)
    (hc4 : Spec.CanonTmp k2 a4) :
    evS .lorentz_boostZ_beta [KA.az k0, KA.lon k1, KA.tmp k2] [a0, a1, a2, a3, a4] = evR .lorentz_boostZ_beta [KA.az k0, KA.lon k1, KA.tmp k2] [a0, a1, a2, a3, a4] := by
  evalL_same_at VS.lorentz_boostZ_beta.evalL VR.lorentz_boostZ_beta.evalL (VR.c08_lorentz_boostZ_beta k0 k1 k2 a0 a1 a2 a3 a4 hc4)

theorem c08m_ev_lorentz_boostZ_gamma (k0 : Az) (k1 : Lon) (k2 : Tmp) (a0 a1 a2 a3 a4 : ℝ)
    (ha0 : 0 ≤ a0) (hc4 : Spec.CanonTmp k2 a4) :
    evS .lorentz_boostZ_gamma [KA.az k0, KA.lon k1, KA.tmp k2] [a0, a1, a2, a3, a4] = evR .lorentz_boostZ_gamma [KA.az k0, KA.lon k1, KA.tmp k2] [a0, a1, a2, a3, a4] := by
  evalL_same_at VS.lorentz_boostZ_gamma.evalL VR.lorentz_boostZ_gamma.evalL (VR.c08_lorentz_boostZ_gamma k0 k1 k2 a0 a1 a2 a3 a4 ha0 hc4)

theorem c08m_ev_lorentz_boost_beta3 (k0 : Az) (k1 : Lon) (k2 : Tmp) (k3 : Az) (k4 : Lon) (a0 a1 a2 a3 a4 a5 a6 : ℝ)
    (hc3 : Spec.CanonTmp k2 a3) :
    evS .lorentz_boost_beta3 [KA.az k0, KA.lon k1, KA.tmp k2, KA.az k3, KA.lon k4] [a0, a1, a2, a3, a4, a5, a6] = evR .lorentz_boost_beta3 [KA.az k0, KA.lon k1, KA.tmp k2, KA.az k3, KA.lon k4] [a0, a1, a2, a3, a4, a5, a6] := by
  evalL_same_at VS.lorentz_boost_beta3.evalL VR.lorentz_boost_beta3.evalL (VR.c08_lorentz_boost_beta3 k0 k1 k2 k3 k4 a0 a1 a2 a3 a4 a5 a6 hc3)

theorem c08m_ev_lorentz_boost_p4 (k0 : Az) (k1 : Lon) (k2 : Tmp) (k3 : Az) (k4 : Lon) (k5 : Tmp) (a0 a1 a2 a3 a4 a5 a6 a7 : ℝ)
    (hc3 : Spec.CanonTmp k2 a3) :
    evS .lorentz_boost_p4 [KA.az k0, KA.lon k1, KA.tmp k2, KA.az k3, KA.lon k4, KA.tmp k5] [a0, a1, a2, a3, a4, a5, a6, a7] = evR .lorentz_boost_p4 [KA.az k0, KA.lon k1, KA.tmp k2, KA.az k3, KA.lon k4, KA.tmp k5] [a0, a1, a2, a3, a4, a5, a6, a7] := by
  evalL_same_at VS.lorentz_boost_p4.evalL VR.lorentz_boost_p4.evalL (VR.c08_lorentz_boost_p4 k0 k1 k2 k3 k4 k5 a0 a1 a2 a3 a4 a5 a6 a7 hc3)

theorem c08m_ev_lorentz_deltaRapidityPhi (k0 : Az) (k1 : Lon) (k2 : Tmp) (k3 : Az) (k4 : Lon) (k5 : Tmp) (a0 a1 a2 a3 a4 a5 a6 a7 : ℝ)
    (hc3 : Spec.CanonTmp k2 a3) (hc7 : Spec.CanonTmp k5 a7) :
    evS .lorentz_deltaRapidityPhi [KA.az k0, KA.lon k1, KA.tmp k2, KA.az k3, KA.lon k4, KA.tmp k5] [a0, a1, a2, a3, a4, a5, a6, a7] = evR .lorentz_deltaRapidityPhi [KA.az k0, KA.lon k1, KA.tmp k2, KA.az k3, KA.lon k4, KA.tmp k5] [a0, a1, a2, a3, a4, a5, a6, a7] := by
  evalL_same_at VS.lorentz_deltaRapidityPhi.evalL VR.lorentz_deltaRapidityPhi.evalL (VR.c08_lorentz_deltaRapidityPhi k0 k1 k2 k3 k4 k5 a0 a1 a2 a3 a4 a5 a6 a7 hc3 hc7)

theorem c08m_ev_lorentz_deltaRapidityPhi2 (k0 : Az) (k1 : Lon) (k2 : Tmp) (k3 : Az) (k4 : Lon) (k5 : Tmp) (a0 a1 a2 a3 a4 a5 a6 a7 : ℝ)
    (hc3 : Spec.CanonTmp k2 a3) (hc7 : Spec.CanonTmp k5 a7) :
    evS .lorentz_deltaRapidityPhi2 [KA.az k0, KA.lon k1, KA.tmp k2, KA.az k3, KA.lon k4, KA.tmp k5] [a0, a1, a2, a3, a4, a5, a6, a7] = evR .lorentz_deltaRapidityPhi2 [KA.az k0, KA.lon k1, KA.tmp k2, KA.az k3, KA.lon k4, KA.tmp k5] [a0, a1, a2, a3, a4, a5, a6, a7] := by
  evalL_same_at VS.lorentz_deltaRapidityPhi2.evalL VR.lorentz_deltaRapidityPhi2.evalL (VR.c08_lorentz_deltaRapidityPhi2 k0 k1 k2 k3 k4 k5 a0 a1 a2 a3 a4 a5 a6 a7 hc3 hc7)

theorem c08m_ev_lorentz_dot (k0 : Az) (k1 : Lon) (k2 : Tmp) (k3 : Az) (k4 : Lon) (k5 : Tmp) (a0 a1 a2 a3 a4 a5 a6 a7 : ℝ)
    (hc3 : Spec.CanonTmp k2 a3) (hc7 : Spec.CanonTmp k5 a7) :
    evS .lorentz_dot [KA.az k0, KA.lon k1, KA.tmp k2, KA.az k3, KA.lon k4, KA.tmp k5] [a0, a1, a2, a3, a4, a5, a6, a7] = evR .lorentz_dot [KA.az k0, KA.lon k1, KA.tmp k2, KA.az k3, KA.lon k4, KA.tmp k5] [a0, a1, a2, a3, a4, a5, a6, a7] := by
  evalL_same_at VS.lorentz_dot.evalL VR.lorentz_dot.evalL (VR.c08_lorentz_dot k0 k1 k2 k3 k4 k5 a0 a1 a2 a3 a4 a5 a6 a7 hc3 hc7)

theorem c08m_ev_lorentz_equal (k0 : Az) (k1 : Lon) (k2 : Tmp) (k3 : Az) (k4 : Lon) (k5 : Tmp) (a0 a1 a2 a3 a4 a5 a6 a7 : ℝ)
    (hc3 : Spec.CanonTmp k2 a3) (hc7 : Spec.CanonTmp k5 a7) :
    evS .lorentz_equal [KA.az k0, KA.lon k1, KA.tmp k2, KA.az k3, KA.lon k4, KA.tmp k5] [a0, a1, a2, a3, a4, a5, a6, a7] = evR .lorentz_equal [KA.az k0, KA.lon k1, KA.tmp k2, KA.az k3, KA.lon k4, KA.tmp k5] [a0, a1, a2, a3, a4, a5, a6, a7] := by
  evalL_same_at VS.lorentz_equal.evalL VR.lorentz_equal.evalL (propext (VR.c08_lorentz_equal k0 k1 k2 k3 k4 k5 a0 a1 a2 a3 a4 a5 a6 a7 hc3 hc7))

theorem c08m_ev_lorentz_gamma (k0 : Az) (k1 : Lon) (k2 : Tmp) (a0 a1 a2 a3 : ℝ)
    (hs : 0 ≤ VR.lorentz_tau2.eval k0 k1 k2 a0 a1 a2 a3) :
    evS .lorentz_gamma [KA.az k0, KA.lon k1, KA.tmp k2] [a0, a1, a2, a3] = evR .lorentz_gamma [KA.az k0, KA.lon k1, KA.tmp k2] [a0, a1, a2, a3] := by
  evalL_same_at VS.lorentz_gamma.evalL VR.lorentz_gamma.evalL (VR.c08_lorentz_gamma k0 k1 k2 a0 a1 a2 a3 hs)

theorem c08m_ev_lorentz_is_lightlike (k0 : Az) (k1 : Lon) (k2 : Tmp) (a0 a1 a2 a3 a4 : ℝ)
    (hc4 : Spec.CanonTmp k2 a4) :
    evS .lorentz_is_lightlike [KA.az k0, KA.lon k1, KA.tmp k2] [a0, a1, a2, a3, a4] = evR .lorentz_is_lightlike [KA.az k0, KA.lon k1, KA.tmp k2] [a0, a1, a2, a3, a4] := by
  evalL_same_at VS.lorentz_is_lightlike.evalL VR.lorentz_is_lightlike.evalL (propext (VR.c08_lorentz_is_lightlike k0 k1 k2 a0 a1 a2 a3 a4 hc4))

theorem c08m_ev_lorentz_is_spacelike (k0 : Az) (k1 : Lon) (k2 : Tmp) (a0 a1 a2 a3 a4 : ℝ)
    (hc4 : Spec.CanonTmp k2 a4) :
    evS .lorentz_is_spacelike [KA.az k0, KA.lon k1, KA.tmp k2] [a0, a1, a2, a3, a4] = evR .lorentz_is_spacelike [KA.az k0, KA.lon k1, KA.tmp k2] [a0, a1, a2, a3, a4] := by
  evalL_same_at VS.lorentz_is_spacelike.evalL VR.lorentz_is_spacelike.evalL (propext (VR.c08_lorentz_is_spacelike k0 k1 k2 a0 a1 a2 a3 a4 hc4))

theorem c08m_ev_lorentz_is_timelike (k0 : Az) (k1 : Lon) (k2 : Tmp) (a0 a1 a2 a3 a4 : ℝ)
    (hc4 : Spec.CanonTmp k2 a4) :
    evS .lorentz_is_timelike [KA.az k0, KA.lon k1, KA.tmp k2] [a0, a1, a2, a3, a4] = evR .lorentz_is_timelike [KA.az k0, KA.lon k1, KA.tmp k2] [a0, a1, a2, a3, a4] := by
  evalL_same_at VS.lorentz_is_timelike.evalL VR.lorentz_is_timelike.evalL (propext (VR.c08_lorentz_is_timelike k0 k1 k2 a0 a1 a2 a3 a4 hc4))

theorem c08m_ev_lorentz_not_equal (k0 : Az) (k1 : Lon) (k2 : Tmp) (k3 : Az) (k4 : Lon) (k5 : Tmp) (a0 a1 a2 a3 a4 a5 a6 a7 : ℝ)
    (hc3 : Spec.CanonTmp k2 a3) (hc7 : Spec.CanonTmp k5 a7) :
    evS .lorentz_not_equal [KA.az k0, KA.lon k1, KA.tmp k2, KA.az k3, KA.lon k4, KA.tmp k5] [a0, a1, a2, a3, a4, a5, a6, a7] = evR .lorentz_not_equal [KA.az k0, KA.lon k1, KA.tmp k2, KA.az k3, KA.lon k4, KA.tmp k5] [a0, a1, a2, a3, a4, a5, a6, a7] := by
  evalL_same_at VS.lorentz_not_equal.evalL VR.lorentz_not_equal.evalL (propext (VR.c08_lorentz_not_equal k0 k1 k2 k3 k4 k5 a0 a1 a2 a3 a4 a5 a6 a7 hc3 hc7))

theorem c08m_ev_lorentz_rapidity (k0 : Az) (k1 : Lon) (k2 : Tmp) (a0 a1 a2 a3 : ℝ)
    (hc3 : Spec.CanonTmp k2 a3) :
    evS .lorentz_rapidity [KA.az k0, KA.lon k1, KA.tmp k2] [a0, a1, a2, a3] = evR .lorentz_rapidity [KA.az k0, KA.lon k1, KA.tmp k2] [a0, a1, a2, a3] := by
  evalL_same_at VS.lorentz_rapidity.evalL VR.lorentz_rapidity.evalL (VR.c08_lorentz_rapidity k0 k1 k2 a0 a1 a2 a3 hc3)

theorem c08m_ev_lorentz_subtract (k0 : Az) (k1 : Lon) (k2 : Tmp) (k3 : Az) (k4 : Lon) (k5 : Tmp) (a0 a1 a2 a3 a4 a5 a6 a7 : ℝ)
    (hc3 : Spec.CanonTmp k2 a3) (hc7 : Spec.CanonTmp k5 a7) (hres : k2 = .tau → k5 = .tau → 0 ≤ (VR.lorentz_subtract.eval k0 k1 k2 k3 k4 k5 a0 a1 a2 a3 a4 a5 a6 a7).2.2.2) :
    evS .lorentz_subtract [KA.az k0, KA.lon k1, KA.tmp k2, KA.az k3, KA.lon k4, KA.tmp k5] [a0, a1, a2, a3, a4, a5, a6, a7] = evR .lorentz_subtract [KA.az k0, KA.lon k1, KA.tmp k2, KA.az k3, KA.lon k4, KA.tmp k5] [a0, a1, a2, a3, a4, a5, a6, a7] := by
  evalL_same_at VS.lorentz_subtract.evalL VR.lorentz_subtract.evalL (VR.c08_lorentz_subtract k0 k1 k2 k3 k4 k5 a0 a1 a2 a3 a4 a5 a6 a7 hc3 hc7 hres)

theorem c08m_ev_lorentz_t (k0 : Az) (k1 : Lon) (k2 : Tmp) (a0 a1 a2 a3 : ℝ)
    (hc3 : Spec.CanonTmp k2 a3) :
    evS .lorentz_t [KA.az k0, KA.lon k1, KA.tmp k2] [a0, a1, a2, a3] = evR .lorentz_t [KA.az k0, KA.lon k1, KA.tmp k2] [a0, a1, a2, a3] := by
  evalL_same_at VS.lorentz_t.evalL VR.lorentz_t.evalL (VR.c08_lorentz_t k0 k1 k2 a0 a1 a2 a3 hc3)

theorem c08m_ev_lorentz_t2 (k0 : Az) (k1 : Lon) (k2 : Tmp) (a0 a1 a2 a3 : ℝ)
    (hc3 : Spec.CanonTmp k2 a3) :
    evS .lorentz_t2 [KA.az k0, KA.lon k1, KA.tmp k2] [a0, a1, a2, a3] = evR .lorentz_t2 [KA.az k0, KA.lon k1, KA.tmp k2] [a0, a1, a2, a3] := by
  evalL_same_at VS.lorentz_t2.evalL VR.lorentz_t2.evalL (VR.c08_lorentz_t2 k0 k1 k2 a0 a1 a2 a3 hc3)

theorem c08m_ev_lorentz_tau (k0 : Az) (k1 : Lon) (k2 : Tmp) (a0 a1 a2 a3 : ℝ)
    (hs : 0 ≤ VR.lorentz_tau2.eval k0 k1 k2 a0 a1 a2 a3) :
    evS .lorentz_tau [KA.az k0, KA.lon k1, KA.tmp k2] [a0, a1, a2, a3] = evR .lorentz_tau [KA.az k0, KA.lon k1, KA.tmp k2] [a0, a1, a2, a3] := by
  evalL_same_at VS.lorentz_tau.evalL VR.lorentz_tau.evalL (VR.c08_lorentz_tau k0 k1 k2 a0 a1 a2 a3 hs)

theorem c08m_ev_lorentz_tau2 (k0 : Az) (k1 : Lon) (k2 : Tmp) (a0 a1 a2 a3 : ℝ)
    (hc3 : Spec.CanonTmp k2 a3) :
    evS .lorentz_tau2 [KA.az k0, KA.lon k1, KA.tmp k2] [a0, a1, a2, a3] = evR .lorentz_tau2 [KA.az k0, KA.lon k1, KA.tmp k2] [a0, a1, a2, a3] := by
  evalL_same_at VS.lorentz_tau2.evalL VR.lorentz_tau2.evalL (VR.c08_lorentz_tau2 k0 k1 k2 a0 a1 a2 a3 hc3)

theorem c08m_ev_lorentz_to_beta3 (k0 : Az) (k1 : Lon) (k2 : Tmp) (a0 a1 a2 a3 : ℝ)
    (hc3 : Spec.CanonTmp k2 a3) :
    evS .lorentz_to_beta3 [KA.az k0, KA.lon k1, KA.tmp k2] [a0, a1, a2, a3] = evR .lorentz_to_beta3 [KA.az k0, KA.lon k1, KA.tmp k2] [a0, a1, a2, a3] := by
  evalL_same_at VS.lorentz_to_beta3.evalL VR.lorentz_to_beta3.evalL (VR.c08_lorentz_to_beta3 k0 k1 k2 a0 a1 a2 a3 hc3)

theorem c08m_ev_lorentz_transform4D (k0 : Az) (k1 : Lon) (k2 : Tmp) (a0 a1 a2 a3 a4 a5 a6 a7 a8 a9 a10 a11 a12 a13 a14 a15 a16 a17 a18 a19 : ℝ)
    (hc19 : Spec.CanonTmp k2 a19) :
    evS .lorentz_transform4D [KA.az k0, KA.lon k1, KA.tmp k2] [a0, a1, a2, a3, a4, a5, a6, a7, a8, a9, a10, a11, a12, a13, a14, a15, a16, a17, a18, a19] = evR .lorentz_transform4D [KA.az k0, KA.lon k1, KA.tmp k2] [a0, a1, a2, a3, a4, a5, a6, a7, a8, a9, a10, a11, a12, a13, a14, a15, a16, a17, a18, a19] := by
  evalL_same_at VS.lorentz_transform4D.evalL VR.lorentz_transform4D.evalL (VR.c08_lorentz_transform4D k0 k1 k2 a0 a1 a2 a3 a4 a5 a6 a7 a8 a9 a10 a11 a12 a13 a14 a15 a16 a17 a18 a19 hc19)

theorem c08m_ev_lorentz_unit (k0 : Az) (k1 : Lon) (k2 : Tmp) (a0 a1 a2 a3 : ℝ)
    (hc3 : Spec.CanonTmp k2 a3) :
    evS .lorentz_unit [KA.az k0, KA.lon k1, KA.tmp k2] [a0, a1, a2, a3] = evR .lorentz_unit [KA.az k0, KA.lon k1, KA.tmp k2] [a0, a1, a2, a3] := by
  evalL_same_at VS.lorentz_unit.evalL VR.lorentz_unit.evalL (VR.c08_lorentz_unit k0 k1 k2 a0 a1 a2 a3 hc3)

theorem c08m_ev_spatial_deltaangle (k0 : Az) (k1 : Lon) (k2 : Az) (k3 : Lon) (a0 a1 a2 a3 a4 a5 : ℝ)
    (hlo : -1 ≤ VR.spatial_dot.eval k0 k1 k2 k3 a0 a1 a2 a3 a4 a5 / VR.spatial_mag.eval k0 k1 a0 a1 a2 / VR.spatial_mag.eval k2 k3 a3 a4 a5) (hhi : VR.spatial_dot.eval k0 k1 k2 k3 a0 a1 a2 a3 a4 a5 / VR.spatial_mag.eval k0 k1 a0 a1 a2 / VR.spatial_mag.eval k2 k3 a3 a4 a5 ≤ 1) :
    evS .spatial_deltaangle [KA.az k0, KA.lon k1, KA.az k2, KA.lon k3] [a0, a1, a2, a3, a4, a5] = evR .spatial_deltaangle [KA.az k0, KA.lon k1, KA.az k2, KA.lon k3] [a0, a1, a2, a3, a4, a5] := by
  evalL_same_at VS.spatial_deltaangle.evalL VR.spatial_deltaangle.evalL (VR.c08_spatial_deltaangle k0 k1 k2 k3 a0 a1 a2 a3 a4 a5 hlo hhi)

/-! ### B.2 congruence of the glue in the compute layer, and the public methods that use only agreeing modules -/

/-- `dispatch` consults the compute layer exactly once: at the module of the method, on the key and the arguments built
from the operands.  Two compute layers that agree there give the same result. -/
theorem c08m_dispatch_congr {S B : Type} (ev ev' : Ev S B) (m : ModuleId) (sc : List S) (ord : Option Ord)
    (ops counted : List (Vec S))
    (h : ∀ key args, dispatchArgs m ord ops = some (key, args) → ev m key (sc ++ args) = ev' m key (sc ++ args)) :
    dispatch ev m sc ord ops counted = dispatch ev' m sc ord ops counted := by
  rw [dispatch_eq, dispatch_eq]
  cases ha : dispatchArgs m ord ops with
  | none => rfl
  | some ka => simp only [h ka.1 ka.2 ha]

theorem c08m_dispatch_congr1 {S B : Type} (ev ev' : Ev S B) (m : ModuleId) (sc : List S) (v : Vec S)
    (counted : List (Vec S)) (n : Nat) (k : List KA) (c : List S) (hs : operandSlots m.info.shape = [n])
    (hk : operandKey v n = some (k, c)) (h : ev m k (sc ++ c) = ev' m k (sc ++ c)) :
    dispatch ev m sc none [v] counted = dispatch ev' m sc none [v] counted := by
  refine c08m_dispatch_congr ev ev' m sc none [v] counted fun key args ha => ?_
  cases (dispatchArgs_one hs hk).symm.trans ha
  simpa using h

theorem c08m_dispatch_congr2 {S B : Type} (ev ev' : Ev S B) (m : ModuleId) (sc : List S) (a b : Vec S)
    (counted : List (Vec S)) (n1 n2 : Nat) (k1 k2 : List KA) (c1 c2 : List S)
    (hs : operandSlots m.info.shape = [n1, n2]) (h1 : operandKey a n1 = some (k1, c1))
    (h2 : operandKey b n2 = some (k2, c2))
    (h : ev m (k1 ++ k2) (sc ++ (c1 ++ c2)) = ev' m (k1 ++ k2) (sc ++ (c1 ++ c2))) :
    dispatch ev m sc none [a, b] counted = dispatch ev' m sc none [a, b] counted := by
  refine c08m_dispatch_congr ev ev' m sc none [a, b] counted fun key args ha => ?_
  cases (dispatchArgs_two hs h1 h2).symm.trans ha
  simpa using h

theorem c08m_dispatch_eq (m : ModuleId) (hm : symUncond m = true) (sc : List ℝ) (ord : Option Ord)
    (ops counted : List (Vec ℝ)) : dispatch evS m sc ord ops counted = dispatch evR m sc ord ops counted :=
  c08m_dispatch_congr evS evR m sc ord ops counted (fun _ _ _ => c08m_ev_eq m hm _ _)

/-- the twelve planar and spatial accessors -/
theorem c08m_getAcc_eq (a : Acc) (ha : a.need ≤ 3) (v : Vec ℝ) : getAcc evS a v = getAcc evR a v := by
  unfold getAcc
  rw [c08m_dispatch_eq a.mod (by cases a <;> first | rfl | (simp [Acc.need] at ha))]

theorem c08m_getS_eq (a : Acc) (ha : a.need ≤ 3) (v : Vec ℝ) : getS evS a v = getS evR a v := by
  unfold getS; rw [c08m_getAcc_eq a ha v]

/-- `scaleN`, the body of `scale2D/3D/4D` and `scale`: no hypothesis (the SymPy copy keeps `sign`) -/
theorem c08m_scaleN_eq (n : Nat) (f : ℝ) (v : Vec ℝ) : scaleN evS n f v = scaleN evR n f v := by
  unfold scaleN
  rw [c08m_dispatch_eq (scaleMod n) (by unfold scaleMod; split <;> rfl)]

theorem c08m_negN_eq (K : Consts ℝ) (n : Nat) (v : Vec ℝ) : negN evS K n v = negN evR K n v := c08m_scaleN_eq n _ v

/-- `binary` sees the compute layer through the operand as the module gets it (`binOperand`) and ONE `dispatch`, at the module the
method is routed to: two compute layers that agree there give the same result -/
theorem binary_congr {S B : Type} (ev ev' : Ev S B) (K : Consts S) (b : Bin) (self o : Vec S) (extra : List S)
    (hn : binOperand ev K b o = binOperand ev' K b o)
    (h : ∀ m, b.route self.ty.dim o.ty.dim = .ok m → ∀ sc ops, dispatch ev m sc none ops ops = dispatch ev' m sc none ops ops) :
    binary ev K b self o extra = binary ev' K b self o extra := by
  rw [binary_eq, binary_eq, hn]
  cases hr : b.route self.ty.dim o.ty.dim with
  | error e => rfl
  | ok m =>
    cases binOperand ev' K b o with
    | error e => rfl
    | ok o' => exact h m hr _ _

/-- the two-vector methods that, on a `self` of dimension `d`, are routed to modules agreeing unconditionally only: `add subtract
dot equal not_equal` on 2D and 3D operands, the tolerance predicates, `deltaphi deltaeta deltaR deltaR2 cross` on all operands
(`deltaangle`, `isclose`, the Lorentz methods are conditional / different, see below) -/
def symBin (b : Bin) (d : Nat) : Bool :=
  [2, 3, 4].all fun e => match b.route d e with | .ok m => symUncond m | .error _ => true

theorem c08m_binary_eq (K : Consts ℝ) (b : Bin) (self o : Vec ℝ) (extra : List ℝ)
    (hb : symBin b self.ty.dim = true) : binary evS K b self o extra = binary evR K b self o extra := by
  refine binary_congr evS evR K b self o extra (by unfold binOperand; rw [c08m_negN_eq]) fun m hr sc ops => ?_
  have hm := List.all_eq_true.mp hb _ (c05_dim_mem o.ty)
  rw [hr] at hm
  exact c08m_dispatch_eq m hm sc none ops ops

/-- every `to_<system>` conversion whose TARGET is 2D or 3D, on every vector; 4D targets on 2D / 3D vectors (the temporal
coordinate is imputed, not computed) -/
theorem c08m_toSystem_eq (z : ℝ) (v : Vec ℝ) (az : Az) (lon : Option Lon) (tmp : Option Tmp) (kl kt : Option ℝ)
    (h : tmp = none ∨ v.ty.dim ≤ 3) :
    toSystem evS z v az lon tmp kl kt = toSystem evR z v az lon tmp kl kt := by
  have h4 : tmp = none ∨ ¬ v.ty.dim ≥ 4 := by rcases h with h | h; exact Or.inl h; exact Or.inr (by omega)
  have g : ∀ a : Acc, a.need ≤ 3 → getS evS a v = getS evR a v := fun a ha => c08m_getS_eq a ha v
  unfold toSystem
  have e1 : (azCNames az).mapM (fun n => getS evS n.acc v) = (azCNames az).mapM (fun n => getS evR n.acc v) := by
    cases az <;> simp only [azCNames, List.mapM_cons, List.mapM_nil, CName.acc] <;>
      rw [g _ (by decide), g _ (by decide)]
  rw [e1]
  rcases h4 with rfl | h4
  · cases lon with
    | none => rfl
    | some l => cases l <;> simp only [lonCName, CName.acc] <;> rw [g _ (by decide)]
  · cases lon with
    | none => cases tmp <;> simp only [h4, if_false]
    | some l =>
      cases tmp <;> cases l <;> simp only [h4, if_false, lonCName, CName.acc] <;> rw [g _ (by decide)]

/-! #### string level — the public methods that use only agreeing modules (NO hypothesis on the operands) -/

theorem call_accName {S B : Type} (ev : Ev S B) (K : Consts S) (A : Arith S) (self : Vec S) (p : String × Acc)
    (hp : p ∈ c07_accNames) : call ev K A p.1 self [] = getAcc ev p.2 self :=
  (c07_accNames_eq ev K A self p hp).1

theorem call_momName {S B : Type} (ev : Ev S B) (K : Consts S) (A : Arith S) (self : Vec S) (p : String × Acc)
    (hp : p ∈ c07_momNames) : call ev K A p.1 self [] =
      if !self.ty.mom then .error .attributeError else
      if self.ty.dim < p.2.need then .error .attributeError else getAcc ev p.2 self :=
  (c07_momNames_eq ev K A self p hp).1

theorem call_selfMethod {S B : Type} (ev : Ev S B) (K : Consts S) (A : Arith S) (self : Vec S) (a b c d : S)
    (e : String × List (Arg S) × ModuleId × Nat × List S × Option Ord) (he : e ∈ c07_selfMethods K a b c d) :
    call ev K A e.1 self e.2.1 = selfCall ev self e.2.2.1 (e.2.2.2.1 + 1) e.2.2.2.2.1 e.2.2.2.2.2 :=
  (c07_selfMethods_eq ev K A self a b c d e he).1

theorem call_binName {S B : Type} (ev : Ev S B) (K : Consts S) (A : Arith S) (a b : Vec S) (p : String × Bin)
    (hp : p ∈ c07_binNames) : call ev K A p.1 a [.v b] = binary ev K p.2 a b [] :=
  (c07_binNames_eq ev K A a b K.tol p hp).1

/-- B.2 `x y rho rho2 phi z theta eta costheta cottheta mag mag2` and their momentum spellings, on EVERY vector -/
theorem c08m_call_acc_eq (K : Consts ℝ) (A : Arith ℝ) (v : Vec ℝ) (p : String × Acc)
    (hp : p ∈ c07_accNames ++ c07_momNames) (h3 : p.2.need ≤ 3) :
    call evS K A p.1 v [] = call evR K A p.1 v [] := by
  rcases List.mem_append.mp hp with hp | hp
  · rw [call_accName _ K A v p hp, call_accName _ K A v p hp, c08m_getAcc_eq p.2 h3 v]
  · rw [call_momName _ K A v p hp, call_momName _ K A v p hp, c08m_getAcc_eq p.2 h3 v]

/-- B.2 `rotateZ rotateX rotateY rotate_euler rotate_nautical rotate_quaternion scale2D scale3D scale4D neg2D neg3D neg4D`
on EVERY vector -/
theorem c08m_call_self_eq (K : Consts ℝ) (A : Arith ℝ) (v : Vec ℝ) (a b c d : ℝ)
    (e : String × List (Arg ℝ) × ModuleId × Nat × List ℝ × Option Ord) (he : e ∈ c07_selfMethods K a b c d)
    (hm : symUncond e.2.2.1 = true) : call evS K A e.1 v e.2.1 = call evR K A e.1 v e.2.1 := by
  rw [call_selfMethod _ K A v a b c d e he, call_selfMethod _ K A v a b c d e he]
  unfold selfCall
  rw [c08m_dispatch_eq _ hm]

theorem c08m_call_scale_eq (K : Consts ℝ) (A : Arith ℝ) (v : Vec ℝ) (f : ℝ) :
    call evS K A "scale" v [.sc f] = call evR K A "scale" v [.sc f] := by
  rw [C11M.call_scale, C11M.call_scale]; exact c08m_scaleN_eq _ f v

theorem c08m_call_rotate_axis_eq (K : Consts ℝ) (A : Arith ℝ) (v axis : Vec ℝ) (a : ℝ) :
    call evS K A "rotate_axis" v [.v axis, .sc a] = call evR K A "rotate_axis" v [.v axis, .sc a] := by
  rw [c05_call_rotate_axis, c05_call_rotate_axis, c08m_dispatch_eq _ rfl]

/-- B.2 `add subtract dot equal not_equal` of 2D / 3D vectors, the tolerance predicates, `deltaphi deltaeta deltaR deltaR2
cross` -/
theorem c08m_call_bin_eq (K : Consts ℝ) (A : Arith ℝ) (a b : Vec ℝ) (p : String × Bin) (hp : p ∈ c07_binNames)
    (hb : symBin p.2 a.ty.dim = true) : call evS K A p.1 a [.v b] = call evR K A p.1 a [.v b] := by
  rw [call_binName _ K A a b p hp, call_binName _ K A a b p hp, c08m_binary_eq K p.2 a b [] hb]

/-- B.2 the conversions `to_<system>` (all 40 spellings) with a 2D or 3D target on EVERY vector, and with a 4D target on
2D / 3D vectors -/
theorem c08m_call_to_eq (K : Consts ℝ) (A : Arith ℝ) (v : Vec ℝ)
    (e : String × Az × Option Lon × Option Tmp × String × String) (he : e ∈ toTable)
    (h : e.2.2.2.1 = none ∨ v.ty.dim ≤ 3) : call evS K A e.1 v [] = call evR K A e.1 v [] := by
  rw [c04_call_to evS K A e.1 v e (C04M.toTable_find e he), c04_call_to evR K A e.1 v e (C04M.toTable_find e he),
    c08m_toSystem_eq _ v _ _ _ _ _ h]

/-! #### the Lorentz methods: on the regular domain (`0 ≤ τ` for a τ-stored operand; time-like where `tau` is computed) -/

theorem c08m_getAcc4_eq (K : Consts ℝ) (A : Arith ℝ) (g : String) (a : Acc) (hg : accOfName g = some a) (ha : a.need = 4)
    (be : Backend) (mom : Bool) (az : Az) (l : Lon) (t : Tmp) (x y z w : ℝ)
    (h : evS a.mod [.az az, .lon l, .tmp t] [x, y, z, w] = evR a.mod [.az az, .lon l, .tmp t] [x, y, z, w]) :
    call evS K A g (C11M.V4 be mom az l t x y z w) [] = call evR K A g (C11M.V4 be mom az l t x y z w) [] := by
  rw [c14_call_generic evS K A g a _ [] hg, c14_call_generic evR K A g a _ [] hg]
  unfold getAcc
  rw [c08m_dispatch_congr1 evS evR a.mod [] _ _ 3 [.az az, .lon l, .tmp t] [x, y, z, w]
    (by cases a <;> simp [Acc.need] at ha <;> rfl) rfl (by simpa using h)]

theorem c08m_call_t_eq (K : Consts ℝ) (A : Arith ℝ) (be : Backend) (mom : Bool) (az : Az) (l : Lon) (t : Tmp) (x y z w : ℝ)
    (hc : CanonTmp t w) :
    call evS K A "t" (C11M.V4 be mom az l t x y z w) [] = call evR K A "t" (C11M.V4 be mom az l t x y z w) [] :=
  c08m_getAcc4_eq K A _ .t rfl rfl be mom az l t x y z w (c08m_ev_lorentz_t az l t x y z w hc)

theorem c08m_call_t2_eq (K : Consts ℝ) (A : Arith ℝ) (be : Backend) (mom : Bool) (az : Az) (l : Lon) (t : Tmp) (x y z w : ℝ)
    (hc : CanonTmp t w) :
    call evS K A "t2" (C11M.V4 be mom az l t x y z w) [] = call evR K A "t2" (C11M.V4 be mom az l t x y z w) [] :=
  c08m_getAcc4_eq K A _ .t2 rfl rfl be mom az l t x y z w (c08m_ev_lorentz_t2 az l t x y z w hc)

theorem c08m_call_tau2_eq (K : Consts ℝ) (A : Arith ℝ) (be : Backend) (mom : Bool) (az : Az) (l : Lon) (t : Tmp) (x y z w : ℝ)
    (hc : CanonTmp t w) :
    call evS K A "tau2" (C11M.V4 be mom az l t x y z w) [] = call evR K A "tau2" (C11M.V4 be mom az l t x y z w) [] :=
  c08m_getAcc4_eq K A _ .tau2 rfl rfl be mom az l t x y z w (c08m_ev_lorentz_tau2 az l t x y z w hc)

theorem c08m_call_beta_eq (K : Consts ℝ) (A : Arith ℝ) (be : Backend) (mom : Bool) (az : Az) (l : Lon) (t : Tmp) (x y z w : ℝ)
    (hc : CanonTmp t w) :
    call evS K A "beta" (C11M.V4 be mom az l t x y z w) [] = call evR K A "beta" (C11M.V4 be mom az l t x y z w) [] :=
  c08m_getAcc4_eq K A _ .beta rfl rfl be mom az l t x y z w (c08m_ev_lorentz_beta az l t x y z w hc)

theorem c08m_call_rapidity_eq (K : Consts ℝ) (A : Arith ℝ) (be : Backend) (mom : Bool) (az : Az) (l : Lon) (t : Tmp) (x y z w : ℝ)
    (hc : CanonTmp t w) :
    call evS K A "rapidity" (C11M.V4 be mom az l t x y z w) [] = call evR K A "rapidity" (C11M.V4 be mom az l t x y z w) [] :=
  c08m_getAcc4_eq K A _ .rapidity rfl rfl be mom az l t x y z w (c08m_ev_lorentz_rapidity az l t x y z w hc)

theorem c08m_call_Et_eq (K : Consts ℝ) (A : Arith ℝ) (be : Backend) (mom : Bool) (az : Az) (l : Lon) (t : Tmp) (x y z w : ℝ)
    (hc : CanonTmp t w) :
    call evS K A "Et" (C11M.V4 be mom az l t x y z w) [] = call evR K A "Et" (C11M.V4 be mom az l t x y z w) [] :=
  c08m_getAcc4_eq K A _ .Et rfl rfl be mom az l t x y z w (c08m_ev_lorentz_Et az l t x y z w hc)

theorem c08m_call_Et2_eq (K : Consts ℝ) (A : Arith ℝ) (be : Backend) (mom : Bool) (az : Az) (l : Lon) (t : Tmp) (x y z w : ℝ)
    (hc : CanonTmp t w) :
    call evS K A "Et2" (C11M.V4 be mom az l t x y z w) [] = call evR K A "Et2" (C11M.V4 be mom az l t x y z w) [] :=
  c08m_getAcc4_eq K A _ .Et2 rfl rfl be mom az l t x y z w (c08m_ev_lorentz_Et2 az l t x y z w hc)

theorem c08m_call_Mt_eq (K : Consts ℝ) (A : Arith ℝ) (be : Backend) (mom : Bool) (az : Az) (l : Lon) (t : Tmp) (x y z w : ℝ)
    (hc : CanonTmp t w) :
    call evS K A "Mt" (C11M.V4 be mom az l t x y z w) [] = call evR K A "Mt" (C11M.V4 be mom az l t x y z w) [] :=
  c08m_getAcc4_eq K A _ .Mt rfl rfl be mom az l t x y z w (c08m_ev_lorentz_Mt az l t x y z w hc)

theorem c08m_call_Mt2_eq (K : Consts ℝ) (A : Arith ℝ) (be : Backend) (mom : Bool) (az : Az) (l : Lon) (t : Tmp) (x y z w : ℝ)
    (hc : CanonTmp t w) :
    call evS K A "Mt2" (C11M.V4 be mom az l t x y z w) [] = call evR K A "Mt2" (C11M.V4 be mom az l t x y z w) [] :=
  c08m_getAcc4_eq K A _ .Mt2 rfl rfl be mom az l t x y z w (c08m_ev_lorentz_Mt2 az l t x y z w hc)

/-- `tau`: where the numeric `tau2` is non-negative (time-like or light-like; for a τ-stored vector: always) -/
theorem c08m_call_tau_eq (K : Consts ℝ) (A : Arith ℝ) (be : Backend) (mom : Bool) (az : Az) (l : Lon) (t : Tmp) (x y z w : ℝ)
    (hs : 0 ≤ VR.lorentz_tau2.eval az l t x y z w) :
    call evS K A "tau" (C11M.V4 be mom az l t x y z w) [] = call evR K A "tau" (C11M.V4 be mom az l t x y z w) [] :=
  c08m_getAcc4_eq K A _ .tau rfl rfl be mom az l t x y z w (c08m_ev_lorentz_tau az l t x y z w hs)

/-- `gamma`: where the numeric `tau2` is non-negative (time-like or light-like; for a τ-stored vector: always) -/
theorem c08m_call_gamma_eq (K : Consts ℝ) (A : Arith ℝ) (be : Backend) (mom : Bool) (az : Az) (l : Lon) (t : Tmp) (x y z w : ℝ)
    (hs : 0 ≤ VR.lorentz_tau2.eval az l t x y z w) :
    call evS K A "gamma" (C11M.V4 be mom az l t x y z w) [] = call evR K A "gamma" (C11M.V4 be mom az l t x y z w) [] :=
  c08m_getAcc4_eq K A _ .gamma rfl rfl be mom az l t x y z w (c08m_ev_lorentz_gamma az l t x y z w hs)

/-- a one-operand Lorentz method of a 4D vector sees the compute layer at one key and argument list -/
theorem selfCall4_congr {S B : Type} (ev ev' : Ev S B) (m : ModuleId) (hs : operandSlots m.info.shape = [3]) (sc : List S)
    (be : Backend) (mom : Bool) (az : Az) (l : Lon) (t : Tmp) (x y z w : S)
    (h : ev m [.az az, .lon l, .tmp t] (sc ++ [x, y, z, w]) = ev' m [.az az, .lon l, .tmp t] (sc ++ [x, y, z, w])) :
    selfCall ev ⟨⟨be, mom, az, some l, some t⟩, [x, y, z, w]⟩ m 4 sc =
      selfCall ev' ⟨⟨be, mom, az, some l, some t⟩, [x, y, z, w]⟩ m 4 sc := by
  unfold selfCall
  rw [c08m_dispatch_congr1 ev ev' m sc _ _ 3 [.az az, .lon l, .tmp t] [x, y, z, w] hs rfl h]

/-- a boost along one axis, called as `n(beta=s)`, `n(s)`, `n(gamma=s)`: each form is one `selfCall` of the axis' `beta` or
`gamma` module (`hcall`), which sees the compute layer at one key and argument list -/
theorem call_boostA_eq (K : Consts ℝ) (A : Arith ℝ) (n : String) (mβ mγ : ModuleId)
    (hsβ : operandSlots mβ.info.shape = [3]) (hsγ : operandSlots mγ.info.shape = [3])
    (be : Backend) (mom : Bool) (az : Az) (l : Lon) (t : Tmp) (x y z w s : ℝ)
    (hcall : ∀ ev : Ev ℝ Prop,
      call ev K A n (C11M.V4 be mom az l t x y z w) [.kw "beta" s] = selfCall ev (C11M.V4 be mom az l t x y z w) mβ 4 [s] ∧
      call ev K A n (C11M.V4 be mom az l t x y z w) [.sc s] = selfCall ev (C11M.V4 be mom az l t x y z w) mβ 4 [s] ∧
      call ev K A n (C11M.V4 be mom az l t x y z w) [.kw "gamma" s] = selfCall ev (C11M.V4 be mom az l t x y z w) mγ 4 [s])
    (hβ : evS mβ [.az az, .lon l, .tmp t] [s, x, y, z, w] = evR mβ [.az az, .lon l, .tmp t] [s, x, y, z, w])
    (hγ : 0 ≤ s → evS mγ [.az az, .lon l, .tmp t] [s, x, y, z, w] = evR mγ [.az az, .lon l, .tmp t] [s, x, y, z, w]) :
    call evS K A n (C11M.V4 be mom az l t x y z w) [.kw "beta" s] =
      call evR K A n (C11M.V4 be mom az l t x y z w) [.kw "beta" s] ∧
    call evS K A n (C11M.V4 be mom az l t x y z w) [.sc s] = call evR K A n (C11M.V4 be mom az l t x y z w) [.sc s] ∧
    (0 ≤ s → call evS K A n (C11M.V4 be mom az l t x y z w) [.kw "gamma" s] =
      call evR K A n (C11M.V4 be mom az l t x y z w) [.kw "gamma" s]) := by
  obtain ⟨s1, s2, s3⟩ := hcall evS
  obtain ⟨r1, r2, r3⟩ := hcall evR
  rw [s1, s2, s3, r1, r2, r3]
  have e1 := selfCall4_congr evS evR mβ hsβ [s] be mom az l t x y z w hβ
  exact ⟨e1, e1, fun hs => selfCall4_congr evS evR mγ hsγ [s] be mom az l t x y z w (hγ hs)⟩

theorem c08m_call_boostX_eq (K : Consts ℝ) (A : Arith ℝ) (be : Backend) (mom : Bool) (az : Az) (l : Lon) (t : Tmp) (x y z w s : ℝ)
    (hc : CanonTmp t w) :
    call evS K A "boostX" (C11M.V4 be mom az l t x y z w) [.kw "beta" s] =
      call evR K A "boostX" (C11M.V4 be mom az l t x y z w) [.kw "beta" s] ∧
    call evS K A "boostX" (C11M.V4 be mom az l t x y z w) [.sc s] =
      call evR K A "boostX" (C11M.V4 be mom az l t x y z w) [.sc s] ∧
    (0 ≤ s → call evS K A "boostX" (C11M.V4 be mom az l t x y z w) [.kw "gamma" s] =
      call evR K A "boostX" (C11M.V4 be mom az l t x y z w) [.kw "gamma" s]) :=
  call_boostA_eq K A "boostX" .lorentz_boostX_beta .lorentz_boostX_gamma rfl rfl be mom az l t x y z w s
    (fun ev => (call_unary4 ev K A _ s).1) (c08m_ev_lorentz_boostX_beta az l t s x y z w hc)
    fun hs => c08m_ev_lorentz_boostX_gamma az l t s x y z w hs hc

theorem c08m_call_boostY_eq (K : Consts ℝ) (A : Arith ℝ) (be : Backend) (mom : Bool) (az : Az) (l : Lon) (t : Tmp) (x y z w s : ℝ)
    (hc : CanonTmp t w) :
    call evS K A "boostY" (C11M.V4 be mom az l t x y z w) [.kw "beta" s] =
      call evR K A "boostY" (C11M.V4 be mom az l t x y z w) [.kw "beta" s] ∧
    call evS K A "boostY" (C11M.V4 be mom az l t x y z w) [.sc s] =
      call evR K A "boostY" (C11M.V4 be mom az l t x y z w) [.sc s] ∧
    (0 ≤ s → call evS K A "boostY" (C11M.V4 be mom az l t x y z w) [.kw "gamma" s] =
      call evR K A "boostY" (C11M.V4 be mom az l t x y z w) [.kw "gamma" s]) :=
  call_boostA_eq K A "boostY" .lorentz_boostY_beta .lorentz_boostY_gamma rfl rfl be mom az l t x y z w s
    (fun ev => (call_unary4 ev K A _ s).2.1) (c08m_ev_lorentz_boostY_beta az l t s x y z w hc)
    fun hs => c08m_ev_lorentz_boostY_gamma az l t s x y z w hs hc

theorem c08m_call_boostZ_eq (K : Consts ℝ) (A : Arith ℝ) (be : Backend) (mom : Bool) (az : Az) (l : Lon) (t : Tmp) (x y z w s : ℝ)
    (hc : CanonTmp t w) :
    call evS K A "boostZ" (C11M.V4 be mom az l t x y z w) [.kw "beta" s] =
      call evR K A "boostZ" (C11M.V4 be mom az l t x y z w) [.kw "beta" s] ∧
    call evS K A "boostZ" (C11M.V4 be mom az l t x y z w) [.sc s] =
      call evR K A "boostZ" (C11M.V4 be mom az l t x y z w) [.sc s] ∧
    (0 ≤ s → call evS K A "boostZ" (C11M.V4 be mom az l t x y z w) [.kw "gamma" s] =
      call evR K A "boostZ" (C11M.V4 be mom az l t x y z w) [.kw "gamma" s]) :=
  call_boostA_eq K A "boostZ" .lorentz_boostZ_beta .lorentz_boostZ_gamma rfl rfl be mom az l t x y z w s
    (fun ev => (call_unary4 ev K A _ s).2.2.1) (c08m_ev_lorentz_boostZ_beta az l t s x y z w hc)
    fun hs => c08m_ev_lorentz_boostZ_gamma az l t s x y z w hs hc

/-- `boost_p4`: only the BOOSTED vector's τ is read through a dropped `copysign` -/
theorem c08m_call_boost_p4_eq (K : Consts ℝ) (A : Arith ℝ) (be : Backend) (mom : Bool) (az : Az) (l : Lon) (t : Tmp)
    (a b c d : ℝ) (be' : Backend) (mom' : Bool) (az' : Az) (l' : Lon) (t' : Tmp) (a' b' c' d' : ℝ) (hc : CanonTmp t d) :
    call evS K A "boost_p4" (C11M.V4 be mom az l t a b c d) [.v (C11M.V4 be' mom' az' l' t' a' b' c' d')] =
      call evR K A "boost_p4" (C11M.V4 be mom az l t a b c d) [.v (C11M.V4 be' mom' az' l' t' a' b' c' d')] := by
  rw [call_boost_p4, call_boost_p4, dispatch_44 evS _ rfl, dispatch_44 evR _ rfl,
    c08m_ev_lorentz_boost_p4 az l t az' l' t' a b c d a' b' c' d' hc]

theorem c08m_call_boost_beta3_eq (K : Consts ℝ) (A : Arith ℝ) (be : Backend) (mom : Bool) (az : Az) (l : Lon) (t : Tmp)
    (a b c d : ℝ) (be' : Backend) (mom' : Bool) (az' : Az) (l' : Lon) (a' b' c' : ℝ) (hc : CanonTmp t d) :
    call evS K A "boost_beta3" (C11M.V4 be mom az l t a b c d) [.v (C11M.V3 be' mom' az' l' a' b' c')] =
      call evR K A "boost_beta3" (C11M.V4 be mom az l t a b c d) [.v (C11M.V3 be' mom' az' l' a' b' c')] := by
  rw [call_boost_beta3, call_boost_beta3, dispatch_43 evS _ rfl, dispatch_43 evR _ rfl,
    c08m_ev_lorentz_boost_beta3 az l t az' l' a b c d a' b' c' hc]

/-- 4D `add` and (next theorem) `dot`: both stored τ non-negative; for `add` of two τ-stored operands moreover the numeric
result τ non-negative (`Props/C08`: `hres`).  `subtract` is stated at the module only (`c08m_ev_lorentz_subtract`). -/
theorem c08m_call_add4_eq (K : Consts ℝ) (A : Arith ℝ) (be : Backend) (mom : Bool) (az : Az) (l : Lon) (t : Tmp)
    (a b c d : ℝ) (be' : Backend) (mom' : Bool) (az' : Az) (l' : Lon) (t' : Tmp) (a' b' c' d' : ℝ) (hc : CanonTmp t d)
    (hc' : CanonTmp t' d')
    (hres : t = .tau → t' = .tau → 0 ≤ (VR.lorentz_add.eval az l t az' l' t' a b c d a' b' c' d').2.2.2) :
    call evS K A "add" (C11M.V4 be mom az l t a b c d) [.v (C11M.V4 be' mom' az' l' t' a' b' c' d')] =
      call evR K A "add" (C11M.V4 be mom az l t a b c d) [.v (C11M.V4 be' mom' az' l' t' a' b' c' d')] := by
  rw [call_binName evS K A _ _ ("add", .add) (by simp [c07_binNames]),
    call_binName evR K A _ _ ("add", .add) (by simp [c07_binNames]),
    binary_route_ok evS K [] (m := .lorentz_add) rfl rfl, binary_route_ok evR K [] (m := .lorentz_add) rfl rfl]
  show dispatch evS .lorentz_add [] none _ _ = dispatch evR .lorentz_add [] none _ _
  rw [dispatch_44 evS _ rfl, dispatch_44 evR _ rfl, c08m_ev_lorentz_add az l t az' l' t' a b c d a' b' c' d' hc hc' hres]

theorem c08m_call_dot4_eq (K : Consts ℝ) (A : Arith ℝ) (be : Backend) (mom : Bool) (az : Az) (l : Lon) (t : Tmp)
    (a b c d : ℝ) (be' : Backend) (mom' : Bool) (az' : Az) (l' : Lon) (t' : Tmp) (a' b' c' d' : ℝ) (hc : CanonTmp t d)
    (hc' : CanonTmp t' d') :
    call evS K A "dot" (C11M.V4 be mom az l t a b c d) [.v (C11M.V4 be' mom' az' l' t' a' b' c' d')] =
      call evR K A "dot" (C11M.V4 be mom az l t a b c d) [.v (C11M.V4 be' mom' az' l' t' a' b' c' d')] := by
  rw [call_binName evS K A _ _ ("dot", .dot) (by simp [c07_binNames]),
    call_binName evR K A _ _ ("dot", .dot) (by simp [c07_binNames]),
    binary_route_ok evS K [] (m := .lorentz_dot) rfl rfl, binary_route_ok evR K [] (m := .lorentz_dot) rfl rfl]
  show dispatch evS .lorentz_dot [] none _ _ = dispatch evR .lorentz_dot [] none _ _
  rw [dispatch_44 evS _ rfl, dispatch_44 evR _ rfl, c08m_ev_lorentz_dot az l t az' l' t' a b c d a' b' c' d' hc hc']

/-! ### B.3 corollaries: instances of denotation theorems for the SymPy backend

What is proved in general is B.2: `call evS … = call evR …`, family by family (`c08m_call_*_eq`).  With it a theorem of
the method level (`c01m_*`, `c11m_*`, `c09m_*`, `c04m_*`) holds of `evS` under its own hypotheses (for the Lorentz methods they
already contain the regular-domain hypothesis `CanonTmp` that the SymPy copy needs).  This section carries that out for six
methods and two special cases: `rotateZ`, `rotateX`, `scale`, `add` of dimension ≤ 3, `boost_p4`, `boostX` (positional and
`beta=`, not `gamma=`), `to_<system>` with a 2D or 3D target, and `tau` of a τ-stored vector; other methods are not
instantiated. -/

theorem c08m_rotateZ_denote (K : Consts ℝ) (A : Arith ℝ) (v : Vec ℝ) (hv : C01M.WFV v) (ang : ℝ) :
    ∃ w, call evS K A "rotateZ" v [.sc ang] = .ok (.vec w) ∧ w.ty = v.ty ∧ C01M.WFV w ∧
      denote w = (denote v).map (onPlanar (rotZ2 ang)) := by
  have e : call evS K A "rotateZ" v [.sc ang] = call evR K A "rotateZ" v [.sc ang] :=
    c08m_call_self_eq K A v ang 0 0 0 ("rotateZ", [.sc ang], .planar_rotateZ, 1, [ang], none)
      (by simp [c07_selfMethods]) rfl
  rw [e]; exact c01m_rotateZ K A v hv ang

theorem c08m_rotateX_denote (K : Consts ℝ) (A : Arith ℝ) (v : Vec ℝ) (hv : C01M.WFV v) (hd : 3 ≤ v.ty.dim)
    (hT : TanOKV v) (ang : ℝ) :
    ∃ w, call evS K A "rotateX" v [.sc ang] = .ok (.vec w) ∧ w.ty = { v.ty with az := .xy, lon := some .z } ∧
      C01M.WFV w ∧ denote w = (denote v).map (onSpatial (rotX ang)) := by
  have e : call evS K A "rotateX" v [.sc ang] = call evR K A "rotateX" v [.sc ang] :=
    c08m_call_self_eq K A v ang 0 0 0 ("rotateX", [.sc ang], .spatial_rotateX, 2, [ang], none)
      (by simp [c07_selfMethods]) rfl
  obtain ⟨w, h1, h2, h3, h4, -⟩ := c01m_rotateX K A v hv hd hT ang
  exact ⟨w, e.trans h1, h2, h3, h4⟩

theorem c08m_scale_denote (K : Consts ℝ) (A : Arith ℝ) (v : Vec ℝ) (hv : C01M.WFV v) (f : ℝ)
    (hθ : C11M.ThetaRangeV v) (hf : v.ty.tmp = some .tau → 0 ≤ f) :
    ∃ r p, call evS K A "scale" v [.sc f] = .ok (.vec r) ∧ r.ty = v.ty ∧ C01M.WFV r ∧
      denote v = some p ∧ denote r = some (p.map (f * ·)) := by
  rw [c08m_call_scale_eq]; exact C11M.c11m_scale K A v hv f hθ hf

/-- `add` of 2D / 3D vectors in every storage pairing -/
theorem c08m_add_denote (K : Consts ℝ) (A : Arith ℝ) (a b : Vec ℝ) (ha : C01M.WFV a) (hb : C01M.WFV b)
    (hd : a.ty.dim = b.ty.dim) (hd3 : a.ty.dim ≤ 3)
    (hT1 : TanOKV a) (hT2 : TanOKV b) (hS1 : C11M.SinOKV a) (hS2 : C11M.SinOKV b) (hC1 : C11M.CanonTmpV a)
    (hC2 : C11M.CanonTmpV b) (hrep : C11M.RepAdd a b) :
    ∃ r p q, call evS K A "add" a [.v b] = .ok (.vec r) ∧ C01M.WFV r ∧ r.ty.dim = a.ty.dim ∧
      r.ty.mom = (a.ty.mom || b.ty.mom) ∧ r.ty.be = C11M.hbe a.ty.be b.ty.be ∧
      r.ty.tmp = C11M.tmpRes? a.ty.tmp b.ty.tmp ∧
      denote a = some p ∧ denote b = some q ∧ denote r = some (List.zipWith (· + ·) p q) := by
  have e : call evS K A "add" a [.v b] = call evR K A "add" a [.v b] :=
    c08m_call_bin_eq K A a b ("add", .add) (by simp [c07_binNames])
      (by rcases c05_dim_range a.ty with h | h | h <;> first | (rw [h]; rfl) | omega)
  rw [e]; exact C11M.c11m_add K A a b ha hb hd hT1 hT2 hS1 hS2 hC1 hC2 hrep

/-- `boost_p4` on the regular domain: the hypotheses of `c09m_boost_p4` (they contain `0 ≤ τ` for a τ-stored `v`) -/
theorem c08m_boost_p4_denote (K : Consts ℝ) (A : Arith ℝ) (v p : Vec ℝ) (hv : C01M.WFV v) (hd : v.ty.dim = 4)
    (hp : C01M.WFV p) (hdp : p.ty.dim = 4) (hc : Stored4 (fun _ l t _ _ c d => TanOK l c ∧ CanonTmp t d) v)
    (hcp : BoostOK p) (x y z t px py pz E : ℝ) (h : denote v = some [x, y, z, t])
    (h' : denote p = some [px, py, pz, E])
    (hphys : v.ty.tmp = some .tau → px ^ 2 + py ^ 2 + pz ^ 2 < E ^ 2 ∧ 0 < E) :
    ∃ w, call evS K A "boost_p4" v [.v p] = .ok (.vec w) ∧
      w.ty = ⟨C01M.hbe v.ty.be p.ty.be, v.ty.mom || p.ty.mom, .xy, some .z, v.ty.tmp⟩ ∧ C01M.WFV w ∧
      denote w = some (l4 (bp4 (x, y, z, t) (px, py, pz, E))) := by
  have e : call evS K A "boost_p4" v [.v p] = call evR K A "boost_p4" v [.v p] := by
    obtain ⟨be, mom, az, l, t0, a, b, c, d, rfl⟩ := wfv4 hv hd
    obtain ⟨be', mom', az', l', t', a', b', c', d', rfl⟩ := wfv4 hp hdp
    exact c08m_call_boost_p4_eq K A be mom az l t0 a b c d be' mom' az' l' t' a' b' c' d' hc.2
  rw [e]; exact c09m_boost_p4 K A v p hv hd hp hdp hc hcp x y z t px py pz E h h' hphys

/-- `boostX(beta=β)` / positional on the regular domain (`BoostOK` contains `0 ≤ τ`) -/
theorem c08m_boostX_denote (K : Consts ℝ) (A : Arith ℝ) (v : Vec ℝ) (hv : C01M.WFV v) (hd : v.ty.dim = 4)
    (hc : BoostOK v) (β : ℝ) (hβ : v.ty.tmp = some .tau → |β| < 1) :
    ∃ w, call evS K A "boostX" v [.kw "beta" β] = .ok (.vec w) ∧ call evS K A "boostX" v [.sc β] = .ok (.vec w) ∧
      w.ty = { v.ty with az := .xy, lon := some .z } ∧ C01M.WFV w ∧ denote w = (denote v).map (on4 (bXβ β)) := by
  have e : call evS K A "boostX" v [.kw "beta" β] = call evR K A "boostX" v [.kw "beta" β] ∧
      call evS K A "boostX" v [.sc β] = call evR K A "boostX" v [.sc β] := by
    obtain ⟨be, mom, az, l, t0, a, b, c, d, rfl⟩ := wfv4 hv hd
    exact ⟨(c08m_call_boostX_eq K A be mom az l t0 a b c d β hc.2.2).1,
      (c08m_call_boostX_eq K A be mom az l t0 a b c d β hc.2.2).2.1⟩
  rw [e.1, e.2]; exact c09m_boostX_beta K A v hv hd hc β hβ

/-- all `to_<system>` conversions to a 2D / 3D system (e.g. `to_rhophieta`, `to_xyz`, `to_ptphi`) on a vector of that
dimension, in every storage: same denotation -/
theorem c08m_to_denote (K : Consts ℝ) (A : Arith ℝ) (e : String × Az × Option Lon × Option Tmp × String × String)
    (he : e ∈ toTable) (htmp : e.2.2.2.1 = none) (v : Vec ℝ) (hv : C01M.WFV v)
    (hl : e.2.2.1.isSome = v.ty.lon.isSome) (ht : e.2.2.2.1.isSome = v.ty.tmp.isSome)
    (h : C04M.FwdOK v e.2.2.1 e.2.2.2.1) :
    ∃ r, call evS K A e.1 v [] = .ok (.vec r) ∧
      r.ty = { v.ty with az := e.2.1, lon := e.2.2.1, tmp := e.2.2.2.1 } ∧ C01M.WFV r ∧ denote r = denote v := by
  rw [c08m_call_to_eq K A v e he (Or.inl htmp)]; exact C04M.c04m_to_denote K A e he v hv hl ht h

/-- `tau` of a τ-stored vector with `0 ≤ τ`: the SymPy backend returns the stored τ, as the numeric one does -/
theorem c08m_tau_stored (K : Consts ℝ) (A : Arith ℝ) (v : Vec ℝ) (hv : C01M.WFV v) (hd : v.ty.dim = 4)
    (ht : v.ty.tmp = some .tau) (h0 : 0 ≤ (C01M.c4 v).2.2.2) :
    call evS K A "tau" v [] = .ok (.scalar (C01M.c4 v).2.2.2) := by
  obtain ⟨be, mom, az, l, t0, a, b, c, d, rfl⟩ := wfv4 hv hd
  obtain rfl : t0 = .tau := by simpa using ht
  have h0' : 0 ≤ d := h0
  have hs : 0 ≤ VR.lorentz_tau2.eval az l .tau a b c d := by
    cases az <;> cases l <;> simp only [d_lorentz_tau2] <;>
      exact le_trans (sq_nonneg d) (le_of_eq (VR.P.copysign_sq h0').symm)
  rw [c08m_call_tau_eq K A be mom az l .tau a b c d hs]
  exact c09m_acc_tau_stored K A _ hv hd ht

-- the regular-domain hypotheses are satisfiable: the τ-stored momentum (x, y, z, τ) = (1, 2, 3, 5)
example : C01M.WFV (C11M.V4 .obj true .xy .z .tau 1 2 3 5) ∧ CanonTmp .tau (5 : ℝ) ∧
    symUncond .spatial_rotateX = true ∧ symBin .add 3 = true :=
  ⟨⟨by simp, rfl⟩, by show (0 : ℝ) ≤ 5; norm_num, rfl, rfl⟩

end MB
end VR
