/-
Property C05 (last sentence: "an operator gives the same value and type as the method it stands for") / C03 for the four
NumPy-ufunc ROUTING TABLES (model: `Glue/Ufunc.lean`), for ALL ufuncs, operand-kind lists (any length; dimensions 2-4, both
flavors, all backends), outputs, scalar types `S`, compute layers `ev`.

The three `__array_ufunc__` of the object, NumPy and SymPy backends are ONE chain `chain` behind one prologue `guard`, up to the
backend and the error of `power(…, out=…)` (`c05u_chain_closed`).  The Awkward registry is that chain tabulated (`akFind_eq_reg`,
`Lemmas/UfuncTable.lean`), so the Awkward table is the chain seen through `akView` (`routeAk_closed`) and the whole routing
without `out=` has one closed form (`c05u_route_closed`).  Whether a request is accepted depends on the SHAPE of its operand list
only (`acceptSpec`, `c05u_rejected`); an accepted request is routed to what the chain makes of it, whichever table answers
(`route_accept`; `route_power` for `power`), and that route evaluates to the operator of `VG.operator` the ufunc stands for,
applied to the vector operand(s) in the documented order (section 3, one theorem per ufunc).  Every difference between the tables
has a witness (`c05u_diff_…`, `c05u_pyop_pow_differs`).

Sections: 0 closed forms; 1 the tables agree; 2 what is rejected; 3 every accepted route is the operator; 4 `out=`; 5 deferral
(NumPy's ask-everybody protocol = "the table of the highest-priority operand", `c05u_defer`); 6 completeness of the Awkward key
table; 7 the Python operators; 8 the two value-level differences on a toy compute layer.

Left out of the model: the installed Awkward raises `NotImplementedError` for `numpy.matmul` before it consults the behaviors
(known finding `awkward-matmul`); what is said of `matmul` on the Awkward backend is said of the registrations.
-/
import VectorModel.Lemmas.UfuncTable
import VectorModel.Lemmas.Glue

namespace VU
open VG

/-! ## 0. closed forms -/

def relabel (b : Backend) : OpK → OpK
  | .vec _ d m => .vec b d m
  | k => k

/-- dimension 2, 3 or 4 (every `Vector` is `Vector2D`, `Vector3D` or `Vector4D`) -/
def OpK.dimOk : OpK → Bool
  | .vec _ d _ => 2 ≤ d && d ≤ 4
  | _ => true

/-- the prologue of the three `__array_ufunc__`: handler check, `out=` check -/
def guard (b : Backend) (ins outs : List OpK) (r : Route) : Route :=
  match handlerBe ins with
  | none => .assertionError
  | some h => if h != b then .notImplemented else if outs.any (fun o => !o.isBe b) then .typeError else r

/-- what `power(v, k, out=…)` raises -/
def powOutOf : Backend → Route | .np => .indexError | _ => .typeError

/-- **the three chains are one chain**.  A table and `guard b … (chain …)` are the same two `match`es (Lean compiles equal
patterns to one auxiliary matcher), so `congr` compares them alternative by alternative; only the `power` alternative is spelled
differently. -/
theorem c05u_chain_closed (b : Backend) (hb : b ≠ .ak) (u : Ufunc) (ins outs : List OpK) :
    tableOf b u ins outs = guard b ins outs (chain (powOutOf b) u ins outs.length) := by
  cases b
  case ak => exact absurd rfl hb
  all_goals
    simp only [tableOf, powOutOf, routeObj, routeNp, routeSym]
    unfold guard chain
    -- a trap: `congr` finds the two sides to be one matcher applied to two lists of alternatives only because the patterns
    -- of `routeObj`, `routeNp`, `routeSym` (`Glue/Ufunc.lean`) and of `guard`, `chain` are written alike, in the same order
    congr
    funext h
    congr
    funext a b
    simp only [absObj, absNp, absSym]
    cases normOf (dimOf a) <;> rfl

/-! ### the handler -/

theorem handlerBe_any (ins : List OpK) (b : Backend) (h : handlerBe ins = some b) : ins.any (·.isBe b) = true := by
  unfold handlerBe at h
  (repeat' split at h) <;> cases h <;> assumption

theorem isVec_of_handlerBe_none (ins : List OpK) (h : handlerBe ins = none) : ins.any OpK.isVec = false := by
  rw [List.any_eq_false]
  intro k hk hv
  rcases k with ⟨b, d, m⟩ | _ | _
  · have hb : ins.any (·.isBe b) = true := List.any_eq_true.2 ⟨_, hk, by simp [OpK.isBe]⟩
    unfold handlerBe at h
    cases b <;> simp only [hb, if_true] at h <;> (repeat' split at h) <;> cases h
  · cases hv
  · cases hv

/-! ### operand kinds of dimension 2-4 -/

/-- the finite lattice of operand kinds: 4 backends x dimensions 2-4 x 2 flavors, a number, a plain array -/
def lat : List OpK :=
  [.vec .obj 2 false, .vec .obj 2 true, .vec .obj 3 false, .vec .obj 3 true, .vec .obj 4 false, .vec .obj 4 true,
   .vec .np 2 false, .vec .np 2 true, .vec .np 3 false, .vec .np 3 true, .vec .np 4 false, .vec .np 4 true,
   .vec .sym 2 false, .vec .sym 2 true, .vec .sym 3 false, .vec .sym 3 true, .vec .sym 4 false, .vec .sym 4 true,
   .vec .ak 2 false, .vec .ak 2 true, .vec .ak 3 false, .vec .ak 3 true, .vec .ak 4 false, .vec .ak 4 true,
   .scalar, .array]

theorem lat_dimOk : ∀ k ∈ lat, k.dimOk = true := by decide

/-! ## 1. the tables agree -/

@[simp] theorem isVec_relabel (b : Backend) (k : OpK) : (relabel b k).isVec = k.isVec := by cases k <;> rfl
@[simp] theorem dimOf_relabel (b : Backend) (k : OpK) : dimOf (relabel b k) = dimOf k := by cases k <;> rfl
@[simp] theorem dimOk_relabel (b : Backend) (k : OpK) : (relabel b k).dimOk = k.dimOk := by cases k <;> rfl
theorem isBe_relabel (b b' : Backend) (k : OpK) : (relabel b k).isBe b' = (k.isVec && b == b') := by
  cases k <;> simp [relabel, OpK.isBe, OpK.isVec]

theorem any_isBe_relabel (b b' : Backend) (ins : List OpK) :
    (ins.map (relabel b)).any (·.isBe b') = (ins.any OpK.isVec && b == b') := by
  induction ins with
  | nil => simp
  | cons k ks ih => simp only [List.map_cons, List.any_cons, ih, isBe_relabel]; cases k.isVec <;> cases (b == b') <;> simp

theorem handlerBe_relabel (b : Backend) (ins : List OpK) :
    handlerBe (ins.map (relabel b)) = if ins.any OpK.isVec then some b else none := by
  unfold handlerBe
  simp only [any_isBe_relabel]
  cases ins.any OpK.isVec <;> cases b <;> simp

theorem any_not_isBe_relabel (b : Backend) (outs : List OpK) :
    (outs.map (relabel b)).any (fun o => !o.isBe b) = outs.any (fun o => !o.isVec) := by
  induction outs with
  | nil => simp
  | cons k ks ih => simp only [List.map_cons, List.any_cons, ih, isBe_relabel]; simp

theorem chain_map (f : OpK → OpK) (e : Route) (u : Ufunc) (ins : List OpK) (n : Nat)
    (hf : ∀ k ∈ ins, (f k).isVec = k.isVec ∧ dimOf (f k) = dimOf k) : chain e u (ins.map f) n = chain e u ins n := by
  rcases ins with _ | ⟨a, _ | ⟨c, _ | ⟨d, rest⟩⟩⟩
  · rfl
  · have ha := hf a (by simp)
    cases u <;> simp only [chain, List.map_cons, List.map_nil, ha.1, ha.2]
  · have ha := hf a (by simp)
    have hc := hf c (by simp)
    cases u <;> simp only [chain, List.map_cons, List.map_nil, ha.1, ha.2, hc.1]
  · rw [chain_len, chain_len] <;> simp

theorem chain_relabel (e : Route) (b : Backend) (u : Ufunc) (ins : List OpK) (n : Nat) :
    chain e u (ins.map (relabel b)) n = chain e u ins n :=
  chain_map (relabel b) e u ins n fun k _ => ⟨isVec_relabel b k, dimOf_relabel b k⟩

/-- only `power` with outputs looks at the backend -/
theorem chain_powOut (e1 e2 : Route) (u : Ufunc) (ins : List OpK) (n : Nat) (h : u ≠ .power ∨ n = 0) :
    chain e1 u ins n = chain e2 u ins n := by
  unfold chain
  split <;> try rfl
  rcases h with h | h
  · exact absurd rfl h
  · subst h; rfl

theorem tableOf_relabel (b : Backend) (hb : b ≠ .ak) (u : Ufunc) (ins outs : List OpK) :
    tableOf b u (ins.map (relabel b)) (outs.map (relabel b)) =
      if ins.any OpK.isVec then
        (if outs.any (fun o => !o.isVec) then .typeError else chain (powOutOf b) u ins outs.length)
      else .assertionError := by
  rw [c05u_chain_closed b hb, guard, handlerBe_relabel, any_not_isBe_relabel, chain_relabel, List.length_map]
  cases ins.any OpK.isVec <;> simp

/-- **the object, NumPy and SymPy tables are the same table**: the same request (every vector operand and output moved to the
backend asked) gets the same route — same method, same `self`, same argument sources, same number of filled outputs, same
refusal — for EVERY ufunc, operand list (any length) and output list, except `power` with `out=` -/
theorem c05u_tables_agree (b1 b2 : Backend) (h1 : b1 ≠ .ak) (h2 : b2 ≠ .ak) (u : Ufunc) (ins outs : List OpK)
    (h : u ≠ .power ∨ outs = []) :
    tableOf b1 u (ins.map (relabel b1)) (outs.map (relabel b1)) = tableOf b2 u (ins.map (relabel b2)) (outs.map (relabel b2)) := by
  rw [tableOf_relabel b1 h1, tableOf_relabel b2 h2,
    chain_powOut (powOutOf b1) (powOutOf b2) u ins outs.length (by rcases h with h | h; exact Or.inl h; exact Or.inr (by simp [h]))]

/-- DIFFERENCE 1 (`power` with `out=`): the object and SymPy tables raise `TypeError` (`_replace_data` refuses a number), the
NumPy table raises `IndexError` (`result[name]` on an array of numbers); nobody fills the output -/
theorem c05u_diff_power_out :
    routeObj .power [.vec .obj 2 false, .scalar] [.vec .obj 2 false] = .typeError ∧
    routeSym .power [.vec .sym 2 false, .scalar] [.vec .sym 2 false] = .typeError ∧
    routeNp .power [.vec .np 2 false, .scalar] [.vec .np 2 false] = .indexError := by decide

/-! ### what the chain accepts -/

/-- the accepted requests, by the SHAPE of the operand list only (vector / not a vector; dimensions and flavors play no role) -/
def acceptSpec (u : Ufunc) (ins : List OpK) : Bool :=
  match u, ins with
  | .absolute, [a] | .negative, [a] | .positive, [a] | .square, [a] | .sqrt, [a] | .cbrt, [a] => a.isVec
  | .add, [a, b] | .subtract, [a, b] | .matmul, [a, b] | .equal, [a, b] | .not_equal, [a, b] => a.isVec && b.isVec
  | .multiply, [a, b] => a.isVec != b.isVec
  | .true_divide, [a, b] | .power, [a, b] => a.isVec && !b.isVec
  | _, _ => false

/-- a refused shape stays refused with outputs -/
theorem c05u_out_rejected (e : Route) (u : Ufunc) (ins : List OpK) (n : Nat) (ha : acceptSpec u ins = false) :
    chain e u ins n = .notImplemented := by
  unfold chain
  split <;> first | rfl | (simp only [acceptSpec, bne_eq_false_iff_eq] at ha; simp [ha])

private theorem normOf_dimOf (a : OpK) (hd : a.dimOk = true) (hv : a.isVec = true) :
    normOf (dimOf a) = some (normAcc (dimOf a)) ∧ norm2Of (dimOf a) = some (norm2Acc (dimOf a)) := by
  rcases a with ⟨b, d, m⟩ | _ | _
  · simp only [OpK.dimOk, Bool.and_eq_true, decide_eq_true_eq] at hd
    have : d = 2 ∨ d = 3 ∨ d = 4 := by omega
    rcases this with rfl | rfl | rfl <;> exact ⟨rfl, rfl⟩
  · cases hv
  · cases hv

theorem chain_accepted (e : Route) (u : Ufunc) (ins : List OpK) (hd : ∀ k ∈ ins, k.dimOk = true) :
    (chain e u ins 0).accepted = acceptSpec u ins := by
  cases ha : acceptSpec u ins with
  | false => rw [c05u_out_rejected e u ins 0 ha]; rfl
  | true =>
    unfold chain
    split <;> simp only [acceptSpec, Bool.and_eq_true, Bool.not_eq_true'] at ha
    -- `split` numbers the goals by the alternatives of `chain`: `h_4` is `.multiply, [a, b]`, accepted when exactly one
    -- operand is a vector and then routed in two ways; `h_15` is the default `_, _`, never accepted
    case h_4 a b => cases h1 : a.isVec <;> cases h2 : b.isVec <;> simp_all [Route.accepted]
    case h_15 => cases ha
    all_goals
      have hn := normOf_dimOf _ (hd _ List.mem_cons_self)
      simp [ha, hn, Route.accepted]

theorem chain_norms (e : Route) (a : OpK) (hd : a.dimOk = true) (hv : a.isVec = true) :
    chain e .absolute [a] 0 = .valueOf (normAcc (dimOf a)) 0 ∧
    chain e .square [a] 0 = .valueOf (norm2Acc (dimOf a)) 0 ∧
    chain e .sqrt [a] 0 = .valuePow (norm2Acc (dimOf a)) 0 .quarter ∧
    chain e .cbrt [a] 0 = .valuePow (norm2Acc (dimOf a)) 0 .sixth := by
  simp [chain, hv, normOf_dimOf a hd hv]

theorem chain_power (e : Route) (a b : OpK) (hd : a.dimOk = true) (hv : a.isVec = true) (hb : b.isVec = false) :
    chain e .power [a, b] 0 = .valuePow (normAcc (dimOf a)) 0 (.input 1) := by
  simp [chain, hv, hb, normOf_dimOf a hd hv]

/-! ### Awkward against the chain -/

/-- the Awkward table without outputs, in closed form: the chain seen through `akView`; Awkward knows no SymPy -/
def akClosed (u : Ufunc) (ins : List OpK) : Route :=
  if ins.any (·.isBe .sym) then (if ins.any (· == .array) then .valueError else .typeError)
  else akView u ins (chain .typeError u ins 0)

/-- THE CLOSED FORM of `route` (no outputs): one chain for everybody, seen through `akView` by Awkward -/
def closedRoute (u : Ufunc) (ins : List OpK) : Route :=
  match handlerBe ins with
  | none => .plain
  | some .ak => akClosed u ins
  | some _ => (chain .typeError u ins 0).surface

theorem akView_of_accepted (u : Ufunc) (ins : List OpK) (r : Route) (hu : u ≠ .power) (ha : r.accepted = true) :
    akView u ins r = r := by
  unfold akView
  split
  · cases ha
  · exact absurd rfl hu
  · rfl

/-! ### the registry's rule at the signature of a request -/

theorem chain_ne_ifTwo (u : Ufunc) (ins : List OpK) (i : Nat) (p : Bool) (t f : Route) :
    chain .typeError u ins 0 ≠ .ifTwo i p t f := by
  unfold chain
  split <;> (repeat' split) <;> simp

theorem elKind_sigEl (k : OpK) (hs : k.isBe .sym = false) :
    (elKind (sigEl k)).isVec = k.isVec ∧ dimOf (elKind (sigEl k)) = dimOf k := by
  rcases k with ⟨b, d, m⟩ | _ | _
  · cases b <;> first | exact ⟨rfl, rfl⟩ | simp [OpK.isBe] at hs
  · exact ⟨rfl, rfl⟩
  · exact ⟨rfl, rfl⟩

theorem regOk_sigEl (k : OpK) (hd : k.dimOk = true) : (sigEl k).regOk = !k.isBe .sym := by
  rcases k with ⟨b, d, m⟩ | _ | _
  · simp only [OpK.dimOk] at hd
    cases b <;> simp [sigEl, KeyEl.regOk, KeyEl.vecOk, OpK.isBe, hd]
  · rfl
  · rfl

/-- an Awkward operand puts a record name into the signature (`p`: any way of spelling "is a record name") -/
theorem any_name_of_ak (ins : List OpK) (hak : ins.any (·.isBe .ak) = true) (p : KeyEl → Bool)
    (hp : ∀ m d, p (.name m d) = true) : (ins.map sigEl).any p = true := by
  obtain ⟨k, hk, hb⟩ := List.any_eq_true.1 hak
  refine List.any_eq_true.2 ⟨sigEl k, List.mem_map_of_mem hk, ?_⟩
  rcases k with ⟨b, d, m⟩ | _ | _ <;> simp [OpK.isBe] at hb
  subst hb; exact hp _ _

theorem akReg_sig (u : Ufunc) (ins : List OpK) (hd : ∀ k ∈ ins, k.dimOk = true) (hak : ins.any (·.isBe .ak) = true) :
    akReg u (ins.map sigEl) =
      if ins.any (·.isBe .sym) then none
      else if (chain .typeError u ins 0).accepted then
        some (akView u (ins.map fun k => elKind (sigEl k)) (chain .typeError u ins 0))
      else none := by
  unfold akReg
  cases hs : ins.any (·.isBe .sym) with
  | true =>
    obtain ⟨k, hk, hb⟩ := List.any_eq_true.1 hs
    have : (ins.map sigEl).all KeyEl.regOk = false :=
      List.all_eq_false.2 ⟨sigEl k, List.mem_map_of_mem hk, by rw [regOk_sigEl k (hd k hk), hb]; decide⟩
    simp [this]
  | false =>
    have hns : ∀ k ∈ ins, k.isBe .sym = false := fun k hk => by simpa using (List.any_eq_false.1 hs) k hk
    have hall : (ins.map sigEl).all KeyEl.regOk = true := List.all_eq_true.2 fun e he => by
      obtain ⟨k, hk, rfl⟩ := List.mem_map.1 he
      rw [regOk_sigEl k (hd k hk), hns k hk]; rfl
    have hname := any_name_of_ak ins hak KeyEl.isName fun _ _ => rfl
    rw [List.map_map, chain_map (elKind ∘ sigEl) _ u ins 0 fun k hk => elKind_sigEl k (hns k hk)]
    simp [hall, hname]
    rfl

/-- **the Awkward table in closed form** (no `out=`): the registry is the chain tabulated (`akReg`), Awkward's lookup adds the
refusals and the re-test of an array exponent -/
theorem routeAk_closed (u : Ufunc) (ins : List OpK) (hd : ∀ k ∈ ins, k.dimOk = true) (hh : handlerBe ins = some .ak) :
    routeAk u ins [] = akClosed u ins := by
  have hak := handlerBe_any ins .ak hh
  have h0 : ins.isEmpty = false := by cases ins; cases hak; rfl
  unfold routeAk routeAkWith akClosed
  simp only [akFind_eq_reg, List.isEmpty_nil, Bool.not_true, h0, Bool.or_self, Bool.false_eq_true, if_false,
    akReg_sig u ins hd hak]
  rw [if_pos (any_name_of_ak ins hak _ fun _ _ => rfl)]
  cases hs : ins.any (·.isBe .sym) with
  | true => rfl
  | false =>
    simp only [Bool.false_eq_true, if_false]
    cases ha : acceptSpec u ins with
    | false =>
      rw [c05u_out_rejected .typeError u ins 0 ha]
      simp only [Route.accepted, Bool.false_eq_true, if_false, akView]
    | true =>
      rw [if_pos ((chain_accepted .typeError u ins hd).trans ha)]
      by_cases hu : u = .power
      · -- the registered function tests `expo == 2`; Awkward re-tests on the operand itself, which may be an array
        subst hu
        rcases ins with _ | ⟨a, _ | ⟨b, _ | ⟨c, rest⟩⟩⟩ <;> simp only [acceptSpec, Bool.false_eq_true] at ha
        simp only [Bool.and_eq_true, Bool.not_eq_true'] at ha
        have hn := (normOf_dimOf a (hd a List.mem_cons_self) ha.1).2
        have hb : elKind (sigEl b) = .scalar := by rcases b with _ | _ | _ <;> first | rfl | cases ha.2
        have hda := (elKind_sigEl a (by simpa using (List.any_eq_false.1 hs) a List.mem_cons_self)).2
        rw [chain_power _ a b (hd a List.mem_cons_self) ha.1 ha.2]
        cases hq : b == OpK.array <;> simp [akView, hn, hb, hq, hda]
      · have hc := (chain_accepted .typeError u ins hd).trans ha
        rw [akView_of_accepted u _ _ hu hc, akView_of_accepted u _ _ hu hc]
        split
        · rename_i heq
          exact absurd (Option.some.inj heq) (chain_ne_ifTwo u ins _ _ _ _)
        · rename_i heq
          exact (Option.some.inj heq).symm
        · rename_i heq
          cases heq

theorem route_chain (u : Ufunc) (ins : List OpK) (h : Backend) (hh : handlerBe ins = some h) (hne : h ≠ .ak) :
    route u ins [] = (chain .typeError u ins 0).surface := by
  have hbb : (h != h) = false := by simp
  unfold route
  rw [hh]
  simp only [c05u_chain_closed h hne, guard, hh, hbb, List.any_nil, Bool.false_eq_true, if_false, List.length_nil]
  rw [chain_powOut (powOutOf h) .typeError u ins 0 (Or.inr rfl)]

private theorem surface_accepted (r : Route) (h : r.accepted = true) : r.surface = r := by
  cases r <;> first | rfl | (simp [Route.accepted] at h)

private theorem surface_akView (u : Ufunc) (ins : List OpK) (r : Route) : (akView u ins r).surface = akView u ins r := by
  unfold akView
  split
  · split <;> rfl
  · split
    · rfl
    · split <;> rfl
  · rename_i hn _
    cases r <;> first | rfl | exact (hn rfl).elim

/-- Awkward never answers `NotImplemented` -/
private theorem surface_akClosed (u : Ufunc) (ins : List OpK) : (akClosed u ins).surface = akClosed u ins := by
  unfold akClosed
  split
  · split <;> rfl
  · exact surface_akView u ins _

theorem c05u_route_closed (u : Ufunc) (ins : List OpK) (h : ∀ k ∈ ins, k.dimOk = true) : route u ins [] = closedRoute u ins := by
  unfold closedRoute
  cases hh : handlerBe ins with
  | none => unfold route; rw [hh]; rfl
  | some b =>
    cases b
    case ak =>
      unfold route
      rw [hh]
      simp only [tableOf]
      rw [routeAk_closed u ins h hh, surface_akClosed]
    all_goals exact route_chain u ins _ hh (by decide)

/-- no SymPy operand next to an Awkward one (Awkward knows no SymPy: `c05u_diff_ak_sympy`) -/
def okSym (ins : List OpK) : Bool := handlerBe ins != some .ak || !ins.any (·.isBe .sym)

/-- **the Awkward table agrees with the other three**: a request made of Awkward operands gets from the Awkward registry the
route the same request made of object / NumPy / SymPy operands gets from `__array_ufunc__`, wherever the latter accept it — for
every ufunc other than `power`, every operand list over dimensions 2-4 (`matmul`: of the registrations, see `c05u_matmul`) -/
theorem c05u_tables_agree_ak (b : Backend) (hb : b ≠ .ak) (u : Ufunc) (hu : u ≠ .power) (ins : List OpK)
    (hd : ∀ k ∈ ins, k.dimOk = true) (hacc : (tableOf b u (ins.map (relabel b)) []).accepted = true) :
    routeAk u (ins.map (relabel .ak)) [] = tableOf b u (ins.map (relabel b)) [] := by
  have hT := tableOf_relabel b hb u ins []
  simp only [List.map_nil, List.any_nil, Bool.false_eq_true, if_false, List.length_nil] at hT
  rw [hT] at hacc ⊢
  cases hv : ins.any OpK.isVec with
  | false => rw [hv] at hacc; cases hacc
  | true =>
    rw [hv, if_pos rfl, chain_powOut (powOutOf b) .typeError u ins 0 (Or.inl hu)] at hacc
    rw [if_pos rfl, chain_powOut (powOutOf b) .typeError u ins 0 (Or.inl hu)]
    have hd' : ∀ k ∈ ins.map (relabel .ak), k.dimOk = true := by
      intro k hk; obtain ⟨k0, hk0, rfl⟩ := List.mem_map.1 hk; simpa using hd k0 hk0
    have hh : handlerBe (ins.map (relabel .ak)) = some .ak := by rw [handlerBe_relabel, hv]; rfl
    have hns : (ins.map (relabel .ak)).any (·.isBe .sym) = false := by rw [any_isBe_relabel]; simp
    rw [routeAk_closed u _ hd' hh, akClosed, hns, chain_relabel]
    exact akView_of_accepted u _ _ hu hacc

/-- DIFFERENCE 2 (`power`): the Awkward registration tests `expo == 2` and then returns `rho2 | mag2 | tau2`, the three chains
compute `numpy.absolute(v) ** expo` whatever the exponent -/
theorem c05u_diff_power_two : ∀ d ∈ [2, 3, 4], ∀ m ∈ [false, true],
    routeAk .power [.vec .ak d m, .scalar] [] = .ifTwo 1 false (.valueOf (norm2Acc d) 0) (.valuePow (normAcc d) 0 (.input 1)) ∧
    routeNp .power [.vec .np d m, .scalar] [] = .valuePow (normAcc d) 0 (.input 1) ∧
    routeObj .power [.vec .obj d m, .scalar] [] = .valuePow (normAcc d) 0 (.input 1) ∧
    routeSym .power [.vec .sym d m, .scalar] [] = .valuePow (normAcc d) 0 (.input 1) := by decide +kernel

/-- DIFFERENCE 3 (`power` with an array exponent): Awkward's `expo == 2` has no truth value (`ValueError`); the chains accept -/
theorem c05u_diff_power_array :
    routeAk .power [.vec .ak 2 false, .array] [] = .valueError ∧
    routeNp .power [.vec .np 2 false, .array] [] = .valuePow .rho 0 (.input 1) := by decide +kernel

/-- DIFFERENCE 4 (refusals): the chains return `NotImplemented` (NumPy then raises `TypeError`); Awkward raises `TypeError`
itself, or `ValueError` when a plain array is among the inputs -/
theorem c05u_diff_refusal :
    routeNp .add [.vec .np 2 false, .scalar] [] = .notImplemented ∧
    routeAk .add [.vec .ak 2 false, .scalar] [] = .typeError ∧
    routeNp .add [.vec .np 2 false, .array] [] = .notImplemented ∧
    routeAk .add [.vec .ak 2 false, .array] [] = .valueError := by decide +kernel

/-- DIFFERENCE 5 (`out=`): honoured by the chains, refused by Awkward -/
theorem c05u_diff_ak_out :
    routeNp .add [.vec .np 2 false, .vec .np 2 false] [.vec .np 2 false] = .call .add 0 [.input 1] 1 ∧
    routeAk .add [.vec .ak 2 false, .vec .ak 2 false] [.vec .ak 2 false] = .notImplemented := by decide +kernel

/-- DIFFERENCE 6 (partners): the Awkward registry knows Awkward records, object classes and (through `__cast__`) NumPy vector
arrays, but no SymPy vector; the chains accept ANY `Vector` next to their own (the METHOD then refuses libraries that do not mix) -/
theorem c05u_diff_ak_sympy :
    routeAk .add [.vec .ak 2 false, .vec .sym 2 false] [] = .typeError ∧
    routeSym .add [.vec .sym 2 false, .vec .obj 2 false] [] = .call .add 0 [.input 1] 0 ∧
    routeSym .add [.vec .sym 2 false, .vec .np 2 false] [] = .call .add 0 [.input 1] 0 := by decide +kernel

/-- DIFFERENCE 7 (flavor): Awkward sees a NumPy vector array through `vector.Array(v)`, whose record name is the GENERIC one -/
theorem c05u_diff_ak_cast_flavor (d : Nat) : sigEl (.vec .np d true) = .name false d ∧ akCastK (.vec .np d true) = .vec .ak d false :=
  ⟨rfl, rfl⟩

/-! ## 2. what is rejected -/

/-- Awkward's two extra refusals: a SymPy partner (`okSym` above, the hypothesis of section 3, is this half alone), an array
exponent -/
def akOk (u : Ufunc) (ins : List OpK) : Bool :=
  handlerBe ins != some .ak || (!ins.any (·.isBe .sym) && !(u == .power && ins[1]? == some .array))

private theorem rejected_chain (u : Ufunc) (ins : List OpK) (hd : ∀ k ∈ ins, k.dimOk = true) :
    (chain .typeError u ins 0).surface.accepted = acceptSpec u ins ∧
    ((chain .typeError u ins 0).surface.accepted = false → (chain .typeError u ins 0).surface = .typeError) := by
  cases ha : acceptSpec u ins with
  | true =>
    have hc := (chain_accepted .typeError u ins hd).trans ha
    rw [surface_accepted _ hc, hc]
    exact ⟨rfl, fun h => absurd h (by decide)⟩
  | false =>
    rw [c05u_out_rejected .typeError u ins 0 ha]
    exact ⟨rfl, fun _ => rfl⟩

private theorem rejected_ak (u : Ufunc) (ins : List OpK) (hd : ∀ k ∈ ins, k.dimOk = true) :
    (akClosed u ins).accepted =
      (acceptSpec u ins && (!ins.any (·.isBe .sym) && !(u == .power && ins[1]? == some .array))) ∧
    ((akClosed u ins).accepted = false → akClosed u ins = if ins.any (· == .array) then .valueError else .typeError) := by
  unfold akClosed
  cases hs : ins.any (·.isBe .sym) with
  | true =>
    simp only [if_true, Bool.not_true, Bool.false_and, Bool.and_false]
    exact ⟨by split <;> rfl, fun _ => trivial⟩
  | false =>
    simp only [Bool.false_eq_true, if_false, Bool.not_false, Bool.true_and]
    cases ha : acceptSpec u ins with
    | false =>
      rw [c05u_out_rejected .typeError u ins 0 ha]
      simp only [akView, Bool.false_and]
      exact ⟨by split <;> rfl, fun _ => trivial⟩
    | true =>
      have hc := (chain_accepted .typeError u ins hd).trans ha
      by_cases hu : u = .power
      · subst hu
        rcases ins with _ | ⟨a, _ | ⟨b, _ | ⟨c, rest⟩⟩⟩ <;> simp only [acceptSpec, Bool.false_eq_true] at ha
        simp only [Bool.and_eq_true, Bool.not_eq_true'] at ha
        have hn := (normOf_dimOf a (hd a List.mem_cons_self) ha.1).2
        rw [chain_power _ a b (hd a List.mem_cons_self) ha.1 ha.2]
        cases hb : b == OpK.array <;> simp [akView, hn, hb, Route.accepted]
      · have hb : (u == .power) = false := by simpa using hu
        rw [akView_of_accepted u ins _ hu hc, hc, hb]
        exact ⟨rfl, fun h => absurd h (by decide)⟩

/-- **the exact set of rejected combinations**, the same for every backend: a request with at least one vector operand
(dimensions 2-4) is accepted iff its SHAPE is one of

    unary ufuncs (absolute negative positive square sqrt cbrt):  [vector]
    add subtract matmul equal not_equal:                         [vector, vector]
    multiply:                                                    [vector, non-vector] or [non-vector, vector]
    true_divide, power:                                          [vector, non-vector]

— so `scalar / vector`, `vector * vector`, `vector ** vector`, any `other` ufunc, any wrong arity are refused —, and, when the
answering table is Awkward's, no operand is a SymPy vector and the exponent of `power` is not an array.  MIXED DIMENSIONS and
mixed libraries are NOT rejected here (`c05u_mixed_dims_not_rejected`): the method does that.  What the caller sees of a refusal
is `TypeError`, except Awkward with a plain array among the inputs: `ValueError`. -/
theorem c05u_rejected (u : Ufunc) (ins : List OpK) (hd : ∀ k ∈ ins, k.dimOk = true) (hh : handlerBe ins ≠ none) :
    (route u ins []).accepted = (acceptSpec u ins && akOk u ins) ∧
    ((route u ins []).accepted = false →
      route u ins [] = if handlerBe ins == some .ak && ins.any (· == .array) then .valueError else .typeError) := by
  unfold akOk
  cases hq : handlerBe ins with
  | none => exact absurd hq hh
  | some h =>
    by_cases hak : h = .ak
    · subst hak
      rw [c05u_route_closed u ins hd, closedRoute, hq]
      simpa using rejected_ak u ins hd
    · have h1 : (some h != some Backend.ak) = true := by simpa using hak
      have h2 : (some h == some Backend.ak) = false := by simpa using hak
      rw [route_chain u ins h hq hak]
      simpa [h1, h2] using rejected_chain u ins hd

/-! ## 3. every accepted route is the operator the ufunc stands for -/

/-- a request of an accepted shape (dimensions 2-4, no SymPy operand next to an Awkward one) for a ufunc other than `power` is
routed to what the chain makes of it, whichever table answers -/
theorem route_accept (u : Ufunc) (ins : List OpK) (hd : ∀ k ∈ ins, k.dimOk = true) (hv : ins.any OpK.isVec = true)
    (hs : okSym ins = true) (ha : acceptSpec u ins = true) (hu : u ≠ .power) : route u ins [] = chain .typeError u ins 0 := by
  have hc := (chain_accepted .typeError u ins hd).trans ha
  cases hq : handlerBe ins with
  | none => rw [isVec_of_handlerBe_none ins hq] at hv; cases hv
  | some h =>
    by_cases hak : h = .ak
    · subst hak
      have hns : ins.any (·.isBe .sym) = false := by simpa [okSym, hq] using hs
      rw [c05u_route_closed u ins hd, closedRoute, hq]
      simp only [akClosed, hns, Bool.false_eq_true, if_false, akView_of_accepted u ins _ hu hc]
    · rw [route_chain u ins h hq hak, surface_accepted _ hc]

theorem route_refused (u : Ufunc) (ins : List OpK) (hd : ∀ k ∈ ins, k.dimOk = true) (hh : handlerBe ins ≠ none)
    (ha : acceptSpec u ins = false) (harr : ins.any (· == .array) = false) : route u ins [] = .typeError := by
  obtain ⟨h1, h2⟩ := c05u_rejected u ins hd hh
  rw [h2 (by rw [h1, ha]; rfl), harr, Bool.and_false]
  rfl

/-- with one vector operand there is no SymPy operand next to an Awkward one -/
theorem okSym_one (a k : OpK) (hk : k.isVec = false) : okSym [a] = true ∧ okSym [a, k] = true ∧ okSym [k, a] = true := by
  rcases k with _ | _ | _
  · cases hk
  all_goals rcases a with ⟨b, d, m⟩ | _ | _ <;> first | exact ⟨rfl, rfl, rfl⟩ | (cases b <;> exact ⟨rfl, rfl, rfl⟩)

/-- `power(v, k)`: the chain raises the norm to `k`; Awkward's registered function tests `k == 2` first (DIFFERENCE 2) -/
theorem route_power (a : OpK) (hd : a.dimOk = true) (hv : a.isVec = true) :
    route .power [a, .scalar] [] =
      if a.isBe .ak then .ifTwo 1 false (.valueOf (norm2Acc (dimOf a)) 0) (.valuePow (normAcc (dimOf a)) 0 (.input 1))
      else .valuePow (normAcc (dimOf a)) 0 (.input 1) := by
  have hc := chain_power .typeError a .scalar hd hv rfl
  have hn := (normOf_dimOf a hd hv).2
  rcases a with ⟨b, d, m⟩ | _ | _
  · cases b
    case ak =>
      rw [c05u_route_closed _ _ (by simpa [show OpK.scalar.dimOk = true from rfl] using hd)]
      simp [closedRoute, handlerBe, akClosed, hc, akView, hn, OpK.isBe]
    all_goals
      rw [route_chain .power _ _ rfl (by decide), hc]
      rfl
  · cases hv
  · cases hv

section
variable {S B : Type} (ev : Ev S B) (K : Consts S) (A : Arith S)

def kv (v : Vec S) : OpK := .vec v.ty.be v.ty.dim v.ty.mom

theorem kindOf_v (v : Vec S) : kindOf (.v v) = kv v := rfl
theorem kindOf_sc (k : S) : kindOf (Arg.sc k : Arg S) = .scalar := rfl

theorem kv_dimOk (v : Vec S) : (kv v).dimOk = true := by
  rcases v.ty.dim_cases with h | h | h <;> simp [kv, OpK.dimOk, h]

/-- the vector as the registered Awkward function receives it: a NumPy vector array has been CAST, generic flavor -/
def akCastVec (w : Vec S) : Vec S := if w.ty.be == .np then ⟨{ w.ty with be := .ak, mom := false }, w.c⟩ else w

theorem akCastArg_v (w : Vec S) : akCastArg (.v w) = .v (akCastVec w) := by
  show (if w.ty.be == .np then Arg.v _ else Arg.v w) = _
  unfold akCastVec
  by_cases h : (w.ty.be == Backend.np) = true <;> simp [h]

/-- the vector operand as the table that answers the request `ks` sees it -/
def seenV (ks : List OpK) (w : Vec S) : Vec S := if handlerBe ks == some .ak then akCastVec w else w

theorem c05u_seen_id (ks : List OpK) (w : Vec S) (h : handlerBe ks ≠ some .ak ∨ w.ty.be ≠ .np) : seenV ks w = w := by
  unfold seenV akCastVec
  rcases h with h | h
  · have : (handlerBe ks == some .ak) = false := by simpa using h
    simp [this]
  · have : (w.ty.be == .np) = false := by simpa using h
    simp [this]

/-- the cast keeps the coordinates and the dimension, and drops the flavor -/
theorem c05u_seen_cast (ks : List OpK) (w : Vec S) (h : handlerBe ks = some .ak) (hw : w.ty.be = .np) :
    (seenV ks w).c = w.c ∧ (seenV ks w).ty = { w.ty with be := .ak, mom := false } := by
  unfold seenV akCastVec; simp [h, hw]

/-- the side condition of `route_accept` on the dimensions, operand by operand; without the second argument the list ends:
`dims_ok ha` is about `[a]`, `dims_ok ha (dims_ok hb)` about `[a, b]` -/
private theorem dims_ok {a : OpK} {l : List OpK} (ha : a.dimOk = true)
    (hl : ∀ k ∈ l, k.dimOk = true := by exact List.forall_mem_nil _) : ∀ k ∈ a :: l, k.dimOk = true :=
  List.forall_mem_cons.2 ⟨ha, hl⟩

/-- `numpy.add(v, w)`, `v + w`  ↦  `operator "add" v [w]` — all backends -/
theorem c05u_add (v w : Vec S) (hs : okSym [kv v, kv w] = true) :
    evalRoute ev K A (route .add [kv v, kv w] []) [.v (seenV [kv v, kv w] v), .v (seenV [kv v, kv w] w)] =
      operator ev K A "add" (seenV [kv v, kv w] v) [.v (seenV [kv v, kv w] w)] := by
  rw [route_accept .add [kv v, kv w] (dims_ok (kv_dimOk v) (dims_ok (kv_dimOk w))) rfl hs rfl (by decide)]
  rfl

/-- `numpy.subtract(v, w)`, `v - w`  ↦  `operator "sub" v [w]` -/
theorem c05u_subtract (v w : Vec S) (hs : okSym [kv v, kv w] = true) :
    evalRoute ev K A (route .subtract [kv v, kv w] []) [.v (seenV [kv v, kv w] v), .v (seenV [kv v, kv w] w)] =
      operator ev K A "sub" (seenV [kv v, kv w] v) [.v (seenV [kv v, kv w] w)] := by
  rw [route_accept .subtract [kv v, kv w] (dims_ok (kv_dimOk v) (dims_ok (kv_dimOk w))) rfl hs rfl (by decide)]
  rfl

/-- `numpy.matmul(v, w)`, `v @ w`  ↦  `operator "matmul" v [w]` (= `v.dot(w)`).  On the Awkward backend this is what is
REGISTERED: the installed Awkward raises `NotImplementedError` for `matmul` before it looks the behavior up (known finding
`awkward-matmul`), a gate `Glue/Ufunc.lean` does not model -/
theorem c05u_matmul (v w : Vec S) (hs : okSym [kv v, kv w] = true) :
    evalRoute ev K A (route .matmul [kv v, kv w] []) [.v (seenV [kv v, kv w] v), .v (seenV [kv v, kv w] w)] =
      operator ev K A "matmul" (seenV [kv v, kv w] v) [.v (seenV [kv v, kv w] w)] := by
  rw [route_accept .matmul [kv v, kv w] (dims_ok (kv_dimOk v) (dims_ok (kv_dimOk w))) rfl hs rfl (by decide)]
  rfl

/-- `numpy.equal(v, w)`, `v == w`  ↦  `operator "eq" v [w]` -/
theorem c05u_equal (v w : Vec S) (hs : okSym [kv v, kv w] = true) :
    evalRoute ev K A (route .equal [kv v, kv w] []) [.v (seenV [kv v, kv w] v), .v (seenV [kv v, kv w] w)] =
      operator ev K A "eq" (seenV [kv v, kv w] v) [.v (seenV [kv v, kv w] w)] := by
  rw [route_accept .equal [kv v, kv w] (dims_ok (kv_dimOk v) (dims_ok (kv_dimOk w))) rfl hs rfl (by decide)]
  rfl

/-- `numpy.not_equal(v, w)`, `v != w`  ↦  `operator "ne" v [w]` -/
theorem c05u_not_equal (v w : Vec S) (hs : okSym [kv v, kv w] = true) :
    evalRoute ev K A (route .not_equal [kv v, kv w] []) [.v (seenV [kv v, kv w] v), .v (seenV [kv v, kv w] w)] =
      operator ev K A "ne" (seenV [kv v, kv w] v) [.v (seenV [kv v, kv w] w)] := by
  rw [route_accept .not_equal [kv v, kv w] (dims_ok (kv_dimOk v) (dims_ok (kv_dimOk w))) rfl hs rfl (by decide)]
  rfl

/-- `numpy.multiply(v, k)`, `v * k`  ↦  `operator "mul" v [k]` — all backends, `k` a number (route: also a plain array) -/
theorem c05u_multiply_vk (v : Vec S) (k : S) :
    evalRoute ev K A (route .multiply [kv v, .scalar] []) [.v v, .sc k] = operator ev K A "mul" v [.sc k] := by
  rw [route_accept _ _ (dims_ok (kv_dimOk v) (dims_ok rfl)) rfl (okSym_one _ _ rfl).2.1 rfl (by decide)]
  rfl

/-- `numpy.multiply(k, v)`, `k * v`  ↦  `operator "mul" v [k]` (= `operator "rmul" v [k]`): the vector is `self` although it
comes second -/
theorem c05u_multiply_kv (v : Vec S) (k : S) :
    evalRoute ev K A (route .multiply [.scalar, kv v] []) [.sc k, .v v] = operator ev K A "mul" v [.sc k] ∧
    evalRoute ev K A (route .multiply [.scalar, kv v] []) [.sc k, .v v] = operator ev K A "rmul" v [.sc k] := by
  rw [route_accept _ _ (dims_ok rfl (dims_ok (kv_dimOk v))) rfl (okSym_one _ _ rfl).2.2 rfl (by decide)]
  exact ⟨rfl, rfl⟩

/-- `numpy.true_divide(v, k)`, `v / k`  ↦  `operator "truediv" v [k]` (the table calls `v.scale(1 / k)`) -/
theorem c05u_true_divide (v : Vec S) (k : S) :
    evalRoute ev K A (route .true_divide [kv v, .scalar] []) [.v v, .sc k] = operator ev K A "truediv" v [.sc k] := by
  rw [route_accept _ _ (dims_ok (kv_dimOk v) (dims_ok rfl)) rfl (okSym_one _ _ rfl).2.1 rfl (by decide)]
  rfl

/-- the same three with a plain array in the place of the number: same routes -/
theorem c05u_multiply_array (v : Vec S) :
    route .multiply [kv v, .array] [] = route .multiply [kv v, .scalar] [] ∧
    route .multiply [.array, kv v] [] = route .multiply [.scalar, kv v] [] ∧
    route .true_divide [kv v, .array] [] = route .true_divide [kv v, .scalar] [] := by
  have hd := fun (k : OpK) (h : k.dimOk = true) => dims_ok (kv_dimOk v) (dims_ok h)
  have hd' := fun (k : OpK) (h : k.dimOk = true) => dims_ok h (dims_ok (kv_dimOk v))
  have hs := fun k h => okSym_one (kv v) k h
  refine ⟨?_, ?_, ?_⟩
  · rw [route_accept _ _ (hd _ rfl) rfl (hs .array rfl).2.1 rfl (by decide),
      route_accept _ _ (hd _ rfl) rfl (hs .scalar rfl).2.1 rfl (by decide)]
    rfl
  · rw [route_accept _ _ (hd' _ rfl) rfl (hs .array rfl).2.2 rfl (by decide),
      route_accept _ _ (hd' _ rfl) rfl (hs .scalar rfl).2.2 rfl (by decide)]
    rfl
  · rw [route_accept _ _ (hd _ rfl) rfl (hs .array rfl).2.1 rfl (by decide),
      route_accept _ _ (hd _ rfl) rfl (hs .scalar rfl).2.1 rfl (by decide)]
    rfl

/-- `numpy.negative(v)`, `-v`  ↦  `operator "neg" v []` (the table calls `v.scale(-1)`) -/
theorem c05u_negative (v : Vec S) :
    evalRoute ev K A (route .negative [kv v] []) [.v v] = operator ev K A "neg" v [] := by
  rw [route_accept _ _ (dims_ok (kv_dimOk v)) rfl (okSym_one _ .scalar rfl).1 rfl (by decide)]
  rfl

/-- `numpy.positive(v)`, `+v`  ↦  `operator "pos" v []` (the vector itself) -/
theorem c05u_positive (v : Vec S) :
    evalRoute ev K A (route .positive [kv v] []) [.v v] = operator ev K A "pos" v [] := by
  rw [route_accept _ _ (dims_ok (kv_dimOk v)) rfl (okSym_one _ .scalar rfl).1 rfl (by decide)]
  rfl

/-- `numpy.absolute(v)`, `abs(v)`  ↦  `operator "abs" v []` (`rho`, `mag` or `tau` by dimension) -/
theorem c05u_absolute (v : Vec S) :
    evalRoute ev K A (route .absolute [kv v] []) [.v v] = operator ev K A "abs" v [] := by
  rw [route_accept _ _ (dims_ok (kv_dimOk v)) rfl (okSym_one _ .scalar rfl).1 rfl (by decide),
    (chain_norms _ _ (kv_dimOk v) rfl).1]
  rfl

/-- `numpy.square(v)`  ↦  `operator "square" v []` (`rho2`, `mag2` or `tau2`) -/
theorem c05u_square (v : Vec S) :
    evalRoute ev K A (route .square [kv v] []) [.v v] = operator ev K A "square" v [] := by
  rw [route_accept _ _ (dims_ok (kv_dimOk v)) rfl (okSym_one _ .scalar rfl).1 rfl (by decide),
    (chain_norms _ _ (kv_dimOk v) rfl).2.1]
  rfl

/-- `numpy.sqrt(v)`  ↦  `operator "sqrt" v []` (`rho2 ** 0.25` …) -/
theorem c05u_sqrt (v : Vec S) :
    evalRoute ev K A (route .sqrt [kv v] []) [.v v] = operator ev K A "sqrt" v [] := by
  rw [route_accept _ _ (dims_ok (kv_dimOk v)) rfl (okSym_one _ .scalar rfl).1 rfl (by decide),
    (chain_norms _ _ (kv_dimOk v) rfl).2.2.1]
  rfl

/-- `numpy.cbrt(v)`  ↦  `operator "cbrt" v []` (`rho2 ** 0.1666…` …) -/
theorem c05u_cbrt (v : Vec S) :
    evalRoute ev K A (route .cbrt [kv v] []) [.v v] = operator ev K A "cbrt" v [] := by
  rw [route_accept _ _ (dims_ok (kv_dimOk v)) rfl (okSym_one _ .scalar rfl).1 rfl (by decide),
    (chain_norms _ _ (kv_dimOk v) rfl).2.2.2]
  rfl

/-- `numpy.power(v, k)` on the AWKWARD backend  ↦  `operator "pow" v [k]` exactly (`rho2 | mag2 | tau2` for `k == 2`) -/
theorem c05u_power_ak (v : Vec S) (k : S) (hb : v.ty.be = .ak) :
    evalRoute ev K A (route .power [kv v, .scalar] []) [.v v, .sc k] = operator ev K A "pow" v [.sc k] := by
  rw [route_power _ (kv_dimOk v) rfl]
  have : (kv v).isBe .ak = true := by simp [kv, OpK.isBe, hb]
  rw [if_pos this]
  simp only [evalRoute, operator, dimOf, kv]
  by_cases h2 : A.isTwo k = true
  · simp [h2]
  · simp [h2, expoOf]
    rfl

/-- `numpy.power(v, k)` on the OBJECT / NUMPY / SYMPY backends: the `else` branch of `operator "pow"` whatever `k`, i.e.
`operator "pow" v [k]` for every `k` that is not 2 (`c05u_diff_power_two_value`: for `k == 2` the values can differ) -/
theorem c05u_power_chain (v : Vec S) (k : S) (hb : v.ty.be ≠ .ak) :
    evalRoute ev K A (route .power [kv v, .scalar] []) [.v v, .sc k] =
      (match getAcc ev (normAcc v.ty.dim) v with
       | .ok (.scalar s) => .ok (.scalar (A.pow s k))
       | r => r) ∧
    (A.isTwo k = false →
      evalRoute ev K A (route .power [kv v, .scalar] []) [.v v, .sc k] = operator ev K A "pow" v [.sc k]) := by
  rw [route_power _ (kv_dimOk v) rfl]
  have : ((kv v).isBe .ak) = false := by
    cases hq : v.ty.be <;> simp_all [kv, OpK.isBe]
  rw [this]
  refine ⟨rfl, fun h2 => ?_⟩
  simp only [Bool.false_eq_true, if_false, operator, h2]
  rfl

/-- hypotheses are satisfiable: an Awkward momentum vector and a NumPy one -/
example : okSym [kv (⟨{ be := .ak, mom := true, az := .xy, lon := none, tmp := none }, [1, 2]⟩ : Vec Nat),
                 kv (⟨{ be := .np, mom := true, az := .rhophi, lon := none, tmp := none }, [1, 2]⟩ : Vec Nat)] = true := by decide

/-! ### mixed dimensions: not the tables' business -/

theorem seenV_dim (ks : List OpK) (w : Vec S) : (seenV ks w).ty.dim = w.ty.dim := by
  unfold seenV akCastVec
  split
  · split <;> rfl
  · rfl

/-- `numpy.add(v, w)` of vectors of DIFFERENT dimensions is routed to `v.add(w)` like any other pair … -/
theorem c05u_mixed_dims_not_rejected (v w : Vec S) (hs : okSym [kv v, kv w] = true) :
    route .add [kv v, kv w] [] = .call .add 0 [.input 1] 0 :=
  route_accept .add [kv v, kv w] (dims_ok (kv_dimOk v) (dims_ok (kv_dimOk w))) rfl hs rfl (by decide)

/-- … and it is the METHOD that raises `TypeError` -/
theorem c05u_mixed_dims_method_rejects (v w : Vec S) (hs : okSym [kv v, kv w] = true) (h : v.ty.dim ≠ w.ty.dim) :
    evalRoute ev K A (route .add [kv v, kv w] []) [.v (seenV [kv v, kv w] v), .v (seenV [kv v, kv w] w)] = .error .typeError := by
  rw [c05u_mixed_dims_not_rejected v w hs]
  have h' : ((seenV [kv v, kv w] w).ty.dim != (seenV [kv v, kv w] v).ty.dim) = true := by
    rw [seenV_dim, seenV_dim]; simpa using fun e => h e.symm
  show binary ev K .add _ _ [] = _
  unfold binary
  simp only [h', if_true]

end

/-! ## 4. `out=` -/

/-- the ufuncs whose value is a vector COMPUTED by a method -/
def Ufunc.vectorValued : Ufunc → Bool
  | .add | .subtract | .multiply | .negative | .true_divide => true
  | _ => false

def withFills (r : Route) (n : Nat) : Route :=
  match r with
  | .call m i a _ => .call m i a n
  | r => r

theorem c05u_out_chain (e : Route) (u : Ufunc) (ins : List OpK) (n : Nat) (hn : n ≠ 0) (hd : ∀ k ∈ ins, k.dimOk = true)
    (ha : acceptSpec u ins = true) :
    chain e u ins n =
      if u.vectorValued then withFills (chain e u ins 0) n
      else if u == .positive then .identity 0
      else if u == .power then e
      else .typeError := by
  have hn' : (n != 0) = true := by simpa using hn
  unfold chain
  split <;> simp only [acceptSpec, Bool.and_eq_true, Bool.not_eq_true'] at ha
  -- as in `chain_accepted`: `h_4` is the alternative `.multiply, [a, b]` of `chain`, `h_15` the default `_, _`
  case h_4 a b => cases h1 : a.isVec <;> cases h2 : b.isVec <;> simp_all [Ufunc.vectorValued, withFills]
  case h_15 => cases ha
  all_goals
    have hnm := normOf_dimOf _ (hd _ List.mem_cons_self)
    simp [ha, hn', hnm, Ufunc.vectorValued, withFills]

/-- **`out=`, object / NumPy / SymPy backends**: with every output a vector of the table's own backend, an accepted request

* of a vector-valued ufunc (`add subtract multiply negative true_divide`): the same call, EVERY output overwritten with the result;
* `positive`: returns the input, the outputs are silently left untouched;
* of a scalar-valued ufunc (`absolute square sqrt cbrt matmul equal not_equal`): `TypeError`;
* `power`: the value is computed and then cannot be stored — `TypeError` (object, SymPy) / `IndexError` (NumPy). -/
theorem c05u_out (b : Backend) (hb : b ≠ .ak) (u : Ufunc) (ins outs : List OpK) (hh : handlerBe ins = some b)
    (ho : outs ≠ []) (hob : ∀ o ∈ outs, o.isBe b = true) (hd : ∀ k ∈ ins, k.dimOk = true) (ha : acceptSpec u ins = true) :
    tableOf b u ins outs =
      if u.vectorValued then withFills (tableOf b u ins []) outs.length
      else if u == .positive then .identity 0
      else if u == .power then powOutOf b
      else .typeError := by
  have hany : outs.any (fun o => !o.isBe b) = false := by
    rw [List.any_eq_false]; intro o ho'; simp [hob o ho']
  have hbb : (b != b) = false := by simp
  rw [c05u_chain_closed b hb, c05u_chain_closed b hb]
  simp only [guard, hh, hbb, hany, Bool.false_eq_true, if_false, List.any_nil, List.length_nil]
  exact c05u_out_chain _ u ins outs.length (by simpa using ho) hd ha

/-- an output that is not a vector of the table's backend: `TypeError`, whatever the ufunc (even an unsupported one) -/
theorem c05u_out_wrong_class (b : Backend) (hb : b ≠ .ak) (u : Ufunc) (ins outs : List OpK) (hh : handlerBe ins = some b)
    (o : OpK) (ho : o ∈ outs) (hob : o.isBe b = false) : tableOf b u ins outs = .typeError := by
  have hany : outs.any (fun o => !o.isBe b) = true := List.any_eq_true.2 ⟨o, ho, by simp [hob]⟩
  have hbb : (b != b) = false := by simp
  rw [c05u_chain_closed b hb]
  simp only [guard, hh, hbb, hany, Bool.false_eq_true, if_false, if_true]

/-- **`out=`, Awkward backend**: always declined (`NotImplemented`, so `TypeError` for the caller) — also `v += w` -/
theorem c05u_out_ak (u : Ufunc) (ins outs : List OpK) (h : outs ≠ []) : tableOf .ak u ins outs = .notImplemented := by
  unfold tableOf routeAk routeAkWith
  cases outs with
  | nil => exact absurd rfl h
  | cons o os => simp

/-- SURPRISE: `numpy.positive(v, out=w)` returns `v` and never writes `w` (all three chains) -/
theorem c05u_out_positive_ignored (b : Backend) (hb : b ≠ .ak) (d : Nat) (m : Bool) (o : OpK) (ho : o.isBe b = true) :
    tableOf b .positive [.vec b d m] [o] = .identity 0 ∧ (tableOf b .positive [.vec b d m] [o]).fills = 0 := by
  have hh : handlerBe [OpK.vec b d m] = some b := by cases b <;> rfl
  have : tableOf b .positive [.vec b d m] [o] = .identity 0 := by
    rw [c05u_chain_closed b hb, guard, hh]
    simp [ho, chain, OpK.isVec]
  rw [this]; exact ⟨rfl, rfl⟩

/-! ## 5. deferral to the higher-priority backend -/

/-- a chain asked about operands whose handler is ANOTHER backend (higher priority: NumPy / SymPy / Awkward operand present; or
lower: the table's own backend only among the outputs) answers `NotImplemented` — numpy.py L914-916 and its two siblings -/
theorem c05u_defer_lower (b : Backend) (hb : b ≠ .ak) (u : Ufunc) (ins outs : List OpK) (h : Backend)
    (hh : handlerBe ins = some h) (hne : h ≠ b) : tableOf b u ins outs = .notImplemented := by
  rw [c05u_chain_closed b hb]
  have : (h != b) = true := by simpa using hne
  simp only [guard, hh, this, if_true]

private theorem find_first (T : Backend → Route) (h : Backend) : ∀ (xs : List Backend),
    (∀ b ∈ xs, b ≠ h → T b = .notImplemented) →
    (xs.map T).find? (· != .notImplemented) = if h ∈ xs ∧ T h ≠ .notImplemented then some (T h) else none := by
  intro xs
  induction xs with
  | nil => intro _; simp
  | cons x xs ih =>
    intro hall
    have ih' := ih (fun b hb hne => hall b (List.mem_cons_of_mem _ hb) hne)
    by_cases hx : x = h
    · subst hx
      by_cases ht : T x = .notImplemented
      · simp [ht] at ih' ⊢
        simpa [ht] using ih'
      · simp [ht]
    · have hT : T x = .notImplemented := hall x (List.mem_cons_self ..) hx
      have hx' : ¬ h = x := fun e => hx e.symm
      simp only [List.map_cons, List.find?, hT, bne_self_eq_false, ih', List.mem_cons, hx', false_or]

private theorem mem_be_of_any (ins : List OpK) (b : Backend) (hb : ins.any (·.isBe b) = true) : b ∈ ins.filterMap OpK.be? := by
  obtain ⟨k, hk, hkb⟩ := List.any_eq_true.1 hb
  rcases k with ⟨b', d, m⟩ | _ | _ <;> simp [OpK.isBe] at hkb
  subst hkb
  exact List.mem_filterMap.2 ⟨_, hk, rfl⟩

private theorem ak_mem_handler (ins : List OpK) (h : Backend.ak ∈ ins.filterMap OpK.be?) : handlerBe ins = some .ak := by
  obtain ⟨k, hk, hkb⟩ := List.mem_filterMap.1 h
  have : ins.any (·.isBe .ak) = true := by
    refine List.any_eq_true.2 ⟨k, hk, ?_⟩
    rcases k with ⟨b', d, m⟩ | _ | _ <;> simp [OpK.be?] at hkb
    subst hkb; rfl
  unfold handlerBe; simp [this]

/-- **NumPy's protocol = "the highest-priority operand decides"**: with at least one vector among the inputs, asking every
operand (inputs then outputs) in turn and taking the first answer other than `NotImplemented` gives exactly the answer of the
table of the HANDLER's backend (`TypeError` when that one declines too): every other table declines. -/
theorem c05u_defer (u : Ufunc) (ins outs : List OpK) (h : Backend) (hh : handlerBe ins = some h) :
    numpyDispatch u ins outs = (tableOf h u ins outs).surface ∧ numpyDispatch u ins outs = route u ins outs := by
  have hmem : h ∈ (ins ++ outs).filterMap OpK.be? := by
    rw [List.filterMap_append]; exact List.mem_append_left _ (mem_be_of_any ins h (handlerBe_any ins h hh))
  have hall : ∀ b ∈ (ins ++ outs).filterMap OpK.be?, b ≠ h → tableOf b u ins outs = .notImplemented := by
    intro b hb hne
    by_cases hbak : b = .ak
    · subst hbak
      refine c05u_out_ak u ins outs ?_
      intro ho
      subst ho
      rw [List.append_nil] at hb
      have := ak_mem_handler ins hb
      rw [hh] at this
      exact hne (Option.some.inj this).symm
    · exact c05u_defer_lower b hbak u ins outs h hh (fun e => hne e.symm)
  have hne : ((ins ++ outs).filterMap OpK.be?).isEmpty = false := by
    cases hq : (ins ++ outs).filterMap OpK.be? with
    | nil => rw [hq] at hmem; simp at hmem
    | cons x xs => rfl
  have hnd : numpyDispatch u ins outs = (tableOf h u ins outs).surface := by
    unfold numpyDispatch
    simp only [hne, Bool.false_eq_true, if_false]
    rw [find_first (fun b => tableOf b u ins outs) h _ hall]
    by_cases ht : tableOf h u ins outs = .notImplemented
    · simp [ht, Route.surface]
    · simp only [hmem, ht, ne_eq, not_false_eq_true, and_self, if_true]
      cases hq : tableOf h u ins outs <;> first | rfl | exact absurd hq ht
  refine ⟨hnd, ?_⟩
  rw [hnd]; unfold route; rw [hh]

/-- with operands of two backends: the lower one declines, the higher one answers (here NumPy array + object, both orders) -/
example : tableOf .obj .add [.vec .obj 3 false, .vec .np 3 true] [] = .notImplemented ∧
    tableOf .np .add [.vec .obj 3 false, .vec .np 3 true] [] = .call .add 0 [.input 1] 0 ∧
    numpyDispatch .add [.vec .obj 3 false, .vec .np 3 true] [] = .call .add 0 [.input 1] 0 ∧
    numpyDispatch .add [.vec .np 3 true, .vec .obj 3 false] [] = .call .add 0 [.input 1] 0 := by decide

/-! ## 6. completeness of the Awkward key table -/

theorem elKind_dimOk (e : KeyEl) (h : e.regOk = true) : (elKind e).dimOk = true := by
  rcases e with ⟨m, d⟩ | d | _ | _ <;> first | exact h | rfl

/-- **which keys are registered**: `(u, sig)` is a key of the registry iff `sig` is made of record names and object classes of
dimension 2-4 and `Real`, contains a record name, and has a shape the chains accept -/
theorem akFind_isSome (u : Ufunc) (sig : List KeyEl) :
    (akFind u sig).isSome = (sig.all KeyEl.regOk && sig.any KeyEl.isName && acceptSpec u (sig.map elKind)) := by
  rw [akFind_eq_reg, akReg]
  cases hr : sig.all KeyEl.regOk with
  | false => rfl
  | true =>
    have hd : ∀ k ∈ sig.map elKind, k.dimOk = true := fun k hk => by
      obtain ⟨e, he, rfl⟩ := List.mem_map.1 hk
      exact elKind_dimOk e (List.all_eq_true.1 hr e he)
    rw [chain_accepted _ u _ hd]
    cases sig.any KeyEl.isName <;> cases acceptSpec u (sig.map elKind) <;> rfl

theorem akFind_of_mem (e : AkEntry) (he : e ∈ akTable) : (akFind e.1 e.2.1).isSome = true := by
  rw [akFind, Option.isSome_map, List.find?_isSome]
  exact ⟨e, he, by simp⟩

/-- every unary ufunc the chains accept is registered for all 6 record names -/
theorem c05u_ak_complete_unary : ∀ u ∈ [Ufunc.absolute, .negative, .positive, .square, .sqrt, .cbrt], ∀ n ∈ recNames,
    (akFind u [n]).isSome = true := by
  simp only [akFind_isSome]
  decide +kernel

/-- every vector-vector ufunc the chains accept is registered for all 36 pairings of record names, and for a record name paired
with an object class on either side (36 more pairings); object-object is left to the object backend -/
theorem c05u_ak_complete_binary : ∀ u ∈ [Ufunc.add, .subtract, .matmul, .equal, .not_equal], ∀ l ∈ binOperands, ∀ r ∈ binOperands,
    (akFind u [l, r]).isSome = (l.isName || r.isName) := by
  simp only [akFind_isSome]
  decide +kernel

/-- `multiply` (both orders), `true_divide`, `power` with `numbers.Real` are registered for all 6 record names — and
`Real / vector`, `Real ** vector` are not -/
theorem c05u_ak_complete_real : ∀ n ∈ recNames,
    (akFind .multiply [n, .real]).isSome = true ∧ (akFind .multiply [.real, n]).isSome = true ∧
    (akFind .true_divide [n, .real]).isSome = true ∧ (akFind .power [n, .real]).isSome = true ∧
    (akFind .true_divide [.real, n]).isSome = false ∧ (akFind .power [.real, n]).isSome = false := by
  simp only [akFind_isSome]
  decide +kernel

/-- nothing ELSE is registered: every key has one of the accepted shapes (record names and object classes are vectors,
`Real` is not), 420 keys in all, no key twice -/
theorem c05u_ak_nothing_else :
    (∀ e ∈ akTable, acceptSpec e.1 (e.2.1.map fun k => match k with
        | .name m d => OpK.vec .ak d m | .objCls d => .vec .obj d false | _ => .scalar) = true) ∧
    akKeys.length = 420 ∧ akKeys.Nodup := by
  refine ⟨fun e he => ?_, akKeys_length, akKeys_nodup⟩
  -- the statement spells `elKind` out
  have h := akFind_of_mem e he
  rw [akFind_isSome, Bool.and_eq_true] at h
  exact h.2

/-! ## 7. the Python operators -/

/-- `x <op> y` with a vector on the left is `numpy.<ufunc>(x, y)` — the operands in WRITTEN order — for every operator other than
`**` and the in-place forms, every backend -/
theorem c05u_pyop_is_ufunc (op : PyOp) (hi : op.inplace = false) (hu : op.unary = false) (hp : op ≠ .pow)
    (b : Backend) (d : Nat) (m : Bool) (y : OpK) :
    pyRoute op [.vec b d m, y] = numpyDispatch op.ufunc [.vec b d m, y] [] := by
  unfold pyRoute
  simp [hi, hu, hp]

/-- `abs(x)`, `-x`, `+x` are `numpy.absolute / negative / positive (x)` -/
theorem c05u_pyop_unary (op : PyOp) (hu : op.unary = true) (b : Backend) (d : Nat) (m : Bool) :
    pyRoute op [.vec b d m] = numpyDispatch op.ufunc [.vec b d m] [] := by
  unfold pyRoute
  simp [hu, OpK.isVec]

/-- `k <op> v` with a number on the left reaches the REFLECTED method of the vector, which keeps the written order:
`k * v` is `numpy.multiply(k, v)`, hence `v.scale(k)`; `k - v`, `k / v`, `k + v` are refused by the tables; `k ** v`, `k @ v`
have no reflected method on the object / SymPy classes and are refused by the tables of the others -/
theorem c05u_pyop_reflected (b : Backend) (d : Nat) (m : Bool) (hd : (2 ≤ d && d ≤ 4) = true) :
    pyRoute .mul [.scalar, .vec b d m] = .call .scale 1 [.input 0] 0 ∧
    pyRoute .sub [.scalar, .vec b d m] = .typeError ∧
    pyRoute .truediv [.scalar, .vec b d m] = .typeError ∧
    pyRoute .add [.scalar, .vec b d m] = .typeError ∧
    pyRoute .pow [.scalar, .vec b d m] = .typeError ∧
    pyRoute .matmul [.scalar, .vec b d m] = .typeError := by
  cases b
  · exact ⟨rfl, rfl, rfl, rfl, rfl, rfl⟩
  · exact ⟨rfl, rfl, rfl, rfl, rfl, rfl⟩
  · exact ⟨rfl, rfl, rfl, rfl, rfl, rfl⟩
  · -- Awkward arrays reflect every operator to its ufunc (`NDArrayOperatorsMixin`); the registry decides.  Not `rfl`: the
    -- lookup does not compute on a variable dimension.
    have hk : ∀ k ∈ [OpK.scalar, .vec .ak d m], k.dimOk = true := dims_ok rfl (dims_ok hd)
    have hp : ∀ op : PyOp, op.unary = false → op.inplace = false →
        pyRoute op [.scalar, .vec .ak d m] = route op.ufunc [.scalar, .vec .ak d m] [] := fun op hu hi => by
      unfold pyRoute
      simp only [hu, hi, hasReflected, Bool.false_eq_true, if_false, Bool.not_false, Bool.true_or, if_true]
      exact (c05u_defer op.ufunc _ [] .ak rfl).2
    have hr : ∀ u, acceptSpec u [.scalar, .vec .ak d m] = false → route u [.scalar, .vec .ak d m] [] = .typeError :=
      fun u ha => route_refused u _ hk (fun h => nomatch h) ha rfl
    exact ⟨(hp .mul rfl rfl).trans (route_accept .multiply _ hk rfl rfl rfl (by decide)), (hp .sub rfl rfl).trans (hr _ rfl),
      (hp .truediv rfl rfl).trans (hr _ rfl), (hp .add rfl rfl).trans (hr _ rfl), (hp .pow rfl rfl).trans (hr _ rfl),
      (hp .matmul rfl rfl).trans (hr _ rfl)⟩

/-- DIFFERENCE 8 (`**`): `VectorObject.__pow__` is `numpy.square(self) if other == 2 else numpy.power(self, other)`,
`VectorSympy.__pow__` is `numpy.power(self, other)` always, NumPy arrays go through `ndarray.__pow__` (`square` for the PYTHON
number 2 only), Awkward arrays through `numpy.power` and the registered `expo == 2` test -/
theorem c05u_pyop_pow_differs :
    pyRoute .pow [.vec .obj 4 false, .scalar] = .ifTwo 1 false (.valueOf .tau2 0) (.valuePow .tau 0 (.input 1)) ∧
    pyRoute .pow [.vec .sym 4 false, .scalar] = .valuePow .tau 0 (.input 1) ∧
    pyRoute .pow [.vec .np 4 false, .scalar] = .ifTwo 1 true (.valueOf .tau2 0) (.valuePow .tau 0 (.input 1)) ∧
    pyRoute .pow [.vec .ak 4 false, .scalar] = .ifTwo 1 false (.valueOf .tau2 0) (.valuePow .tau 0 (.input 1)) ∧
    pyRoute .pow [.vec .obj 4 false, .array] = .valueError ∧
    pyRoute .pow [.vec .np 4 false, .array] = .valuePow .tau 0 (.input 1) := by decide +kernel

/-- the in-place forms: object / SymPy overwrite `self` with the result (`_replace_data`), which must be a vector of the same
backend; NumPy arrays are `ufunc(x, y, out=(x,))`; Awkward arrays are immutable (`out=` refused) -/
theorem c05u_pyop_inplace :
    pyRoute .iadd [.vec .obj 2 false, .vec .obj 2 true] = .call .add 0 [.input 1] 1 ∧
    pyRoute .iadd [.vec .obj 2 false, .vec .np 2 true] = .typeError ∧
    pyRoute .imul [.vec .sym 3 false, .scalar] = .call .scale 0 [.input 1] 1 ∧
    pyRoute .itruediv [.vec .np 3 false, .scalar] = .call .scale 0 [.inv 1] 1 ∧
    pyRoute .isub [.vec .np 2 false, .vec .obj 2 true] = .call .subtract 0 [.input 1] 1 ∧
    pyRoute .iadd [.vec .ak 2 false, .vec .ak 2 true] = .typeError ∧
    pyRoute .imul [.scalar, .vec .obj 2 false] = .call .scale 1 [.input 0] 0 := by decide +kernel

/-! ### summary of section 3, and the handler -/

section
variable {S B : Type} (ev : Ev S B) (K : Consts S) (A : Arith S)

/-- **every accepted route is the operator the ufunc stands for** — the one-vector requests, all backends, all `S`, `ev` -/
theorem c05u_route_is_operator (v : Vec S) (k : S) :
    evalRoute ev K A (route .absolute [kv v] []) [.v v] = operator ev K A "abs" v [] ∧
    evalRoute ev K A (route .negative [kv v] []) [.v v] = operator ev K A "neg" v [] ∧
    evalRoute ev K A (route .positive [kv v] []) [.v v] = operator ev K A "pos" v [] ∧
    evalRoute ev K A (route .square [kv v] []) [.v v] = operator ev K A "square" v [] ∧
    evalRoute ev K A (route .sqrt [kv v] []) [.v v] = operator ev K A "sqrt" v [] ∧
    evalRoute ev K A (route .cbrt [kv v] []) [.v v] = operator ev K A "cbrt" v [] ∧
    evalRoute ev K A (route .multiply [kv v, .scalar] []) [.v v, .sc k] = operator ev K A "mul" v [.sc k] ∧
    evalRoute ev K A (route .multiply [.scalar, kv v] []) [.sc k, .v v] = operator ev K A "mul" v [.sc k] ∧
    evalRoute ev K A (route .true_divide [kv v, .scalar] []) [.v v, .sc k] = operator ev K A "truediv" v [.sc k] ∧
    ((v.ty.be = .ak ∨ A.isTwo k = false) →
      evalRoute ev K A (route .power [kv v, .scalar] []) [.v v, .sc k] = operator ev K A "pow" v [.sc k]) := by
  refine ⟨c05u_absolute ev K A v, c05u_negative ev K A v, c05u_positive ev K A v, c05u_square ev K A v, c05u_sqrt ev K A v,
    c05u_cbrt ev K A v, c05u_multiply_vk ev K A v k, (c05u_multiply_kv ev K A v k).1, c05u_true_divide ev K A v k, ?_⟩
  intro h
  by_cases hb : v.ty.be = .ak
  · exact c05u_power_ak ev K A v k hb
  · rcases h with h | h
    · exact absurd h hb
    · exact (c05u_power_chain ev K A v k hb).2 h

/-- … and the two-vector requests (operands as the answering table sees them: `seenV`, the identity unless Awkward answers and
the operand is a NumPy vector array) -/
theorem c05u_route_is_operator_vv (v w : Vec S) (hs : okSym [kv v, kv w] = true) :
    let ks := [kv v, kv w]
    let v' := seenV ks v
    let w' := seenV ks w
    evalRoute ev K A (route .add ks []) [.v v', .v w'] = operator ev K A "add" v' [.v w'] ∧
    evalRoute ev K A (route .subtract ks []) [.v v', .v w'] = operator ev K A "sub" v' [.v w'] ∧
    evalRoute ev K A (route .matmul ks []) [.v v', .v w'] = operator ev K A "matmul" v' [.v w'] ∧
    evalRoute ev K A (route .equal ks []) [.v v', .v w'] = operator ev K A "eq" v' [.v w'] ∧
    evalRoute ev K A (route .not_equal ks []) [.v v', .v w'] = operator ev K A "ne" v' [.v w'] :=
  ⟨c05u_add ev K A v w hs, c05u_subtract ev K A v w hs, c05u_matmul ev K A v w hs, c05u_equal ev K A v w hs,
   c05u_not_equal ev K A v w hs⟩

/-- the handler of the tables (`handlerBe`, on kinds) is the backend of the handler `Glue/Core.lean` uses for the result
(`handlerOf`, on values): one and two vectors -/
theorem c05u_handler_is_handlerOf (v w : Vec S) :
    (handlerOf [v]).map (·.ty.be) = handlerBe [kv v] ∧ (handlerOf [v, w]).map (·.ty.be) = handlerBe [kv v, kv w] := by
  obtain ⟨⟨be1, mom1, az1, lon1, tmp1⟩, c1⟩ := v
  obtain ⟨⟨be2, mom2, az2, lon2, tmp2⟩, c2⟩ := w
  constructor
  · cases be1 <;> rfl
  · cases be1 <;> cases be2 <;> rfl

end

/-! ## 8. the two value-level differences, evaluated on a toy compute layer -/

def resScalar {S B : Type} : Except Err (Res S B) → Option S
  | .ok (.scalar s) => some s
  | _ => none

def resMom {S B : Type} : Except Err (Res S B) → Option Bool
  | .ok (.vec v) => some v.ty.mom
  | _ => none

open VK in
/-- a toy compute layer: `tau2 = -9`, `tau = -3` (a spacelike vector: `tau = -sqrt(|tau2|)`), `add` of two planar vectors -/
def wEv : Ev Int Bool := fun m _ _ =>
  match m with
  | .lorentz_tau2 => some (.vals [-9], .float)
  | .lorentz_tau => some (.vals [-3], .float)
  | .planar_add => some (.vals [0, 0], .vec [.az .xy])
  | _ => none
def wA : Arith Int := { inv := id, pow := fun a b => a ^ b.toNat, quarter := 0, sixth := 0, isTwo := fun p => p == 2 }
def wK : Consts Int := { negOne := -1, zeroF := 0, zeroI := 0, tol := 0, rtol := 0, atol := 0, bFalse := 0 }
def wV (b : Backend) : Vec Int := ⟨{ be := b, mom := false, az := .xy, lon := some .z, tmp := some .t }, [3, 0, 0, 0]⟩
def wP (b : Backend) (mom : Bool) : Vec Int := ⟨{ be := b, mom := mom, az := .xy, lon := none, tmp := none }, [1, 2]⟩

/-- DIFFERENCE 2, evaluated: with `tau2 = -9`, `tau = -3` the ufunc `numpy.power(v, 2)` of the object / NumPy / SymPy tables is
`tau ** 2 = 9`, while the operator `v ** 2` it is documented to stand for (`operator "pow"`: `tau2` for the exponent 2) — and the
Awkward table — give `-9` -/
theorem c05u_diff_power_two_value :
    wA.isTwo 2 = true ∧
    resScalar (operator wEv wK wA "pow" (wV .obj) [.sc 2]) = some (-9) ∧
    resScalar (evalRoute wEv wK wA (route .power [kv (wV .obj), .scalar] []) [.v (wV .obj), .sc 2]) = some 9 ∧
    resScalar (evalRoute wEv wK wA (route .power [kv (wV .np), .scalar] []) [.v (wV .np), .sc 2]) = some 9 ∧
    resScalar (evalRoute wEv wK wA (route .power [kv (wV .sym), .scalar] []) [.v (wV .sym), .sc 2]) = some 9 ∧
    resScalar (evalRoute wEv wK wA (route .power [kv (wV .ak), .scalar] []) [.v (wV .ak), .sc 2]) = some (-9) := by
  decide +kernel

/-- DIFFERENCE 7, evaluated (known finding `operator-flavor-awkward-numpy`): `awkward_generic + numpy_momentum` through the ufunc
is a GENERIC vector (the NumPy operand was cast), through the method `add` it is a MOMENTUM vector; with an object or Awkward
momentum partner both agree -/
theorem c05u_diff_ak_cast_flavor_value :
    resMom (operator wEv wK wA "add" (wP .ak false) [.v (wP .np true)]) = some true ∧
    resMom (evalRoute wEv wK wA (route .add [kv (wP .ak false), kv (wP .np true)] [])
      [.v (seenV [kv (wP .ak false), kv (wP .np true)] (wP .ak false)),
       .v (seenV [kv (wP .ak false), kv (wP .np true)] (wP .np true))]) = some false ∧
    resMom (evalRoute wEv wK wA (route .add [kv (wP .ak false), kv (wP .obj true)] [])
      [.v (seenV [kv (wP .ak false), kv (wP .obj true)] (wP .ak false)),
       .v (seenV [kv (wP .ak false), kv (wP .obj true)] (wP .obj true))]) = some true := by
  decide +kernel

end VU
