/-
C17 — reductions (`numpy.sum` / `ak.sum`, `numpy.count_nonzero` / `ak.count_nonzero`) of vector arrays are
component-wise Cartesian reductions.

How the real code reduces (src/vector/backends/numpy.py:66-113, src/vector/backends/awkward.py:2177-2233):

* `_reduce_sum(a, axis, keepdims)` builds `fields` with
    `E|t  = numpy.sum(a.t, axis)`   if `a` is Lorentz,
    `pz|z = numpy.sum(a.z, axis)`   if `a` is Spatial,
    `px|x = numpy.sum(a.x, axis)`, `py|y = numpy.sum(a.y, axis)`,
  where `a.x, a.y, a.z, a.t` are the ACCESSORS (`_compute.planar.x/y`, `_compute.spatial.z`, `_compute.lorentz.t`
  dispatched on the storage of `a`), and returns `array(fields)` (numpy; momentum names are kept iff `a` is a
  `Momentum`, otherwise renamed through `_repr_momentum_to_generic`) resp. `ak.zip(fields, with_name = record name of
  the operand)` (awkward).  So the result is ALWAYS stored Cartesian `(x, y[, z[, t]])` and has the flavor of the
  operand.
* `_reduce_count_nonzero` computes `is_nonzero = a.rho2 != 0`, then `logical_or(is_nonzero, a.z != 0)` if Spatial,
  then `logical_or(is_nonzero, a.t2 != 0)` if Lorentz, and counts the `True`s (`numpy.count_nonzero(is_nonzero, axis)`).

Model: the storage of an array is ONE key (tuple) shared by all its elements, the elements along the reduced axis
are a `List` of raw coordinate tuples; the accessors are the generated `planar_x.eval`, `planar_y.eval`,
`spatial_z.eval`, `lorentz_t.eval`, `planar_rho2.eval`, `lorentz_t2.eval`.

Remark (flavor): `reduceSum2/3/4` below return the operand's `mom` flag unchanged together with the Cartesian keys; this
is by construction of both `_reduce_sum`s (see above), there is nothing to prove beyond `rfl`.
-/
import VectorModel.Spec.Basic
import VectorModel.Refine.Planar
import VectorModel.Refine.SpatialZ
import VectorModel.Refine.LorentzBin
import VectorModel.Gen.Real.planar_x
import VectorModel.Gen.Real.planar_y
import VectorModel.Gen.Real.planar_rho2
import VectorModel.Gen.Real.spatial_z
import VectorModel.Gen.Real.lorentz_t
import VectorModel.Gen.Real.lorentz_t2
import Mathlib.Tactic.Linarith
import Mathlib.Tactic.NormNum

namespace VR
open VK Spec Real

/-! ### the model of the reducers -/

/-- `_reduce_sum` on a 2D array stored with key `k`: the pair of column sums `(Σ a.x, Σ a.y)` -/
noncomputable def sum2 (k : Az) (vs : List (ℝ × ℝ)) : ℝ × ℝ :=
  ((vs.map fun v => planar_x.eval k v.1 v.2).sum,
   (vs.map fun v => planar_y.eval k v.1 v.2).sum)

/-- `_reduce_sum` on a 3D array: `(Σ a.x, Σ a.y, Σ a.z)` -/
noncomputable def sum3 (k0 : Az) (k1 : Lon) (vs : List (ℝ × ℝ × ℝ)) : ℝ × ℝ × ℝ :=
  ((vs.map fun v => planar_x.eval k0 v.1 v.2.1).sum,
   (vs.map fun v => planar_y.eval k0 v.1 v.2.1).sum,
   (vs.map fun v => spatial_z.eval k0 k1 v.1 v.2.1 v.2.2).sum)

/-- `_reduce_sum` on a 4D array: `(Σ a.x, Σ a.y, Σ a.z, Σ a.t)` -/
noncomputable def sum4 (k0 : Az) (k1 : Lon) (k2 : Tmp) (vs : List (ℝ × ℝ × ℝ × ℝ)) : ℝ × ℝ × ℝ × ℝ :=
  ((vs.map fun v => planar_x.eval k0 v.1 v.2.1).sum,
   (vs.map fun v => planar_y.eval k0 v.1 v.2.1).sum,
   (vs.map fun v => spatial_z.eval k0 k1 v.1 v.2.1 v.2.2.1).sum,
   (vs.map fun v => lorentz_t.eval k0 k1 k2 v.1 v.2.1 v.2.2.1 v.2.2.2).sum)

/-- the whole reducer result: flavor flag of the operand, Cartesian storage keys, summed columns -/
noncomputable def reduceSum2 (mom : Bool) (k : Az) (vs : List (ℝ × ℝ)) : Bool × Az × (ℝ × ℝ) :=
  (mom, .xy, sum2 k vs)
noncomputable def reduceSum3 (mom : Bool) (k0 : Az) (k1 : Lon) (vs : List (ℝ × ℝ × ℝ)) :
    Bool × (Az × Lon) × (ℝ × ℝ × ℝ) :=
  (mom, (.xy, .z), sum3 k0 k1 vs)
noncomputable def reduceSum4 (mom : Bool) (k0 : Az) (k1 : Lon) (k2 : Tmp) (vs : List (ℝ × ℝ × ℝ × ℝ)) :
    Bool × (Az × Lon × Tmp) × (ℝ × ℝ × ℝ × ℝ) :=
  (mom, (.xy, .z, .t), sum4 k0 k1 k2 vs)

/-- `is_nonzero` of `_reduce_count_nonzero`, 2D: `a.rho2 != 0` -/
def nonzero2 (k : Az) (a b : ℝ) : Prop := planar_rho2.eval k a b ≠ 0
/-- 3D: `logical_or(a.rho2 != 0, a.z != 0)` -/
def nonzero3 (k0 : Az) (k1 : Lon) (a b c : ℝ) : Prop :=
  planar_rho2.eval k0 a b ≠ 0 ∨ spatial_z.eval k0 k1 a b c ≠ 0
/-- 4D: `logical_or(logical_or(a.rho2 != 0, a.z != 0), a.t2 != 0)` -/
def nonzero4 (k0 : Az) (k1 : Lon) (k2 : Tmp) (a b c d : ℝ) : Prop :=
  (planar_rho2.eval k0 a b ≠ 0 ∨ spatial_z.eval k0 k1 a b c ≠ 0) ∨ lorentz_t2.eval k0 k1 k2 a b c d ≠ 0

-- `open Classical in` stands on each `countNonzeroN` definition and theorem separately.  A statement that mentions
-- `decide (nonzeroN …)` or `decide (cartN … ≠ 0)` without it elaborates another `Decidable` instance, and `rw` with the
-- theorems below then fails to match.
open Classical in
/-- `numpy.count_nonzero(is_nonzero)` -/
noncomputable def countNonzero2 (k : Az) (vs : List (ℝ × ℝ)) : ℕ :=
  (vs.filter fun v => decide (nonzero2 k v.1 v.2)).length
open Classical in
noncomputable def countNonzero3 (k0 : Az) (k1 : Lon) (vs : List (ℝ × ℝ × ℝ)) : ℕ :=
  (vs.filter fun v => decide (nonzero3 k0 k1 v.1 v.2.1 v.2.2)).length
open Classical in
noncomputable def countNonzero4 (k0 : Az) (k1 : Lon) (k2 : Tmp) (vs : List (ℝ × ℝ × ℝ × ℝ)) : ℕ :=
  (vs.filter fun v => decide (nonzero4 k0 k1 k2 v.1 v.2.1 v.2.2.1 v.2.2.2)).length

/-- per-element side conditions of the 4D accessors: `z` divides by `tan θ`, `t` (from τ) by `sin² θ`, `0 ≤ τ` -/
def Elem4OK (k1 : Lon) (k2 : Tmp) (v : ℝ × ℝ × ℝ × ℝ) : Prop :=
  TanOK k1 v.2.2.1 ∧ SinOK k1 v.2.2.1 ∧ CanonTmp k2 v.2.2.2

theorem c17_elem4OK_of_canon {k0 : Az} {k1 : Lon} {k2 : Tmp} {v : ℝ × ℝ × ℝ × ℝ}
    (h : Canon4 k0 k1 k2 v.1 v.2.1 v.2.2.1 v.2.2.2) (ht : TanOK k1 v.2.2.1) : Elem4OK k1 k2 v :=
  ⟨ht, Spec.SinOK_of_canonLon h.1.2, h.2⟩

/-! ### 1. `sum` is the component-wise sum of the Cartesian denotations -/

theorem c17_sum2_nil (k : Az) : sum2 k [] = (0, 0) := by simp [sum2]
theorem c17_sum3_nil (k0 : Az) (k1 : Lon) : sum3 k0 k1 [] = (0, 0, 0) := by simp [sum3]
theorem c17_sum4_nil (k0 : Az) (k1 : Lon) (k2 : Tmp) : sum4 k0 k1 k2 [] = (0, 0, 0, 0) := by simp [sum4]

theorem c17_sum2_cons (k : Az) (v : ℝ × ℝ) (vs : List (ℝ × ℝ)) :
    sum2 k (v :: vs) = add2 (planar_x.eval k v.1 v.2, planar_y.eval k v.1 v.2) (sum2 k vs) := by
  simp [sum2, add2]
theorem c17_sum3_cons (k0 : Az) (k1 : Lon) (v : ℝ × ℝ × ℝ) (vs : List (ℝ × ℝ × ℝ)) :
    sum3 k0 k1 (v :: vs) =
      add3 (planar_x.eval k0 v.1 v.2.1, planar_y.eval k0 v.1 v.2.1, spatial_z.eval k0 k1 v.1 v.2.1 v.2.2)
        (sum3 k0 k1 vs) := by
  simp [sum3, add3]
theorem c17_sum4_cons (k0 : Az) (k1 : Lon) (k2 : Tmp) (v : ℝ × ℝ × ℝ × ℝ) (vs : List (ℝ × ℝ × ℝ × ℝ)) :
    sum4 k0 k1 k2 (v :: vs) =
      add4 (planar_x.eval k0 v.1 v.2.1, planar_y.eval k0 v.1 v.2.1, spatial_z.eval k0 k1 v.1 v.2.1 v.2.2.1,
            lorentz_t.eval k0 k1 k2 v.1 v.2.1 v.2.2.1 v.2.2.2) (sum4 k0 k1 k2 vs) := by
  simp [sum4, add4]

/-- 2D, every key, no hypotheses: the summed columns are the `add2`-fold of the denotations -/
theorem c17_sum2 (k : Az) (vs : List (ℝ × ℝ)) :
    sum2 k vs = (vs.map fun v => cart2 k v.1 v.2).foldr add2 (0, 0) := by
  induction vs with
  | nil => exact c17_sum2_nil k
  | cons v vs ih =>
    rw [c17_sum2_cons, ih, refine_planar_x, refine_planar_y]; rfl

/-- 3D, every key, `θ ≠ π/2` for every element of a θ-stored array -/
theorem c17_sum3 (k0 : Az) (k1 : Lon) (vs : List (ℝ × ℝ × ℝ)) (h : ∀ v ∈ vs, TanOK k1 v.2.2) :
    sum3 k0 k1 vs = (vs.map fun v => cart3 k0 k1 v.1 v.2.1 v.2.2).foldr add3 (0, 0, 0) := by
  induction vs with
  | nil => exact c17_sum3_nil k0 k1
  | cons v vs ih =>
    rw [c17_sum3_cons, ih (fun w hw => h w (List.mem_cons_of_mem _ hw)), refine_planar_x, refine_planar_y,
      refine_spatial_z _ _ _ _ _ (h v List.mem_cons_self)]
    rfl

/-- 4D, every key, under the per-element side conditions -/
theorem c17_sum4 (k0 : Az) (k1 : Lon) (k2 : Tmp) (vs : List (ℝ × ℝ × ℝ × ℝ)) (h : ∀ v ∈ vs, Elem4OK k1 k2 v) :
    sum4 k0 k1 k2 vs = (vs.map fun v => cart4 k0 k1 k2 v.1 v.2.1 v.2.2.1 v.2.2.2).foldr add4 (0, 0, 0, 0) := by
  induction vs with
  | nil => exact c17_sum4_nil k0 k1 k2
  | cons v vs ih =>
    obtain ⟨h1, h2, h3⟩ := h v List.mem_cons_self
    rw [c17_sum4_cons, ih (fun w hw => h w (List.mem_cons_of_mem _ hw)), refine_planar_x, refine_planar_y,
      refine_spatial_z _ _ _ _ _ h1, lorentz_t_eq_tOf _ _ _ _ _ _ _ h2 h3]
    rfl

theorem c17_sum4_canon (k0 : Az) (k1 : Lon) (k2 : Tmp) (vs : List (ℝ × ℝ × ℝ × ℝ))
    (h : ∀ v ∈ vs, Canon4 k0 k1 k2 v.1 v.2.1 v.2.2.1 v.2.2.2 ∧ TanOK k1 v.2.2.1) :
    sum4 k0 k1 k2 vs = (vs.map fun v => cart4 k0 k1 k2 v.1 v.2.1 v.2.2.1 v.2.2.2).foldr add4 (0, 0, 0, 0) :=
  c17_sum4 k0 k1 k2 vs fun v hv => c17_elem4OK_of_canon (h v hv).1 (h v hv).2

/-- the RESULT vector (Cartesian keys, as returned by the reducer) denotes the sum of the denotations -/
theorem c17_reduceSum2_denotes (mom : Bool) (k : Az) (vs : List (ℝ × ℝ)) :
    let r := reduceSum2 mom k vs
    r.1 = mom ∧ cart2 r.2.1 r.2.2.1 r.2.2.2 = (vs.map fun v => cart2 k v.1 v.2).foldr add2 (0, 0) :=
  ⟨rfl, c17_sum2 k vs⟩
theorem c17_reduceSum3_denotes (mom : Bool) (k0 : Az) (k1 : Lon) (vs : List (ℝ × ℝ × ℝ))
    (h : ∀ v ∈ vs, TanOK k1 v.2.2) :
    let r := reduceSum3 mom k0 k1 vs
    r.1 = mom ∧ cart3 r.2.1.1 r.2.1.2 r.2.2.1 r.2.2.2.1 r.2.2.2.2
      = (vs.map fun v => cart3 k0 k1 v.1 v.2.1 v.2.2).foldr add3 (0, 0, 0) :=
  ⟨rfl, c17_sum3 k0 k1 vs h⟩
theorem c17_reduceSum4_denotes (mom : Bool) (k0 : Az) (k1 : Lon) (k2 : Tmp) (vs : List (ℝ × ℝ × ℝ × ℝ))
    (h : ∀ v ∈ vs, Elem4OK k1 k2 v) :
    let r := reduceSum4 mom k0 k1 k2 vs
    r.1 = mom ∧ cart4 r.2.1.1 r.2.1.2.1 r.2.1.2.2 r.2.2.1 r.2.2.2.1 r.2.2.2.2.1 r.2.2.2.2.2
      = (vs.map fun v => cart4 k0 k1 k2 v.1 v.2.1 v.2.2.1 v.2.2.2).foldr add4 (0, 0, 0, 0) :=
  ⟨rfl, c17_sum4 k0 k1 k2 vs h⟩

/-! ### sums of sums (axis-wise reduction of a 2-D array, then of the result = reduction of everything) -/

theorem c17_sum2_append (k : Az) (vs ws : List (ℝ × ℝ)) :
    sum2 k (vs ++ ws) = add2 (sum2 k vs) (sum2 k ws) := by
  simp [sum2, add2]
theorem c17_sum3_append (k0 : Az) (k1 : Lon) (vs ws : List (ℝ × ℝ × ℝ)) :
    sum3 k0 k1 (vs ++ ws) = add3 (sum3 k0 k1 vs) (sum3 k0 k1 ws) := by
  simp [sum3, add3]
theorem c17_sum4_append (k0 : Az) (k1 : Lon) (k2 : Tmp) (vs ws : List (ℝ × ℝ × ℝ × ℝ)) :
    sum4 k0 k1 k2 (vs ++ ws) = add4 (sum4 k0 k1 k2 vs) (sum4 k0 k1 k2 ws) := by
  simp [sum4, add4]

/-- summing the rows of a jagged/2-D array and then Cartesian-summing the row sums (the row sums are stored `xy`)
is summing all elements -/
theorem c17_sum2_flatten (k : Az) (vss : List (List (ℝ × ℝ))) :
    sum2 .xy (vss.map (sum2 k)) = sum2 k vss.flatten := by
  induction vss with
  | nil => simp [sum2]
  | cons vs vss ih =>
    rw [List.map_cons, c17_sum2_cons, ih, List.flatten_cons, c17_sum2_append]; rfl
theorem c17_sum3_flatten (k0 : Az) (k1 : Lon) (vss : List (List (ℝ × ℝ × ℝ))) :
    sum3 .xy .z (vss.map (sum3 k0 k1)) = sum3 k0 k1 vss.flatten := by
  induction vss with
  | nil => simp [sum3]
  | cons vs vss ih =>
    rw [List.map_cons, c17_sum3_cons, ih, List.flatten_cons, c17_sum3_append]; rfl
theorem c17_sum4_flatten (k0 : Az) (k1 : Lon) (k2 : Tmp) (vss : List (List (ℝ × ℝ × ℝ × ℝ))) :
    sum4 .xy .z .t (vss.map (sum4 k0 k1 k2)) = sum4 k0 k1 k2 vss.flatten := by
  induction vss with
  | nil => simp [sum4]
  | cons vs vss ih =>
    rw [List.map_cons, c17_sum4_cons, ih, List.flatten_cons, c17_sum4_append]; rfl

theorem c17_sum2_perm (k : Az) {vs ws : List (ℝ × ℝ)} (h : vs.Perm ws) : sum2 k vs = sum2 k ws := by
  simp only [sum2, (h.map _).sum_eq]
theorem c17_sum3_perm (k0 : Az) (k1 : Lon) {vs ws : List (ℝ × ℝ × ℝ)} (h : vs.Perm ws) :
    sum3 k0 k1 vs = sum3 k0 k1 ws := by
  simp only [sum3, (h.map _).sum_eq]
theorem c17_sum4_perm (k0 : Az) (k1 : Lon) (k2 : Tmp) {vs ws : List (ℝ × ℝ × ℝ × ℝ)} (h : vs.Perm ws) :
    sum4 k0 k1 k2 vs = sum4 k0 k1 k2 ws := by
  simp only [sum4, (h.map _).sum_eq]

/-- satisfiable: a polar-stored and a θ/τ-stored array -/
example : sum2 .rhophi [(2, 0), (3, π)] = (-1, 0) := by
  rw [c17_sum2]; simp [cart2, xOf, yOf, add2]; norm_num
example : ∀ v ∈ [((3 : ℝ), (4 : ℝ), (1 : ℝ), (2 : ℝ))], Elem4OK .theta .tau v := by
  intro v hv
  rw [List.mem_singleton] at hv; subst hv
  exact ⟨Spec.tanOK_one .theta, Spec.sinOK_one .theta,
    show (0 : ℝ) ≤ 2 by norm_num⟩

/-! ### 2. `count_nonzero` counts the elements that are not the zero vector -/

private theorem sq_add_sq_ne_zero_iff (x y : ℝ) : x ^ 2 + y ^ 2 ≠ 0 ↔ x ≠ 0 ∨ y ≠ 0 := by
  rw [Ne, add_eq_zero_iff_of_nonneg (sq_nonneg x) (sq_nonneg y), sq_eq_zero_iff, sq_eq_zero_iff, not_and_or]

theorem c17_nonzero2_iff (k : Az) (a b : ℝ) : nonzero2 k a b ↔ cart2 k a b ≠ (0, 0) := by
  unfold nonzero2 cart2
  rw [refine_planar_rho2, sq_add_sq_ne_zero_iff]
  simp only [Ne, Prod.mk.injEq, not_and_or]

/-! Hypothesis-free: `is_nonzero` holds exactly when the element's contribution to `sum` (the tuple of accessor values
`(a.x, a.y[, a.z[, a.t]])`) is not zero — for every key and every raw input, including non-representable ones (τ < 0,
θ = π/2): `count_nonzero` and `sum` are coherent with each other. -/

theorem c17_nonzero3_iff_acc (k0 : Az) (k1 : Lon) (a b c : ℝ) :
    nonzero3 k0 k1 a b c ↔
      (planar_x.eval k0 a b, planar_y.eval k0 a b, spatial_z.eval k0 k1 a b c) ≠ (0, 0, 0) := by
  unfold nonzero3
  rw [refine_planar_rho2, refine_planar_x, refine_planar_y, sq_add_sq_ne_zero_iff]
  simp only [Ne, Prod.mk.injEq, not_and_or, or_assoc]

/-- in the generated code `lorentz_t2` is, key by key, the square of `lorentz_t` (temporal `t`), and `lorentz_t` the square
root of `lorentz_t2` (temporal `tau`): the two `rfl`s read this off the generated definitions.  `d_lorentz_t2` is the simp set
of the generated definitions of module `lorentz_t2` (`Gen/Attrs.lean`); unfolded, its `tau` keys end in `max … 0`. -/
private theorem t2_acc (k0 : Az) (k1 : Lon) (k2 : Tmp) (a b c d : ℝ) :
    lorentz_t2.eval k0 k1 k2 a b c d ≠ 0 ↔ lorentz_t.eval k0 k1 k2 a b c d ≠ 0 := by
  cases k2
  · have e : lorentz_t2.eval k0 k1 .t a b c d = lorentz_t.eval k0 k1 .t a b c d ^ 2 := by
      cases k0 <;> cases k1 <;> rfl
    rw [e, Ne, Ne, pow_eq_zero_iff two_ne_zero]
  · have e : lorentz_t.eval k0 k1 .tau a b c d = sqrt (lorentz_t2.eval k0 k1 .tau a b c d) := by
      cases k0 <;> cases k1 <;> rfl
    have h0 : 0 ≤ lorentz_t2.eval k0 k1 .tau a b c d := by
      cases k0 <;> cases k1 <;> simp only [d_lorentz_t2] <;> exact le_max_right _ _
    rw [e, Ne, Ne, sqrt_eq_zero h0]

theorem c17_nonzero4_iff_acc (k0 : Az) (k1 : Lon) (k2 : Tmp) (a b c d : ℝ) :
    nonzero4 k0 k1 k2 a b c d ↔
      (planar_x.eval k0 a b, planar_y.eval k0 a b, spatial_z.eval k0 k1 a b c,
        lorentz_t.eval k0 k1 k2 a b c d) ≠ (0, 0, 0, 0) := by
  unfold nonzero4
  rw [refine_planar_rho2, refine_planar_x, refine_planar_y, t2_acc, sq_add_sq_ne_zero_iff]
  simp only [Ne, Prod.mk.injEq, not_and_or, or_assoc]

/-! On representable storage the accessor values are the denotation. -/

/-- 3D, every key: `rho2 != 0 | z != 0` iff the denotation is not the zero vector (`θ ≠ π/2` for θ storage) -/
theorem c17_nonzero3_iff (k0 : Az) (k1 : Lon) (a b c : ℝ) (h : TanOK k1 c) :
    nonzero3 k0 k1 a b c ↔ cart3 k0 k1 a b c ≠ (0, 0, 0) := by
  rw [c17_nonzero3_iff_acc, refine_planar_x, refine_planar_y, refine_spatial_z _ _ _ _ _ h]
  rfl

/-- 4D, every key: `rho2 != 0 | z != 0 | t2 != 0` iff the denotation is not the zero 4-vector -/
theorem c17_nonzero4_iff (k0 : Az) (k1 : Lon) (k2 : Tmp) (a b c d : ℝ)
    (h : TanOK k1 c) (hs : SinOK k1 c) (hd : CanonTmp k2 d) :
    nonzero4 k0 k1 k2 a b c d ↔ cart4 k0 k1 k2 a b c d ≠ (0, 0, 0, 0) := by
  rw [c17_nonzero4_iff_acc, refine_planar_x, refine_planar_y, refine_spatial_z _ _ _ _ _ h,
    lorentz_t_eq_tOf _ _ _ _ _ _ _ hs hd]
  rfl

theorem c17_nonzero4_iff_canon (k0 : Az) (k1 : Lon) (k2 : Tmp) (a b c d : ℝ)
    (hc : Canon4 k0 k1 k2 a b c d) (h : TanOK k1 c) :
    nonzero4 k0 k1 k2 a b c d ↔ cart4 k0 k1 k2 a b c d ≠ (0, 0, 0, 0) :=
  c17_nonzero4_iff k0 k1 k2 a b c d h (Spec.SinOK_of_canonLon hc.1.2) hc.2

/-! `count_nonzero` = number of elements whose denotation is not the zero vector -/

open Classical in
theorem c17_countNonzero2 (k : Az) (vs : List (ℝ × ℝ)) :
    countNonzero2 k vs = (vs.filter fun v => decide (cart2 k v.1 v.2 ≠ (0, 0))).length := by
  unfold countNonzero2
  congr 1
  apply List.filter_congr
  intro v _
  exact decide_eq_decide.mpr (c17_nonzero2_iff k v.1 v.2)

open Classical in
theorem c17_countNonzero3 (k0 : Az) (k1 : Lon) (vs : List (ℝ × ℝ × ℝ)) (h : ∀ v ∈ vs, TanOK k1 v.2.2) :
    countNonzero3 k0 k1 vs = (vs.filter fun v => decide (cart3 k0 k1 v.1 v.2.1 v.2.2 ≠ (0, 0, 0))).length := by
  unfold countNonzero3
  congr 1
  apply List.filter_congr
  intro v hv
  exact decide_eq_decide.mpr (c17_nonzero3_iff k0 k1 v.1 v.2.1 v.2.2 (h v hv))

open Classical in
theorem c17_countNonzero4 (k0 : Az) (k1 : Lon) (k2 : Tmp) (vs : List (ℝ × ℝ × ℝ × ℝ))
    (h : ∀ v ∈ vs, Elem4OK k1 k2 v) :
    countNonzero4 k0 k1 k2 vs =
      (vs.filter fun v => decide (cart4 k0 k1 k2 v.1 v.2.1 v.2.2.1 v.2.2.2 ≠ (0, 0, 0, 0))).length := by
  unfold countNonzero4
  congr 1
  apply List.filter_congr
  intro v hv
  obtain ⟨h1, h2, h3⟩ := h v hv
  exact decide_eq_decide.mpr (c17_nonzero4_iff k0 k1 k2 v.1 v.2.1 v.2.2.1 v.2.2.2 h1 h2 h3)

theorem c17_countNonzero2_nil (k : Az) : countNonzero2 k [] = 0 := rfl
theorem c17_countNonzero3_nil (k0 : Az) (k1 : Lon) : countNonzero3 k0 k1 [] = 0 := rfl
theorem c17_countNonzero4_nil (k0 : Az) (k1 : Lon) (k2 : Tmp) : countNonzero4 k0 k1 k2 [] = 0 := rfl

theorem c17_countNonzero2_append (k : Az) (vs ws : List (ℝ × ℝ)) :
    countNonzero2 k (vs ++ ws) = countNonzero2 k vs + countNonzero2 k ws := by
  simp [countNonzero2]
theorem c17_countNonzero3_append (k0 : Az) (k1 : Lon) (vs ws : List (ℝ × ℝ × ℝ)) :
    countNonzero3 k0 k1 (vs ++ ws) = countNonzero3 k0 k1 vs + countNonzero3 k0 k1 ws := by
  simp [countNonzero3]
theorem c17_countNonzero4_append (k0 : Az) (k1 : Lon) (k2 : Tmp) (vs ws : List (ℝ × ℝ × ℝ × ℝ)) :
    countNonzero4 k0 k1 k2 (vs ++ ws) = countNonzero4 k0 k1 k2 vs + countNonzero4 k0 k1 k2 ws := by
  simp [countNonzero4]

theorem c17_countNonzero2_le (k : Az) (vs : List (ℝ × ℝ)) : countNonzero2 k vs ≤ vs.length :=
  List.length_filter_le _ _
theorem c17_countNonzero3_le (k0 : Az) (k1 : Lon) (vs : List (ℝ × ℝ × ℝ)) : countNonzero3 k0 k1 vs ≤ vs.length :=
  List.length_filter_le _ _
theorem c17_countNonzero4_le (k0 : Az) (k1 : Lon) (k2 : Tmp) (vs : List (ℝ × ℝ × ℝ × ℝ)) :
    countNonzero4 k0 k1 k2 vs ≤ vs.length :=
  List.length_filter_le _ _

/-- examples: a polar-stored zero (ρ = 0, any φ) is not counted, a τ-stored vector at rest with mass is -/
example : ¬ nonzero2 .rhophi 0 1 := by
  rw [c17_nonzero2_iff]; simp [cart2, xOf, yOf]
example : nonzero4 .xy .z .tau 0 0 0 5 := by
  rw [c17_nonzero4_iff .xy .z .tau 0 0 0 5 trivial trivial (show (0 : ℝ) ≤ 5 by norm_num)]
  simp only [cart4, tOf, mag2Of, xOf, yOf, zOf, Ne, Prod.mk.injEq, not_and]
  intro _ _ _ h
  have : sqrt ((5 : ℝ) ^ 2 + (0 ^ 2 + 0 ^ 2 + 0 ^ 2)) = 5 := by
    rw [show ((5 : ℝ) ^ 2 + (0 ^ 2 + 0 ^ 2 + 0 ^ 2)) = 5 ^ 2 by norm_num]; exact sqrt_sq (by norm_num)
  rw [this] at h; norm_num at h

/-- `CanonTmp` is needed for the statement about DENOTATIONS: the non-representable storage τ = −1 at rest is
"zero" for the code (its own `t` accessor is `√max(−τ², 0) = 0`, coherent with `c17_nonzero4_iff_acc`), while the
specification formula `t = √(τ² + |p|²)` would give 1.  Not a defect: τ < 0 is outside the representable domain. -/
example : ¬ nonzero4 .xy .z .tau 0 0 0 (-1) := by
  have hc : P.copysign (((-1 : ℝ)) ^ 2) (-1) = -1 := by
    unfold P.copysign; rw [if_neg (by norm_num)]; norm_num
  simp only [nonzero4, d_planar_rho2, d_spatial_z, d_lorentz_t2, d_lorentz_tau2, d_spatial_mag2, hc]
  norm_num

/-! ### 3. the flavor is kept (by construction of the reducer, see the header) -/

theorem c17_reduceSum_flavor (mom : Bool) (k0 : Az) (k1 : Lon) (k2 : Tmp)
    (v2 : List (ℝ × ℝ)) (v3 : List (ℝ × ℝ × ℝ)) (v4 : List (ℝ × ℝ × ℝ × ℝ)) :
    (reduceSum2 mom k0 v2).1 = mom ∧ (reduceSum3 mom k0 k1 v3).1 = mom ∧ (reduceSum4 mom k0 k1 k2 v4).1 = mom :=
  ⟨rfl, rfl, rfl⟩

end VR
