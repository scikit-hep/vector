/-
Property C20 — "Operations leave no trace in global state and are thread-deterministic".

Statements about the hand-written model `Glue/Global.lean`, for ALL result types `α`, ALL operation bodies (returning
or raising), ALL threads, ALL call sequences and ALL schedules:

1. one operation (`op` = the `with numpy.errstate(all="ignore")` bracket around a body that cannot write the state)
   leaves the global state exactly as before, whether it returns or raises; also nested brackets;
2. sequences of operations and registrations: only the two registration flags can change, and only to `true`;
   `registerAwkward` / `registerNumba` are idempotent, commute, and change nothing but their flag;
3. thread determinism, coarse: whole operations as atomic `(tid, opIndex)` steps — under ANY schedule every result is
   the sequential one, each thread sees exactly the results of its own sub-schedule, adjacent steps commute;
4. thread determinism, fine: the three phases of an operation (enter bracket / compute / leave bracket) as atomic
   steps — under ANY interleaving each thread's results are a prefix of (when it has finished: equal to) its
   sequential results, and whenever all threads are between operations the global state is the initial one;
   steps of different threads commute.
-/
import VectorModel.Glue.Global

set_option linter.unusedVariables false
namespace VG

section
variable {α : Type}

/-! ## 1. one operation -/

@[simp] theorem G.setErr_err (g : G) (t u : Tid) (e : ErrState) :
    (g.setErr t e).err u = if u = t then e else g.err u := rfl

@[simp] theorem G.setErr_warningsFilters (g : G) (t : Tid) (e : ErrState) :
    (g.setErr t e).warningsFilters = g.warningsFilters := rfl
@[simp] theorem G.setErr_printOptions (g : G) (t : Tid) (e : ErrState) :
    (g.setErr t e).printOptions = g.printOptions := rfl
@[simp] theorem G.setErr_ak (g : G) (t : Tid) (e : ErrState) :
    (g.setErr t e).akBehaviorRegistered = g.akBehaviorRegistered := rfl
@[simp] theorem G.setErr_numba (g : G) (t : Tid) (e : ErrState) :
    (g.setErr t e).numbaRegistered = g.numbaRegistered := rfl

theorem G.ext' {g g' : G} (h1 : ∀ t, g.err t = g'.err t) (h2 : g.sameGlobals g') : g = g' := by
  obtain ⟨e, w, p, a, n⟩ := g
  obtain ⟨e', w', p', a', n'⟩ := g'
  obtain ⟨hw, hp, ha, hn⟩ := h2
  simp only at hw hp ha hn
  have : e = e' := funext h1
  subst this hw hp ha hn
  rfl

theorem c20_setErr_setErr (g : G) (t : Tid) (e e' : ErrState) : (g.setErr t e).setErr t e' = g.setErr t e' := by
  apply G.ext'
  · intro u; by_cases h : u = t <;> simp [h]
  · exact ⟨rfl, rfl, rfl, rfl⟩

theorem c20_setErr_restore (g : G) (t : Tid) : g.setErr t (g.err t) = g := by
  apply G.ext'
  · intro u; by_cases h : u = t <;> simp [h]
  · exact ⟨rfl, rfl, rfl, rfl⟩

theorem c20_setErr_comm (g : G) (t u : Tid) (e e' : ErrState) (h : t ≠ u) :
    (g.setErr t e).setErr u e' = (g.setErr u e').setErr t e := by
  apply G.ext'
  · intro w
    by_cases h1 : w = t <;> by_cases h2 : w = u
    · exact absurd (h1.symm.trans h2) h
    · subst h1; simp [h2]
    · subst h2; simp [h1]
    · simp [h1, h2]
  · exact ⟨rfl, rfl, rfl, rfl⟩

/-- MAIN (single call): after any operation, returning or raising, the global state is exactly as before -/
theorem c20_op_restores (t : Tid) (body : G → Except Err α) (g : G) : (op t body g).2 = g := by
  simp only [op, bracket]
  rw [c20_setErr_setErr, c20_setErr_restore]

/-- the value (or exception) of the operation is the body's, computed with everything ignored on the calling thread -/
theorem c20_op_result (t : Tid) (body : G → Except Err α) (g : G) :
    (op t body g).1 = body (g.setErr t .ignoreAll) := rfl

/-- in particular when the body raises -/
theorem c20_op_raise_restores (t : Tid) (body : G → Except Err α) (g : G) (e : Err)
    (h : (op t body g).1 = .error e) : (op t body g).2 = g := c20_op_restores t body g

/-- and when it returns -/
theorem c20_op_return_restores (t : Tid) (body : G → Except Err α) (g : G) (a : α)
    (h : (op t body g).1 = .ok a) : (op t body g).2 = g := c20_op_restores t body g

/-- both outcomes occur -/
example (g : G) : (op 0 (fun _ => (.error .typeError : Except Err Nat)) g) = (.error .typeError, g) ∧
    (op 0 (fun _ => (.ok 1 : Except Err Nat)) g) = (.ok 1, g) := by
  constructor <;> exact Prod.ext rfl (c20_op_restores _ _ _)

/-- inside the bracket the body sees "ignore" on its own thread and every other thread's state untouched -/
theorem c20_op_body_view (t u : Tid) (g : G) :
    (g.setErr t .ignoreAll).err t = .ignoreAll ∧ (u ≠ t → (g.setErr t .ignoreAll).err u = g.err u) := by
  constructor
  · simp
  · intro h; simp [h]

/-- general bracket: a body that itself changes the calling thread's error state (and nothing else) — e.g. a nested
`numpy.errstate`, or `numpy.seterr` inside — still leaves no trace -/
theorem c20_bracket_restores (t : Tid) (body : G → Except Err α × G) (g : G)
    (h : ∃ e, (body (g.setErr t .ignoreAll)).2 = (g.setErr t .ignoreAll).setErr t e) :
    (bracket t body g).2 = g := by
  obtain ⟨e, he⟩ := h
  simp only [bracket, he]
  rw [c20_setErr_setErr, c20_setErr_setErr, c20_setErr_restore]

/-- nested operations (a `dispatch()` calling another `dispatch()` on the same thread) -/
theorem c20_op_nested (t : Tid) (body : G → Except Err α) (g : G) :
    (bracket t (fun g' => op t body g') g).2 = g := by
  apply c20_bracket_restores
  refine ⟨.ignoreAll, ?_⟩
  rw [c20_op_restores, c20_setErr_setErr]

/-! ## 2. sequences; registration -/

theorem c20_registerAwkward_idem (g : G) : registerAwkward (registerAwkward g) = registerAwkward g := rfl
theorem c20_registerNumba_idem (g : G) : registerNumba (registerNumba g) = registerNumba g := rfl

/-- `register_awkward` changes nothing but its flag -/
theorem c20_registerAwkward_only_flag (g : G) :
    (registerAwkward g).akBehaviorRegistered = true ∧ (registerAwkward g).err = g.err ∧
    (registerAwkward g).warningsFilters = g.warningsFilters ∧ (registerAwkward g).printOptions = g.printOptions ∧
    (registerAwkward g).numbaRegistered = g.numbaRegistered := ⟨rfl, rfl, rfl, rfl, rfl⟩

theorem c20_registerNumba_only_flag (g : G) :
    (registerNumba g).numbaRegistered = true ∧ (registerNumba g).err = g.err ∧
    (registerNumba g).warningsFilters = g.warningsFilters ∧ (registerNumba g).printOptions = g.printOptions ∧
    (registerNumba g).akBehaviorRegistered = g.akBehaviorRegistered := ⟨rfl, rfl, rfl, rfl, rfl⟩

/-- once registered, registering again is a no-op -/
theorem c20_registerAwkward_noop (g : G) (h : g.akBehaviorRegistered = true) : registerAwkward g = g := by
  obtain ⟨e, w, p, a, n⟩ := g
  simp only at h
  subst h
  rfl

theorem c20_register_comm (g : G) : registerAwkward (registerNumba g) = registerNumba (registerAwkward g) := rfl

/-- the state after a sequence of actions, given explicitly -/
def afterActions (as : List (Action α)) (g : G) : G :=
  { g with
    akBehaviorRegistered := g.akBehaviorRegistered || as.any Action.isRegAwkward
    numbaRegistered := g.numbaRegistered || as.any Action.isRegNumba }

/-- MAIN (sequences): after ANY sequence of operations (on any threads, returning or raising) and registrations, the
global state differs from the initial one at most in the two registration flags, which can only have been raised -/
theorem c20_runActions_state (as : List (Action α)) (g : G) : (runActions as g).2 = afterActions as g := by
  induction as generalizing g with
  | nil =>
    obtain ⟨e, w, p, a, n⟩ := g
    simp [runActions, afterActions]
  | cons a as ih =>
    simp only [runActions, ih]
    cases a with
    | call t body =>
      simp only [runAction, c20_op_restores]
      simp [afterActions, Action.isRegAwkward, Action.isRegNumba]
    | regAwkward =>
      obtain ⟨e, w, p, a, n⟩ := g
      simp [runAction, registerAwkward, afterActions, Action.isRegAwkward, Action.isRegNumba]
    | regNumba =>
      obtain ⟨e, w, p, a, n⟩ := g
      simp [runAction, registerNumba, afterActions, Action.isRegAwkward, Action.isRegNumba]

/-- MAIN (sequences of operations): after any sequence of operations on any threads the state is unchanged -/
theorem c20_runActions_calls (as : List (Action α)) (g : G) (h : ∀ a ∈ as, a.isCall = true) :
    (runActions as g).2 = g := by
  rw [c20_runActions_state]
  -- an operation is not a registration
  have hk : ∀ a : Action α, a.isCall = true → a.isRegAwkward = false ∧ a.isRegNumba = false := by
    intro a ha
    cases a
    · exact ⟨rfl, rfl⟩
    · cases ha
    · cases ha
  have h1 : as.any Action.isRegAwkward = false := List.any_eq_false.2 fun a ha => by rw [(hk a (h a ha)).1]; nofun
  have h2 : as.any Action.isRegNumba = false := List.any_eq_false.2 fun a ha => by rw [(hk a (h a ha)).2]; nofun
  obtain ⟨e, w, p, a, n⟩ := g
  simp [afterActions, h1, h2]

/-- the error states, warning filters and print options survive every sequence of actions -/
theorem c20_runActions_untouched (as : List (Action α)) (g : G) :
    (runActions as g).2.err = g.err ∧ (runActions as g).2.warningsFilters = g.warningsFilters ∧
    (runActions as g).2.printOptions = g.printOptions := by
  rw [c20_runActions_state]
  exact ⟨rfl, rfl, rfl⟩

/-- an operation and a registration can be swapped without changing the final state -/
theorem c20_op_register_comm (t : Tid) (body : G → Except Err α) (g : G) :
    (op t body (registerAwkward g)).2 = registerAwkward (op t body g).2 := by
  rw [c20_op_restores, c20_op_restores]

/-! ## 3. coarse schedules: `(tid, opIndex)` steps -/

/-- the state is unchanged after ANY schedule -/
theorem c20_runSched_state (prog : Prog α) (sch : List (Tid × Nat)) (g : G) : (runSched prog sch g).2 = g := by
  induction sch with
  | nil => rfl
  | cons s rest ih =>
    obtain ⟨t, i⟩ := s
    simp only [runSched]
    split
    · exact ih
    · simp only [c20_op_restores]; exact ih

/-- the sequential result of step `(t, i)`: the body run alone from the initial state -/
def seqStep (prog : Prog α) (g : G) (s : Tid × Nat) : Option (Tid × Nat × Except Err α) :=
  ((prog s.1)[s.2]?).map (fun b => (s.1, s.2, b (g.setErr s.1 .ignoreAll)))

/-- MAIN (determinism, coarse): under ANY schedule the log is, step by step, what each step computes alone from the
initial state — no step's result depends on what ran before it, on any thread -/
theorem c20_runSched_log (prog : Prog α) (sch : List (Tid × Nat)) (g : G) :
    (runSched prog sch g).1 = sch.filterMap (seqStep prog g) := by
  induction sch with
  | nil => rfl
  | cons s rest ih =>
    obtain ⟨t, i⟩ := s
    simp only [runSched]
    cases hb : (prog t)[i]? with
    | none => simp [seqStep, hb, ih]
    | some b =>
      simp only [c20_op_restores, ih]
      simp [seqStep, hb, c20_op_result]

/-- each thread's list of results under ANY interleaving equals the results of running that thread's own steps alone,
in its own order (its sequential results) -/
theorem c20_runSched_thread (prog : Prog α) (sch : List (Tid × Nat)) (g : G) (t : Tid) :
    resultsOf t (runSched prog sch g).1 = resultsOf t (runSched prog (sch.filter (fun s => s.1 == t)) g).1 := by
  -- a step's log entry carries the step's thread, so selecting a thread's entries is selecting its steps
  simp only [c20_runSched_log, resultsOf, List.filter_filterMap, List.filterMap_filter]
  congr 2
  funext s
  by_cases h : s.1 = t <;> cases hb : (prog s.1)[s.2]? <;> simp [seqStep, hb, h]

/-- two schedules that order each thread's own steps the same way give every thread the same results -/
theorem c20_runSched_interleaving (prog : Prog α) (sch sch' : List (Tid × Nat)) (g : G) (t : Tid)
    (h : sch.filter (fun s => s.1 == t) = sch'.filter (fun s => s.1 == t)) :
    resultsOf t (runSched prog sch g).1 = resultsOf t (runSched prog sch' g).1 := by
  rw [c20_runSched_thread prog sch, c20_runSched_thread prog sch', h]

/-- adjacent steps commute: same results for both, same final state -/
theorem c20_op_commute (t u : Tid) (b c : G → Except Err α) (g : G) :
    (op u c (op t b g).2).1 = (op u c g).1 ∧ (op t b (op u c g).2).1 = (op t b g).1 ∧
    (op u c (op t b g).2).2 = (op t b (op u c g).2).2 := by
  simp only [c20_op_restores, and_self]

/-! ## 4. fine schedules: enter / compute / leave as atomic steps -/

@[simp] theorem Sys.setTh_same (s : Sys α) (t : Tid) (x : TState α) : s.setTh t x t = x := by
  simp [Sys.setTh]

theorem Sys.setTh_other (s : Sys α) (t u : Tid) (x : TState α) (h : u ≠ t) : s.setTh t x u = s.th u := by
  simp [Sys.setTh, h]

/-- the atomic step of thread `t` as a pair: the thread's new error state and its new local state -/
def Sys.next (s : Sys α) (t : Tid) : ErrState × TState α :=
  match (s.th t).todo, (s.th t).phase with
  | [], _ => (s.g.err t, s.th t)
  | b :: rest, .idle => (.ignoreAll, { s.th t with phase := .entered (s.g.err t) })
  | b :: rest, .entered saved => (s.g.err t, { s.th t with phase := .computed saved (b s.g) })
  | b :: rest, .computed saved r => (saved, { todo := rest, phase := .idle, results := (s.th t).results ++ [r] })

theorem Sys.ext' {s s' : Sys α} (hg : s.g = s'.g) (ht : ∀ t, s.th t = s'.th t) : s = s' := by
  obtain ⟨g, th⟩ := s
  obtain ⟨g', th'⟩ := s'
  simp only at hg ht
  have : th = th' := funext ht
  subst hg this
  rfl

theorem Sys.step_eq (s : Sys α) (t : Tid) :
    s.step t = { g := s.g.setErr t (s.next t).1, th := s.setTh t (s.next t).2 } := by
  unfold Sys.step Sys.next
  generalize htd : (s.th t).todo = td
  generalize hph : (s.th t).phase = ph
  have hnil : s = { g := s.g.setErr t (s.g.err t), th := s.setTh t (s.th t) } := by
    apply Sys.ext'
    · simp [c20_setErr_restore]
    · intro u; by_cases hu : u = t <;> simp [Sys.setTh, hu]
  cases td with
  | nil => exact hnil
  | cons b rest =>
    cases ph with
    | idle => rfl
    | entered saved =>
      apply Sys.ext'
      · simp [c20_setErr_restore]
      · intro u; rfl
    | computed saved r => rfl

/-- what the model maintains along every schedule, relative to the initial state `g0` -/
structure Inv (prog : Prog α) (g0 : G) (s : Sys α) : Prop where
  /-- nobody writes the other globals -/
  globals : s.g.sameGlobals g0
  /-- a thread's error state is "ignore" exactly while it is inside an operation -/
  err : ∀ t, s.g.err t = if (s.th t).phase.isIdle then g0.err t else .ignoreAll
  /-- what each thread has saved is its initial error state; what it has computed is the sequential result -/
  saved : ∀ t, match (s.th t).phase with
    | .idle => True
    | .entered sv => sv = g0.err t
    | .computed sv r => sv = g0.err t ∧
        ∃ b rest, (s.th t).todo = b :: rest ∧ r = b (g0.setErr t .ignoreAll)
  /-- results so far ++ sequential results of what is left = sequential results of the whole program -/
  res : ∀ t, (s.th t).results ++ (s.th t).todo.map (fun b => b (g0.setErr t .ignoreAll)) = seqResults prog g0 t
  /-- the remaining bodies are thread-local -/
  loc : ∀ t, ∀ b ∈ (s.th t).todo, LocalTo t b

theorem c20_inv_init (prog : Prog α) (g : G) (hloc : ∀ t, ∀ b ∈ prog t, LocalTo t b) :
    Inv prog g (Sys.init prog g) where
  globals := ⟨rfl, rfl, rfl, rfl⟩
  err := fun t => by simp [Sys.init, Phase.isIdle]
  saved := fun t => by simp [Sys.init]
  res := fun t => by simp [Sys.init, seqResults]
  loc := fun t => hloc t

/-- thread `t`'s share of the invariant: it speaks of `t`'s error state and `t`'s local state only … -/
def Inv.Thread (prog : Prog α) (g0 : G) (t : Tid) (e : ErrState) (x : TState α) : Prop :=
  e = (if x.phase.isIdle then g0.err t else .ignoreAll) ∧
  (match x.phase with
    | .idle => True
    | .entered sv => sv = g0.err t
    | .computed sv r => sv = g0.err t ∧ ∃ b rest, x.todo = b :: rest ∧ r = b (g0.setErr t .ignoreAll)) ∧
  x.results ++ x.todo.map (fun b => b (g0.setErr t .ignoreAll)) = seqResults prog g0 t ∧
  ∀ b ∈ x.todo, LocalTo t b

theorem Inv.iff_thread {prog : Prog α} {g0 : G} {s : Sys α} :
    Inv prog g0 s ↔ s.g.sameGlobals g0 ∧ ∀ t, Inv.Thread prog g0 t (s.g.err t) (s.th t) :=
  ⟨fun h => ⟨h.globals, fun t => ⟨h.err t, h.saved t, h.res t, h.loc t⟩⟩,
   fun h => ⟨h.1, fun t => (h.2 t).1, fun t => (h.2 t).2.1, fun t => (h.2 t).2.2.1, fun t => (h.2 t).2.2.2⟩⟩

/-- … which are all that a step of `t` changes (`Sys.step_eq`), and the step maintains it -/
theorem Inv.Thread.next {prog : Prog α} {g0 : G} {s : Sys α} {t : Tid} (hg : s.g.sameGlobals g0)
    (h : Inv.Thread prog g0 t (s.g.err t) (s.th t)) : Inv.Thread prog g0 t (s.next t).1 (s.next t).2 := by
  obtain ⟨he, hs, hr, hl⟩ := h
  unfold Sys.next
  split
  · exact ⟨he, hs, hr, hl⟩
  · -- enter
    rename_i b rest htodo hphase
    simp only [hphase, Phase.isIdle, if_true] at he
    exact ⟨rfl, he, hr, hl⟩
  · -- compute: the body sees "ignore" on its own thread and the initial other globals
    rename_i b rest saved htodo hphase
    simp only [hphase, Phase.isIdle] at he hs
    have : b s.g = b (g0.setErr t .ignoreAll) := hl b (by simp [htodo]) _ _ (by simp [he]) hg
    exact ⟨he, ⟨hs, b, rest, htodo, this⟩, hr, hl⟩
  · -- leave
    rename_i b rest saved r htodo hphase
    simp only [hphase, htodo, List.cons.injEq] at hs
    obtain ⟨hsv, b', rest', ⟨rfl, rfl⟩, hres⟩ := hs
    refine ⟨hsv, trivial, ?_, fun c hc => hl c (by simp [htodo, hc])⟩
    simpa [htodo, hres] using hr

theorem c20_inv_step (prog : Prog α) (g0 : G) (s : Sys α) (h : Inv prog g0 s) (t : Tid) :
    Inv prog g0 (s.step t) := by
  rw [Inv.iff_thread] at h ⊢
  rw [Sys.step_eq]
  refine ⟨h.1, fun u => ?_⟩
  by_cases hu : u = t
  · subst hu; simpa using (h.2 u).next h.1
  · simpa [hu, Sys.setTh] using h.2 u

theorem c20_inv_run (prog : Prog α) (g0 : G) (s : Sys α) (h : Inv prog g0 s) (sch : List Tid) :
    Inv prog g0 (s.run sch) := by
  induction sch generalizing s with
  | nil => exact h
  | cons t rest ih => exact ih (s.step t) (c20_inv_step prog g0 s h t)

/-- MAIN (determinism, fine): under ANY interleaving of the atomic phases, at any moment, each thread's results so far
are an initial segment of its sequential results -/
theorem c20_run_results_prefix (prog : Prog α) (g : G) (hloc : ∀ t, ∀ b ∈ prog t, LocalTo t b) (sch : List Tid)
    (t : Tid) :
    ∃ pending, (((Sys.init prog g).run sch).th t).results ++ pending = seqResults prog g t ∧
      pending.length = (((Sys.init prog g).run sch).th t).todo.length := by
  have h := c20_inv_run prog g _ (c20_inv_init prog g hloc) sch
  exact ⟨_, h.res t, by simp⟩

/-- … and once the thread has run all its operations its results ARE its sequential results -/
theorem c20_run_results_complete (prog : Prog α) (g : G) (hloc : ∀ t, ∀ b ∈ prog t, LocalTo t b) (sch : List Tid)
    (t : Tid) (hdone : (((Sys.init prog g).run sch).th t).todo = []) :
    (((Sys.init prog g).run sch).th t).results = seqResults prog g t := by
  have h := (c20_inv_run prog g _ (c20_inv_init prog g hloc) sch).res t
  simpa [hdone] using h

/-- whenever every thread is between operations, the global state is exactly the initial one -/
theorem c20_run_state_quiescent (prog : Prog α) (g : G) (hloc : ∀ t, ∀ b ∈ prog t, LocalTo t b) (sch : List Tid)
    (hidle : ∀ t, (((Sys.init prog g).run sch).th t).phase.isIdle = true) :
    ((Sys.init prog g).run sch).g = g := by
  have h := c20_inv_run prog g _ (c20_inv_init prog g hloc) sch
  apply G.ext'
  · intro t; simpa [hidle t] using h.err t
  · exact h.globals

/-- at every moment: the other globals are untouched, and a thread that is between operations finds its own error
state as it left it, whatever the other threads are doing -/
theorem c20_run_state_any (prog : Prog α) (g : G) (hloc : ∀ t, ∀ b ∈ prog t, LocalTo t b) (sch : List Tid) :
    ((Sys.init prog g).run sch).g.sameGlobals g ∧
    ∀ t, (((Sys.init prog g).run sch).th t).phase.isIdle = true → ((Sys.init prog g).run sch).g.err t = g.err t := by
  have h := c20_inv_run prog g _ (c20_inv_init prog g hloc) sch
  exact ⟨h.globals, fun t ht => by simpa [ht] using h.err t⟩

/-- the hypotheses are satisfiable and the statement has content: two threads, bodies that READ their thread's error
state and a global flag; an interleaved schedule and the sequential one agree -/
example :
    let body (t : Tid) : G → Except Err Nat := fun g =>
      if g.err t = .ignoreAll then .ok (if g.akBehaviorRegistered then 1 else 0) else .error .assertionError
    let prog : Prog Nat := fun t => if t < 2 then [body t, body t] else []
    (∀ t, ∀ b ∈ prog t, LocalTo t b) := by
  intro body prog t b hb
  by_cases ht : t < 2
  · have : b = body t := by simpa [prog, ht] using hb
    subst this
    intro g g' he hg
    simp only [body, he, hg.2.2.1]
  · simp [prog, ht] at hb

/-! ### commutation of atomic steps -/

theorem Sys.next_step_other (s : Sys α) (t u : Tid) (h : t ≠ u) (hloc : ∀ b ∈ (s.th t).todo, LocalTo t b) :
    (s.step u).next t = s.next t := by
  have hth : (s.step u).th t = s.th t := by rw [Sys.step_eq]; simp [Sys.setTh, h]
  have herr : (s.step u).g.err t = s.g.err t := by rw [Sys.step_eq]; simp [h]
  have hglob : (s.step u).g.sameGlobals s.g := by rw [Sys.step_eq]; exact ⟨rfl, rfl, rfl, rfl⟩
  unfold Sys.next
  rw [hth, herr]
  split
  · rfl
  · rfl
  · rename_i b rest saved htodo hphase
    have := hloc b (by simp [htodo]) (s.step u).g s.g herr hglob
    rw [this]
  · rfl

/-- atomic steps of different threads commute: swapping two adjacent steps of a schedule changes nothing -/
theorem c20_step_commute (s : Sys α) (t u : Tid) (h : t ≠ u) (hlt : ∀ b ∈ (s.th t).todo, LocalTo t b)
    (hlu : ∀ b ∈ (s.th u).todo, LocalTo u b) : (s.step t).step u = (s.step u).step t := by
  rw [Sys.step_eq (s.step t) u, Sys.step_eq (s.step u) t, Sys.next_step_other s t u h hlt,
    Sys.next_step_other s u t (Ne.symm h) hlu, Sys.step_eq s t, Sys.step_eq s u]
  apply Sys.ext'
  · exact c20_setErr_comm _ _ _ _ _ h
  · intro w
    by_cases h1 : w = t <;> by_cases h2 : w = u
    · exact absurd (h1.symm.trans h2) h
    · subst h1; simp [Sys.setTh, h2]
    · subst h2; simp [Sys.setTh, h1]
    · simp [Sys.setTh, h1, h2]

theorem Sys.run_append (s : Sys α) (a b : List Tid) : s.run (a ++ b) = (s.run a).run b := by
  induction a generalizing s with
  | nil => rfl
  | cons t a ih => simp only [List.cons_append, Sys.run]; exact ih _

/-- any two adjacent steps of different threads of ANY schedule can be swapped without changing anything (so all
interleavings with the same per-thread order end in the same machine state) -/
theorem c20_run_swap (prog : Prog α) (g : G) (hloc : ∀ t, ∀ b ∈ prog t, LocalTo t b) (pre post : List Tid)
    (t u : Tid) (h : t ≠ u) :
    (Sys.init prog g).run (pre ++ t :: u :: post) = (Sys.init prog g).run (pre ++ u :: t :: post) := by
  have hinv := c20_inv_run prog g _ (c20_inv_init prog g hloc) pre
  simp only [Sys.run_append, Sys.run]
  rw [c20_step_commute _ t u h (hinv.loc t) (hinv.loc u)]

end
end VG
