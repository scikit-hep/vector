/-
Property C01 for WHOLE COMPUTATIONS, continued (prefix `c01f_`): the expression theorem of `Props/MethodExpr.lean`
extended to the rest of the vector-, scalar- and truth-valued public API.

`MethodExpr.lean` states, for the languages `C01E.E3/E2/E4/E`, that every finite expression of public methods whose
intermediate values are GENERIC (a condition on the DENOTATIONS only) evaluates successfully and denotes the specified
value, whatever coordinate systems / flavors / backends its variables are stored in, and proves it for the three
one-dimension languages.  This file declares the language `F` (§2) with ALL nodes of `E` plus the nodes `E` leaves out,
adds one lemma per such node (§1; the lemmas of the nodes of `E` are those of `MethodExpr.lean`), each citing the single-call
theorem (`c01m_rotate_*`, `c09m_boost*_gamma`, `c09m_boostCM_of_*`, `c09m_to_beta3`, `c12m_transform2D/3D/4D`, the
`toSystem` evaluation lemmas) with the range of the result (`c09m_boostCM_of_p4_rng`, …) and the bridge lemmas
`good3_core` / `good4_core` for the hypotheses of the call, and proves the theorem for `F` (§3).  `E` is a
sub-language of `F` (`embed`, §8): its theorems are corollaries.

The main theorem is `c01f_eval` (§3), property C01 in its literal form `c01f_indep` (§4).  On top of `F`: scalar
expressions `SF` (§5: the accessors and two-vector methods of `C01E.SU`, `abs`, `v ** 2`, `Et Et2 Mt Mt2`,
`deltaRapidityPhi(2)`) and truth-valued expressions `TF` (§6: `is_timelike/spacelike/lightlike(tol)`,
`is_parallel/antiparallel/perpendicular(other, tol)`, `==`, `!=`).  §7 shows that the genericity hypotheses can be met
(`exF_generic`: `(v₀ + v₁).rotate_axis(v₂, π).boostZ(gamma=5/4).to_beta3()` over `(x,y,z,t)`, `(ρ,φ,η,τ)` momentum and NumPy
`(ρ,φ,z)` variables).

Deliberately NOT in the language (documented EXCEPTIONS of C01, see `C12M.c12m_transform2D_exception`,
`c01m_scale2D_exception`): `transform2D` on 3D/4D vectors, `transform3D` on 4D vectors, `scale2D/3D` — they keep the stored
θ/η/τ verbatim.  Not covered: 4D unary minus (`c11m_neg_tau_discrepancy`), `isclose`, `like`, `boost` / `boostCM_of`
(the dimension-dispatching spellings of nodes that ARE covered), default tolerances of the predicates, `numpy.sqrt/cbrt`
and `v ** q` for `q ≠ 2` (they apply the model's abstract `A.pow`), mixed 3D/4D operands of the angular methods.
-/
import VectorModel.Props.MethodExpr
import VectorModel.Props.MethodOps

namespace VR
namespace C01F
-- as in `Props/MethodExpr.lean`: bare `V3` / `V4` are the types of Props/C09 (explicit vectors: `C11M.V3` / `C11M.V4`); `c4`,
-- `tmpOf`, `hbe` are ambiguous unqualified; `va vb pa pb` are silent implicit arguments of every statement that mentions them
open VK VG Spec Real C01M C11M C01E

variable (K : Consts ℝ) (A : Arith ℝ) {va vb : Vec ℝ} {pa pb : List ℝ}

/-! ## 1. One lemma per node that `E` leaves out -/

/-! ### the rotations of 3D / 4D vectors -/

theorem ordOf_str (o : Ord) : ordOf o.str = some o := by cases o <;> decide +kernel

/-- Rodrigues' rotation on component lists: about the direction of the (3-component) axis list -/
noncomputable def axisRotL : List ℝ → ℝ → List ℝ → List ℝ
  | [ux, uy, uz], ang, p => onSpatial (axisRot (ux, uy, uz) ang) p
  | _, _, p => p

theorem rotate_axis_case (ang : ℝ)
    {va vx : Vec ℝ} {pa px : List ℝ} (ha : Good va) (hx : Good vx) (da : denote va = some pa)
    (dx : denote vx = some px) (ga : Generic pa) (gx : Generic3 px) (hl : 3 ≤ pa.length)
    (gr : Generic (axisRotL px ang pa)) :
    ∃ r, call evR K A "rotate_axis" va [.v vx, .sc ang] = .ok (.vec r) ∧ Good r ∧
      denote r = some (axisRotL px ang pa) := by
  obtain ⟨be', mom', az', l', u1, u2, u3, rfl, rfl, h⟩ := good3_core hx dx gx
  exact spat_sound (fun v => call evR K A "rotate_axis" v [.v (C11M.V3 be' mom' az' l' u1 u2 u3), .sc ang]) (axisRot _ ang)
    (fun v hv hd hT => c01m_rotate_axis K A v hv hd hT _ hx.1 rfl h.tan _ _ _ dx h.mag ang) ⟨ha, da⟩ (.inr ga) hl (.inr gr)

/-! ### `to_beta3` : 4D → 3D -/

noncomputable def beta3L : List ℝ → List ℝ
  | [x, y, z, t] => [x / t, y / t, z / t]
  | p => p

theorem generic3_beta3L {p : List ℝ} (h : Generic4 p) : Generic3 (beta3L p) := by
  obtain ⟨x, y, z, t, rfl, h1, h2, h3, h4⟩ := h
  refine ⟨x / t, y / t, z / t, rfl, ?_, div_ne_zero h2 h4.ne'⟩
  rw [div_pow, div_pow, ← add_div]
  positivity

theorem to_beta3_case (ha : Good va)
    (da : denote va = some pa) (ga : Generic4 pa) :
    ∃ r, call evR K A "to_beta3" va [] = .ok (.vec r) ∧ Good r ∧ denote r = some (beta3L pa) := by
  obtain ⟨be, mom, az, l, tm, a, b, c, d, rfl, rfl, h⟩ := good4_core ha da ga
  obtain ⟨w, hcall, -, hwf, hden, hrng⟩ := c09m_to_beta3 K A _ ha.1 ⟨h.canon.2, h.ctmp⟩ _ _ _ _ da h.pos.ne'
    fun _ => .inr h.pos
  exact ⟨w, hcall, (rep_of_rng hwf (hrng ha.2.1 fun _ => h.pos) hden (.of3 (generic3_beta3L ga))).1, hden⟩

/-! ### `to_xyz()` … `to_rhophieta()` on a 4D vector: the spatial part, converted -/

theorem proj3_case (az : Az) (l : Lon) (ha : Good va)
    (da : denote va = some pa) (ga : Generic4 pa) :
    ∃ r, call evR K A (convName az l) va [] = .ok (.vec r) ∧ Good r ∧ denote r = some (pa.take 3) := by
  obtain ⟨be, mom, az0, l0, t0, a, b, c, d, rfl, rfl, h⟩ := good4_core ha da ga
  obtain ⟨g1, g2, -⟩ := (generic4_iff _ _ _ _).1 ga
  have he := call_of_target K A _ az (some l) none (convName_target az l) (C11M.V4 be mom az0 l0 t0 a b c d)
  rw [C04M.toSystem_eval43] at he
  have hden : denote (C11M.V3 be mom az l (C04M.conv2 az0 az a b).1 (C04M.conv2 az0 az a b).2
      (C04M.convLon az0 l0 l a b c)) = some [xOf az0 a b, yOf az0 a b, zOf az0 l0 a b c] := by
    simp only [denote, C04M.conv2_x, C04M.conv2_y, C04M.convLon_z _ _ _ _ _ _ _ (C04M.lonOK_of_RT (l := l) h.rho h.canon.2 h.tan)]
  exact ⟨_, he, good3_result (conv_range_az h.azOK) (conv_range_lon h.rho h.canon.2) hden ((generic3_iff _ _ _).2 ⟨g1, g2⟩),
    hden⟩

/-! ### `transform2D` on 2D, `transform3D` on 3D, `transform4D` on 4D vectors -/

theorem transform2D_case (xx xy yx yy : ℝ) (ha : Good va)
    (da : denote va = some pa) (hl : pa.length = 2) :
    ∃ r, call evR K A "transform2D" va [.sc xx, .sc xy, .sc yx, .sc yy] = .ok (.vec r) ∧ Good r ∧
      denote r = some (onPlanar (C12M.mat2 xx xy yx yy) pa) := by
  obtain ⟨be, mom, az, a, b, rfl, rfl, -⟩ := good2_shape ha da hl
  obtain ⟨w, hcall, hty, hwf, -, -, -, hden⟩ := C12M.c12m_transform2D K A _ ha.1 xx xy yx yy
  exact ⟨w, hcall, good_cart hwf (by rw [hty]) (by rw [hty]; nofun) (by rw [hty]; nofun), (hden (.inl rfl)).trans (congrArg (Option.map _) da)⟩

theorem transform3D_case (xx xy xz yx yy yz zx zy zz : ℝ) 
    (ha : Good va) (da : denote va = some pa) (ga : Generic3 pa) :
    ∃ r, call evR K A "transform3D" va [.sc xx, .sc xy, .sc xz, .sc yx, .sc yy, .sc yz, .sc zx, .sc zy, .sc zz]
        = .ok (.vec r) ∧ Good r ∧ denote r = some (onSpatial (C12M.mat3 xx xy xz yx yy yz zx zy zz) pa) := by
  obtain ⟨be, mom, az, l, a, b, c, rfl, rfl, h⟩ := good3_core ha da ga
  obtain ⟨w, hcall, hty, hwf, -, -, hden⟩ := C12M.c12m_transform3D K A _ ha.1 (le_refl 3) h.tan xx xy xz yx yy yz zx zy zz
  exact ⟨w, hcall, good_cart hwf (by rw [hty]) (by rw [hty]; nofun) (by rw [hty]; nofun), (hden nofun).trans (congrArg (Option.map _) da)⟩

/-- the 16 entries of a 4×4 matrix, row by row -/
structure M4 where
  (xx xy xz xt yx yy yz yt zx zy zz zt tx ty tz tt : ℝ)

def M4.args (m : M4) : List (Arg ℝ) :=
  [.sc m.xx, .sc m.xy, .sc m.xz, .sc m.xt, .sc m.yx, .sc m.yy, .sc m.yz, .sc m.yt, .sc m.zx, .sc m.zy, .sc m.zz, .sc m.zt,
    .sc m.tx, .sc m.ty, .sc m.tz, .sc m.tt]

def M4.ap (m : M4) : ℝ × ℝ × ℝ × ℝ → ℝ × ℝ × ℝ × ℝ :=
  transform4 m.xx m.xy m.xz m.xt m.yx m.yy m.yz m.yt m.zx m.zy m.zz m.zt m.tx m.ty m.tz m.tt

theorem transform4D_case (m : M4) 
    (ha : Good va) (da : denote va = some pa) (ga : Generic4 pa) :
    ∃ r, call evR K A "transform4D" va m.args = .ok (.vec r) ∧ Good r ∧ denote r = some (on4 m.ap pa) := by
  obtain ⟨w, hcall, hty, hwf, hden⟩ := C12M.c12m_transform4D K A va ha.1 (boostOK_of ⟨ha, da⟩ ga).1 (boostOK_of ⟨ha, da⟩ ga).2
    m.xx m.xy m.xz m.xt m.yx m.yy m.yz m.yt m.zx m.zy m.zz m.zt m.tx m.ty m.tz m.tt
  exact ⟨w, hcall, good_cart hwf (by rw [hty]) (by rw [hty]; nofun) (by rw [hty]; nofun), hden.trans (congrArg (Option.map _) da)⟩

/-! ### `boostCM_of_p4`, `boostCM_of_beta3`: `neg3D` of the booster, then the boost -/

/-- `boostCM_of_p4` on component lists: `bp4 X (−p⃗, E)` -/
noncomputable def bcm4L : List ℝ → List ℝ → List ℝ
  | [x, y, z, t], [px, py, pz, E] => l4 (bp4 (x, y, z, t) (-px, -py, -pz, E))
  | p, _ => p

/-- `boostCM_of_beta3` on component lists: `bβ3 X (−β⃗)` -/
noncomputable def bcm3L : List ℝ → List ℝ → List ℝ
  | [x, y, z, t], [bx, by', bz] => l4 (bβ3 (x, y, z, t) (-bx, -by', -bz))
  | p, _ => p

theorem boostCM_of_p4_case (hK : K.negOne = -1) 
    (ha : Good va) (hb : Good vb) (da : denote va = some pa) (db : denote vb = some pb) (ga : Generic4 pa)
    (gb : Generic4 pb) (gr : Generic (bcm4L pa pb)) :
    ∃ r, call evR K A "boostCM_of_p4" va [.v vb] = .ok (.vec r) ∧ Good r ∧ denote r = some (bcm4L pa pb) := by
  obtain ⟨be1, mom1, az1, l1, t1, a0, a1, a2, a3, rfl, rfl, h1⟩ := good4_core ha da ga
  obtain ⟨be2, mom2, az2, l2, t2, b0, b1, b2, b3, rfl, rfl, h2⟩ := good4_core hb db gb
  obtain ⟨w, hcall, -, -, hwf, hden⟩ := c09m_boostCM_of_p4 K A hK _ _ ha.1 rfl hb.1 rfl ⟨h1.tan, h1.ctmp⟩
    ⟨h2.theta, h2.tan, h2.sin, h2.ctmp⟩ _ _ _ _ _ _ _ _ da db (fun _ => ⟨h2.lt, h2.pos⟩)
  exact ⟨w, hcall, (rep_of_rng hwf (c09m_boostCM_of_p4_rng K A ha.1 rfl hb.1 rfl hcall ha.2.1) hden (.inr gr)).1, hden⟩

theorem boostCM_of_beta3_case (hK : K.negOne = -1) 
    (ha : Good va) (hb : Good vb) (da : denote va = some pa) (db : denote vb = some pb) (ga : Generic4 pa)
    (gb : Generic3 pb) (hsub : SubLum pb) (gr : Generic (bcm3L pa pb)) :
    ∃ r, call evR K A "boostCM_of_beta3" va [.v vb] = .ok (.vec r) ∧ Good r ∧ denote r = some (bcm3L pa pb) := by
  obtain ⟨be1, mom1, az1, l1, t1, a0, a1, a2, a3, rfl, rfl, h1⟩ := good4_core ha da ga
  obtain ⟨be2, mom2, az2, l2, b0, b1, b2, rfl, rfl, h2⟩ := good3_core hb db gb
  obtain ⟨w, hcall, -, -, hwf, hden⟩ := c09m_boostCM_of_beta3 K A hK _ _ ha.1 rfl hb.1 rfl ⟨h1.tan, h1.ctmp⟩
    ⟨h2.theta, h2.tan, h2.sin⟩ _ _ _ _ _ _ _ da db (fun _ => hsub)
  exact ⟨w, hcall, (rep_of_rng hwf (c09m_boostCM_of_beta3_rng K A ha.1 rfl hb.1 rfl hcall ha.2.1) hden (.inr gr)).1, hden⟩

/-! ## 2. The extended language: every node of `C01E.E` plus the rest of the vector-valued public API -/

inductive F : Type
  -- the nodes of `C01E.E`
  | var (i : Nat)
  | add (a b : F)
  | sub (a b : F)
  | scale (k : ℝ) (a : F)
  | unit (a : F)
  | rotateZ (ang : ℝ) (a : F)
  | rotateX (ang : ℝ) (a : F)
  | rotateY (ang : ℝ) (a : F)
  | cross (a b : F)
  | boostX (β : ℝ) (a : F)
  | boostY (β : ℝ) (a : F)
  | boostZ (β : ℝ) (a : F)
  | boost_p4 (a b : F)
  | boost_beta3 (a b : F)
  | conv2 (az : Az) (a : F)
  | conv3 (az : Az) (lon : Lon) (a : F)
  | conv4 (az : Az) (lon : Lon) (tmp : Tmp) (a : F)
  | to2D (a : F)
  | to3D (a : F)
  | to3D_kw (l : Lon) (s : ℝ) (a : F)
  | to4D_kw (tm : Tmp) (s : ℝ) (a : F)
  -- beyond `E`: rotations of 3D / 4D vectors
  | rotate_axis (ang : ℝ) (a axis : F)                -- `a.rotate_axis(axis, ang)`, `axis` a 3D vector
  | rotate_euler (φ θ ψ : ℝ) (a : F)                  -- default order "zxz"
  | rotate_euler_ord (o : Ord) (φ θ ψ : ℝ) (a : F)    -- `a.rotate_euler(φ, θ, ψ, order)`, the 12 orders
  | rotate_nautical (yaw pitch roll : ℝ) (a : F)
  | rotate_quaternion (u i j k : ℝ) (a : F)           -- unit quaternion
  -- beyond `E`: 4D
  | boostXg (γ : ℝ) (a : F)                           -- `a.boostX(gamma=γ)`
  | boostYg (γ : ℝ) (a : F)
  | boostZg (γ : ℝ) (a : F)
  | boostCM_of_p4 (a b : F)
  | boostCM_of_beta3 (a b : F)
  | to_beta3 (a : F)                                  -- 4D → 3D
  | transform4D (m : M4) (a : F)
  -- beyond `E`: 2D / 3D linear maps on a vector of the matching dimension
  | transform2D (xx xy yx yy : ℝ) (a : F)
  | transform3D (xx xy xz yx yy yz zx zy zz : ℝ) (a : F)
  -- beyond `E`: lower-dimensional `to_<system>` projections
  | proj2 (az : Az) (a : F)                           -- `to_xy()` / `to_rhophi()` on a vector of any dimension
  | proj3 (az : Az) (lon : Lon) (a : F)               -- `to_xyz()` … `to_rhophieta()` on a 4D vector

/-- **the model**: every node is the public call on the values of the operands -/
noncomputable def evalMF (K : Consts ℝ) (A : Arith ℝ) (ρ : Nat → Vec ℝ) : F → Except Err (Vec ℝ)
  | .var i => .ok (ρ i)
  | .add a b => bin (evalMF K A ρ a) (evalMF K A ρ b) fun va vb => call evR K A "add" va [.v vb]
  | .sub a b => bin (evalMF K A ρ a) (evalMF K A ρ b) fun va vb => call evR K A "subtract" va [.v vb]
  | .scale k a => un (evalMF K A ρ a) fun va => call evR K A "scale" va [.sc k]
  | .unit a => un (evalMF K A ρ a) fun va => call evR K A "unit" va []
  | .rotateZ ang a => un (evalMF K A ρ a) fun va => call evR K A "rotateZ" va [.sc ang]
  | .rotateX ang a => un (evalMF K A ρ a) fun va => call evR K A "rotateX" va [.sc ang]
  | .rotateY ang a => un (evalMF K A ρ a) fun va => call evR K A "rotateY" va [.sc ang]
  | .cross a b => bin (evalMF K A ρ a) (evalMF K A ρ b) fun va vb => call evR K A "cross" va [.v vb]
  | .boostX β a => un (evalMF K A ρ a) fun va => call evR K A "boostX" va [.kw "beta" β]
  | .boostY β a => un (evalMF K A ρ a) fun va => call evR K A "boostY" va [.kw "beta" β]
  | .boostZ β a => un (evalMF K A ρ a) fun va => call evR K A "boostZ" va [.kw "beta" β]
  | .boost_p4 a b => bin (evalMF K A ρ a) (evalMF K A ρ b) fun va vb => call evR K A "boost_p4" va [.v vb]
  | .boost_beta3 a b => bin (evalMF K A ρ a) (evalMF K A ρ b) fun va vb => call evR K A "boost_beta3" va [.v vb]
  | .conv2 az a => un (evalMF K A ρ a) fun va => call evR K A (convName2 az) va []
  | .conv3 az l a => un (evalMF K A ρ a) fun va => call evR K A (convName az l) va []
  | .conv4 az l tm a => un (evalMF K A ρ a) fun va => call evR K A (convName4 az l tm) va []
  | .to2D a => un (evalMF K A ρ a) fun va => call evR K A "to_Vector2D" va []
  | .to3D a => un (evalMF K A ρ a) fun va => call evR K A "to_Vector3D" va []
  | .to3D_kw l s a => un (evalMF K A ρ a) fun va => call evR K A "to_Vector3D" va [.kw (lonKw l) s]
  | .to4D_kw tm s a => un (evalMF K A ρ a) fun va => call evR K A "to_Vector4D" va [.kw (tmpKw tm) s]
  | .rotate_axis ang a x =>
    bin (evalMF K A ρ a) (evalMF K A ρ x) fun va vx => call evR K A "rotate_axis" va [.v vx, .sc ang]
  | .rotate_euler φ θ ψ a => un (evalMF K A ρ a) fun va => call evR K A "rotate_euler" va [.sc φ, .sc θ, .sc ψ]
  | .rotate_euler_ord o φ θ ψ a =>
    un (evalMF K A ρ a) fun va => call evR K A "rotate_euler" va [.sc φ, .sc θ, .sc ψ, .str o.str]
  | .rotate_nautical yaw pitch roll a =>
    un (evalMF K A ρ a) fun va => call evR K A "rotate_nautical" va [.sc yaw, .sc pitch, .sc roll]
  | .rotate_quaternion u i j k a =>
    un (evalMF K A ρ a) fun va => call evR K A "rotate_quaternion" va [.sc u, .sc i, .sc j, .sc k]
  | .boostXg γ a => un (evalMF K A ρ a) fun va => call evR K A "boostX" va [.kw "gamma" γ]
  | .boostYg γ a => un (evalMF K A ρ a) fun va => call evR K A "boostY" va [.kw "gamma" γ]
  | .boostZg γ a => un (evalMF K A ρ a) fun va => call evR K A "boostZ" va [.kw "gamma" γ]
  | .boostCM_of_p4 a b =>
    bin (evalMF K A ρ a) (evalMF K A ρ b) fun va vb => call evR K A "boostCM_of_p4" va [.v vb]
  | .boostCM_of_beta3 a b =>
    bin (evalMF K A ρ a) (evalMF K A ρ b) fun va vb => call evR K A "boostCM_of_beta3" va [.v vb]
  | .to_beta3 a => un (evalMF K A ρ a) fun va => call evR K A "to_beta3" va []
  | .transform4D m a => un (evalMF K A ρ a) fun va => call evR K A "transform4D" va m.args
  | .transform2D xx xy yx yy a =>
    un (evalMF K A ρ a) fun va => call evR K A "transform2D" va [.sc xx, .sc xy, .sc yx, .sc yy]
  | .transform3D xx xy xz yx yy yz zx zy zz a =>
    un (evalMF K A ρ a) fun va =>
      call evR K A "transform3D" va [.sc xx, .sc xy, .sc xz, .sc yx, .sc yy, .sc yz, .sc zx, .sc zy, .sc zz]
  | .proj2 az a => un (evalMF K A ρ a) fun va => call evR K A (convName2 az) va []
  | .proj3 az l a => un (evalMF K A ρ a) fun va => call evR K A (convName az l) va []

/-- **the specification**, on Cartesian component lists only -/
noncomputable def evalSF (ρS : Nat → List ℝ) : F → List ℝ
  | .var i => ρS i
  | .add a b => List.zipWith (· + ·) (evalSF ρS a) (evalSF ρS b)
  | .sub a b => List.zipWith (· - ·) (evalSF ρS a) (evalSF ρS b)
  | .scale k a => (evalSF ρS a).map (k * ·)
  | .unit a => (evalSF ρS a).map (fun x => 1 / normL (evalSF ρS a) * x)
  | .rotateZ ang a => onPlanar (rotZ2 ang) (evalSF ρS a)
  | .rotateX ang a => onSpatial (rotX ang) (evalSF ρS a)
  | .rotateY ang a => onSpatial (rotY ang) (evalSF ρS a)
  | .cross a b => crossL (evalSF ρS a) (evalSF ρS b)
  | .boostX β a => on4 (bXβ β) (evalSF ρS a)
  | .boostY β a => on4 (bYβ β) (evalSF ρS a)
  | .boostZ β a => on4 (bZβ β) (evalSF ρS a)
  | .boost_p4 a b => bp4L (evalSF ρS a) (evalSF ρS b)
  | .boost_beta3 a b => bβ3L (evalSF ρS a) (evalSF ρS b)
  | .conv2 _ a => evalSF ρS a
  | .conv3 _ _ a => evalSF ρS a
  | .conv4 _ _ _ a => evalSF ρS a
  | .to2D a => (evalSF ρS a).take 2
  | .to3D a => (evalSF ρS a).take 3
  | .to3D_kw l s a => embL l s (evalSF ρS a)
  | .to4D_kw tm s a => embT tm s (evalSF ρS a)
  | .rotate_axis ang a x => axisRotL (evalSF ρS x) ang (evalSF ρS a)
  | .rotate_euler φ θ ψ a => onSpatial (eulerRot .zxz φ θ ψ) (evalSF ρS a)
  | .rotate_euler_ord o φ θ ψ a => onSpatial (eulerRot o φ θ ψ) (evalSF ρS a)
  | .rotate_nautical yaw pitch roll a => onSpatial (eulerRot .zyx roll pitch yaw) (evalSF ρS a)
  | .rotate_quaternion u i j k a => onSpatial (quatRot u i j k) (evalSF ρS a)
  | .boostXg γ a => on4 (bXγ γ) (evalSF ρS a)
  | .boostYg γ a => on4 (bYγ γ) (evalSF ρS a)
  | .boostZg γ a => on4 (bZγ γ) (evalSF ρS a)
  | .boostCM_of_p4 a b => bcm4L (evalSF ρS a) (evalSF ρS b)
  | .boostCM_of_beta3 a b => bcm3L (evalSF ρS a) (evalSF ρS b)
  | .to_beta3 a => beta3L (evalSF ρS a)
  | .transform4D m a => on4 m.ap (evalSF ρS a)
  | .transform2D xx xy yx yy a => onPlanar (C12M.mat2 xx xy yx yy) (evalSF ρS a)
  | .transform3D xx xy xz yx yy yz zx zy zz a => onSpatial (C12M.mat3 xx xy xz yx yy yz zx zy zz) (evalSF ρS a)
  | .proj2 _ a => (evalSF ρS a).take 2
  | .proj3 _ _ a => (evalSF ρS a).take 3

/-- every subexpression's specified value is generic in its dimension, the expression is well-dimensioned (conditions on
the lengths of the specified values), and the parameters are in range (`|β| < 1`, `1 ≤ |γ|`, `0 < θ < π`, `0 ≤ τ`,
`|β⃗| < 1`, unit quaternion) -/
def GenericAllF (ρS : Nat → List ℝ) : F → Prop
  | .var i => Generic (ρS i)
  | .add a b => (GenericAllF ρS a ∧ GenericAllF ρS b) ∧ (evalSF ρS a).length = (evalSF ρS b).length ∧
      Generic (evalSF ρS (.add a b))
  | .sub a b => (GenericAllF ρS a ∧ GenericAllF ρS b) ∧ (evalSF ρS a).length = (evalSF ρS b).length ∧
      Generic (evalSF ρS (.sub a b))
  | .scale k a => GenericAllF ρS a ∧ True ∧ Generic (evalSF ρS (.scale k a))
  | .unit a => GenericAllF ρS a ∧ True ∧ Generic (evalSF ρS (.unit a))
  | .rotateZ ang a => GenericAllF ρS a ∧ True ∧ Generic (evalSF ρS (.rotateZ ang a))
  | .rotateX ang a => GenericAllF ρS a ∧ 3 ≤ (evalSF ρS a).length ∧ Generic (evalSF ρS (.rotateX ang a))
  | .rotateY ang a => GenericAllF ρS a ∧ 3 ≤ (evalSF ρS a).length ∧ Generic (evalSF ρS (.rotateY ang a))
  | .cross a b => (GenericAllF ρS a ∧ GenericAllF ρS b) ∧
      ((evalSF ρS a).length = 3 ∧ (evalSF ρS b).length = 3) ∧ Generic (evalSF ρS (.cross a b))
  | .boostX β a => GenericAllF ρS a ∧ ((evalSF ρS a).length = 4 ∧ |β| < 1) ∧ Generic (evalSF ρS (.boostX β a))
  | .boostY β a => GenericAllF ρS a ∧ ((evalSF ρS a).length = 4 ∧ |β| < 1) ∧ Generic (evalSF ρS (.boostY β a))
  | .boostZ β a => GenericAllF ρS a ∧ ((evalSF ρS a).length = 4 ∧ |β| < 1) ∧ Generic (evalSF ρS (.boostZ β a))
  | .boost_p4 a b => (GenericAllF ρS a ∧ GenericAllF ρS b) ∧
      ((evalSF ρS a).length = 4 ∧ (evalSF ρS b).length = 4) ∧ Generic (evalSF ρS (.boost_p4 a b))
  | .boost_beta3 a b => (GenericAllF ρS a ∧ GenericAllF ρS b) ∧
      ((evalSF ρS a).length = 4 ∧ SubLum (evalSF ρS b)) ∧ Generic (evalSF ρS (.boost_beta3 a b))
  | .conv2 az a => GenericAllF ρS a ∧ (evalSF ρS a).length = 2 ∧ Generic (evalSF ρS (.conv2 az a))
  | .conv3 az l a => GenericAllF ρS a ∧ (evalSF ρS a).length = 3 ∧ Generic (evalSF ρS (.conv3 az l a))
  | .conv4 az l tm a => GenericAllF ρS a ∧ (evalSF ρS a).length = 4 ∧ Generic (evalSF ρS (.conv4 az l tm a))
  | .to2D a => GenericAllF ρS a ∧ True ∧ Generic (evalSF ρS (.to2D a))
  | .to3D a => GenericAllF ρS a ∧ 3 ≤ (evalSF ρS a).length ∧ Generic (evalSF ρS (.to3D a))
  | .to3D_kw l s a => GenericAllF ρS a ∧ ((evalSF ρS a).length = 2 ∧ LonParamOK l s) ∧
      Generic (evalSF ρS (.to3D_kw l s a))
  | .to4D_kw tm s a => GenericAllF ρS a ∧ ((evalSF ρS a).length = 3 ∧ TmpParamOK tm s) ∧
      Generic (evalSF ρS (.to4D_kw tm s a))
  | .rotate_axis ang a x => (GenericAllF ρS a ∧ GenericAllF ρS x) ∧
      (3 ≤ (evalSF ρS a).length ∧ (evalSF ρS x).length = 3) ∧ Generic (evalSF ρS (.rotate_axis ang a x))
  | .rotate_euler φ θ ψ a => GenericAllF ρS a ∧ 3 ≤ (evalSF ρS a).length ∧ Generic (evalSF ρS (.rotate_euler φ θ ψ a))
  | .rotate_euler_ord o φ θ ψ a => GenericAllF ρS a ∧ 3 ≤ (evalSF ρS a).length ∧
      Generic (evalSF ρS (.rotate_euler_ord o φ θ ψ a))
  | .rotate_nautical yaw pitch roll a => GenericAllF ρS a ∧ 3 ≤ (evalSF ρS a).length ∧
      Generic (evalSF ρS (.rotate_nautical yaw pitch roll a))
  | .rotate_quaternion u i j k a => GenericAllF ρS a ∧
      (3 ≤ (evalSF ρS a).length ∧ u ^ 2 + i ^ 2 + j ^ 2 + k ^ 2 = 1) ∧ Generic (evalSF ρS (.rotate_quaternion u i j k a))
  | .boostXg γ a => GenericAllF ρS a ∧ ((evalSF ρS a).length = 4 ∧ 1 ≤ |γ|) ∧ Generic (evalSF ρS (.boostXg γ a))
  | .boostYg γ a => GenericAllF ρS a ∧ ((evalSF ρS a).length = 4 ∧ 1 ≤ |γ|) ∧ Generic (evalSF ρS (.boostYg γ a))
  | .boostZg γ a => GenericAllF ρS a ∧ ((evalSF ρS a).length = 4 ∧ 1 ≤ |γ|) ∧ Generic (evalSF ρS (.boostZg γ a))
  | .boostCM_of_p4 a b => (GenericAllF ρS a ∧ GenericAllF ρS b) ∧
      ((evalSF ρS a).length = 4 ∧ (evalSF ρS b).length = 4) ∧ Generic (evalSF ρS (.boostCM_of_p4 a b))
  | .boostCM_of_beta3 a b => (GenericAllF ρS a ∧ GenericAllF ρS b) ∧
      ((evalSF ρS a).length = 4 ∧ SubLum (evalSF ρS b)) ∧ Generic (evalSF ρS (.boostCM_of_beta3 a b))
  | .to_beta3 a => GenericAllF ρS a ∧ (evalSF ρS a).length = 4 ∧ Generic (evalSF ρS (.to_beta3 a))
  | .transform4D m a => GenericAllF ρS a ∧ (evalSF ρS a).length = 4 ∧ Generic (evalSF ρS (.transform4D m a))
  | .transform2D xx xy yx yy a => GenericAllF ρS a ∧ (evalSF ρS a).length = 2 ∧
      Generic (evalSF ρS (.transform2D xx xy yx yy a))
  | .transform3D xx xy xz yx yy yz zx zy zz a => GenericAllF ρS a ∧ (evalSF ρS a).length = 3 ∧
      Generic (evalSF ρS (.transform3D xx xy xz yx yy yz zx zy zz a))
  | .proj2 az a => GenericAllF ρS a ∧ True ∧ Generic (evalSF ρS (.proj2 az a))
  | .proj3 az l a => GenericAllF ρS a ∧ (evalSF ρS a).length = 4 ∧ Generic (evalSF ρS (.proj3 az l a))
theorem genericAllF_self {ρS : Nat → List ℝ} {e : F} (h : GenericAllF ρS e) : Generic (evalSF ρS e) := by
  cases e <;> first | exact h | exact h.2.2

/-! ## 3. MAIN THEOREM -/

/-- the nodes whose model uses the constant `K.negOne` (for `neg3D` of the booster) -/
def usesCM : F → Prop
  | .boostCM_of_p4 _ _ | .boostCM_of_beta3 _ _ => True
  | .var _ => False
  | .add a b | .sub a b | .cross a b | .boost_p4 a b | .boost_beta3 a b | .rotate_axis _ a b => usesCM a ∨ usesCM b
  | .scale _ a | .unit a | .rotateZ _ a | .rotateX _ a | .rotateY _ a | .boostX _ a | .boostY _ a | .boostZ _ a
  | .conv2 _ a | .conv3 _ _ a | .conv4 _ _ _ a | .to2D a | .to3D a | .to3D_kw _ _ a | .to4D_kw _ _ a
  | .rotate_euler _ _ _ a | .rotate_euler_ord _ _ _ _ a | .rotate_nautical _ _ _ a | .rotate_quaternion _ _ _ _ a
  | .boostXg _ a | .boostYg _ a | .boostZg _ a | .to_beta3 a | .transform4D _ a | .transform2D _ _ _ _ a
  | .transform3D _ _ _ _ _ _ _ _ _ a | .proj2 _ a | .proj3 _ _ a => usesCM a

theorem subLum_length : ∀ {p : List ℝ}, SubLum p → p.length = 3
  | [_, _, _], _ => rfl

/-- the main theorem, with the hypothesis on `K` only where a `boostCM_of_*` node needs it -/
theorem c01f_eval_of (ρ : Nat → Vec ℝ) (ρS : Nat → List ℝ) (hρ : ∀ i, Good (ρ i))
    (hS : ∀ i, denote (ρ i) = some (ρS i)) (e : F) (hK : usesCM e → K.negOne = -1) (hg : GenericAllF ρS e) :
    ∃ v, evalMF K A ρ e = .ok v ∧ Good v ∧ denote v = some (evalSF ρS e) := by
  induction e with
  | var i => exact ⟨ρ i, rfl, hρ i, hS i⟩
  | add a b iha ihb =>
    obtain ⟨⟨ga, gb⟩, hl, gr⟩ := hg
    exact bin_step (iha (hK ∘ .inl) ga) (ihb (hK ∘ .inr) gb) fun va vb ha hb =>
      add_sound K A ha hb (.inr (genericAllF_self ga)) (.inr (genericAllF_self gb)) hl (.inr gr)
  | sub a b iha ihb =>
    obtain ⟨⟨ga, gb⟩, hl, gr⟩ := hg
    exact bin_step (iha (hK ∘ .inl) ga) (ihb (hK ∘ .inr) gb) fun va vb ha hb =>
      sub_sound K A ha hb (.inr (genericAllF_self ga)) (.inr (genericAllF_self gb)) hl (.inr gr)
  | scale k a iha =>
    obtain ⟨ga, -, gr⟩ := hg
    exact un_step (iha hK ga) fun va ha => scale_sound K A k ha (.inr (genericAllF_self ga)) (.inr gr)
  | unit a iha =>
    obtain ⟨ga, -, gr⟩ := hg
    exact un_step (iha hK ga) fun va ha => unit_sound K A ha (genericAllF_self ga) (.inr gr)
  | rotateZ ang a iha => exact un_step (iha hK hg.1) fun va ha => rotateZ_case K A ang ha.1 ha.2
  | rotateX ang a iha =>
    obtain ⟨ga, hl, gr⟩ := hg
    exact un_step (iha hK ga) fun va ha => spat_sound (fun v => call evR K A "rotateX" v [.sc ang]) (rotX ang)
      (fun v hv hd hT => c01m_rotateX K A v hv hd hT ang) ha (.inr (genericAllF_self ga)) hl (.inr gr)
  | rotateY ang a iha =>
    obtain ⟨ga, hl, gr⟩ := hg
    exact un_step (iha hK ga) fun va ha => spat_sound (fun v => call evR K A "rotateY" v [.sc ang]) (rotY ang)
      (fun v hv hd hT => c01m_rotateY K A v hv hd hT ang) ha (.inr (genericAllF_self ga)) hl (.inr gr)
  | cross a b iha ihb =>
    obtain ⟨⟨ga, gb⟩, ⟨hla, hlb⟩, -⟩ := hg
    exact bin_step (iha (hK ∘ .inl) ga) (ihb (hK ∘ .inr) gb) fun va vb ha hb =>
      cross_case K A ha.1 hb.1 ha.2 hb.2 (generic_len3 (genericAllF_self ga) hla) (generic_len3 (genericAllF_self gb) hlb)
  | boostX β a iha =>
    obtain ⟨ga, ⟨hl, hβ⟩, gr⟩ := hg
    exact un_step (iha hK ga) fun va ha => boostX4_case K A β hβ ha.1 ha.2 (generic_len4 (genericAllF_self ga) hl)
      (generic_len4 gr ((on4_length _ _).trans hl))
  | boostY β a iha =>
    obtain ⟨ga, ⟨hl, hβ⟩, gr⟩ := hg
    exact un_step (iha hK ga) fun va ha => boostY4_case K A β hβ ha.1 ha.2 (generic_len4 (genericAllF_self ga) hl)
      (generic_len4 gr ((on4_length _ _).trans hl))
  | boostZ β a iha =>
    obtain ⟨ga, ⟨hl, hβ⟩, gr⟩ := hg
    exact un_step (iha hK ga) fun va ha => boostZ4_case K A β hβ ha.1 ha.2 (generic_len4 (genericAllF_self ga) hl)
      (generic_len4 gr ((on4_length _ _).trans hl))
  | boost_p4 a b iha ihb =>
    obtain ⟨⟨ga, gb⟩, ⟨hla, hlb⟩, gr⟩ := hg
    exact bin_step (iha (hK ∘ .inl) ga) (ihb (hK ∘ .inr) gb) fun va vb ha hb =>
      boost_p4_case K A ha.1 hb.1 ha.2 hb.2 (generic_len4 (genericAllF_self ga) hla) (generic_len4 (genericAllF_self gb) hlb) gr
  | boost_beta3 a b iha ihb =>
    obtain ⟨⟨ga, gb⟩, ⟨hla, hsub⟩, gr⟩ := hg
    exact bin_step (iha (hK ∘ .inl) ga) (ihb (hK ∘ .inr) gb) fun va vb ha hb =>
      boost_beta3_case K A ha.1 hb.1 ha.2 hb.2 (generic_len4 (genericAllF_self ga) hla)
        (generic_len3 (genericAllF_self gb) (subLum_length hsub)) hsub gr
  | conv2 az a iha =>
    obtain ⟨ga, hl, -⟩ := hg
    exact un_step (iha hK ga) fun va ha => List.take_of_length_le hl.le ▸ proj2_case K A az ha.1 ha.2
  | conv3 az l a iha =>
    obtain ⟨ga, hl, -⟩ := hg
    have g := generic_len3 (genericAllF_self ga) hl
    exact un_step (iha hK ga) fun va ha => conv_case K A az l ha.1 ha.2 g
  | conv4 az l tm a iha =>
    obtain ⟨ga, hl, -⟩ := hg
    have g := generic_len4 (genericAllF_self ga) hl
    exact un_step (iha hK ga) fun va ha => conv4_case K A az l tm ha.1 ha.2 g
  | to2D a iha => exact un_step (iha hK hg.1) fun va ha => to2D_case K A ha.1 ha.2
  | to3D a iha => exact un_step (iha hK hg.1) fun va ha => to3D_case K A ha.1 ha.2 hg.2.1
  | to3D_kw l s a iha => exact un_step (iha hK hg.1) fun va ha => to3D_kw_case K A l s hg.2.1.2 ha.1 ha.2 hg.2.1.1
  | to4D_kw tm s a iha => exact un_step (iha hK hg.1) fun va ha => to4D_kw_case K A tm s hg.2.1.2 ha.1 ha.2 hg.2.1.1
  | rotate_axis ang a x iha ihx =>
    obtain ⟨⟨ga, gx⟩, ⟨hla, hlx⟩, gr⟩ := hg
    exact bin_step (iha (hK ∘ .inl) ga) (ihx (hK ∘ .inr) gx) fun va vx ha hx =>
      rotate_axis_case K A ang ha.1 hx.1 ha.2 hx.2 (genericAllF_self ga) (generic_len3 (genericAllF_self gx) hlx) hla gr
  | rotate_euler φ θ ψ a iha =>
    obtain ⟨ga, hl, gr⟩ := hg
    exact un_step (iha hK ga) fun va ha => spat_sound (fun v => call evR K A "rotate_euler" v [.sc φ, .sc θ, .sc ψ])
      (eulerRot .zxz φ θ ψ) (fun v hv hd hT => c01m_rotate_euler K A v hv hd hT φ θ ψ) ha
      (.inr (genericAllF_self ga)) hl (.inr gr)
  | rotate_euler_ord o φ θ ψ a iha =>
    obtain ⟨ga, hl, gr⟩ := hg
    exact un_step (iha hK ga) fun va ha =>
      spat_sound (fun v => call evR K A "rotate_euler" v [.sc φ, .sc θ, .sc ψ, .str o.str]) (eulerRot o φ θ ψ)
        (fun v hv hd hT => c01m_rotate_euler_ord K A v hv hd hT φ θ ψ o.str o (ordOf_str o)) ha
        (.inr (genericAllF_self ga)) hl (.inr gr)
  | rotate_nautical yaw pitch roll a iha =>
    obtain ⟨ga, hl, gr⟩ := hg
    exact un_step (iha hK ga) fun va ha =>
      spat_sound (fun v => call evR K A "rotate_nautical" v [.sc yaw, .sc pitch, .sc roll]) (eulerRot .zyx roll pitch yaw)
        (fun v hv hd hT => c01m_rotate_nautical K A v hv hd hT yaw pitch roll) ha
        (.inr (genericAllF_self ga)) hl (.inr gr)
  | rotate_quaternion u i j k a iha =>
    obtain ⟨ga, ⟨hl, hq⟩, gr⟩ := hg
    exact un_step (iha hK ga) fun va ha =>
      spat_sound (fun v => call evR K A "rotate_quaternion" v [.sc u, .sc i, .sc j, .sc k]) (quatRot u i j k)
        (fun v hv hd hT => c01m_rotate_quaternion K A v hv hd hT u i j k hq) ha
        (.inr (genericAllF_self ga)) hl (.inr gr)
  | boostXg γ a iha =>
    obtain ⟨ga, ⟨hl, hγ⟩, gr⟩ := hg
    exact un_step (iha hK ga) fun va ha => boostAg4_case K A .x γ hγ ha.1 ha.2 (generic_len4 (genericAllF_self ga) hl)
      (generic_len4 gr ((on4_length _ _).trans hl))
  | boostYg γ a iha =>
    obtain ⟨ga, ⟨hl, hγ⟩, gr⟩ := hg
    exact un_step (iha hK ga) fun va ha => boostAg4_case K A .y γ hγ ha.1 ha.2 (generic_len4 (genericAllF_self ga) hl)
      (generic_len4 gr ((on4_length _ _).trans hl))
  | boostZg γ a iha =>
    obtain ⟨ga, ⟨hl, hγ⟩, gr⟩ := hg
    exact un_step (iha hK ga) fun va ha => boostAg4_case K A .z γ hγ ha.1 ha.2 (generic_len4 (genericAllF_self ga) hl)
      (generic_len4 gr ((on4_length _ _).trans hl))
  | boostCM_of_p4 a b iha ihb =>
    obtain ⟨⟨ga, gb⟩, ⟨hla, hlb⟩, gr⟩ := hg
    have hK := hK trivial
    exact bin_step (iha (fun _ => hK) ga) (ihb (fun _ => hK) gb) fun va vb ha hb =>
      boostCM_of_p4_case K A hK ha.1 hb.1 ha.2 hb.2 (generic_len4 (genericAllF_self ga) hla)
        (generic_len4 (genericAllF_self gb) hlb) gr
  | boostCM_of_beta3 a b iha ihb =>
    obtain ⟨⟨ga, gb⟩, ⟨hla, hsub⟩, gr⟩ := hg
    have hK := hK trivial
    exact bin_step (iha (fun _ => hK) ga) (ihb (fun _ => hK) gb) fun va vb ha hb =>
      boostCM_of_beta3_case K A hK ha.1 hb.1 ha.2 hb.2 (generic_len4 (genericAllF_self ga) hla)
        (generic_len3 (genericAllF_self gb) (subLum_length hsub)) hsub gr
  | to_beta3 a iha =>
    obtain ⟨ga, hl, -⟩ := hg
    exact un_step (iha hK ga) fun va ha => to_beta3_case K A ha.1 ha.2 (generic_len4 (genericAllF_self ga) hl)
  | transform4D m a iha =>
    obtain ⟨ga, hl, -⟩ := hg
    exact un_step (iha hK ga) fun va ha => transform4D_case K A m ha.1 ha.2 (generic_len4 (genericAllF_self ga) hl)
  | transform2D xx xy yx yy a iha =>
    exact un_step (iha hK hg.1) fun va ha => transform2D_case K A xx xy yx yy ha.1 ha.2 hg.2.1
  | transform3D xx xy xz yx yy yz zx zy zz a iha =>
    obtain ⟨ga, hl, -⟩ := hg
    exact un_step (iha hK ga) fun va ha =>
      transform3D_case K A xx xy xz yx yy yz zx zy zz ha.1 ha.2 (generic_len3 (genericAllF_self ga) hl)
  | proj2 az a iha => exact un_step (iha hK hg.1) fun va ha => proj2_case K A az ha.1 ha.2
  | proj3 az l a iha =>
    obtain ⟨ga, hl, -⟩ := hg
    exact un_step (iha hK ga) fun va ha => proj3_case K A az l ha.1 ha.2 (generic_len4 (genericAllF_self ga) hl)

/-- **coordinate independence of every generic expression of the extended language**: the model run succeeds, the result
satisfies the invariant `Good` (well-formed, stored coordinates in range, not stored at a pole), and it denotes the
specified value — whatever coordinate systems, flavors and backends the variables are stored in -/
theorem c01f_eval (hK : K.negOne = -1) (ρ : Nat → Vec ℝ) (ρS : Nat → List ℝ)
    (hρ : ∀ i, Good (ρ i)) (hS : ∀ i, denote (ρ i) = some (ρS i)) (e : F) (hg : GenericAllF ρS e) :
    ∃ v, evalMF K A ρ e = .ok v ∧ Good v ∧ denote v = some (evalSF ρS e) :=
  c01f_eval_of K A ρ ρS hρ hS e (fun _ => hK) hg

/-! ## 4. COROLLARY: property C01 in its literal form -/

/-- **C01 for whole computations over the extended language**: two environments holding THE SAME geometric vectors —
variables of any dimension in any of the 2 / 6 / 12 storages, any flavors and backends — give results with the same
denotation (namely the specified value), for every generic expression -/
theorem c01f_indep (K : Consts ℝ) (A : Arith ℝ) (hK : K.negOne = -1) (ρ₁ ρ₂ : Nat → Vec ℝ)
    (h₁ : ∀ i, Good (ρ₁ i)) (h₂ : ∀ i, Good (ρ₂ i)) (hd : ∀ i, denote (ρ₁ i) = denote (ρ₂ i)) (e : F)
    (hg : GenericAllF (specEnv ρ₁) e) :
    ∃ v₁ v₂, evalMF K A ρ₁ e = .ok v₁ ∧ evalMF K A ρ₂ e = .ok v₂ ∧ denote v₁ = denote v₂ ∧
      denote v₁ = some (evalSF (specEnv ρ₁) e) :=
  indep_of_runs (c01f_eval K A hK ρ₁ _ h₁ (denote_specEnv h₁) e hg)
    (c01f_eval K A hK ρ₂ _ h₂ (fun i => (hd i).symm.trans (denote_specEnv h₁ i)) e hg)

theorem c01f_indep_eq (K : Consts ℝ) (A : Arith ℝ) (hK : K.negOne = -1) (ρ₁ ρ₂ : Nat → Vec ℝ)
    (h₁ : ∀ i, Good (ρ₁ i)) (h₂ : ∀ i, Good (ρ₂ i)) (hd : ∀ i, denote (ρ₁ i) = denote (ρ₂ i)) (e : F)
    (hg : GenericAllF (specEnv ρ₁) e) :
    (evalMF K A ρ₁ e).toOption.bind denote = (evalMF K A ρ₂ e).toOption.bind denote ∧
      ((evalMF K A ρ₁ e).toOption.bind denote).isSome := by
  obtain ⟨v₁, v₂, e₁, e₂, h, h'⟩ := c01f_indep K A hK ρ₁ ρ₂ h₁ h₂ hd e hg
  rw [e₁, e₂]
  refine ⟨h, ?_⟩
  show (denote v₁).isSome = true
  rw [h']; rfl

/-! ## 5. Scalar expressions over the extended language -/

/-- the momentum-only transverse variables -/
inductive MomS | Et | Et2 | Mt | Mt2

def MomS.name : MomS → String
  | .Et => "Et" | .Et2 => "Et2" | .Mt => "Mt" | .Mt2 => "Mt2"

/-- their specification on `(x, y, z, t)` (for the forward time-like generic vectors) -/
noncomputable def mspec : MomS → ℝ → ℝ → ℝ → ℝ → ℝ
  | .Et, x, y, z, t => sqrt (t ^ 2 * (x ^ 2 + y ^ 2) / (x ^ 2 + y ^ 2 + z ^ 2))
  | .Et2, x, y, z, t => t ^ 2 * (x ^ 2 + y ^ 2) / (x ^ 2 + y ^ 2 + z ^ 2)
  | .Mt, _, _, z, t => sqrt (t ^ 2 - z ^ 2)
  | .Mt2, _, _, z, t => t ^ 2 - z ^ 2

inductive SF : Type
  | un (f : UnS4) (a : F)          -- the accessor-like properties of `C01E.SU`
  | bi (f : BinS) (a b : F)        -- `dot deltaphi deltaeta deltaR2 deltaR deltaangle`
  | abs (a : F)                    -- `abs(v)`
  | sq (a : F)                     -- `v ** 2`
  | mom (f : MomS) (a : F)         -- `Et Et2 Mt Mt2` of a 4D value of momentum flavor
  | dRapPhi (a b : F)              -- `deltaRapidityPhi`
  | dRapPhi2 (a b : F)             -- `deltaRapidityPhi2`

noncomputable def evalMSF (K : Consts ℝ) (A : Arith ℝ) (ρ : Nat → Vec ℝ) : SF → Except Err (Res ℝ Prop)
  | .un f a => unS (evalMF K A ρ a) fun va => call evR K A f.name va []
  | .bi f a b => binS (evalMF K A ρ a) (evalMF K A ρ b) fun va vb => call evR K A f.name va [.v vb]
  | .abs a => unS (evalMF K A ρ a) fun va => operator evR K A "abs" va []
  | .sq a => unS (evalMF K A ρ a) fun va => operator evR K A "pow" va [.sc 2]
  | .mom f a => unS (evalMF K A ρ a) fun va => call evR K A f.name va []
  | .dRapPhi a b => binS (evalMF K A ρ a) (evalMF K A ρ b) fun va vb => call evR K A "deltaRapidityPhi" va [.v vb]
  | .dRapPhi2 a b => binS (evalMF K A ρ a) (evalMF K A ρ b) fun va vb => call evR K A "deltaRapidityPhi2" va [.v vb]

/-- `Δφ² + Δy²` of two four-vectors: `Δφ` the rectified difference of the azimuths, `y` the rapidity -/
noncomputable def dRap2L : List ℝ → List ℝ → ℝ
  | [x₁, y₁, z₁, t₁], [x₂, y₂, z₂, t₂] =>
    (P.mod (P.arctan2 y₁ x₁ - P.arctan2 y₂ x₂ + π) (2 * π) - π) ^ 2
      + (rapidityOf (x₁, y₁, z₁, t₁) - rapidityOf (x₂, y₂, z₂, t₂)) ^ 2
  | _, _ => 0

noncomputable def evalSSF (ρS : Nat → List ℝ) : SF → ℝ
  | .un f a => unSpecL f (evalSF ρS a)
  | .bi f a b => biSpecL f (evalSF ρS a) (evalSF ρS b)
  | .abs a => C12M.normS (evalSF ρS a)
  | .sq a => C12M.norm2S (evalSF ρS a)
  | .mom f a => on4s (mspec f) (evalSF ρS a)
  | .dRapPhi a b => sqrt (dRap2L (evalSF ρS a) (evalSF ρS b))
  | .dRapPhi2 a b => dRap2L (evalSF ρS a) (evalSF ρS b)

def GenericSF (ρS : Nat → List ℝ) : SF → Prop
  | .un f a => GenericAllF ρS a ∧ f.dimOK (evalSF ρS a).length ∧ (f = .sp .phi → PhiOKU (evalSF ρS a))
  | .bi f a b => (GenericAllF ρS a ∧ GenericAllF ρS b) ∧ (evalSF ρS a).length = (evalSF ρS b).length ∧
      ((evalSF ρS a).length = 2 → f = .dot ∨ f = .deltaphi)
  | .abs a => GenericAllF ρS a
  | .sq a => GenericAllF ρS a
  | .mom _ a => GenericAllF ρS a ∧ (evalSF ρS a).length = 4
  | .dRapPhi a b => (GenericAllF ρS a ∧ GenericAllF ρS b) ∧ (evalSF ρS a).length = 4 ∧ (evalSF ρS b).length = 4
  | .dRapPhi2 a b => (GenericAllF ρS a ∧ GenericAllF ρS b) ∧ (evalSF ρS a).length = 4 ∧ (evalSF ρS b).length = 4

/-- the flavor (momentum or not) of a value is not part of its denotation: the momentum-only properties need the MODEL
value to be of momentum flavor (for a variable: `(ρ i).ty.mom = true`) -/
def MomOK (K : Consts ℝ) (A : Arith ℝ) (ρ : Nat → Vec ℝ) : SF → Prop
  | .mom _ a => ∀ v, evalMF K A ρ a = .ok v → v.ty.mom = true
  | _ => True
theorem normOK_of_good {v : Vec ℝ} {p : List ℝ} (hv : Good v) (hd : denote v = some p) (hg : Generic p) :
    C12M.NormOK v := by
  rcases hg with g | g | g
  · obtain ⟨be, mom, az, a, b, rfl, -, hA⟩ := good2_shape hv hd (generic2_length g)
    exact canon2_of_azOK hA
  · obtain ⟨be, mom, az, l, a, b, c, rfl, -, h⟩ := good3_core hv hd g
    exact ⟨h.canon.1, h.sin⟩
  · obtain ⟨be, mom, az, l, tm, a, b, c, d, rfl, -, h⟩ := good4_core hv hd g
    exact ⟨h.canon.2, h.ctmp⟩

theorem mom_case (f : MomS) (ha : Good va)
    (hmom : va.ty.mom = true) (da : denote va = some pa) (ga : Generic4 pa) :
    call evR K A f.name va [] = .ok (.scalar (on4s (mspec f) pa)) := by
  obtain ⟨be, mom, az, l, tm, a, b, c, d, rfl, rfl, h⟩ := good4_core ha da ga
  cases f
  · exact c09m_acc_Et K A _ ha.1 hmom ⟨h.canon, h.ctmp⟩ _ _ _ _ da h.mag h.pos.le
  · exact c09m_acc_Et2 K A _ ha.1 hmom ⟨h.canon.2, h.ctmp⟩ _ _ _ _ da h.mag
  · have hlt : xOf az a b ^ 2 + yOf az a b ^ 2 + zOf az l a b c ^ 2 < tOf az l tm a b c d ^ 2 := h.lt
    exact c09m_acc_Mt K A _ ha.1 hmom ⟨h.tan, h.ctmp⟩ _ _ _ _ da
      (by linarith [sq_nonneg (xOf az a b), sq_nonneg (yOf az a b)])
  · exact c09m_acc_Mt2 K A _ ha.1 hmom ⟨h.tan, h.ctmp⟩ _ _ _ _ da

theorem dRap_case (ha : Good va) (hb : Good vb)
    (da : denote va = some pa) (db : denote vb = some pb) (ga : Generic4 pa) (gb : Generic4 pb) :
    call evR K A "deltaRapidityPhi2" va [.v vb] = .ok (.scalar (dRap2L pa pb)) ∧
    call evR K A "deltaRapidityPhi" va [.v vb] = .ok (.scalar (sqrt (dRap2L pa pb))) := by
  obtain ⟨be1, mom1, az1, l1, t1, a0, a1, a2, a3, rfl, rfl, h1⟩ := good4_core ha da ga
  obtain ⟨be2, mom2, az2, l2, t2, b0, b1, b2, b3, rfl, rfl, h2⟩ := good4_core hb db gb
  obtain ⟨dphi, -, e2, e1, hphi⟩ := C12M.c12m_deltaRapidityPhi K A _ _ ha.1 hb.1 rfl rfl ⟨h1.tan, h1.sin, h1.ctmp⟩
    ⟨h2.tan, h2.sin, h2.ctmp⟩ _ _ _ _ _ _ _ _ da db (abs_z_lt h1.lt h1.pos) (abs_z_lt h2.lt h2.pos)
  obtain rfl := hphi h1.rho h2.rho
  exact ⟨e2, e1⟩

/-- **scalar expressions over the extended language**: the model returns the specified scalar
(`hA`: the model's test `other == 2` of `__pow__` succeeds on the literal `2`) -/
theorem c01f_evalS (hK : K.negOne = -1) (hA : A.isTwo 2 = true) (ρ : Nat → Vec ℝ)
    (ρS : Nat → List ℝ) (hρ : ∀ i, Good (ρ i)) (hS : ∀ i, denote (ρ i) = some (ρS i)) (s : SF)
    (hg : GenericSF ρS s) (hm : MomOK K A ρ s) :
    evalMSF K A ρ s = .ok (.scalar (evalSSF ρS s)) := by
  have ev := c01f_eval K A hK ρ ρS hρ hS
  cases s with
  | un f a =>
    exact unS_step (ev a hg.1) fun va ha da => unU_case K A f ha da (genericAllF_self hg.1) hg.2.1 hg.2.2
  | bi f a b =>
    exact binS_step (ev a hg.1.1) (ev b hg.1.2) fun va vb ha hb da db =>
      biU_case K A f ha hb da db (genericAllF_self hg.1.1) (genericAllF_self hg.1.2) hg.2.1 hg.2.2
  | abs a =>
    exact unS_step (ev a hg) fun va ha da =>
      C12M.c12m_abs K A va ha.1 (normOK_of_good ha da (genericAllF_self hg)) _ da
  | sq a =>
    exact unS_step (ev a hg) fun va ha da => C12M.c12m_pow_two K A va ha.1
      (C12M.norm2OK_of_normOK ha.1 (normOK_of_good ha da (genericAllF_self hg))) _ da 2 hA
  | mom f a =>
    obtain ⟨va, ea, ha, da⟩ := ev a hg.1
    exact unS_step (G := fun v => Good v ∧ v.ty.mom = true) ⟨va, ea, ⟨ha, hm va ea⟩, da⟩ fun v hv dv =>
      mom_case K A f hv.1 hv.2 dv (generic_len4 (genericAllF_self hg.1) hg.2)
  | dRapPhi a b =>
    exact binS_step (ev a hg.1.1) (ev b hg.1.2) fun va vb ha hb da db =>
      (dRap_case K A ha hb da db (generic_len4 (genericAllF_self hg.1.1) hg.2.1)
        (generic_len4 (genericAllF_self hg.1.2) hg.2.2)).2
  | dRapPhi2 a b =>
    exact binS_step (ev a hg.1.1) (ev b hg.1.2) fun va vb ha hb da db =>
      (dRap_case K A ha hb da db (generic_len4 (genericAllF_self hg.1.1) hg.2.1)
        (generic_len4 (genericAllF_self hg.1.2) hg.2.2)).1

/-- **C01 for scalar expressions over the extended language**: the same geometric vectors in any storages give the same
number (for the momentum-only properties: both runs on values of momentum flavor) -/
theorem c01f_indepS (K : Consts ℝ) (A : Arith ℝ) (hK : K.negOne = -1) (hA : A.isTwo 2 = true) (ρ₁ ρ₂ : Nat → Vec ℝ)
    (h₁ : ∀ i, Good (ρ₁ i)) (h₂ : ∀ i, Good (ρ₂ i)) (hd : ∀ i, denote (ρ₁ i) = denote (ρ₂ i)) (s : SF)
    (hg : GenericSF (specEnv ρ₁) s) (hm₁ : MomOK K A ρ₁ s) (hm₂ : MomOK K A ρ₂ s) :
    evalMSF K A ρ₁ s = evalMSF K A ρ₂ s ∧ evalMSF K A ρ₁ s = .ok (.scalar (evalSSF (specEnv ρ₁) s)) := by
  have e₁ := c01f_evalS K A hK hA ρ₁ _ h₁ (denote_specEnv h₁) s hg hm₁
  exact ⟨e₁.trans (c01f_evalS K A hK hA ρ₂ _ h₂ (fun i => (hd i).symm.trans (denote_specEnv h₁ i)) s hg hm₂).symm, e₁⟩

/-! ## 6. Truth-valued expressions -/

inductive CausalP | timelike | spacelike | lightlike
inductive AngleP | parallel | antiparallel | perpendicular

def CausalP.name : CausalP → String
  | .timelike => "is_timelike" | .spacelike => "is_spacelike" | .lightlike => "is_lightlike"
def AngleP.name : AngleP → String
  | .parallel => "is_parallel" | .antiparallel => "is_antiparallel" | .perpendicular => "is_perpendicular"

inductive TF : Type
  | causal (f : CausalP) (tol : ℝ) (a : F)        -- `a.is_timelike(tol)` … on a 4D value
  | angle (f : AngleP) (tol : ℝ) (a b : F)        -- `a.is_parallel(b, tol)` … on values of equal dimension
  | equal (a b : F)                                -- `a == b`
  | not_equal (a b : F)                            -- `a != b`

noncomputable def evalMTF (K : Consts ℝ) (A : Arith ℝ) (ρ : Nat → Vec ℝ) : TF → Except Err (Res ℝ Prop)
  | .causal f tol a => unS (evalMF K A ρ a) fun va => call evR K A f.name va [.sc tol]
  | .angle f tol a b => binS (evalMF K A ρ a) (evalMF K A ρ b) fun va vb => call evR K A f.name va [.v vb, .sc tol]
  | .equal a b => binS (evalMF K A ρ a) (evalMF K A ρ b) fun va vb => call evR K A "equal" va [.v vb]
  | .not_equal a b => binS (evalMF K A ρ a) (evalMF K A ρ b) fun va vb => call evR K A "not_equal" va [.v vb]

/-- the documented sign tests of `s = t² − x² − y² − z²` -/
def causalSpec : CausalP → ℝ → List ℝ → Prop
  | .timelike, tol, [x, y, z, t] => t ^ 2 - (x ^ 2 + y ^ 2 + z ^ 2) > |tol|
  | .spacelike, tol, [x, y, z, t] => t ^ 2 - (x ^ 2 + y ^ 2 + z ^ 2) < -|tol|
  | .lightlike, tol, [x, y, z, t] => |t ^ 2 - (x ^ 2 + y ^ 2 + z ^ 2)| < |tol|
  | _, _, _ => False

/-- the documented tests on the (spatial) dot product `d` and the (spatial) lengths `m₁`, `m₂` -/
def angleCore : AngleP → ℝ → ℝ → ℝ → ℝ → Prop
  | .parallel, tol, d, m₁, m₂ => d > (1 - |tol|) * m₁ * m₂
  | .antiparallel, tol, d, m₁, m₂ => d < (|tol| - 1) * m₁ * m₂
  | .perpendicular, tol, d, m₁, m₂ => |d| < |tol| * m₁ * m₂

noncomputable def angleSpec (f : AngleP) (tol : ℝ) : List ℝ → List ℝ → Prop
  | [x₁, y₁], [x₂, y₂] => angleCore f tol (x₁ * x₂ + y₁ * y₂) (sqrt (x₁ ^ 2 + y₁ ^ 2)) (sqrt (x₂ ^ 2 + y₂ ^ 2))
  | x₁ :: y₁ :: z₁ :: _, x₂ :: y₂ :: z₂ :: _ =>
    angleCore f tol (x₁ * x₂ + y₁ * y₂ + z₁ * z₂) (sqrt (x₁ ^ 2 + y₁ ^ 2 + z₁ ^ 2)) (sqrt (x₂ ^ 2 + y₂ ^ 2 + z₂ ^ 2))
  | _, _ => False

/-- what the returned truth value `p` is specified to be: for the causal and angular predicates EXACTLY the documented
test on the denotations; for `==` / `!=` only soundness (`c12m_eq_denote_partial`: the comparison is on stored
coordinates, the converse fails at the coordinate singularities) -/
noncomputable def TruthSpec (ρS : Nat → List ℝ) : TF → Prop → Prop
  | .causal f tol a, p => p ↔ causalSpec f tol (evalSF ρS a)
  | .angle f tol a b, p => p ↔ angleSpec f tol (evalSF ρS a) (evalSF ρS b)
  | .equal a b, p => p → evalSF ρS a = evalSF ρS b
  | .not_equal a b, p => evalSF ρS a ≠ evalSF ρS b → p

def GenericTF (ρS : Nat → List ℝ) : TF → Prop
  | .causal _ _ a => GenericAllF ρS a ∧ (evalSF ρS a).length = 4
  | .angle _ _ a b => (GenericAllF ρS a ∧ GenericAllF ρS b) ∧ (evalSF ρS a).length = (evalSF ρS b).length
  | .equal a b => (GenericAllF ρS a ∧ GenericAllF ρS b) ∧ (evalSF ρS a).length = (evalSF ρS b).length
  | .not_equal a b => (GenericAllF ρS a ∧ GenericAllF ρS b) ∧ (evalSF ρS a).length = (evalSF ρS b).length
theorem causal_case (f : CausalP) (tol : ℝ) (ha : Good va)
    (da : denote va = some pa) (ga : Generic4 pa) :
    call evR K A f.name va [.sc tol] = .ok (.truth (causalSpec f tol pa)) := by
  obtain ⟨be, mom, az, l, tm, a, b, c, d, rfl, rfl, h⟩ := good4_core ha da ga
  obtain ⟨h1, -, h3, -, h5, -⟩ := c09m_causal K A _ ha.1 ⟨h.tan, h.sin, h.ctmp⟩ _ _ _ _ da tol
  cases f
  exacts [h1, h3, h5]

theorem angle2_case (f : AngleP) (tol : ℝ) 
    (ha : Good va) (hb : Good vb) (da : denote va = some pa) (db : denote vb = some pb) (la : pa.length = 2)
    (lb : pb.length = 2) :
    ∃ p : Prop, call evR K A f.name va [.v vb, .sc tol] = .ok (.truth p) ∧ (p ↔ angleSpec f tol pa pb) := by
  obtain ⟨be1, mom1, az1, a0, a1, rfl, rfl, hA1⟩ := good2_shape ha da la
  obtain ⟨be2, mom2, az2, b0, b1, rfl, rfl, hA2⟩ := good2_shape hb db lb
  have c1 : Stored2 Canon2 (C11M.V2 be1 mom1 az1 a0 a1) := canon2_of_azOK hA1
  have c2 : Stored2 Canon2 (C11M.V2 be2 mom2 az2 b0 b1) := canon2_of_azOK hA2
  cases f
  · exact (C04M.c04m_is_parallel_2D K A _ _ ha.1 hb.1 rfl rfl c1 c2 _ _ _ _ da db).2 tol
  · exact (C04M.c04m_is_antiparallel_2D K A _ _ ha.1 hb.1 rfl rfl c1 c2 _ _ _ _ da db).2 tol
  · exact (C04M.c04m_is_perpendicular_2D K A _ _ ha.1 hb.1 rfl rfl c1 c2 _ _ _ _ da db).2 tol

theorem angle3_case (f : AngleP) (tol : ℝ) {va vb : Vec ℝ} {x₁ y₁ z₁ x₂ y₂ z₂ : ℝ}
    {r₁ r₂ : List ℝ} (ha : C01M.WFV va) (hb : C01M.WFV vb) (hdim : vb.ty.dim = va.ty.dim) (hca : C04M.PredOKV va)
    (hcb : C04M.PredOKV vb) (da : denote va = some (x₁ :: y₁ :: z₁ :: r₁)) (db : denote vb = some (x₂ :: y₂ :: z₂ :: r₂)) :
    ∃ p : Prop, call evR K A f.name va [.v vb, .sc tol] = .ok (.truth p) ∧
      (p ↔ angleSpec f tol (x₁ :: y₁ :: z₁ :: r₁) (x₂ :: y₂ :: z₂ :: r₂)) := by
  cases f
  · exact (C04M.c04m_is_parallel_3D K A _ _ ha hb hdim hca hcb x₁ y₁ z₁ x₂ y₂ z₂ r₁ r₂ da db).2 tol
  · exact (C04M.c04m_is_antiparallel_3D K A _ _ ha hb hdim hca hcb x₁ y₁ z₁ x₂ y₂ z₂ r₁ r₂ da db).2 tol
  · exact (C04M.c04m_is_perpendicular_3D K A _ _ ha hb hdim hca hcb x₁ y₁ z₁ x₂ y₂ z₂ r₁ r₂ da db).2 tol

theorem angle_case (f : AngleP) (tol : ℝ) 
    (ha : Good va) (hb : Good vb) (da : denote va = some pa) (db : denote vb = some pb) (ga : Generic pa)
    (gb : Generic pb) (hl : pa.length = pb.length) :
    ∃ p : Prop, call evR K A f.name va [.v vb, .sc tol] = .ok (.truth p) ∧ (p ↔ angleSpec f tol pa pb) := by
  have hdim : vb.ty.dim = va.ty.dim := by rw [dim_of_denote hb db, dim_of_denote ha da, hl]
  rcases ga with g | g | g
  · exact angle2_case K A f tol ha hb da db (generic2_length g) (hl ▸ generic2_length g)
  · obtain ⟨_, _, _, _, _, _, _, rfl, rfl, h1⟩ := good3_core ha da g
    obtain ⟨_, _, _, _, _, _, _, rfl, rfl, h2⟩ := good3_core hb db (generic_len3 gb (hl ▸ generic3_length g))
    exact angle3_case K A f tol ha.1 hb.1 hdim ⟨h1.canon.1, h1.tan, h1.sin⟩ ⟨h2.canon.1, h2.tan, h2.sin⟩ da db
  · obtain ⟨_, _, _, _, _, _, _, _, _, rfl, rfl, h1⟩ := good4_core ha da g
    obtain ⟨_, _, _, _, _, _, _, _, _, rfl, rfl, h2⟩ := good4_core hb db (generic_len4 gb (hl ▸ generic4_length g))
    exact angle3_case K A f tol ha.1 hb.1 hdim ⟨h1.canon.1, h1.tan, h1.sin⟩ ⟨h2.canon.1, h2.tan, h2.sin⟩ da db

theorem canonV_of_good {v : Vec ℝ} {p : List ℝ} (hv : Good v) (hd : denote v = some p) (hg : Generic p) :
    C12M.CanonV v := by
  rcases hg with g | g | g
  · obtain ⟨be, mom, az, a, b, rfl, -⟩ := good2_shape hv hd (generic2_length g)
    trivial
  · obtain ⟨be, mom, az, l, a, b, c, rfl, -, h⟩ := good3_core hv hd g
    exact ⟨h.canon, h.tan⟩
  · obtain ⟨be, mom, az, l, tm, a, b, c, d, rfl, -, h⟩ := good4_core hv hd g
    exact ⟨⟨h.canon, h.ctmp⟩, h.tan⟩

theorem binS_ok {x y : Except Err (Vec ℝ)} {f : Vec ℝ → Vec ℝ → Except Err (Res ℝ Prop)} {v w : Vec ℝ}
    (ea : x = .ok v) (eb : y = .ok w) : binS x y f = f v w := by
  rw [ea, eb]; rfl

/-- **truth-valued expressions**: the model returns a truth value that is the documented test on the specified values
of the operands (`==` / `!=`: soundness only) -/
theorem c01f_evalT (hK : K.negOne = -1) (ρ : Nat → Vec ℝ) (ρS : Nat → List ℝ)
    (hρ : ∀ i, Good (ρ i)) (hS : ∀ i, denote (ρ i) = some (ρS i)) (b : TF) (hg : GenericTF ρS b) :
    ∃ p : Prop, evalMTF K A ρ b = .ok (.truth p) ∧ TruthSpec ρS b p := by
  have ev := c01f_eval K A hK ρ ρS hρ hS
  cases b with
  | causal f tol a =>
    exact ⟨_, unS_step (ev a hg.1) fun va ha da =>
      causal_case K A f tol ha da (generic_len4 (genericAllF_self hg.1) hg.2), Iff.rfl⟩
  | angle f tol a b =>
    obtain ⟨⟨ga, gb⟩, hl⟩ := hg
    obtain ⟨va, ea, ha, da⟩ := ev a ga
    obtain ⟨vb, eb, hb, db⟩ := ev b gb
    obtain ⟨p, hc, hp⟩ := angle_case K A f tol ha hb da db (genericAllF_self ga) (genericAllF_self gb) hl
    exact ⟨p, (binS_ok ea eb).trans hc, hp⟩
  | equal a b =>
    obtain ⟨⟨ga, gb⟩, hl⟩ := hg
    obtain ⟨va, ea, ha, da⟩ := ev a ga
    obtain ⟨vb, eb, hb, db⟩ := ev b gb
    obtain ⟨p, q, -, h2, h3, -⟩ := C12M.c12m_eq_denote_partial K A va vb ha.1 hb.1
      (by rw [dim_of_denote hb db, dim_of_denote ha da, hl])
      (canonV_of_good ha da (genericAllF_self ga)) (canonV_of_good hb db (genericAllF_self gb))
    exact ⟨q, (binS_ok ea eb).trans h2, fun hq => Option.some.inj (da ▸ db ▸ h3 hq)⟩
  | not_equal a b =>
    obtain ⟨⟨ga, gb⟩, hl⟩ := hg
    obtain ⟨va, ea, ha, da⟩ := ev a ga
    obtain ⟨vb, eb, hb, db⟩ := ev b gb
    obtain ⟨p, q, h1, -, -, h4⟩ := C12M.c12m_eq_denote_partial K A va vb ha.1 hb.1
      (by rw [dim_of_denote hb db, dim_of_denote ha da, hl])
      (canonV_of_good ha da (genericAllF_self ga)) (canonV_of_good hb db (genericAllF_self gb))
    exact ⟨p, (binS_ok ea eb).trans h1, fun hne => h4 (da ▸ db ▸ fun h => hne (Option.some.inj h))⟩

/-- `!=` is the negation of `==` on every pair of generic expressions of equal dimension -/
theorem c01f_ne_iff_not_eq (K : Consts ℝ) (A : Arith ℝ) (hK : K.negOne = -1) (ρ : Nat → Vec ℝ) (ρS : Nat → List ℝ)
    (hρ : ∀ i, Good (ρ i)) (hS : ∀ i, denote (ρ i) = some (ρS i)) (a b : F) (hg : GenericTF ρS (.equal a b)) :
    ∃ p q : Prop, evalMTF K A ρ (.not_equal a b) = .ok (.truth p) ∧ evalMTF K A ρ (.equal a b) = .ok (.truth q) ∧
      (p ↔ ¬ q) := by
  obtain ⟨⟨ga, gb⟩, hl⟩ := hg
  obtain ⟨va, ea, ha, da⟩ := c01f_eval K A hK ρ ρS hρ hS a ga
  obtain ⟨vb, eb, hb, db⟩ := c01f_eval K A hK ρ ρS hρ hS b gb
  obtain ⟨p, q, h1, h2, h3⟩ := C12M.c12m_ne_iff_not_eq K A va vb ha.1 hb.1
    (by rw [dim_of_denote hb db, dim_of_denote ha da, hl])
  exact ⟨p, q, (binS_ok ea eb).trans h1, (binS_ok ea eb).trans h2, h3⟩

/-- **C01 for the causal and angular predicates**: the same geometric vectors in any storages give equivalent truth
values (for `==` / `!=` no such statement is made: they compare stored coordinates) -/
theorem c01f_indepT (K : Consts ℝ) (A : Arith ℝ) (hK : K.negOne = -1) (ρ₁ ρ₂ : Nat → Vec ℝ)
    (h₁ : ∀ i, Good (ρ₁ i)) (h₂ : ∀ i, Good (ρ₂ i)) (hd : ∀ i, denote (ρ₁ i) = denote (ρ₂ i)) (b : TF)
    (hb : (∃ f tol a, b = .causal f tol a) ∨ (∃ f tol a c, b = .angle f tol a c)) (hg : GenericTF (specEnv ρ₁) b) :
    ∃ p₁ p₂ : Prop, evalMTF K A ρ₁ b = .ok (.truth p₁) ∧ evalMTF K A ρ₂ b = .ok (.truth p₂) ∧ (p₁ ↔ p₂) := by
  obtain ⟨p₁, e₁, s₁⟩ := c01f_evalT K A hK ρ₁ _ h₁ (denote_specEnv h₁) b hg
  obtain ⟨p₂, e₂, s₂⟩ := c01f_evalT K A hK ρ₂ _ h₂ (fun i => (hd i).symm.trans (denote_specEnv h₁ i)) b hg
  refine ⟨p₁, p₂, e₁, e₂, ?_⟩
  rcases hb with ⟨f, tol, a, rfl⟩ | ⟨f, tol, a, c, rfl⟩ <;> exact s₁.trans s₂.symm

/-! ## 7. Non-vacuity: a depth-5 expression with `rotate_axis`, a `gamma=` boost and `to_beta3` over mixed storages -/

/-- `v₀ = (x, y, z, t) = (1, 1, 1, 3)` (object, generic flavor); `v₁ = (ρ, φ, η, τ) = (2, 0, arsinh ½, 2)` (object,
momentum), the point `(2, 0, 1, 3)`; the others: a NumPy 3D vector `(ρ, φ, z) = (3, 0, 4)`, the point `(3, 0, 4)` -/
noncomputable def exEnvF : Nat → Vec ℝ
  | 0 => C11M.V4 .obj false .xy .z .t 1 1 1 3
  | 1 => C11M.V4 .obj true .rhophi .eta .tau 2 0 (arsinh (1 / 2)) 2
  | _ => C11M.V3 .np false .rhophi .z 3 0 4

/-- the same three points, all stored as Cartesian object vectors -/
noncomputable def exEnvF' : Nat → Vec ℝ
  | 0 => C11M.V4 .obj false .xy .z .t 1 1 1 3
  | 1 => C11M.V4 .obj false .xy .z .t 2 0 1 3
  | _ => C11M.V3 .obj false .xy .z 3 0 4

def exSpecF : Nat → List ℝ
  | 0 => [1, 1, 1, 3]
  | 1 => [2, 0, 1, 3]
  | _ => [3, 0, 4]

/-- `(v₀ + v₁).rotate_axis(v₂, π).boostZ(gamma=5/4).to_beta3()` -/
noncomputable def exF : F :=
  .to_beta3 (.boostZg (5 / 4) (.rotate_axis π (.add (.var 0) (.var 1)) (.var 2)))
theorem exEnvF_good : ∀ i, Good (exEnvF i) := by
  intro i
  have hpi := pi_pos
  match i with
  | 0 => exact good_of4 (good4_mk _ _ _ _ _ _ _ _ _ trivial trivial trivial trivial)
  | 1 =>
    exact good_of4 (good4_mk _ _ _ _ _ _ _ _ _ ⟨by norm_num, by linarith, by linarith⟩ trivial
      (show (0 : ℝ) ≤ 2 by norm_num) trivial)
  | (n + 2) => exact good_of3 (good3_mk _ _ _ _ _ _ _ ⟨by norm_num, by linarith, by linarith⟩ trivial trivial)

theorem exEnvF'_good : ∀ i, Good (exEnvF' i) := by
  intro i
  match i with
  | 0 => exact good_of4 (good4_mk _ _ _ _ _ _ _ _ _ trivial trivial trivial trivial)
  | 1 => exact good_of4 (good4_mk _ _ _ _ _ _ _ _ _ trivial trivial trivial trivial)
  | (n + 2) => exact good_of3 (good3_mk _ _ _ _ _ _ _ trivial trivial trivial)

theorem exEnvF_denote : ∀ i, denote (exEnvF i) = some (exSpecF i) := by
  intro i
  match i with
  | 0 => rfl
  | 1 => exact denote_eta_tau _ _
  | (n + 2) =>
    simp only [exEnvF, exSpecF, denote, xOf, yOf, zOf, cos_zero, sin_zero, mul_one, mul_zero]

theorem exEnvF'_denote : ∀ i, denote (exEnvF' i) = some (exSpecF i) := by
  intro i
  match i with
  | 0 => rfl
  | 1 => rfl
  | (n + 2) => rfl

theorem sqrt25 : sqrt ((3 : ℝ) ^ 2 + 0 ^ 2 + 4 ^ 2) = 5 := by
  rw [show (3 : ℝ) ^ 2 + 0 ^ 2 + 4 ^ 2 = 5 ^ 2 by norm_num]
  exact sqrt_sq (by norm_num)

theorem bgam54' : P.copysign (sqrt ((5 / 4 : ℝ) ^ 2 - 1)) (5 / 4) = 3 / 4 := by
  have h : (5 / 4 : ℝ) ^ 2 - 1 = (3 / 4) ^ 2 := by norm_num
  rw [h, sqrt_sq (by norm_num)]
  simp only [P.copysign]
  rw [if_pos (by norm_num), abs_of_pos (by norm_num)]

/-- the specified value of the boosted, rotated sum (before `to_beta3`): the rotation by `π` about `(3, 0, 4)` maps
`(3, 1, 2)` to `(27/25, -1, 86/25)`; the boost with `γ = 5/4`, `βγ = 3/4` gives `z = 44/5`, `t = 252/25` -/
theorem exF_value : evalSF exSpecF (.boostZg (5 / 4) (.rotate_axis π (.add (.var 0) (.var 1)) (.var 2))) =
    [27 / 25, -1, 44 / 5, 252 / 25] := by
  simp only [evalSF, exSpecF, List.zipWith_cons_cons, List.zipWith_nil_right, axisRotL, onSpatial, axisRot, Spec10.rod,
    sqrt25, cos_pi, sin_pi, on4, l4, bZγ, lorentz_boostZ_gamma.eval, lorentz_boostZ_gamma.xy_z_t, bgam54',
    abs_of_pos (show (0 : ℝ) < 5 / 4 by norm_num)]
  norm_num

/-- **`GenericAllF` is satisfiable** for the depth-5 expression `exF` over the mixed-storage environment -/
theorem exF_generic : GenericAllF exSpecF exF := by
  simp only [exF, GenericAllF, evalSF, exSpecF, List.zipWith_cons_cons, List.zipWith_nil_right, axisRotL, onSpatial,
    axisRot, Spec10.rod, sqrt25, cos_pi, sin_pi, on4, l4, bZγ, lorentz_boostZ_gamma.eval, lorentz_boostZ_gamma.xy_z_t,
    bgam54', abs_of_pos (show (0 : ℝ) < 5 / 4 by norm_num), beta3L, generic_iff3, generic_iff4, List.length_cons,
    List.length_nil]
  norm_num

example (K : Consts ℝ) (A : Arith ℝ) (hK : K.negOne = -1) :
    ∃ v, evalMF K A exEnvF exF = .ok v ∧ Good v ∧ denote v = some (evalSF exSpecF exF) :=
  c01f_eval K A hK exEnvF exSpecF exEnvF_good exEnvF_denote exF exF_generic

/-- the mixed-storage run and the all-Cartesian run of `exF` denote the same point -/
example (K : Consts ℝ) (A : Arith ℝ) (hK : K.negOne = -1) :
    ∃ v₁ v₂, evalMF K A exEnvF exF = .ok v₁ ∧ evalMF K A exEnvF' exF = .ok v₂ ∧ denote v₁ = denote v₂ := by
  have hs : specEnv exEnvF = exSpecF := by
    funext i; simp only [specEnv, exEnvF_denote i, Option.getD_some]
  obtain ⟨v₁, v₂, e₁, e₂, h, -⟩ := c01f_indep K A hK exEnvF exEnvF' exEnvF_good exEnvF'_good
    (fun i => by rw [exEnvF_denote, exEnvF'_denote]) exF (hs ▸ exF_generic)
  exact ⟨v₁, v₂, e₁, e₂, h⟩

/-- satisfiable scalar and truth-valued expressions over the same environment: `abs`, `v ** 2`, `Mt` of the momentum
variable `v₁`, `deltaRapidityPhi(v₀ + v₁, v₁)`; `is_timelike(0)` of the boosted rotated sum, `is_parallel` of the two
4D variables, `v₀ + v₁ == v₁.boostZ(gamma=5/4)` -/
example : GenericSF exSpecF (.abs (.add (.var 0) (.var 1))) ∧ GenericSF exSpecF (.sq (.var 2)) ∧
    GenericSF exSpecF (.mom .Mt (.var 1)) ∧ GenericSF exSpecF (.dRapPhi (.add (.var 0) (.var 1)) (.var 1)) ∧
    GenericTF exSpecF (.causal .timelike 0 (.boostZg (5 / 4) (.rotate_axis π (.add (.var 0) (.var 1)) (.var 2)))) ∧
    GenericTF exSpecF (.angle .parallel (1 / 10) (.var 0) (.var 1)) ∧
    GenericTF exSpecF (.equal (.add (.var 0) (.var 1)) (.boostZg (5 / 4) (.var 1))) := by
  refine ⟨?_, ?_, ?_, ?_, ⟨exF_generic.1, ?_⟩, ?_, ?_⟩
  · simp only [GenericSF, GenericAllF, evalSF, exSpecF, List.zipWith_cons_cons, List.zipWith_nil_right,
      generic_iff4, List.length_cons, List.length_nil]
    norm_num
  · simp only [GenericSF, GenericAllF, exSpecF, generic_iff3]
    norm_num
  · simp only [GenericSF, GenericAllF, evalSF, exSpecF, generic_iff4, List.length_cons, List.length_nil]
    norm_num
  · simp only [GenericSF, GenericAllF, evalSF, exSpecF, List.zipWith_cons_cons, List.zipWith_nil_right,
      generic_iff4, List.length_cons, List.length_nil]
    norm_num
  · rw [exF_value]; rfl
  · simp only [GenericTF, GenericAllF, evalSF, exSpecF, generic_iff4, List.length_cons, List.length_nil]
    norm_num
  · simp only [GenericTF, GenericAllF, evalSF, exSpecF, List.zipWith_cons_cons, List.zipWith_nil_right, on4, l4, bZγ,
      lorentz_boostZ_gamma.eval, lorentz_boostZ_gamma.xy_z_t, bgam54', abs_of_pos (show (0 : ℝ) < 5 / 4 by norm_num),
      generic_iff4, List.length_cons, List.length_nil]
    norm_num

/-- the momentum-flavor side condition of `Mt (var 1)` holds in the mixed-storage environment (`v₁` is a momentum object) -/
example (K : Consts ℝ) (A : Arith ℝ) : MomOK K A exEnvF (.mom .Mt (.var 1)) := by
  intro v hv
  have : v = exEnvF 1 := (Except.ok.inj hv).symm
  subst this
  rfl

/-! ## 8. `C01E.E` is a sub-language: it embeds into `F`, model, specification and genericity agree -/

def embed : E → F
  | .var i => .var i
  | .add a b => .add (embed a) (embed b)
  | .sub a b => .sub (embed a) (embed b)
  | .scale k a => .scale k (embed a)
  | .unit a => .unit (embed a)
  | .rotateZ ang a => .rotateZ ang (embed a)
  | .rotateX ang a => .rotateX ang (embed a)
  | .rotateY ang a => .rotateY ang (embed a)
  | .cross a b => .cross (embed a) (embed b)
  | .boostX β a => .boostX β (embed a)
  | .boostY β a => .boostY β (embed a)
  | .boostZ β a => .boostZ β (embed a)
  | .boost_p4 a b => .boost_p4 (embed a) (embed b)
  | .boost_beta3 a b => .boost_beta3 (embed a) (embed b)
  | .conv2 az a => .conv2 az (embed a)
  | .conv3 az l a => .conv3 az l (embed a)
  | .conv4 az l tm a => .conv4 az l tm (embed a)
  | .to2D a => .to2D (embed a)
  | .to3D a => .to3D (embed a)
  | .to3D_kw l s a => .to3D_kw l s (embed a)
  | .to4D_kw tm s a => .to4D_kw tm s (embed a)
theorem embed_evalM (K : Consts ℝ) (A : Arith ℝ) (ρ : Nat → Vec ℝ) (e : E) : evalMF K A ρ (embed e) = evalMU K A ρ e := by
  induction e <;> simp only [embed, evalMF, evalMU, *]

theorem embed_evalS (ρS : Nat → List ℝ) (e : E) : evalSF ρS (embed e) = evalSU ρS e := by
  induction e <;> simp only [embed, evalSF, evalSU, *]

theorem embed_generic (ρS : Nat → List ℝ) (e : E) : GenericAllF ρS (embed e) ↔ GenericAllU ρS e := by
  induction e <;> simp only [embed, GenericAllF, GenericAllU, evalSF, evalSU, embed_evalS, *]

theorem embed_not_usesCM (e : E) : ¬ usesCM (embed e) := by
  induction e <;> simp only [embed, usesCM, or_self, not_false_eq_true, *]

end C01F

namespace C01E
open VG C01M C01F

variable (K : Consts ℝ) (A : Arith ℝ) {va vb : Vec ℝ} {pa pb : List ℝ}

/-! ### the theorems of the language `E`, as corollaries -/

theorem c01e_eval (ρ : Nat → Vec ℝ) (ρS : Nat → List ℝ)
    (hρ : ∀ i, Good (ρ i)) (hS : ∀ i, denote (ρ i) = some (ρS i)) (e : E) (hg : GenericAllU ρS e) :
    ∃ v, evalMU K A ρ e = .ok v ∧ Good v ∧ denote v = some (evalSU ρS e) := by
  have h := c01f_eval_of K A ρ ρS hρ hS (embed e) (fun h => absurd h (embed_not_usesCM e)) ((embed_generic ρS e).2 hg)
  rwa [embed_evalM, embed_evalS] at h

/-- **C01 for whole computations, all dimensions**: variables of any dimension in any of the 2 / 6 / 12 storages, any
flavors and backends -/
theorem c01e_indep (K : Consts ℝ) (A : Arith ℝ) (ρ₁ ρ₂ : Nat → Vec ℝ)
    (h₁ : ∀ i, Good (ρ₁ i)) (h₂ : ∀ i, Good (ρ₂ i)) (hd : ∀ i, denote (ρ₁ i) = denote (ρ₂ i)) (e : E)
    (hg : GenericAllU (specEnv ρ₁) e) :
    ∃ v₁ v₂, evalMU K A ρ₁ e = .ok v₁ ∧ evalMU K A ρ₂ e = .ok v₂ ∧ denote v₁ = denote v₂ ∧
      denote v₁ = some (evalSU (specEnv ρ₁) e) :=
  indep_of_runs (c01e_eval K A ρ₁ _ h₁ (denote_specEnv h₁) e hg)
    (c01e_eval K A ρ₂ _ h₂ (fun i => (hd i).symm.trans (denote_specEnv h₁ i)) e hg)

example (K : Consts ℝ) (A : Arith ℝ) :
    ∃ v, evalMU K A exEnvU exEU = .ok v ∧ Good v ∧ denote v = some (evalSU exSpecU exEU) :=
  c01e_eval K A exEnvU exSpecU exEnvU_good exEnvU_denote exEU exEU_generic

theorem c01e_evalSU (ρ : Nat → Vec ℝ) (ρS : Nat → List ℝ)
    (hρ : ∀ i, Good (ρ i)) (hS : ∀ i, denote (ρ i) = some (ρS i)) (s : SU) (hg : GenericSU ρS s) :
    evalMSU K A ρ s = .ok (.scalar (evalSSU ρS s)) := by
  have ev := c01e_eval K A ρ ρS hρ hS
  cases s with
  | un f a =>
    exact unS_step (ev a hg.1) fun va ha da => unU_case K A f ha da (genericAllU_self hg.1) hg.2.1 hg.2.2
  | bi f a b =>
    exact binS_step (ev a hg.1.1) (ev b hg.1.2) fun va vb ha hb da db =>
      biU_case K A f ha hb da db (genericAllU_self hg.1.1) (genericAllU_self hg.1.2) hg.2.1 hg.2.2

/-- **C01 for scalar expressions, all dimensions** -/
theorem c01e_indepSU (K : Consts ℝ) (A : Arith ℝ) (ρ₁ ρ₂ : Nat → Vec ℝ)
    (h₁ : ∀ i, Good (ρ₁ i)) (h₂ : ∀ i, Good (ρ₂ i)) (hd : ∀ i, denote (ρ₁ i) = denote (ρ₂ i)) (s : SU)
    (hg : GenericSU (specEnv ρ₁) s) :
    evalMSU K A ρ₁ s = evalMSU K A ρ₂ s ∧ evalMSU K A ρ₁ s = .ok (.scalar (evalSSU (specEnv ρ₁) s)) := by
  have e₁ := c01e_evalSU K A ρ₁ _ h₁ (denote_specEnv h₁) s hg
  exact ⟨e₁.trans (c01e_evalSU K A ρ₂ _ h₂ (fun i => (hd i).symm.trans (denote_specEnv h₁ i)) s hg).symm, e₁⟩

end C01E
end VR
