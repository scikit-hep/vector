/-
Property C16 — "operations never modify their operands".

In the glue model every operation is a FUNCTION that returns a new value: `dispatch`, `getAcc`, `scaleN`, `binary`,
`toDim`, `toSystem`, `call`, `operator` have result type `Except Err (Res S B)` / `Except Err (Vec S)` — there is no
state in their output at all, so "the operands are not modified" is true BY CONSTRUCTION of the model (the
correspondence harness, which compares the model with the real objects before and after each call, is what ties this
to the code).  The theorems `c16_functions` and `c16_operand_not_in_output` below only spell that out and are
trivial (`rfl`).  The one operation WITH a state output is `step` (coordinate assignment and the in-place operators of
the object backend), and its state is that of the object itself (`self`) alone.  What is proved of it: the state changes
only in a successful assignment to a coordinate or a successful in-place operator — never in a read-only / plain-attribute
assignment, never when the step raises (`c16_step_frame`; case by case `c16_step_unchanged`; for a whole history
`c16_runFinal_frame`).  The other operand of an in-place operator is not in the output of `step`, so no theorem can or
need say that it is left alone; `c16_iop_reads_old` records how it is used, and is the `+=` instance of
`c15_stepE_functional`.
All statements hold for ALL `S B ev K A`.
-/
import VectorModel.Glue.Methods
import VectorModel.Props.C15

set_option linter.unusedVariables false
namespace VG
open VK

section
variable {S B : Type}

/-- (trivial) the functional operations are functions of their operands: evaluating twice — before and after any other
evaluation — gives equal results.  True by `rfl`: the model has no hidden state they could read or write. -/
theorem c16_functions (ev : Ev S B) (K : Consts S) (m : ModuleId) (sc extra : List S) (ord : Option Ord)
    (ops counted : List (Vec S)) (b : Bin) (self o : Vec S) (zeroF : S) (n : Nat) (lk : List (Lon × S))
    (tk : List (Tmp × S)) (ok : Nat) (az : Az) (lon : Option Lon) (tmp : Option Tmp) (kl kt : Option S) :
    let r1 := (dispatch ev m sc ord ops counted, binary ev K b self o extra, toDim zeroF n self lk tk ok,
      toSystem ev zeroF self az lon tmp kl kt)
    let r2 := (dispatch ev m sc ord ops counted, binary ev K b self o extra, toDim zeroF n self lk tk ok,
      toSystem ev zeroF self az lon tmp kl kt)
    r1 = r2 := rfl

/-- (trivial) a "world" holding the two operands of a binary method: the method's effect on the world is the
identity — the only thing it produces is its result.  `callBinary` threads the world through the call the only way the
model's types allow. -/
def callBinary (ev : Ev S B) (K : Consts S) (b : Bin) (extra : List S) (w : Vec S × Vec S) :
    (Vec S × Vec S) × Except Err (Res S B) := (w, binary ev K b w.1 w.2 extra)

theorem c16_operand_not_in_output (ev : Ev S B) (K : Consts S) (b : Bin) (extra : List S) (w : Vec S × Vec S) :
    (callBinary ev K b extra w).1 = w ∧
      (callBinary ev K b extra (callBinary ev K b extra w).1).2 = (callBinary ev K b extra w).2 := ⟨rfl, rfl⟩

def Step.mutating : Step S → Bool
  | .set _ _ | .iopV _ _ | .iopS _ _ => true
  | .setReadOnly | .setOther => false

/-- a step that is neither a coordinate assignment nor an in-place operator leaves the object as it was -/
private theorem step_not_mutating {ev : Ev S B} {K : Consts S} {A : Arith S} {v : Vec S} {st : Step S}
    (h : st.mutating = false) : (step ev K A v st).1 = v := by
  cases st <;> first | rfl | cases h

/-- FRAME property of the only stateful operation: if `step` changes the state of the object, the step was a coordinate
assignment or an in-place operator, and it did not raise.  (The contrapositive of `step_not_mutating` and
`c15_step_raise_unchanged`.) -/
theorem c16_step_frame {ev : Ev S B} {K : Consts S} {A : Arith S} {v : Vec S} {st : Step S}
    (h : (step ev K A v st).1 ≠ v) : st.mutating = true ∧ (step ev K A v st).2 = none := by
  refine ⟨?_, ?_⟩
  · cases hm : st.mutating with
    | false => exact absurd (step_not_mutating hm) h
    | true => rfl
  · cases he : (step ev K A v st).2 with
    | none => rfl
    | some e => exact absurd (c15_step_raise_unchanged he).1 h

/-- contrapositive, per case: a step that raises, an assignment to a read-only property or to any other attribute
name, and the ill-typed in-place operators (`*=`, `/=` with a vector, `+=`, `-=` with a scalar) leave the object as it was -/
theorem c16_step_unchanged (ev : Ev S B) (K : Consts S) (A : Arith S) (v o : Vec S) (f : S) :
    (∀ st e, (step ev K A v st).2 = some e → (step ev K A v st).1 = v) ∧
    (step ev K A v .setReadOnly).1 = v ∧ (step ev K A v .setOther).1 = v ∧
    (step ev K A v (.iopV .mul o)).1 = v ∧ (step ev K A v (.iopV .div o)).1 = v ∧
    (step ev K A v (.iopS .add f)).1 = v ∧ (step ev K A v (.iopS .sub f)).1 = v :=
  ⟨fun _ _ h => (c15_step_raise_unchanged h).1, rfl, rfl, rfl, rfl, rfl, rfl⟩

theorem c16_runFinal_frame (ev : Ev S B) (K : Consts S) (A : Arith S) :
    ∀ (steps : List (Step S)) (v : Vec S), (∀ st ∈ steps, st.mutating = false) → runFinal ev K A v steps = v :=
  fun steps v h => (c15_run_invariant (fun st => st.mutating = false) (· = v)
    (fun w st hq hw => hw ▸ step_not_mutating hq) steps v h rfl).2

/-- the OTHER operand of an in-place operator is an input only: the step's output is the new state of `self` and the
error, and `self` is updated from the FUNCTIONAL result computed on the old `self` and `o` (so even `v += v` reads the
old value on both sides).  The `+=` instance of `c15_stepE_functional`. -/
theorem c16_iop_reads_old (ev : Ev S B) (K : Consts S) (A : Arith S) (v o : Vec S) (r : Vec S)
    (h : binary ev K .add v o [] = .ok (.vec r)) :
    stepE ev K A v (.iopV .add o) = replaceData ev v r :=
  c15_stepE_functional h

end
end VG
