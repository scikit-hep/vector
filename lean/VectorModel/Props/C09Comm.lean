/-
C09 — boosts are Lorentz transformations with the documented relations: how an axis boost sits next to the rest.
Theorems about the generated real-number model of `_compute/lorentz/boost{X,Y,Z}_beta.py` and
`_compute/spatial/rotate{X,Y}.py`, `_compute/planar/rotateZ.py` (Cartesian variants):

* a boost along an axis leaves the two transverse components untouched, for EVERY value of the parameter;
* a boost along an axis commutes with the rotation about the same axis (no hypothesis: a polynomial identity);
* an axis boost with |β| < 1 is ORTHOCHRONOUS: it keeps the sign of `t` of a time-like vector (future stays future);
* the boost by β = 0 is the identity.
-/
import VectorModel.Props.C09

namespace VR
open VK

/-- rotate the spatial part of a four-vector with a generated 3D rotation, keep `t` (what the method layer does:
`_wrap_result` passes the temporal coordinate through for a spatial operation) -/
def rot4 (f : ℝ → ℝ → ℝ → ℝ × ℝ × ℝ) (v : V4) : V4 :=
  ((f v.1 v.2.1 v.2.2.1).1, (f v.1 v.2.1 v.2.2.1).2.1, (f v.1 v.2.1 v.2.2.1).2.2, v.2.2.2)

/-! ### transverse components -/

theorem c09_boostX_beta_transverse (β : ℝ) (v : V4) : (bXβ β v).2.1 = v.2.1 ∧ (bXβ β v).2.2.1 = v.2.2.1 := by
  obtain ⟨x, y, z, t⟩ := v
  simp only [d_lorentz_boostX_beta, and_self]

theorem c09_boostY_beta_transverse (β : ℝ) (v : V4) : (bYβ β v).1 = v.1 ∧ (bYβ β v).2.2.1 = v.2.2.1 := by
  obtain ⟨x, y, z, t⟩ := v
  simp only [d_lorentz_boostY_beta, and_self]

theorem c09_boostZ_beta_transverse (β : ℝ) (v : V4) : (bZβ β v).1 = v.1 ∧ (bZβ β v).2.1 = v.2.1 := by
  obtain ⟨x, y, z, t⟩ := v
  simp only [d_lorentz_boostZ_beta, and_self]

/-! ### a boost along an axis commutes with the rotation about that axis -/

theorem c09_boostX_rotateX_comm (β a : ℝ) (v : V4) :
    bXβ β (rot4 (spatial_rotateX.xy_z a) v) = rot4 (spatial_rotateX.xy_z a) (bXβ β v) := by
  obtain ⟨x, y, z, t⟩ := v
  simp only [d_lorentz_boostX_beta, rot4, spatial_rotateX.xy_z]

theorem c09_boostY_rotateY_comm (β a : ℝ) (v : V4) :
    bYβ β (rot4 (spatial_rotateY.xy_z a) v) = rot4 (spatial_rotateY.xy_z a) (bYβ β v) := by
  obtain ⟨x, y, z, t⟩ := v
  simp only [d_lorentz_boostY_beta, rot4, spatial_rotateY.xy_z]

/-- `rotateZ` acts on the azimuthal pair only (planar module); lifted to `(x, y, z)` -/
noncomputable def rotZ3 (a x y z : ℝ) : ℝ × ℝ × ℝ := ((planar_rotateZ.xy a x y).1, (planar_rotateZ.xy a x y).2, z)

theorem c09_boostZ_rotateZ_comm (β a : ℝ) (v : V4) :
    bZβ β (rot4 (rotZ3 a) v) = rot4 (rotZ3 a) (bZβ β v) := by
  obtain ⟨x, y, z, t⟩ := v
  simp only [d_lorentz_boostZ_beta, rot4, rotZ3]

/-! ### orthochronous -/

/-- the boosted time component `βγ·x + γ·t = γ (t + β x)` has the sign of `t` when `|x| < |t|` -/
private theorem time_pos {β x t : ℝ} (hβ : |β| < 1) (ht : |x| < t) :
    0 < β * P.rpow (1 - β ^ 2) (-(0.5 : ℝ)) * x + P.rpow (1 - β ^ 2) (-(0.5 : ℝ)) * t := by
  have hg : 0 < P.rpow (1 - β ^ 2) (-(0.5 : ℝ)) := L.rpow_neg_half_pos (L.one_sub_sq_pos hβ)
  have h1 : |β * x| ≤ |x| := by
    rw [abs_mul]; exact mul_le_of_le_one_left (abs_nonneg x) hβ.le
  have : 0 < P.rpow (1 - β ^ 2) (-(0.5 : ℝ)) * (t + β * x) := mul_pos hg (by linarith [neg_abs_le (β * x)])
  linarith

/-- future-directed stays future-directed: if `t > |x|` (in particular for every time-like or light-like future
vector) then the boosted `t` is positive -/
theorem c09_boostX_beta_orthochronous (β : ℝ) (v : V4) (hβ : |β| < 1) (ht : |v.1| < v.2.2.2) :
    0 < (bXβ β v).2.2.2 :=
  time_pos hβ ht

theorem c09_boostY_beta_orthochronous (β : ℝ) (v : V4) (hβ : |β| < 1) (ht : |v.2.1| < v.2.2.2) :
    0 < (bYβ β v).2.2.2 :=
  time_pos hβ ht

theorem c09_boostZ_beta_orthochronous (β : ℝ) (v : V4) (hβ : |β| < 1) (ht : |v.2.2.1| < v.2.2.2) :
    0 < (bZβ β v).2.2.2 :=
  time_pos hβ ht

theorem c09_boostZ_beta_orthochronous_past (β : ℝ) (v : V4) (hβ : |β| < 1) (ht : v.2.2.2 < -|v.2.2.1|) :
    (bZβ β v).2.2.2 < 0 := by
  have := time_pos (x := -v.2.2.1) (t := -v.2.2.2) hβ (by rw [abs_neg]; linarith)
  show β * P.rpow (1 - β ^ 2) (-(0.5 : ℝ)) * v.2.2.1 + P.rpow (1 - β ^ 2) (-(0.5 : ℝ)) * v.2.2.2 < 0
  linarith

/-! ### β = 0 -/

private theorem gam_zero : P.rpow (1 - (0 : ℝ) ^ 2) (-(0.5 : ℝ)) = 1 := by
  show Real.rpow (1 - (0 : ℝ) ^ 2) (-(0.5 : ℝ)) = 1
  norm_num

theorem c09_axis_beta_zero (ax : Spec10.Axis) (v : V4) : bAβ ax 0 v = v := by
  obtain ⟨x, y, z, t⟩ := v
  rw [bAβ_eq, gam_zero]
  cases ax <;> simp only [boostAx, Spec.boostX, Spec.boostY, Spec.boostZ, one_mul, zero_mul, add_zero, zero_add]

theorem c09_boostX_beta_zero (v : V4) : bXβ 0 v = v :=
  c09_axis_beta_zero .x v

theorem c09_boostY_beta_zero (v : V4) : bYβ 0 v = v :=
  c09_axis_beta_zero .y v

theorem c09_boostZ_beta_zero (v : V4) : bZβ 0 v = v :=
  c09_axis_beta_zero .z v

-- hypotheses satisfiable
example : |(0.5 : ℝ)| < 1 ∧ |((1, 0, 0, 2) : V4).1| < ((1, 0, 0, 2) : V4).2.2.2 := by
  constructor
  · rw [abs_lt]; constructor <;> norm_num
  · show |(1 : ℝ)| < 2
    rw [abs_lt]; constructor <;> norm_num

end VR
