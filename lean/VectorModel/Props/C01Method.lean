/-
Property C01 at the level of PUBLIC METHODS: glue ∘ compute.

The glue model (`Glue/Core.lean`, `Glue/Methods.lean`) is instantiated at `S := ℝ`, `B := Prop` with the
generated REAL compute layer `evR` (`Props/EvReal.lean`), and the theorems say what the public methods DENOTE (Cartesian
components through `Spec.xOf/yOf/zOf/tOf`), for every storage of the operand.

A public call is evaluated in the same four steps here and in the other `Method*` files:
1. the string layer of `VG.call` is evaluated once per family of names, by `rfl` (`call_rotations`, `call_conv`,
   `C11M.call_bin`, …): the call is `selfCall`, `binary`, `toDimS` or `scaleN` of a module; `binary` is `Bin.route` of the two
   dimensions and then one `dispatch` (`binary_route_ok`, `binary_route_error` of `Lemmas/Glue.lean`);
2. `dispatch` on operands whose key atoms and coordinates are known is ONE call of the compute layer, wrapped for the
   handler (`dispatch_one`, `dispatch_two`; `C11M.dispatch_pair` with the handler spelled out).  The keys and coordinates of a
   well-formed operand are `operandKey_one/two/three`, stated with the TOTALISED `c3`, `c4`, `lonOf`, `tmpOf`, so that one
   statement serves every dimension;
3. the compute call at key VARIABLES is the generated `<module>.eval k… coords`, by `rfl`; which KIND of result the module
   declares is read off the generated table (`evR_float`, `evR_bool`, `evR_kind`);
4. the all-keys refinement theorem `refine_<module>` says what that value denotes.
-/
import VectorModel.Props.EvReal
import VectorModel.Glue.Methods
import VectorModel.Spec.Basic
import VectorModel.Refine.Planar
import VectorModel.Refine.SpatialZ
import VectorModel.Refine.SpatialAcc
import VectorModel.Refine.SpatialRot
import VectorModel.Props.C10
import VectorModel.Props.C14

set_option linter.constructorNameAsVariable false

namespace VR
namespace C01M
open VK VG Spec Real

/-- well-formed vector (as in Props/C15): temporal only on top of longitudinal; as many coordinates as the dimension -/
def WFV (v : Vec ℝ) : Prop := (v.ty.tmp.isSome → v.ty.lon.isSome) ∧ v.c.length = v.ty.dim

/-- Cartesian components denoted by a (well-formed) vector: `[x, y]`, `[x, y, z]` or `[x, y, z, t]` -/
noncomputable def denote (v : Vec ℝ) : Option (List ℝ) :=
  match v.ty.lon, v.ty.tmp, v.c with
  | none, none, [a, b] => some [xOf v.ty.az a b, yOf v.ty.az a b]
  | some l, none, [a, b, c] => some [xOf v.ty.az a b, yOf v.ty.az a b, zOf v.ty.az l a b c]
  | some l, some t, [a, b, c, d] =>
    some [xOf v.ty.az a b, yOf v.ty.az a b, zOf v.ty.az l a b c, tOf v.ty.az l t a b c d]
  | _, _, _ => none

def onPlanar (f : ℝ × ℝ → ℝ × ℝ) : List ℝ → List ℝ
  | x :: y :: rest => (f (x, y)).1 :: (f (x, y)).2 :: rest
  | l => l

def onSpatial (f : ℝ × ℝ × ℝ → ℝ × ℝ × ℝ) : List ℝ → List ℝ
  | x :: y :: z :: rest => (f (x, y, z)).1 :: (f (x, y, z)).2.1 :: (f (x, y, z)).2.2 :: rest
  | l => l

theorem wfv_cases {v : Vec ℝ} (hv : WFV v) :
    (∃ be mom az a b, v = ⟨⟨be, mom, az, none, none⟩, [a, b]⟩) ∨
    (∃ be mom az l a b c, v = ⟨⟨be, mom, az, some l, none⟩, [a, b, c]⟩) ∨
    (∃ be mom az l t a b c d, v = ⟨⟨be, mom, az, some l, some t⟩, [a, b, c, d]⟩) :=
  Vec.wf_cases hv.1 hv.2

theorem wfv_dim {v : Vec ℝ} (hv : WFV v) :
    (v.ty.dim = 2 → ∃ be mom az a b, v = ⟨⟨be, mom, az, none, none⟩, [a, b]⟩) ∧
    (v.ty.dim = 3 → ∃ be mom az l a b c, v = ⟨⟨be, mom, az, some l, none⟩, [a, b, c]⟩) ∧
    (v.ty.dim = 4 → ∃ be mom az l t a b c d, v = ⟨⟨be, mom, az, some l, some t⟩, [a, b, c, d]⟩) := by
  rcases wfv_cases hv with ⟨be, mom, az, a, b, rfl⟩ | ⟨be, mom, az, l, a, b, c, rfl⟩ |
    ⟨be, mom, az, l, t, a, b, c, d, rfl⟩
  · exact ⟨fun _ => ⟨_, _, _, _, _, rfl⟩, (fun h => by cases h), (fun h => by cases h)⟩
  · exact ⟨(fun h => by cases h), fun _ => ⟨_, _, _, _, _, _, _, rfl⟩, (fun h => by cases h)⟩
  · exact ⟨(fun h => by cases h), (fun h => by cases h), fun _ => ⟨_, _, _, _, _, _, _, _, _, rfl⟩⟩

theorem wfv4 {v : Vec ℝ} (hv : WFV v) (hd : v.ty.dim = 4) :
    ∃ be mom az l t a b c d, v = ⟨⟨be, mom, az, some l, some t⟩, [a, b, c, d]⟩ := (wfv_dim hv).2.2 hd

/-- the stored coordinates (azimuthal pair, longitudinal) and the longitudinal key, TOTALISED: a 2D vector gets the fake
`z = 0` stored as `lonOf = .z` (likewise `c4`, `tmpOf`: `0` stored as `.t`).  TRAP: `Stored3 P v` on a 2D `v`, or
`Stored4 P v` on a 2D / 3D `v`, speaks of these fake coordinates. -/
def c3 (v : Vec ℝ) : ℝ × ℝ × ℝ :=
  match v.c with
  | a :: b :: c :: _ => (a, b, c)
  | a :: b :: _ => (a, b, 0)
  | _ => (0, 0, 0)
def lonOf (v : Vec ℝ) : Lon := v.ty.lon.getD .z

def c4 (v : Vec ℝ) : ℝ × ℝ × ℝ × ℝ :=
  match v.c with
  | a :: b :: c :: d :: _ => (a, b, c, d)
  | _ => (0, 0, 0, 0)
def tmpOf (v : Vec ℝ) : Tmp := v.ty.tmp.getD .t

abbrev ap3 {α : Type} (f : Az → Lon → ℝ → ℝ → ℝ → α) (v : Vec ℝ) : α :=
  f v.ty.az (lonOf v) (c3 v).1 (c3 v).2.1 (c3 v).2.2

abbrev ap4 (f : Az → Lon → Tmp → ℝ → ℝ → ℝ → ℝ → ℝ) (v : Vec ℝ) : ℝ :=
  f v.ty.az (lonOf v) (tmpOf v) (c4 v).1 (c4 v).2.1 (c4 v).2.2.1 (c4 v).2.2.2

/-! ### the glue interpreter, evaluated once

`dispatch` on operands whose key atoms and coordinates are known is one call of the compute layer, wrapped for the
handler — for ANY compute layer and module.  The methods below are instances: the string layer (`call_…`, by
evaluation of the name tables), then one of these lemmas, then the compute call at key VARIABLES (`rfl`). -/

section
variable {S B : Type}

/-- one operand, which is also the handler; `ord` is the optional axis-order key of `rotate_euler` -/
theorem dispatch_one (ev : Ev S B) (m : ModuleId) (sc : List S) (ord : Option Ord) (v : Vec S) (n : Nat)
    (hs : operandSlots m.info.shape = [n]) (k : List KA) (c : List S) (hk : operandKey v n = some (k, c))
    (out : Out S B) (ret : Ret) (he : ev m (k ++ ord.toList.map KA.ord) (sc ++ c) = some (out, ret)) :
    dispatch ev m sc ord [v] [v] = wrapResult v v.ty.be v.ty.mom out ret := by
  -- `dispatch_eq`: the arity guard passes (`hs`), keys and coordinates are those of `hk`, the compute layer answers `he`,
  -- and the handler of `[v]` is `v`
  simp only [dispatch_eq, hs, dispatchArgs_one hs hk, he, handlerOf_single, List.length_cons, List.length_nil, zero_add,
    bne_self_eq_false, Bool.false_eq_true, ↓reduceIte, List.any_cons, List.any_nil, Bool.or_false]

/-- two operands; `counted` (with handler `h`) are those that count for handler and flavor -/
theorem dispatch_two (ev : Ev S B) (m : ModuleId) (sc : List S) (a b : Vec S) (n1 n2 : Nat)
    (hs : operandSlots m.info.shape = [n1, n2]) (k1 k2 : List KA) (c1 c2 : List S)
    (h1 : operandKey a n1 = some (k1, c1)) (h2 : operandKey b n2 = some (k2, c2))
    (out : Out S B) (ret : Ret) (he : ev m (k1 ++ k2) (sc ++ (c1 ++ c2)) = some (out, ret))
    (counted : List (Vec S)) (h : Vec S) (hh : handlerOf counted = some h) :
    dispatch ev m sc none [a, b] counted = wrapResult h h.ty.be (counted.any (·.ty.mom)) out ret := by
  simp only [dispatch_eq, hs, dispatchArgs_two hs h1 h2, he, hh, List.length_cons, List.length_nil, zero_add,
    Nat.reduceAdd, bne_self_eq_false, Bool.false_eq_true, ↓reduceIte, Option.toList_none, List.map_nil, List.append_nil]

/-- … and a `TypeError` when the compute layer has no such signature -/
theorem dispatch_two_none (ev : Ev S B) (m : ModuleId) (sc : List S) (a b : Vec S) (n1 n2 : Nat)
    (hs : operandSlots m.info.shape = [n1, n2]) (k1 k2 : List KA) (c1 c2 : List S)
    (h1 : operandKey a n1 = some (k1, c1)) (h2 : operandKey b n2 = some (k2, c2))
    (he : ev m (k1 ++ k2) (sc ++ (c1 ++ c2)) = none) (counted : List (Vec S)) :
    dispatch ev m sc none [a, b] counted = .error .typeError := by
  simp only [dispatch_eq, hs, dispatchArgs_two hs h1 h2, he, List.length_cons, List.length_nil, zero_add,
    Nat.reduceAdd, bne_self_eq_false, Bool.false_eq_true, ↓reduceIte, Option.toList_none, List.map_nil, List.append_nil]

theorem acc_slots (a : Acc) : operandSlots a.mod.info.shape = [a.need - 1] := by cases a <;> rfl

end

theorem acc_kind (a : Acc) : a.mod.kind = .float := by cases a <;> rfl

theorem getAcc_evR {a : Acc} {v : Vec ℝ} (hd : a.need ≤ v.ty.dim) (hm : a.momOnly = false ∨ v.ty.mom = true)
    {k : List KA} {c : List ℝ} (hk : operandKey v (a.need - 1) = some (k, c)) {s : ℝ} {ret : Ret}
    (he : evR a.mod k c = some (.vals [s], ret)) : getAcc evR a v = .ok (.scalar s) := by
  obtain rfl := evR_float (acc_kind a) he
  have hg : ¬ ((decide (v.ty.dim < a.need) || (a.momOnly && !v.ty.mom)) = true) := by
    rcases hm with h | h <;> simp [h, Nat.not_lt.mpr hd]
  rw [getAcc, if_neg hg, dispatch_one evR a.mod [] none v _ (acc_slots a) k c hk _ _ (by simpa using he)]
  rfl

theorem two_le_dim (t : VT) : 2 ≤ t.dim := Nat.le_add_right_of_le (Nat.le_add_right 2 _)

theorem operandKey_one {v : Vec ℝ} (hv : WFV v) :
    operandKey v 1 = some ([.az v.ty.az], [(c3 v).1, (c3 v).2.1]) := by
  rcases wfv_cases hv with ⟨be, mom, az, a, b, rfl⟩ | ⟨be, mom, az, l, a, b, c, rfl⟩ |
    ⟨be, mom, az, l, t, a, b, c, d, rfl⟩ <;> rfl

theorem operandKey_two {v : Vec ℝ} (hv : WFV v) (hd : 3 ≤ v.ty.dim) :
    operandKey v 2 = some ([.az v.ty.az, .lon (lonOf v)], [(c3 v).1, (c3 v).2.1, (c3 v).2.2]) := by
  rcases wfv_cases hv with ⟨be, mom, az, a, b, rfl⟩ | ⟨be, mom, az, l, a, b, c, rfl⟩ |
    ⟨be, mom, az, l, t, a, b, c, d, rfl⟩
  · simp [VT.dim] at hd
  · rfl
  · rfl

theorem operandKey_three {v : Vec ℝ} (hv : WFV v) (hd : v.ty.dim = 4) :
    operandKey v 3 = some ([.az v.ty.az, .lon (lonOf v), .tmp (tmpOf v)],
      [(c4 v).1, (c4 v).2.1, (c4 v).2.2.1, (c4 v).2.2.2]) := by
  obtain ⟨be, mom, az, l, t, a, b, c, d, rfl⟩ := wfv4 hv hd
  rfl

/-- `Stored2 P v`, `Stored3 P v`, `Stored4 P v`: the hypothesis `P` of a refinement theorem, on the keys and stored
coordinates of `v` (totalised: see `c3`) -/
def Stored2 (P : Az → ℝ → ℝ → Prop) (v : Vec ℝ) : Prop := P v.ty.az (c3 v).1 (c3 v).2.1
def Stored3 (P : Az → Lon → ℝ → ℝ → ℝ → Prop) (v : Vec ℝ) : Prop := P v.ty.az (lonOf v) (c3 v).1 (c3 v).2.1 (c3 v).2.2
def Stored4 (P : Az → Lon → Tmp → ℝ → ℝ → ℝ → ℝ → Prop) (v : Vec ℝ) : Prop :=
  P v.ty.az (lonOf v) (tmpOf v) (c4 v).1 (c4 v).2.1 (c4 v).2.2.1 (c4 v).2.2.2

theorem wfv_of_denote {v : Vec ℝ} {p : List ℝ} (h : denote v = some p) : WFV v := by
  obtain ⟨⟨be, mom, az, lon, tmp⟩, c⟩ := v
  unfold denote at h
  split at h <;> try (cases h; done)
  all_goals
    rename_i h1 h2 h3
    cases h1; cases h2; cases h3
    exact ⟨by simp, rfl⟩

theorem denote_planar {v : Vec ℝ} {x y : ℝ} {rest : List ℝ} (h : denote v = some (x :: y :: rest)) :
    x = xOf v.ty.az (c3 v).1 (c3 v).2.1 ∧ y = yOf v.ty.az (c3 v).1 (c3 v).2.1 := by
  rcases wfv_cases (wfv_of_denote h) with ⟨be, mom, az, a, b, rfl⟩ | ⟨be, mom, az, l, a, b, c, rfl⟩ |
    ⟨be, mom, az, l, t, a, b, c, d, rfl⟩
  all_goals
    simp only [denote, Option.some.injEq, List.cons.injEq] at h
    exact ⟨h.1.symm, h.2.1.symm⟩

theorem denote_spatial {v : Vec ℝ} {x y z : ℝ} {rest : List ℝ}
    (h : denote v = some (x :: y :: z :: rest)) :
    3 ≤ v.ty.dim ∧ x = xOf v.ty.az (c3 v).1 (c3 v).2.1 ∧ y = yOf v.ty.az (c3 v).1 (c3 v).2.1 ∧
      z = zOf v.ty.az (lonOf v) (c3 v).1 (c3 v).2.1 (c3 v).2.2 := by
  rcases wfv_cases (wfv_of_denote h) with ⟨be, mom, az, a, b, rfl⟩ | ⟨be, mom, az, l, a, b, c, rfl⟩ |
    ⟨be, mom, az, l, t, a, b, c, d, rfl⟩
  · simp [denote] at h
  all_goals
    simp only [denote, Option.some.injEq, List.cons.injEq] at h
    exact ⟨by simp [VT.dim], h.1.symm, h.2.1.symm, h.2.2.1.symm⟩

theorem denote_lorentz {v : Vec ℝ} {x y z t : ℝ} (h : denote v = some [x, y, z, t]) :
    v.ty.dim = 4 ∧ x = xOf v.ty.az (c4 v).1 (c4 v).2.1 ∧ y = yOf v.ty.az (c4 v).1 (c4 v).2.1 ∧
      z = zOf v.ty.az (lonOf v) (c4 v).1 (c4 v).2.1 (c4 v).2.2.1 ∧
      t = tOf v.ty.az (lonOf v) (tmpOf v) (c4 v).1 (c4 v).2.1 (c4 v).2.2.1 (c4 v).2.2.2 ∧
      x ^ 2 + y ^ 2 + z ^ 2 = mag2Of v.ty.az (lonOf v) (c4 v).1 (c4 v).2.1 (c4 v).2.2.1 := by
  rcases wfv_cases (wfv_of_denote h) with ⟨be, mom, az, a, b, rfl⟩ | ⟨be, mom, az, l, a, b, c, rfl⟩ |
    ⟨be, mom, az, l, t, a, b, c, d, rfl⟩
  · simp [denote] at h
  · simp [denote] at h
  · simp only [denote, Option.some.injEq, List.cons.injEq, and_true] at h
    obtain ⟨rfl, rfl, rfl, rfl⟩ := h
    exact ⟨by simp [VT.dim], rfl, rfl, rfl, rfl, rfl⟩

theorem denote_some {v : Vec ℝ} (hv : WFV v) : ∃ x y rest, denote v = some (x :: y :: rest) := by
  rcases wfv_cases hv with ⟨be, mom, az, a, b, rfl⟩ | ⟨be, mom, az, l, a, b, c, rfl⟩ |
    ⟨be, mom, az, l, t, a, b, c, d, rfl⟩ <;> exact ⟨_, _, _, rfl⟩

/-! ### the result side when the module is of lower dimension than the handler

`_wrap_result` re-stores the coordinate group the module returns and passes the stored higher groups through.  A
passed-through longitudinal coordinate denotes a `z` that depends on the azimuthal storage only through ρ, a passed-through
temporal coordinate a `t` that depends on the spatial storage only through |p|²: methods that preserve ρ (resp. |p|) are
coordinate independent although STORED θ/η/τ are kept; the others (`scale2D`, `transform2D`, assignment to `x`, …) are the
documented exceptions. -/

theorem zOf_congr_rho {az az' : Az} {p q a b : ℝ} (h : rhoOf az' p q = rhoOf az a b) (l : Lon) (c : ℝ) :
    zOf az' l p q c = zOf az l a b c := by
  cases l <;> simp only [zOf, h]

theorem tOf_congr_mag2 {az az' : Az} {l l' : Lon} {a b c a' b' c' : ℝ}
    (h : mag2Of az' l' a' b' c' = mag2Of az l a b c) (t : Tmp) (d : ℝ) :
    tOf az' l' t a' b' c' d = tOf az l t a b c d := by
  cases t <;> simp only [tOf, h]

theorem tOf_congr {az az' : Az} {p q a b : ℝ} (h : rhoOf az' p q = rhoOf az a b) (l : Lon) (t : Tmp) (c d : ℝ) :
    tOf az' l t p q c d = tOf az l t a b c d :=
  tOf_congr_mag2 (by simp only [Spec.mag2Of_eq, h, zOf_congr_rho h]) t d

/-- `_wrap_result` of a raw azimuthal pair declared `(a)`, for a one-operand call -/
theorem wrap_az (v : Vec ℝ) (a : Az) (r : ℝ × ℝ) :
    wrapResult (B := Prop) v v.ty.be v.ty.mom (.vals [r.1, r.2]) (.vec [.az a]) =
      .ok (.vec ⟨{ v.ty with az := a }, r.1 :: r.2 :: (v.lonEl ++ v.tmpEl)⟩) := rfl

theorem wfv_restore_az {v : Vec ℝ} (hv : WFV v) (a : Az) (p q : ℝ) :
    WFV ⟨{ v.ty with az := a }, p :: q :: (v.lonEl ++ v.tmpEl)⟩ ∧
      Vec.lonEl ⟨{ v.ty with az := a }, p :: q :: (v.lonEl ++ v.tmpEl)⟩ = v.lonEl ∧
      Vec.tmpEl ⟨{ v.ty with az := a }, p :: q :: (v.lonEl ++ v.tmpEl)⟩ = v.tmpEl := by
  rcases wfv_cases hv with ⟨be, mom, az, a, b, rfl⟩ | ⟨be, mom, az, l, a, b, c, rfl⟩ |
    ⟨be, mom, az, l, t, a, b, c, d, rfl⟩ <;> exact ⟨⟨by simp, rfl⟩, rfl, rfl⟩

/-- re-storing the azimuthal group of a vector as `(p', q')` in the system `az'`, the other groups' stored coordinates
verbatim: the planar part is what `(p', q')` denotes; the rest (`z`, `t`) is unchanged when it is stored Cartesian, and in
EVERY storage when the transverse length is unchanged -/
theorem restore_az_denote (v : Vec ℝ) (az' : Az) (p' q' x y : ℝ) (rest : List ℝ)
    (h : denote v = some (x :: y :: rest)) :
    ∃ rest', denote ⟨{ v.ty with az := az' }, p' :: q' :: (v.lonEl ++ v.tmpEl)⟩ =
        some (xOf az' p' q' :: yOf az' p' q' :: rest') ∧ rest'.length = rest.length ∧
      (v.ty.lon ≠ some .theta → v.ty.lon ≠ some .eta → v.ty.tmp ≠ some .tau → rest' = rest) ∧
      (rhoOf az' p' q' = rhoOf v.ty.az (c3 v).1 (c3 v).2.1 → rest' = rest) := by
  rcases wfv_cases (wfv_of_denote h) with ⟨be, mom, az, p, q, rfl⟩ | ⟨be, mom, az, l, p, q, r, rfl⟩ |
    ⟨be, mom, az, l, t, p, q, r, s, rfl⟩
  all_goals
    simp only [denote, Option.some.injEq, List.cons.injEq] at h
    obtain ⟨hx, hy, hr⟩ := h
    subst hr
  · exact ⟨[], rfl, rfl, fun _ _ _ => rfl, fun _ => rfl⟩
  · refine ⟨[zOf az' l p' q' r], rfl, rfl, ?_, ?_⟩
    · intro h1 h2 _
      cases l <;> simp at h1 h2
      rfl
    · intro hρ
      rw [zOf_congr_rho (az := az) (a := p) (b := q) hρ l r]
  · refine ⟨[zOf az' l p' q' r, tOf az' l t p' q' r s], rfl, rfl, ?_, ?_⟩
    · intro h1 h2 h3
      cases l <;> simp at h1 h2
      cases t <;> simp at h3
      rfl
    · intro hρ
      rw [zOf_congr_rho (az := az) (a := p) (b := q) hρ l r, tOf_congr (az := az) (a := p) (b := q) hρ l t r s]

/-- `_wrap_result` of a raw triple declared `(a, l)`, for a handler of dimension 3 or 4: on a 4D handler the stored
temporal coordinate (t or τ) is KEPT -/
theorem wrap_sp {v : Vec ℝ} (hv : WFV v) (hd : 3 ≤ v.ty.dim) (a : Az) (l : Lon) (r : ℝ × ℝ × ℝ) :
    wrapResult (B := Prop) v v.ty.be v.ty.mom (.vals [r.1, r.2.1, r.2.2]) (.vec [.az a, .lon l]) =
      .ok (.vec ⟨{ v.ty with az := a, lon := some l }, r.1 :: r.2.1 :: r.2.2 :: v.tmpEl⟩) := by
  rcases wfv_cases hv with ⟨be, mom, az, a, b, rfl⟩ | ⟨be, mom, az, l, a, b, c, rfl⟩ |
    ⟨be, mom, az, l, t, a, b, c, d, rfl⟩
  · simp [VT.dim] at hd
  · rfl
  · rfl

/-- re-storing the spatial group of a 3D / 4D vector as `(p', q', r')` in the system `(az', l')`, the stored temporal
coordinate verbatim: the spatial part is what `(p', q', r')` denotes; the time component is unchanged when it is stored as
`t`, and in EVERY storage when `|p|²` is unchanged -/
theorem restore_sp_denote (v : Vec ℝ) (hv : WFV v) (hd : 3 ≤ v.ty.dim) (az' : Az) (l' : Lon) (p' q' r' : ℝ) :
    WFV ⟨{ v.ty with az := az', lon := some l' }, p' :: q' :: r' :: v.tmpEl⟩ ∧
    Vec.tmpEl ⟨{ v.ty with az := az', lon := some l' }, p' :: q' :: r' :: v.tmpEl⟩ = v.tmpEl ∧
    ∃ x y z rest rest', denote v = some (x :: y :: z :: rest) ∧
      denote ⟨{ v.ty with az := az', lon := some l' }, p' :: q' :: r' :: v.tmpEl⟩ =
        some (xOf az' p' q' :: yOf az' p' q' :: zOf az' l' p' q' r' :: rest') ∧
      (v.ty.tmp ≠ some .tau → rest' = rest) ∧
      (mag2Of az' l' p' q' r' = x ^ 2 + y ^ 2 + z ^ 2 → rest' = rest) := by
  rcases wfv_cases hv with ⟨be, mom, az, a, b, rfl⟩ | ⟨be, mom, az, l, a, b, c, rfl⟩ |
    ⟨be, mom, az, l, t, a, b, c, d, rfl⟩
  · simp [VT.dim] at hd
  · exact ⟨⟨by simp, rfl⟩, rfl, _, _, _, [], [], rfl, rfl, fun _ => rfl, fun _ => rfl⟩
  · refine ⟨⟨by simp, rfl⟩, rfl, _, _, _, _, [tOf az' l' t p' q' r' d], rfl, rfl, fun h => ?_, fun h => ?_⟩
    · cases t
      · rfl
      · exact absurd rfl h
    · exact congrArg (· :: []) (tOf_congr_mag2 (az := az) (l := l) (a := a) (b := b) (c := c) h t d)

/-! ### 1. rotateZ -/

/-- how the rotations parse (the name tables of `call`, evaluated once) -/
theorem call_rotations {S B : Type} (ev : Ev S B) (K : Consts S) (A : Arith S) (v : Vec S) (a p t q q0 q1 q2 q3 : S) :
    call ev K A "rotateZ" v [.sc a] = selfCall ev v .planar_rotateZ 2 [a] ∧
    call ev K A "rotateX" v [.sc a] = selfCall ev v .spatial_rotateX 3 [a] ∧
    call ev K A "rotateY" v [.sc a] = selfCall ev v .spatial_rotateY 3 [a] ∧
    call ev K A "rotate_euler" v [.sc p, .sc t, .sc q] = selfCall ev v .spatial_rotate_euler 3 [p, t, q] (some .zxz) ∧
    call ev K A "rotate_nautical" v [.sc p, .sc t, .sc q] =
      selfCall ev v .spatial_rotate_euler 3 [q, t, p] (some .zyx) ∧
    call ev K A "rotate_quaternion" v [.sc q0, .sc q1, .sc q2, .sc q3] =
      selfCall ev v .spatial_rotate_quaternion 3 [q0, q1, q2, q3] :=
  ⟨rfl, rfl, rfl, rfl, rfl, rfl⟩

theorem call_rotateZ {S B : Type} (ev : Ev S B) (K : Consts S) (A : Arith S) (v : Vec S) (a : S) :
    call ev K A "rotateZ" v [.sc a] =
      if v.ty.dim < 2 then .error .attributeError else dispatch ev .planar_rotateZ [a] none [v] [v] :=
  (call_rotations ev K A v a a a a a a a a).1

/-- `rotateZ` on a vector of any dimension, evaluated: the azimuthal pair is rotated in its own system, the stored
longitudinal and temporal coordinates are passed through -/
theorem rotateZ_eval (K : Consts ℝ) (A : Arith ℝ) (v : Vec ℝ) (hv : WFV v) (ang : ℝ) :
    call evR K A "rotateZ" v [.sc ang] = .ok (.vec ⟨v.ty,
      (planar_rotateZ.eval v.ty.az ang (c3 v).1 (c3 v).2.1).1 ::
        (planar_rotateZ.eval v.ty.az ang (c3 v).1 (c3 v).2.1).2 :: (v.lonEl ++ v.tmpEl)⟩) := by
  rw [call_rotateZ, if_neg (Nat.not_lt.mpr (two_le_dim _)),
    dispatch_one evR .planar_rotateZ [ang] none v 1 rfl _ _ (operandKey_one hv) _ _ rfl, c10_rotateZ_ret]
  exact wrap_az v _ _

/-- KEY LEMMA: `planar_rotateZ` preserves the transverse length, in both azimuthal storages — the reason why the
stored θ/η/τ of a 3D/4D vector may be passed through -/
theorem c01m_rotateZ_preserves_rho (k : Az) (ang a b : ℝ) :
    rhoOf k (planar_rotateZ.eval k ang a b).1 (planar_rotateZ.eval k ang a b).2 = rhoOf k a b := by
  cases k
  · simp only [d_planar_rotateZ, rhoOf]
    congr 1
    linear_combination (a ^ 2 + b ^ 2) * cos_sq_add_sin_sq ang
  · rfl

theorem rotateZ_xy (k : Az) (ang a b : ℝ) :
    xOf k (planar_rotateZ.eval k ang a b).1 (planar_rotateZ.eval k ang a b).2
      = xOf k a b * cos ang - yOf k a b * sin ang ∧
    yOf k (planar_rotateZ.eval k ang a b).1 (planar_rotateZ.eval k ang a b).2
      = xOf k a b * sin ang + yOf k a b * cos ang := by
  have h := refine_planar_rotateZ k ang a b
  cases k <;> simp only [planar_rotateZ.ret, interp2, retAz, Option.map, cart2, rotZ2, Option.some.injEq,
    Prod.mk.injEq] at h <;> exact h

/-- **rotateZ on 2D, 3D and 4D vectors in every storage**: the result has the type of the operand and denotes the
rotation about the z axis of the denotation; `z` and `t` are unchanged although the STORED θ/η/τ are passed through.
No hypothesis on the stored coordinates is needed. -/
theorem c01m_rotateZ (K : Consts ℝ) (A : Arith ℝ) (v : Vec ℝ) (hv : WFV v) (ang : ℝ) :
    ∃ w, call evR K A "rotateZ" v [.sc ang] = .ok (.vec w) ∧ w.ty = v.ty ∧ WFV w ∧
      denote w = (denote v).map (onPlanar (rotZ2 ang)) := by
  obtain ⟨x, y, rest, hd⟩ := denote_some hv
  obtain ⟨rest', h1, -, -, h4⟩ := restore_az_denote v v.ty.az (planar_rotateZ.eval v.ty.az ang (c3 v).1 (c3 v).2.1).1
    (planar_rotateZ.eval v.ty.az ang (c3 v).1 (c3 v).2.1).2 x y rest hd
  refine ⟨_, rotateZ_eval K A v hv ang, rfl, (wfv_restore_az hv _ _ _).1, ?_⟩
  rw [h1, h4 (c01m_rotateZ_preserves_rho ..), hd, (denote_planar hd).1, (denote_planar hd).2,
    (rotateZ_xy ..).1, (rotateZ_xy ..).2]
  rfl

theorem onPlanar_rotZ2 (ang x y z : ℝ) (rest : List ℝ) :
    onPlanar (rotZ2 ang) (x :: y :: z :: rest) = onSpatial (rotZ ang) (x :: y :: z :: rest) := rfl

/-! ### 2. spatial rotations on 3D and 4D vectors -/

/-- the code divides by `tan θ` of a θ-stored operand.  For a well-formed `v` of dimension ≥ 3 this is
`Stored3 (fun _ l _ _ c => TanOK l c) v`, the spelling of the accessor theorems (`tanOK_of_tanOKV`); on a 2D `v` both are
`True`. -/
def TanOKV (v : Vec ℝ) : Prop :=
  match v.ty.lon, v.c with
  | some l, _ :: _ :: c :: _ => TanOK l c
  | _, _ => True

theorem tanOK_of_tanOKV {v : Vec ℝ} (hv : WFV v) (hd : 3 ≤ v.ty.dim) (hT : TanOKV v) : TanOK (lonOf v) (c3 v).2.2 := by
  rcases wfv_cases hv with ⟨be, mom, az, a, b, rfl⟩ | ⟨be, mom, az, l, a, b, c, rfl⟩ |
    ⟨be, mom, az, l, t, a, b, c, d, rfl⟩
  · simp [VT.dim] at hd
  · exact hT
  · exact hT

/-- result of a method whose compute module returns `(xy, z)` from the spatial part `raw`: a Cartesian 3D vector, or — on a
4D operand — a 4D vector KEEPING the stored temporal coordinate (t or τ) -/
def spatialResult (raw : Az → Lon → ℝ → ℝ → ℝ → ℝ × ℝ × ℝ) (v : Vec ℝ) : Vec ℝ :=
  ⟨{ v.ty with az := .xy, lon := some .z }, (ap3 raw v).1 :: (ap3 raw v).2.1 :: (ap3 raw v).2.2 :: v.tmpEl⟩

def normSq (p : ℝ × ℝ × ℝ) : ℝ := p.1 ^ 2 + p.2.1 ^ 2 + p.2.2 ^ 2

/-- the denotation of `spatialResult`: if the raw result is `f` of the Cartesian denotation and `f` preserves the length,
the result denotes `f` on the spatial part and THE SAME time component (for τ storage because |p| is preserved); the stored
temporal coordinate is that of `v` -/
theorem spatial_denote (raw : Az → Lon → ℝ → ℝ → ℝ → ℝ × ℝ × ℝ) (f : ℝ × ℝ × ℝ → ℝ × ℝ × ℝ)
    (hf : ∀ p, normSq (f p) = normSq p) (v : Vec ℝ) (hv : WFV v) (hd : 3 ≤ v.ty.dim)
    (hraw : ∀ l a b c, TanOK l c → raw v.ty.az l a b c = f (cart3 v.ty.az l a b c)) (hT : TanOKV v) :
    (spatialResult raw v).ty = { v.ty with az := .xy, lon := some .z } ∧ WFV (spatialResult raw v) ∧
      denote (spatialResult raw v) = (denote v).map (onSpatial f) ∧ (spatialResult raw v).tmpEl = v.tmpEl := by
  obtain ⟨hw, ht, x, y, z, rest, rest', h0, h1, -, h3⟩ :=
    restore_sp_denote v hv hd .xy .z (ap3 raw v).1 (ap3 raw v).2.1 (ap3 raw v).2.2
  obtain ⟨-, hx, hy, hz⟩ := denote_spatial h0
  have hr : ap3 raw v = f (x, y, z) := by
    rw [hx, hy, hz]
    exact hraw _ _ _ _ (tanOK_of_tanOKV hv hd hT)
  refine ⟨rfl, hw, ?_, ht⟩
  rw [spatialResult, h1, h0, h3 (by rw [hr]; exact hf (x, y, z)), hr]
  rfl

theorem normSq_rotX (ang : ℝ) (p : ℝ × ℝ × ℝ) : normSq (rotX ang p) = normSq p := by
  simp only [normSq, rotX]
  linear_combination (p.2.1 ^ 2 + p.2.2 ^ 2) * cos_sq_add_sin_sq ang

theorem normSq_rotY (ang : ℝ) (p : ℝ × ℝ × ℝ) : normSq (rotY ang p) = normSq p := by
  simp only [normSq, rotY]
  linear_combination (p.1 ^ 2 + p.2.2 ^ 2) * cos_sq_add_sin_sq ang

theorem normSq_of_dot10 {f : ℝ × ℝ × ℝ → ℝ × ℝ × ℝ} (h : ∀ p, Spec10.dot3 (f p) (f p) = Spec10.dot3 p p)
    (p : ℝ × ℝ × ℝ) : normSq (f p) = normSq p := by
  have := h p
  simp only [Spec10.dot3] at this
  simp only [normSq]
  linear_combination this

/-- `_wrap_result` of a raw Cartesian triple declared `(xy, z)`, for a handler of dimension 3 or 4 -/
theorem wrap_spatialResult (raw : Az → Lon → ℝ → ℝ → ℝ → ℝ × ℝ × ℝ) {v : Vec ℝ} (hv : WFV v) (hd : 3 ≤ v.ty.dim) :
    wrapResult (B := Prop) v v.ty.be v.ty.mom
      (.vals [(ap3 raw v).1, (ap3 raw v).2.1, (ap3 raw v).2.2]) (.vec [.az .xy, .lon .z]) =
      .ok (.vec (spatialResult raw v)) :=
  wrap_sp hv hd .xy .z (ap3 raw v)

/-- `dispatch` of a one-operand module with key shape `(az, lon)` (and possibly an axis order) whose declared result is
`(xy, z)`: the call evaluates to `spatialResult` of what the compute layer returns at the keys of the operand -/
theorem dispatch_spatialResult (m : ModuleId) (sc : List ℝ) (ord : Option Ord) (hs : operandSlots m.info.shape = [2])
    (ret : Az → Lon → Ret) (hret : ∀ k l, ret k l = .vec [.az .xy, .lon .z])
    (raw : Az → Lon → ℝ → ℝ → ℝ → ℝ × ℝ × ℝ)
    (he : ∀ k l a b c, evR m ([.az k, .lon l] ++ ord.toList.map KA.ord) (sc ++ [a, b, c]) =
      some (.vals [(raw k l a b c).1, (raw k l a b c).2.1, (raw k l a b c).2.2], ret k l))
    {v : Vec ℝ} (hv : WFV v) (hd : 3 ≤ v.ty.dim) :
    dispatch evR m sc ord [v] [v] = .ok (.vec (spatialResult raw v)) := by
  rw [dispatch_one evR m sc ord v 2 hs _ _ (operandKey_two hv hd) _ _ (he ..), hret, wrap_spatialResult raw hv hd]

theorem rotateX_eval (K : Consts ℝ) (A : Arith ℝ) (v : Vec ℝ) (hv : WFV v) (hd : 3 ≤ v.ty.dim) (ang : ℝ) :
    call evR K A "rotateX" v [.sc ang] = .ok (.vec (spatialResult (fun k l => spatial_rotateX.eval k l ang) v)) := by
  rw [(call_rotations evR K A v ang 0 0 0 0 0 0 0).2.1, selfCall_of_le hd]
  exact dispatch_spatialResult .spatial_rotateX [ang] none rfl _ refine_spatial_rotateX_ret _
    (fun _ _ _ _ _ => rfl) hv hd

theorem c01m_rotateX (K : Consts ℝ) (A : Arith ℝ) (v : Vec ℝ) (hv : WFV v) (hd : 3 ≤ v.ty.dim) (hT : TanOKV v)
    (ang : ℝ) :
    ∃ w, call evR K A "rotateX" v [.sc ang] = .ok (.vec w) ∧ w.ty = { v.ty with az := .xy, lon := some .z } ∧ WFV w ∧
      denote w = (denote v).map (onSpatial (rotX ang)) ∧ w.tmpEl = v.tmpEl := by
  refine ⟨_, rotateX_eval K A v hv hd ang, ?_⟩
  refine spatial_denote _ _ (normSq_rotX ang) v hv hd (fun l a b c h => ?_) hT
  rw [refine_spatial_rotateX_key _ _ _ _ _ _ h, refine_spatial_rotateX_cart]; rfl

theorem rotateY_eval (K : Consts ℝ) (A : Arith ℝ) (v : Vec ℝ) (hv : WFV v) (hd : 3 ≤ v.ty.dim) (ang : ℝ) :
    call evR K A "rotateY" v [.sc ang] = .ok (.vec (spatialResult (fun k l => spatial_rotateY.eval k l ang) v)) := by
  rw [(call_rotations evR K A v ang 0 0 0 0 0 0 0).2.2.1, selfCall_of_le hd]
  exact dispatch_spatialResult .spatial_rotateY [ang] none rfl _ refine_spatial_rotateY_ret _
    (fun _ _ _ _ _ => rfl) hv hd

theorem c01m_rotateY (K : Consts ℝ) (A : Arith ℝ) (v : Vec ℝ) (hv : WFV v) (hd : 3 ≤ v.ty.dim) (hT : TanOKV v)
    (ang : ℝ) :
    ∃ w, call evR K A "rotateY" v [.sc ang] = .ok (.vec w) ∧ w.ty = { v.ty with az := .xy, lon := some .z } ∧ WFV w ∧
      denote w = (denote v).map (onSpatial (rotY ang)) ∧ w.tmpEl = v.tmpEl := by
  refine ⟨_, rotateY_eval K A v hv hd ang, ?_⟩
  refine spatial_denote _ _ (normSq_rotY ang) v hv hd (fun l a b c h => ?_) hT
  rw [refine_spatial_rotateY_key _ _ _ _ _ _ h, refine_spatial_rotateY_cart]; rfl

/-! #### rotate_euler, rotate_nautical -/

/-- the rotation `rotate_euler(φ, θ, ψ, order)` denotes (Props/C10): `R_{o₁}(-ψ) ∘ R_{o₂}(-θ) ∘ R_{o₃}(-φ)` -/
noncomputable def eulerRot (o : Ord) (phi theta psi : ℝ) (p : ℝ × ℝ × ℝ) : ℝ × ℝ × ℝ :=
  Spec10.R (Spec10.axes o).1 (-psi) (Spec10.R (Spec10.axes o).2.1 (-theta) (Spec10.R (Spec10.axes o).2.2 (-phi) p))

theorem normSq_eulerRot (o : Ord) (phi theta psi : ℝ) (p : ℝ × ℝ × ℝ) :
    normSq (eulerRot o phi theta psi p) = normSq p :=
  normSq_of_dot10 (f := eulerRot o phi theta psi) (fun p => by simp only [eulerRot, c10_R_dot]) p

theorem euler_dispatch_eval (v : Vec ℝ) (hv : WFV v) (hd : 3 ≤ v.ty.dim) (o : Ord) (phi theta psi : ℝ) :
    dispatch evR .spatial_rotate_euler [phi, theta, psi] (some o) [v] [v] =
      .ok (.vec (spatialResult (fun k l => spatial_rotate_euler.eval k l o phi theta psi) v)) :=
  dispatch_spatialResult .spatial_rotate_euler [phi, theta, psi] (some o) rfl _
    (fun k l => refine_spatial_rotate_euler_ret k l o) _ (fun _ _ _ _ _ => rfl) hv hd

theorem c01m_rotate_euler_dispatch (v : Vec ℝ) (hv : WFV v) (hd : 3 ≤ v.ty.dim) (hT : TanOKV v) (o : Ord)
    (phi theta psi : ℝ) :
    ∃ w, dispatch evR .spatial_rotate_euler [phi, theta, psi] (some o) [v] [v] = .ok (.vec w) ∧
      w.ty = { v.ty with az := .xy, lon := some .z } ∧ WFV w ∧
      denote w = (denote v).map (onSpatial (eulerRot o phi theta psi)) ∧ w.tmpEl = v.tmpEl := by
  refine ⟨_, euler_dispatch_eval v hv hd o phi theta psi, ?_⟩
  refine spatial_denote _ _ (normSq_eulerRot o phi theta psi) v hv hd (fun l a b c h => ?_) hT
  rw [refine_spatial_rotate_euler _ _ _ _ _ _ _ _ _ h, c10_euler_eval]; rfl

theorem call_rotate_euler {S B : Type} (ev : Ev S B) (K : Consts S) (A : Arith S) (v : Vec S) (p t q : S) :
    call ev K A "rotate_euler" v [.sc p, .sc t, .sc q] =
      if v.ty.dim < 3 then .error .attributeError else
        dispatch ev .spatial_rotate_euler [p, t, q] (some .zxz) [v] [v] :=
  (call_rotations ev K A v p p t q p p p p).2.2.2.1

theorem call_rotate_euler_ord {S B : Type} (ev : Ev S B) (K : Consts S) (A : Arith S) (v : Vec S) (p t q : S)
    (s : String) :
    call ev K A "rotate_euler" v [.sc p, .sc t, .sc q, .str s] =
      if v.ty.dim < 3 then .error .attributeError else
        match ordOf s with
        | some o => if v.ty.dim < 3 then .error .attributeError else
            dispatch ev .spatial_rotate_euler [p, t, q] (some o) [v] [v]
        | none => .error .typeError := by rfl

theorem call_rotate_nautical {S B : Type} (ev : Ev S B) (K : Consts S) (A : Arith S) (v : Vec S) (yaw pitch roll : S) :
    call ev K A "rotate_nautical" v [.sc yaw, .sc pitch, .sc roll] =
      if v.ty.dim < 3 then .error .attributeError else
        dispatch ev .spatial_rotate_euler [roll, pitch, yaw] (some .zyx) [v] [v] :=
  (call_rotations ev K A v yaw yaw pitch roll yaw yaw yaw yaw).2.2.2.2.1

/-- **rotate_euler (default order "zxz") on 3D and 4D vectors in every storage** -/
theorem c01m_rotate_euler (K : Consts ℝ) (A : Arith ℝ) (v : Vec ℝ) (hv : WFV v) (hd : 3 ≤ v.ty.dim) (hT : TanOKV v)
    (phi theta psi : ℝ) :
    ∃ w, call evR K A "rotate_euler" v [.sc phi, .sc theta, .sc psi] = .ok (.vec w) ∧
      w.ty = { v.ty with az := .xy, lon := some .z } ∧ WFV w ∧
      denote w = (denote v).map (onSpatial (eulerRot .zxz phi theta psi)) ∧ w.tmpEl = v.tmpEl := by
  rw [call_rotate_euler, if_neg (by omega)]
  exact c01m_rotate_euler_dispatch v hv hd hT .zxz phi theta psi

theorem c01m_rotate_euler_ord (K : Consts ℝ) (A : Arith ℝ) (v : Vec ℝ) (hv : WFV v) (hd : 3 ≤ v.ty.dim) (hT : TanOKV v)
    (phi theta psi : ℝ) (s : String) (o : Ord) (ho : ordOf s = some o) :
    ∃ w, call evR K A "rotate_euler" v [.sc phi, .sc theta, .sc psi, .str s] = .ok (.vec w) ∧
      w.ty = { v.ty with az := .xy, lon := some .z } ∧ WFV w ∧
      denote w = (denote v).map (onSpatial (eulerRot o phi theta psi)) ∧ w.tmpEl = v.tmpEl := by
  rw [call_rotate_euler_ord, if_neg (by omega), ho]
  simp only [if_neg (show ¬ v.ty.dim < 3 by omega)]
  exact c01m_rotate_euler_dispatch v hv hd hT o phi theta psi

example : ordOf "xyz" = some .xyz ∧ ordOf "ZYX" = some .zyx := by decide +kernel

/-- **rotate_nautical(yaw, pitch, roll)**: `Rz(-yaw) ∘ Ry(-pitch) ∘ Rx(-roll)` -/
theorem c01m_rotate_nautical (K : Consts ℝ) (A : Arith ℝ) (v : Vec ℝ) (hv : WFV v) (hd : 3 ≤ v.ty.dim) (hT : TanOKV v)
    (yaw pitch roll : ℝ) :
    ∃ w, call evR K A "rotate_nautical" v [.sc yaw, .sc pitch, .sc roll] = .ok (.vec w) ∧
      w.ty = { v.ty with az := .xy, lon := some .z } ∧ WFV w ∧
      denote w = (denote v).map (onSpatial (eulerRot .zyx roll pitch yaw)) ∧ w.tmpEl = v.tmpEl := by
  rw [call_rotate_nautical, if_neg (by omega)]
  exact c01m_rotate_euler_dispatch v hv hd hT .zyx roll pitch yaw

/-! #### rotate_quaternion -/

/-- the rotation matrix of the quaternion `u + i𝐢 + j𝐣 + k𝐤` (hand-written; a rotation when `u²+i²+j²+k² = 1`) -/
def quatRot (u i j k : ℝ) (p : ℝ × ℝ × ℝ) : ℝ × ℝ × ℝ :=
  ((u ^ 2 + i ^ 2 - j ^ 2 - k ^ 2) * p.1 + 2 * (i * j - u * k) * p.2.1 + 2 * (u * j + i * k) * p.2.2,
   2 * (i * j + u * k) * p.1 + (u ^ 2 - i ^ 2 + j ^ 2 - k ^ 2) * p.2.1 + 2 * (j * k - u * i) * p.2.2,
   2 * (i * k - u * j) * p.1 + 2 * (j * k + u * i) * p.2.1 + (u ^ 2 - i ^ 2 - j ^ 2 + k ^ 2) * p.2.2)

theorem quat_cartesian_eq (u i j k : ℝ) (p : ℝ × ℝ × ℝ) :
    spatial_rotate_quaternion.cartesian u i j k p.1 p.2.1 p.2.2 = quatRot u i j k p := by
  simp only [spatial_rotate_quaternion.cartesian, quatRot]
  refine Prod.ext ?_ (Prod.ext ?_ ?_) <;> simp only <;> ring

theorem normSq_quatRot (u i j k : ℝ) (hq : u ^ 2 + i ^ 2 + j ^ 2 + k ^ 2 = 1) (p : ℝ × ℝ × ℝ) :
    normSq (quatRot u i j k p) = normSq p := by
  have h := c10_quaternion_dot u i j k hq p p
  simp only [Spec10.ap, quat_cartesian_eq, Spec10.dot3] at h
  simp only [normSq]
  linear_combination h

theorem rotate_quaternion_eval (K : Consts ℝ) (A : Arith ℝ) (v : Vec ℝ) (hv : WFV v) (hd : 3 ≤ v.ty.dim)
    (u i j k : ℝ) :
    call evR K A "rotate_quaternion" v [.sc u, .sc i, .sc j, .sc k] =
      .ok (.vec (spatialResult (fun k0 k1 => spatial_rotate_quaternion.eval k0 k1 u i j k) v)) := by
  rw [(call_rotations evR K A v 0 0 0 0 u i j k).2.2.2.2.2, selfCall_of_le hd]
  exact dispatch_spatialResult .spatial_rotate_quaternion [u, i, j, k] none rfl _ refine_spatial_rotate_quaternion_ret _
    (fun _ _ _ _ _ => rfl) hv hd

theorem c01m_rotate_quaternion (K : Consts ℝ) (A : Arith ℝ) (v : Vec ℝ) (hv : WFV v) (hd : 3 ≤ v.ty.dim)
    (hT : TanOKV v) (u i j k : ℝ) (hq : u ^ 2 + i ^ 2 + j ^ 2 + k ^ 2 = 1) :
    ∃ w, call evR K A "rotate_quaternion" v [.sc u, .sc i, .sc j, .sc k] = .ok (.vec w) ∧
      w.ty = { v.ty with az := .xy, lon := some .z } ∧ WFV w ∧
      denote w = (denote v).map (onSpatial (quatRot u i j k)) ∧ w.tmpEl = v.tmpEl := by
  refine ⟨_, rotate_quaternion_eval K A v hv hd u i j k, ?_⟩
  refine spatial_denote _ _ (normSq_quatRot u i j k hq) v hv hd (fun l a b c h => ?_) hT
  rw [refine_spatial_rotate_quaternion _ _ _ _ _ _ _ _ _ h, ← quat_cartesian_eq]; rfl

/-- for 3D operands (no stored τ to pass through) the unit hypothesis is not needed -/
theorem c01m_rotate_quaternion_3D (K : Consts ℝ) (A : Arith ℝ) (v : Vec ℝ) (hv : WFV v) (hd : v.ty.dim = 3)
    (hT : TanOKV v) (u i j k : ℝ) :
    ∃ w, call evR K A "rotate_quaternion" v [.sc u, .sc i, .sc j, .sc k] = .ok (.vec w) ∧
      denote w = (denote v).map (onSpatial (quatRot u i j k)) := by
  refine ⟨_, rotate_quaternion_eval K A v hv (by omega) u i j k, ?_⟩
  obtain ⟨be, mom, az, l, a, b, c, rfl⟩ := (wfv_dim hv).2.1 hd
  have h := refine_spatial_rotate_quaternion az l u i j k a b c hT
  show denote (⟨⟨be, mom, .xy, some .z, none⟩, [(spatial_rotate_quaternion.eval az l u i j k a b c).1,
    (spatial_rotate_quaternion.eval az l u i j k a b c).2.1, (spatial_rotate_quaternion.eval az l u i j k a b c).2.2]⟩ : Vec ℝ) = _
  simp only [denote, h, Option.map, onSpatial, ← quat_cartesian_eq]
  rfl

/-! #### rotate_axis -/

/-- Rodrigues' rotation by `ang` about the direction of `u ≠ 0` (`Spec10.rod` of Props/C10 about the normalised axis) -/
noncomputable def axisRot (u : ℝ × ℝ × ℝ) (ang : ℝ) (p : ℝ × ℝ × ℝ) : ℝ × ℝ × ℝ :=
  Spec10.rod (u.1 / sqrt (u.1 ^ 2 + u.2.1 ^ 2 + u.2.2 ^ 2)) (u.2.1 / sqrt (u.1 ^ 2 + u.2.1 ^ 2 + u.2.2 ^ 2))
    (u.2.2 / sqrt (u.1 ^ 2 + u.2.1 ^ 2 + u.2.2 ^ 2)) (cos ang) (sin ang) p.1 p.2.1 p.2.2

theorem axisRot_eq (u : ℝ × ℝ × ℝ) (ang : ℝ) (p : ℝ × ℝ × ℝ) :
    axisRot u ang p = Spec10.ap (spatial_rotate_axis.cartesian ang u.1 u.2.1 u.2.2) p :=
  (c10_rotate_axis_eq_rod ang u.1 u.2.1 u.2.2 p.1 p.2.1 p.2.2).symm

theorem normSq_axisRot (u : ℝ × ℝ × ℝ) (hu : 0 < normSq u) (ang : ℝ) (p : ℝ × ℝ × ℝ) :
    normSq (axisRot u ang p) = normSq p :=
  normSq_of_dot10 (f := axisRot u ang)
    (fun p => by simp only [axisRot_eq]; exact c10_rotate_axis_dot ang u.1 u.2.1 u.2.2 hu p p) p

theorem call_rotate_axis {S B : Type} (ev : Ev S B) (K : Consts S) (A : Arith S) (v axis : Vec S) (a : S) :
    call ev K A "rotate_axis" v [.v axis, .sc a] =
      if v.ty.dim < 3 then .error .attributeError else
      if axis.ty.dim != 3 then .error .typeError else
        dispatch ev .spatial_rotate_axis [a] none [axis, v] [v] :=
  c05_call_rotate_axis ev K A v axis a

theorem rotate_axis_eval (K : Consts ℝ) (A : Arith ℝ) (v : Vec ℝ) (hv : WFV v) (hd : 3 ≤ v.ty.dim)
    (be' : Backend) (mom' : Bool) (az' : Az) (l' : Lon) (u1 u2 u3 ang : ℝ) :
    call evR K A "rotate_axis" v [.v ⟨⟨be', mom', az', some l', none⟩, [u1, u2, u3]⟩, .sc ang] =
      .ok (.vec (spatialResult (fun k l a b c => spatial_rotate_axis.eval az' l' k l ang u1 u2 u3 a b c) v)) := by
  rw [call_rotate_axis, if_neg (Nat.not_lt.mpr hd), if_neg (by simp [VT.dim]),
    dispatch_two evR .spatial_rotate_axis [ang] _ v 2 2 rfl _ _ _ _ rfl (operandKey_two hv hd) _ _ rfl [v] v rfl,
    refine_spatial_rotate_axis_ret]
  simp only [List.any_cons, List.any_nil, Bool.or_false]
  exact wrap_spatialResult (fun k l a b c => spatial_rotate_axis.eval az' l' k l ang u1 u2 u3 a b c) hv hd

/-- **rotate_axis on 3D and 4D vectors, the axis a 3D vector, both in every storage**: the result denotes Rodrigues'
rotation of the spatial part of `denote v` about the DENOTATION of the axis (any backend/flavor of the axis; the result
has the backend and flavor of `v`), time component unchanged -/
theorem c01m_rotate_axis (K : Consts ℝ) (A : Arith ℝ) (v : Vec ℝ) (hv : WFV v) (hd : 3 ≤ v.ty.dim) (hT : TanOKV v)
    (axis : Vec ℝ) (hax : WFV axis) (hdax : axis.ty.dim = 3) (hTax : TanOKV axis) (ux uy uz : ℝ)
    (hu : denote axis = some [ux, uy, uz]) (hpos : 0 < ux ^ 2 + uy ^ 2 + uz ^ 2) (ang : ℝ) :
    ∃ w, call evR K A "rotate_axis" v [.v axis, .sc ang] = .ok (.vec w) ∧
      w.ty = { v.ty with az := .xy, lon := some .z } ∧ WFV w ∧
      denote w = (denote v).map (onSpatial (axisRot (ux, uy, uz) ang)) ∧ w.tmpEl = v.tmpEl := by
  obtain ⟨be', mom', az', l', u1, u2, u3, rfl⟩ := (wfv_dim hax).2.1 hdax
  refine ⟨_, rotate_axis_eval K A v hv hd be' mom' az' l' u1 u2 u3 ang, ?_⟩
  simp only [denote, Option.some.injEq, List.cons.injEq, and_true] at hu
  obtain ⟨rfl, rfl, rfl⟩ := hu
  refine spatial_denote _ _ (normSq_axisRot (xOf az' u1 u2, yOf az' u1 u2, zOf az' l' u1 u2 u3) hpos ang) v hv hd
    (fun l a b c h => ?_) hT
  rw [refine_spatial_rotate_axis _ _ _ _ _ _ _ _ _ _ _ hTax h, axisRot_eq]; rfl

/-! ### 3. accessors: the value only depends on the denotation -/

/-- what each accessor computes from the stored coordinates: the generated function of its module at the keys of the operand -/
noncomputable def accR : Acc → Vec ℝ → ℝ
  | .x, v => planar_x.eval v.ty.az (c3 v).1 (c3 v).2.1
  | .y, v => planar_y.eval v.ty.az (c3 v).1 (c3 v).2.1
  | .rho, v => planar_rho.eval v.ty.az (c3 v).1 (c3 v).2.1
  | .rho2, v => planar_rho2.eval v.ty.az (c3 v).1 (c3 v).2.1
  | .phi, v => planar_phi.eval v.ty.az (c3 v).1 (c3 v).2.1
  | .z, v => ap3 spatial_z.eval v
  | .theta, v => ap3 spatial_theta.eval v
  | .eta, v => ap3 spatial_eta.eval v
  | .costheta, v => ap3 spatial_costheta.eval v
  | .cottheta, v => ap3 spatial_cottheta.eval v
  | .mag, v => ap3 spatial_mag.eval v
  | .mag2, v => ap3 spatial_mag2.eval v
  | .t, v => ap4 lorentz_t.eval v
  | .t2, v => ap4 lorentz_t2.eval v
  | .tau, v => ap4 lorentz_tau.eval v
  | .tau2, v => ap4 lorentz_tau2.eval v
  | .beta, v => ap4 lorentz_beta.eval v
  | .gamma, v => ap4 lorentz_gamma.eval v
  | .rapidity, v => ap4 lorentz_rapidity.eval v
  | .Et, v => ap4 lorentz_Et.eval v
  | .Et2, v => ap4 lorentz_Et2.eval v
  | .Mt, v => ap4 lorentz_Mt.eval v
  | .Mt2, v => ap4 lorentz_Mt2.eval v

theorem getAcc_accR (a : Acc) {v : Vec ℝ} (hv : WFV v) (hd : a.need ≤ v.ty.dim)
    (hm : a.momOnly = false ∨ v.ty.mom = true) : getAcc evR a v = .ok (.scalar (accR a v)) := by
  cases a
  case x | y | rho | rho2 | phi => exact getAcc_evR hd hm (operandKey_one hv) rfl
  case z | theta | eta | costheta | cottheta | mag | mag2 => exact getAcc_evR hd hm (operandKey_two hv hd) rfl
  all_goals exact getAcc_evR hd hm (operandKey_three hv (Nat.le_antisymm (by have := c05_dim_range v.ty; omega) hd)) rfl

theorem getS_accR (a : Acc) {v : Vec ℝ} (hv : WFV v) (hd : a.need ≤ v.ty.dim)
    (hm : a.momOnly = false ∨ v.ty.mom = true) : getS evR a v = .ok (accR a v) := by
  rw [getS, getAcc_accR a hv hd hm]

theorem call_accR (K : Consts ℝ) (A : Arith ℝ) {g : String} {a : Acc} (hg : accOfName g = some a) {v : Vec ℝ}
    (hv : WFV v) (hd : a.need ≤ v.ty.dim) (hm : a.momOnly = false ∨ v.ty.mom = true) :
    call evR K A g v [] = .ok (.scalar (accR a v)) :=
  (c14_call_generic evR K A g a v [] hg).trans (getAcc_accR a hv hd hm)

theorem c01m_acc_x (K : Consts ℝ) (A : Arith ℝ) (v : Vec ℝ) (hv : WFV v) (x y : ℝ) (rest : List ℝ)
    (h : denote v = some (x :: y :: rest)) : call evR K A "x" v [] = .ok (.scalar x) := by
  rw [call_accR K A (a := .x) rfl hv (two_le_dim _) (.inl rfl), accR, refine_planar_x, (denote_planar h).1]

theorem c01m_acc_y (K : Consts ℝ) (A : Arith ℝ) (v : Vec ℝ) (hv : WFV v) (x y : ℝ) (rest : List ℝ)
    (h : denote v = some (x :: y :: rest)) : call evR K A "y" v [] = .ok (.scalar y) := by
  rw [call_accR K A (a := .y) rfl hv (two_le_dim _) (.inl rfl), accR, refine_planar_y, (denote_planar h).2]

/-- `rho = √(x² + y²)` of the denotation (`0 ≤ ρ` for polar storage) -/
theorem c01m_acc_rho (K : Consts ℝ) (A : Arith ℝ) (v : Vec ℝ) (hv : WFV v) (hc : Stored2 Canon2 v) (x y : ℝ)
    (rest : List ℝ) (h : denote v = some (x :: y :: rest)) :
    call evR K A "rho" v [] = .ok (.scalar (sqrt (x ^ 2 + y ^ 2))) := by
  rw [call_accR K A (a := .rho) rfl hv (two_le_dim _) (.inl rfl), accR, refine_planar_rho, (denote_planar h).1, (denote_planar h).2, rhoOf_eq_sqrt hc]

theorem c01m_acc_rho2 (K : Consts ℝ) (A : Arith ℝ) (v : Vec ℝ) (hv : WFV v) (x y : ℝ) (rest : List ℝ)
    (h : denote v = some (x :: y :: rest)) : call evR K A "rho2" v [] = .ok (.scalar (x ^ 2 + y ^ 2)) := by
  rw [call_accR K A (a := .rho2) rfl hv (two_le_dim _) (.inl rfl), accR, refine_planar_rho2, (denote_planar h).1, (denote_planar h).2]

/-- `phi = arctan2(y, x)` of the denotation (polar storage: `0 < ρ`, stored φ in `(-π, π]`) -/
theorem c01m_acc_phi (K : Consts ℝ) (A : Arith ℝ) (v : Vec ℝ) (hv : WFV v)
    (hc : Stored2 (fun k a b => 0 < rhoOf k a b ∧ CanonPhi k a b) v) (x y : ℝ) (rest : List ℝ)
    (h : denote v = some (x :: y :: rest)) : call evR K A "phi" v [] = .ok (.scalar (P.arctan2 y x)) := by
  rw [call_accR K A (a := .phi) rfl hv (two_le_dim _) (.inl rfl), accR, refine_planar_phi _ _ _ hc.1 hc.2, (denote_planar h).1, (denote_planar h).2]

theorem c01m_acc_z (K : Consts ℝ) (A : Arith ℝ) (v : Vec ℝ) (hv : WFV v)
    (hc : Stored3 (fun _ l _ _ c => TanOK l c) v) (x y z : ℝ) (rest : List ℝ)
    (h : denote v = some (x :: y :: z :: rest)) : call evR K A "z" v [] = .ok (.scalar z) := by
  obtain ⟨hd, hx, hy, hz⟩ := denote_spatial h
  rw [call_accR K A (a := .z) rfl hv hd (.inl rfl), accR, ap3, refine_spatial_z _ _ _ _ _ hc, hz]

theorem c01m_acc_mag2 (K : Consts ℝ) (A : Arith ℝ) (v : Vec ℝ) (hv : WFV v)
    (hc : Stored3 (fun _ l _ _ c => SinOK l c) v) (x y z : ℝ) (rest : List ℝ)
    (h : denote v = some (x :: y :: z :: rest)) :
    call evR K A "mag2" v [] = .ok (.scalar (x ^ 2 + y ^ 2 + z ^ 2)) := by
  obtain ⟨hd, hx, hy, hz⟩ := denote_spatial h
  rw [call_accR K A (a := .mag2) rfl hv hd (.inl rfl), accR, ap3, refine_spatial_mag2 _ _ _ _ _ hc, hx, hy, hz]; rfl

theorem c01m_acc_mag (K : Consts ℝ) (A : Arith ℝ) (v : Vec ℝ) (hv : WFV v)
    (hc : Stored3 (fun k l a b c => Canon2 k a b ∧ SinOK l c) v) (x y z : ℝ) (rest : List ℝ)
    (h : denote v = some (x :: y :: z :: rest)) :
    call evR K A "mag" v [] = .ok (.scalar (sqrt (x ^ 2 + y ^ 2 + z ^ 2))) := by
  obtain ⟨hd, hx, hy, hz⟩ := denote_spatial h
  rw [call_accR K A (a := .mag) rfl hv hd (.inl rfl), accR, ap3, refine_spatial_mag _ _ _ _ _ hc.1 hc.2, hx, hy, hz]; rfl

theorem c01m_acc_costheta (K : Consts ℝ) (A : Arith ℝ) (v : Vec ℝ) (hv : WFV v)
    (hc : Stored3 (fun k l a b c => Canon3 k l a b c ∧ 0 < mag2Of k l a b c) v) (x y z : ℝ) (rest : List ℝ)
    (h : denote v = some (x :: y :: z :: rest)) :
    call evR K A "costheta" v [] = .ok (.scalar (z / sqrt (x ^ 2 + y ^ 2 + z ^ 2))) := by
  obtain ⟨hd, hx, hy, hz⟩ := denote_spatial h
  rw [call_accR K A (a := .costheta) rfl hv hd (.inl rfl), accR, ap3, refine_spatial_costheta _ _ _ _ _ hc.1 hc.2, hx, hy, hz]; rfl

theorem c01m_acc_theta (K : Consts ℝ) (A : Arith ℝ) (v : Vec ℝ) (hv : WFV v)
    (hc : Stored3 (fun k l a b c => Canon3 k l a b c ∧ 0 < mag2Of k l a b c) v) (x y z : ℝ) (rest : List ℝ)
    (h : denote v = some (x :: y :: z :: rest)) :
    call evR K A "theta" v [] = .ok (.scalar (arccos (z / sqrt (x ^ 2 + y ^ 2 + z ^ 2)))) := by
  obtain ⟨hd, hx, hy, hz⟩ := denote_spatial h
  rw [call_accR K A (a := .theta) rfl hv hd (.inl rfl), accR, ap3, refine_spatial_theta _ _ _ _ _ hc.1 hc.2, hx, hy, hz]; rfl

theorem c01m_acc_cottheta (K : Consts ℝ) (A : Arith ℝ) (v : Vec ℝ) (hv : WFV v)
    (hc : Stored3 (fun k l a b c => 0 < rhoOf k a b ∧ TanOK l c) v) (x y z : ℝ) (rest : List ℝ)
    (h : denote v = some (x :: y :: z :: rest)) :
    call evR K A "cottheta" v [] = .ok (.scalar (z / sqrt (x ^ 2 + y ^ 2))) := by
  obtain ⟨hd, hx, hy, hz⟩ := denote_spatial h
  rw [call_accR K A (a := .cottheta) rfl hv hd (.inl rfl), accR, ap3, refine_spatial_cottheta _ _ _ _ _ hc.1 hc.2, hx, hy, hz, rhoOf_eq_sqrt (canon2_of_rho_pos hc.1)]

theorem c01m_acc_eta (K : Consts ℝ) (A : Arith ℝ) (v : Vec ℝ) (hv : WFV v)
    (hc : Stored3 (fun k l a b c => 0 < rhoOf k a b ∧ CanonLon k l a b c) v) (x y z : ℝ) (rest : List ℝ)
    (h : denote v = some (x :: y :: z :: rest)) :
    call evR K A "eta" v [] = .ok (.scalar (arsinh (z / sqrt (x ^ 2 + y ^ 2)))) := by
  obtain ⟨hd, hx, hy, hz⟩ := denote_spatial h
  rw [call_accR K A (a := .eta) rfl hv hd (.inl rfl), accR, ap3, refine_spatial_eta _ _ _ _ _ hc.1 hc.2, hx, hy, hz, rhoOf_eq_sqrt (canon2_of_rho_pos hc.1)]

/-- e.g. a 4D vector stored as (ρ, φ, θ, τ) and the one stored as (x, y, z, t) with the same denotation have the same
`x`, `rho2`, `z`, `mag2` -/
example (K : Consts ℝ) (A : Arith ℝ) (v w : Vec ℝ) (hv : WFV v) (hw : WFV w) (x y z t : ℝ)
    (h1 : denote v = some [x, y, z, t]) (h2 : denote w = some [x, y, z, t])
    (hcv : Stored3 (fun _ l _ _ c => TanOK l c) v) (hcw : Stored3 (fun _ l _ _ c => TanOK l c) w) :
    call evR K A "x" v [] = call evR K A "x" w [] ∧ call evR K A "rho2" v [] = call evR K A "rho2" w [] ∧
      call evR K A "z" v [] = call evR K A "z" w [] := by
  rw [c01m_acc_x K A v hv _ _ _ h1, c01m_acc_x K A w hw _ _ _ h2, c01m_acc_rho2 K A v hv _ _ _ h1,
    c01m_acc_rho2 K A w hw _ _ _ h2, c01m_acc_z K A v hv hcv _ _ _ _ h1, c01m_acc_z K A w hw hcw _ _ _ _ h2]
  exact ⟨rfl, rfl, rfl⟩

/-! ### 4. `to_Vector2D/3D` projections and `to_Vector3D/4D` embeddings -/

/-- how the dimension-changing conversions and `scale2D` / `scale3D` parse -/
theorem call_conv {S B : Type} (ev : Ev S B) (K : Consts S) (A : Arith S) (v : Vec S) (args : List (Arg S)) (f : S) :
    call ev K A "to_Vector2D" v args = toDimS K 2 v (kwargs args) ∧
    call ev K A "to_Vector3D" v args = toDimS K 3 v (kwargs args) ∧
    call ev K A "to_Vector4D" v args = toDimS K 4 v (kwargs args) ∧
    call ev K A "to_2D" v args = toDimS K 2 v (kwargs args) ∧
    call ev K A "to_3D" v args = toDimS K 3 v (kwargs args) ∧
    call ev K A "to_4D" v args = toDimS K 4 v (kwargs args) ∧
    call ev K A "scale2D" v [.sc f] = scaleN ev 2 f v ∧
    call ev K A "scale3D" v [.sc f] = scaleN ev 3 f v :=
  ⟨rfl, rfl, rfl, rfl, rfl, rfl, rfl, rfl⟩

theorem call_to_Vector2D (K : Consts ℝ) (A : Arith ℝ) (v : Vec ℝ) (args : List (Arg ℝ)) :
    call evR K A "to_Vector2D" v args = toDimS K 2 v (kwargs args) := (call_conv evR K A v args 0).1
theorem call_to_Vector3D (K : Consts ℝ) (A : Arith ℝ) (v : Vec ℝ) (args : List (Arg ℝ)) :
    call evR K A "to_Vector3D" v args = toDimS K 3 v (kwargs args) := (call_conv evR K A v args 0).2.1
theorem call_to_Vector4D (K : Consts ℝ) (A : Arith ℝ) (v : Vec ℝ) (args : List (Arg ℝ)) :
    call evR K A "to_Vector4D" v args = toDimS K 4 v (kwargs args) := (call_conv evR K A v args 0).2.2.1
theorem call_scale2D (K : Consts ℝ) (A : Arith ℝ) (v : Vec ℝ) (f : ℝ) :
    call evR K A "scale2D" v [.sc f] = scaleN evR 2 f v := (call_conv evR K A v [] f).2.2.2.2.2.2.1
theorem call_scale3D (K : Consts ℝ) (A : Arith ℝ) (v : Vec ℝ) (f : ℝ) :
    call evR K A "scale3D" v [.sc f] = scaleN evR 3 f v := (call_conv evR K A v [] f).2.2.2.2.2.2.2

/-- **projection to 2D**: the denotation is the `[x, y]` prefix (a stored θ/η/τ is simply dropped) -/
theorem c01m_to_Vector2D (K : Consts ℝ) (A : Arith ℝ) (v : Vec ℝ) (hv : WFV v) :
    ∃ w, call evR K A "to_Vector2D" v [] = .ok (.vec w) ∧ WFV w ∧ w.ty.dim = 2 ∧
      denote w = (denote v).map (List.take 2) := by
  rw [call_to_Vector2D]
  rcases wfv_cases hv with ⟨be, mom, az, a, b, rfl⟩ | ⟨be, mom, az, l, a, b, c, rfl⟩ |
    ⟨be, mom, az, l, t, a, b, c, d, rfl⟩
  all_goals exact ⟨_, rfl, ⟨by simp, rfl⟩, rfl, rfl⟩

theorem c01m_to_Vector3D_proj (K : Consts ℝ) (A : Arith ℝ) (v : Vec ℝ) (hv : WFV v) (hd : 3 ≤ v.ty.dim) :
    ∃ w, call evR K A "to_Vector3D" v [] = .ok (.vec w) ∧ WFV w ∧ w.ty.dim = 3 ∧
      denote w = (denote v).map (List.take 3) := by
  rw [call_to_Vector3D]
  rcases wfv_cases hv with ⟨be, mom, az, a, b, rfl⟩ | ⟨be, mom, az, l, a, b, c, rfl⟩ |
    ⟨be, mom, az, l, t, a, b, c, d, rfl⟩
  · simp [VT.dim] at hd
  all_goals exact ⟨_, rfl, ⟨by simp, rfl⟩, rfl, rfl⟩

/-- the same under the other public names -/
theorem c01m_to_2D_3D_names {S B : Type} (ev : Ev S B) (K : Consts S) (A : Arith S) (v : Vec S) (args : List (Arg S)) :
    call ev K A "to_2D" v args = call ev K A "to_Vector2D" v args ∧
    call ev K A "to_3D" v args = call ev K A "to_Vector3D" v args ∧
    call ev K A "to_4D" v args = call ev K A "to_Vector4D" v args := by
  obtain ⟨h1, h2, h3, h4, h5, h6, -⟩ := call_conv ev K A v args K.zeroF
  exact ⟨h4.trans h1.symm, h5.trans h2.symm, h6.trans h3.symm⟩

/-- **embedding 2D → 3D**, evaluated: the keyword value is STORED in the coordinate type the keyword names -/
theorem to_Vector3D_kw_eval (K : Consts ℝ) (A : Arith ℝ) (be mom az) (a b s : ℝ) :
    ∀ p ∈ [("z", Lon.z), ("pz", Lon.z), ("theta", Lon.theta), ("eta", Lon.eta)],
      call evR K A "to_Vector3D" ⟨⟨be, mom, az, none, none⟩, [a, b]⟩ [.kw p.1 s] =
        .ok (.vec ⟨⟨be, mom, az, some p.2, none⟩, [a, b, s]⟩) := by
  intro p hp
  rw [call_to_Vector3D]
  simp only [List.mem_cons, List.not_mem_nil, or_false] at hp
  rcases hp with rfl | rfl | rfl | rfl <;> rfl

/-- **embedding 2D → 3D with `z=`/`pz=`** (or without keyword: `z = 0.0`): the denotation is extended by the value -/
theorem c01m_to_Vector3D_z (K : Consts ℝ) (A : Arith ℝ) (v : Vec ℝ) (hv : WFV v) (hd : v.ty.dim = 2) (s : ℝ) :
    (∃ w, call evR K A "to_Vector3D" v [.kw "z" s] = .ok (.vec w) ∧ WFV w ∧ denote w = (denote v).map (· ++ [s])) ∧
    (∃ w, call evR K A "to_Vector3D" v [.kw "pz" s] = .ok (.vec w) ∧ WFV w ∧ denote w = (denote v).map (· ++ [s])) ∧
    (∃ w, call evR K A "to_Vector3D" v [] = .ok (.vec w) ∧ WFV w ∧ denote w = (denote v).map (· ++ [K.zeroF])) := by
  simp only [call_to_Vector3D]
  obtain ⟨be, mom, az, a, b, rfl⟩ := (wfv_dim hv).1 hd
  exact ⟨⟨_, rfl, ⟨by simp, rfl⟩, rfl⟩, ⟨_, rfl, ⟨by simp, rfl⟩, rfl⟩, ⟨_, rfl, ⟨by simp, rfl⟩, rfl⟩⟩

/-- **embedding 2D → 3D with `theta=` / `eta=`**: `z = ρ cot θ` resp. `ρ sinh η` with ρ of the denotation -/
theorem c01m_to_Vector3D_theta_eta (K : Consts ℝ) (A : Arith ℝ) (v : Vec ℝ) (hv : WFV v) (hd : v.ty.dim = 2)
    (hc : Stored2 Canon2 v) (s x y : ℝ) (h : denote v = some [x, y]) :
    (∃ w, call evR K A "to_Vector3D" v [.kw "theta" s] = .ok (.vec w) ∧ WFV w ∧
      denote w = some [x, y, sqrt (x ^ 2 + y ^ 2) * (cos s / sin s)]) ∧
    (∃ w, call evR K A "to_Vector3D" v [.kw "eta" s] = .ok (.vec w) ∧ WFV w ∧
      denote w = some [x, y, sqrt (x ^ 2 + y ^ 2) * sinh s]) := by
  obtain ⟨be, mom, az, a, b, rfl⟩ := (wfv_dim hv).1 hd
  have hr := rhoOf_eq_sqrt hc
  simp only [denote, Option.some.injEq, List.cons.injEq, and_true] at h
  obtain ⟨rfl, rfl⟩ := h
  simp only [c3] at hr
  refine ⟨⟨_, to_Vector3D_kw_eval K A be mom az a b s ("theta", .theta) (by simp), ⟨by simp, rfl⟩, ?_⟩,
    ⟨_, to_Vector3D_kw_eval K A be mom az a b s ("eta", .eta) (by simp), ⟨by simp, rfl⟩, ?_⟩⟩
  · simp only [denote, zOf, hr]
  · simp only [denote, zOf, hr]

theorem to_Vector4D_kw_eval (K : Consts ℝ) (A : Arith ℝ) (be mom az l) (a b c s : ℝ) :
    ∀ p ∈ [("t", Tmp.t), ("e", Tmp.t), ("E", Tmp.t), ("energy", Tmp.t), ("tau", Tmp.tau), ("m", Tmp.tau),
        ("M", Tmp.tau), ("mass", Tmp.tau)],
      call evR K A "to_Vector4D" ⟨⟨be, mom, az, some l, none⟩, [a, b, c]⟩ [.kw p.1 s] =
        .ok (.vec ⟨⟨be, mom, az, some l, some p.2⟩, [a, b, c, s]⟩) := by
  intro p hp
  rw [call_to_Vector4D]
  simp only [List.mem_cons, List.not_mem_nil, or_false] at hp
  rcases hp with rfl | rfl | rfl | rfl | rfl | rfl | rfl | rfl <;> rfl

/-- **embedding 3D → 4D with `t=`/`energy=`** (or without keyword: `t = 0.0`): extension by the value;
with `tau=`/`mass=`: extension by `√(τ² + |p|²)` of the denotation -/
theorem c01m_to_Vector4D_t (K : Consts ℝ) (A : Arith ℝ) (v : Vec ℝ) (hv : WFV v) (hd : v.ty.dim = 3) (s : ℝ) :
    (∃ w, call evR K A "to_Vector4D" v [.kw "t" s] = .ok (.vec w) ∧ WFV w ∧ denote w = (denote v).map (· ++ [s])) ∧
    (∃ w, call evR K A "to_Vector4D" v [.kw "energy" s] = .ok (.vec w) ∧ WFV w ∧
      denote w = (denote v).map (· ++ [s])) ∧
    (∃ w, call evR K A "to_Vector4D" v [] = .ok (.vec w) ∧ WFV w ∧ denote w = (denote v).map (· ++ [K.zeroF])) ∧
    (∃ w, call evR K A "to_Vector4D" v [.kw "tau" s] = .ok (.vec w) ∧ WFV w ∧
      denote w = (denote v).map (fun p => p ++ [sqrt (s ^ 2 + (p.getD 0 0 ^ 2 + p.getD 1 0 ^ 2 + p.getD 2 0 ^ 2))])) ∧
    (∃ w, call evR K A "to_Vector4D" v [.kw "mass" s] = .ok (.vec w) ∧ WFV w ∧
      denote w = (denote v).map (fun p => p ++ [sqrt (s ^ 2 + (p.getD 0 0 ^ 2 + p.getD 1 0 ^ 2 + p.getD 2 0 ^ 2))])) := by
  simp only [call_to_Vector4D]
  obtain ⟨be, mom, az, l, a, b, c, rfl⟩ := (wfv_dim hv).2.1 hd
  exact ⟨⟨_, rfl, ⟨by simp, rfl⟩, rfl⟩, ⟨_, rfl, ⟨by simp, rfl⟩, rfl⟩, ⟨_, rfl, ⟨by simp, rfl⟩, rfl⟩,
    ⟨_, rfl, ⟨by simp, rfl⟩, rfl⟩, ⟨_, rfl, ⟨by simp, rfl⟩, rfl⟩⟩

theorem c01m_to_Vector4D_zt (K : Consts ℝ) (A : Arith ℝ) (v : Vec ℝ) (hv : WFV v) (hd : v.ty.dim = 2) (s u : ℝ) :
    (∃ w, call evR K A "to_Vector4D" v [.kw "z" s, .kw "t" u] = .ok (.vec w) ∧ WFV w ∧
      denote w = (denote v).map (· ++ [s, u])) ∧
    (∃ w, call evR K A "to_Vector4D" v [] = .ok (.vec w) ∧ WFV w ∧
      denote w = (denote v).map (· ++ [K.zeroF, K.zeroF])) := by
  simp only [call_to_Vector4D]
  obtain ⟨be, mom, az, a, b, rfl⟩ := (wfv_dim hv).1 hd
  exact ⟨⟨_, rfl, ⟨by simp, rfl⟩, rfl⟩, ⟨_, rfl, ⟨by simp, rfl⟩, rfl⟩⟩

/-! ### 5. the documented EXCEPTIONS `scale2D` / `scale3D`

They scale the azimuthal (resp. spatial) STORED coordinates and pass the stored longitudinal (resp. temporal) coordinate
through, but — unlike the rotations — do not preserve ρ (resp. |p|): two vectors with the same denotation give results
with different denotations. -/

theorem cot_pi_div_four : cos (π / 4) / sin (π / 4) = 1 := by
  rw [cos_pi_div_four, sin_pi_div_four]
  exact div_self (by positivity)

/-- `scale2D` is NOT coordinate independent: the θ-stored and the z-stored 3D vector both denote `(1, 0, 1)`; after
`scale2D(2)` the first denotes `(2, 0, 2)` (θ kept), the second `(2, 0, 1)` (z kept) -/
theorem c01m_scale2D_exception (K : Consts ℝ) (A : Arith ℝ) :
    ∃ v₁ v₂ w₁ w₂ : Vec ℝ, WFV v₁ ∧ WFV v₂ ∧ denote v₁ = some [1, 0, 1] ∧ denote v₂ = some [1, 0, 1] ∧
      call evR K A "scale2D" v₁ [.sc 2] = .ok (.vec w₁) ∧ call evR K A "scale2D" v₂ [.sc 2] = .ok (.vec w₂) ∧
      denote w₁ = some [2, 0, 2] ∧ denote w₂ = some [2, 0, 1] ∧ denote w₁ ≠ denote w₂ := by
  have h1 : sqrt ((1 : ℝ) ^ 2 + 0 ^ 2) = 1 := by norm_num
  have h2 : sqrt (((1 : ℝ) * 2) ^ 2 + (0 * 2) ^ 2) = 2 := by
    rw [show ((1 : ℝ) * 2) ^ 2 + (0 * 2) ^ 2 = 2 ^ 2 by norm_num, Real.sqrt_sq (by norm_num)]
  have d1 : denote ⟨⟨.obj, false, .xy, some .theta, none⟩, [(1 : ℝ) * 2, 0 * 2, π / 4]⟩ = some [2, 0, 2] := by
    simp only [denote, xOf, yOf, zOf, rhoOf, h2, cot_pi_div_four]; norm_num
  have d2 : denote ⟨⟨.obj, false, .xy, some .z, none⟩, [(1 : ℝ) * 2, 0 * 2, 1]⟩ = some [2, 0, 1] := by
    simp only [denote, xOf, yOf, zOf]; norm_num
  refine ⟨⟨⟨.obj, false, .xy, some .theta, none⟩, [1, 0, π / 4]⟩, ⟨⟨.obj, false, .xy, some .z, none⟩, [1, 0, 1]⟩,
    ⟨⟨.obj, false, .xy, some .theta, none⟩, [1 * 2, 0 * 2, π / 4]⟩, ⟨⟨.obj, false, .xy, some .z, none⟩, [1 * 2, 0 * 2, 1]⟩,
    ⟨by simp, rfl⟩, ⟨by simp, rfl⟩, ?_, rfl, (call_scale2D ..).trans rfl, (call_scale2D ..).trans rfl, d1, d2, ?_⟩
  · simp only [denote, xOf, yOf, zOf, rhoOf, h1, cot_pi_div_four, mul_one]
  · rw [d1, d2]; norm_num

/-- `scale3D` is NOT coordinate independent: the τ-stored and the t-stored 4D vector both denote `(1, 0, 0, 1)`; after
`scale3D(2)` the first denotes `(2, 0, 0, 2)` (τ kept), the second `(2, 0, 0, 1)` (t kept) -/
theorem c01m_scale3D_exception (K : Consts ℝ) (A : Arith ℝ) :
    ∃ v₁ v₂ w₁ w₂ : Vec ℝ, WFV v₁ ∧ WFV v₂ ∧ denote v₁ = some [1, 0, 0, 1] ∧ denote v₂ = some [1, 0, 0, 1] ∧
      call evR K A "scale3D" v₁ [.sc 2] = .ok (.vec w₁) ∧ call evR K A "scale3D" v₂ [.sc 2] = .ok (.vec w₂) ∧
      denote w₁ = some [2, 0, 0, 2] ∧ denote w₂ = some [2, 0, 0, 1] ∧ denote w₁ ≠ denote w₂ := by
  have h1 : sqrt ((0 : ℝ) ^ 2 + ((1 : ℝ) ^ 2 + 0 ^ 2 + 0 ^ 2)) = 1 := by norm_num
  have h2 : sqrt ((0 : ℝ) ^ 2 + (((1 : ℝ) * 2) ^ 2 + (0 * 2) ^ 2 + (0 * 2) ^ 2)) = 2 := by
    rw [show (0 : ℝ) ^ 2 + (((1 : ℝ) * 2) ^ 2 + (0 * 2) ^ 2 + (0 * 2) ^ 2) = 2 ^ 2 by norm_num,
      Real.sqrt_sq (by norm_num)]
  have d1 : denote ⟨⟨.obj, false, .xy, some .z, some .tau⟩, [(1 : ℝ) * 2, 0 * 2, 0 * 2, 0]⟩ = some [2, 0, 0, 2] := by
    simp only [denote, xOf, yOf, zOf, tOf, mag2Of, h2]; norm_num
  have d2 : denote ⟨⟨.obj, false, .xy, some .z, some .t⟩, [(1 : ℝ) * 2, 0 * 2, 0 * 2, 1]⟩ = some [2, 0, 0, 1] := by
    simp only [denote, xOf, yOf, zOf, tOf]; norm_num
  refine ⟨⟨⟨.obj, false, .xy, some .z, some .tau⟩, [1, 0, 0, 0]⟩, ⟨⟨.obj, false, .xy, some .z, some .t⟩, [1, 0, 0, 1]⟩,
    ⟨⟨.obj, false, .xy, some .z, some .tau⟩, [1 * 2, 0 * 2, 0 * 2, 0]⟩,
    ⟨⟨.obj, false, .xy, some .z, some .t⟩, [1 * 2, 0 * 2, 0 * 2, 1]⟩,
    ⟨by simp, rfl⟩, ⟨by simp, rfl⟩, ?_, rfl, (call_scale3D ..).trans rfl, (call_scale3D ..).trans rfl, d1, d2, ?_⟩
  · simp only [denote, xOf, yOf, zOf, tOf, mag2Of, h1]
  · rw [d1, d2]; norm_num

/-! ### C01 in its literal form: same denotation in, same denotation out -/

/-- two vectors (any dimension ≥ 2, any storages, any backends/flavors) with the same denotation have `rotateZ` results with
the same denotation -/
theorem c01m_rotateZ_indep (K : Consts ℝ) (A : Arith ℝ) (v₁ v₂ : Vec ℝ) (h₁ : WFV v₁) (h₂ : WFV v₂)
    (h : denote v₁ = denote v₂) (ang : ℝ) :
    ∃ w₁ w₂, call evR K A "rotateZ" v₁ [.sc ang] = .ok (.vec w₁) ∧ call evR K A "rotateZ" v₂ [.sc ang] = .ok (.vec w₂) ∧
      denote w₁ = denote w₂ := by
  obtain ⟨w₁, e₁, -, -, d₁⟩ := c01m_rotateZ K A v₁ h₁ ang
  obtain ⟨w₂, e₂, -, -, d₂⟩ := c01m_rotateZ K A v₂ h₂ ang
  exact ⟨w₁, w₂, e₁, e₂, by rw [d₁, d₂, h]⟩

/-- the same for `rotateX` on 3D/4D vectors (e.g. one stored as (ρ, φ, η, τ), the other as (x, y, z, t)) -/
theorem c01m_rotateX_indep (K : Consts ℝ) (A : Arith ℝ) (v₁ v₂ : Vec ℝ) (h₁ : WFV v₁) (h₂ : WFV v₂)
    (hd₁ : 3 ≤ v₁.ty.dim) (hd₂ : 3 ≤ v₂.ty.dim) (hT₁ : TanOKV v₁) (hT₂ : TanOKV v₂)
    (h : denote v₁ = denote v₂) (ang : ℝ) :
    ∃ w₁ w₂, call evR K A "rotateX" v₁ [.sc ang] = .ok (.vec w₁) ∧ call evR K A "rotateX" v₂ [.sc ang] = .ok (.vec w₂) ∧
      denote w₁ = denote w₂ := by
  obtain ⟨w₁, e₁, -, -, d₁, -⟩ := c01m_rotateX K A v₁ h₁ hd₁ hT₁ ang
  obtain ⟨w₂, e₂, -, -, d₂, -⟩ := c01m_rotateX K A v₂ h₂ hd₂ hT₂ ang
  exact ⟨w₁, w₂, e₁, e₂, by rw [d₁, d₂, h]⟩

/-! ### non-vacuity of the hypotheses -/

/-- a 4D vector stored as (ρ, φ, θ, τ) satisfying every hypothesis used above -/
example : let v : Vec ℝ := ⟨⟨.obj, true, .rhophi, some .theta, some .tau⟩, [2, 1, 1, 3]⟩
    WFV v ∧ 3 ≤ v.ty.dim ∧ TanOKV v ∧ Stored2 Canon2 v ∧ Stored2 (fun k a b => 0 < rhoOf k a b ∧ CanonPhi k a b) v ∧
      Stored3 (fun k l a b c => Canon3 k l a b c ∧ 0 < mag2Of k l a b c) v ∧
      Stored3 (fun k l a b c => 0 < rhoOf k a b ∧ TanOK l c ∧ SinOK l c ∧ CanonLon k l a b c) v := by
  intro v
  have hr : 0 < rhoOf .rhophi 2 1 := by norm_num [rhoOf]
  have hpi : (1 : ℝ) < π := by linarith [two_le_pi]
  have hcl : CanonLon .rhophi .theta 2 1 1 := ⟨hr, one_pos, hpi⟩
  have hm : 0 < mag2Of .rhophi .theta 2 1 1 := by rw [Spec.mag2Of_eq]; positivity
  exact ⟨⟨by simp [v], rfl⟩, by simp [v, VT.dim], Spec.tanOK_one .theta, hr.le,
    ⟨hr, show -π < (1 : ℝ) by linarith [pi_pos], hpi.le⟩, ⟨⟨hr.le, hcl⟩, hm⟩, hr, Spec.tanOK_one .theta,
    Spec.sinOK_one .theta, hcl⟩

example : (1 : ℝ) ^ 2 + 0 ^ 2 + 0 ^ 2 + 0 ^ 2 = 1 ∧ (0 : ℝ) < 1 ^ 2 + 2 ^ 2 + 3 ^ 2 := by norm_num

end C01M
end VR
