/-
C10 — rotations are proper rotations and their spellings agree: the GROUP structure of `rotate_quaternion`.
Theorems about the generated real-number model of `_compute/spatial/rotate_quaternion.py` (Cartesian variant; the
all-keys statements of Props/C10.lean section 5 carry them to every coordinate system):

* rotating by `q₁` and then by `q₂` is rotating by the Hamilton product `q₂ q₁` - for ALL quaternions, unit or not;
* the identity quaternion `(1,0,0,0)` does nothing;
* for a unit quaternion the conjugate undoes the rotation (and in general gives the factor `|q|⁴`);
* the scalar triple product (orientation) is preserved by a unit quaternion: the map is a PROPER rotation;
* a unit quaternion keeps its own axis `(i,j,k)` fixed;
* `rotate_axis` is additive in the angle (its half-angle quaternions about one axis multiply), so the opposite angle inverts.
-/
import VectorModel.Props.C10

namespace VR
open VK Spec10

/-- Hamilton product `p q` of two quaternions `(u, i, j, k)` -/
def Spec10.hmul (p q : ℝ × ℝ × ℝ × ℝ) : ℝ × ℝ × ℝ × ℝ :=
  (p.1 * q.1 - p.2.1 * q.2.1 - p.2.2.1 * q.2.2.1 - p.2.2.2 * q.2.2.2,
   p.1 * q.2.1 + p.2.1 * q.1 + p.2.2.1 * q.2.2.2 - p.2.2.2 * q.2.2.1,
   p.1 * q.2.2.1 - p.2.1 * q.2.2.2 + p.2.2.1 * q.1 + p.2.2.2 * q.2.1,
   p.1 * q.2.2.2 + p.2.1 * q.2.2.1 - p.2.2.1 * q.2.1 + p.2.2.2 * q.1)

/-- the generated Cartesian variant as a map of ℝ³ indexed by a quaternion tuple -/
noncomputable def Spec10.qrot (q : ℝ × ℝ × ℝ × ℝ) (v : V3) : V3 :=
  ap (spatial_rotate_quaternion.cartesian q.1 q.2.1 q.2.2.1 q.2.2.2) v

/-- composition: `rotate_quaternion(q₂) ∘ rotate_quaternion(q₁) = rotate_quaternion(q₂ q₁)`, no hypothesis on the norms -/
theorem c10_quaternion_comp (p q : ℝ × ℝ × ℝ × ℝ) (v : V3) :
    qrot p (qrot q v) = qrot (hmul p q) v := by
  obtain ⟨u, i, j, k⟩ := p
  obtain ⟨u2, i2, j2, k2⟩ := q
  obtain ⟨x, y, z⟩ := v
  simp only [qrot, hmul, ap, spatial_rotate_quaternion.cartesian]
  refine Prod.ext ?_ (Prod.ext ?_ ?_) <;> simp only <;> ring

/-- the norm is multiplicative for the Hamilton product (so unit quaternions are closed under composition) -/
theorem c10_hmul_norm (p q : ℝ × ℝ × ℝ × ℝ) :
    (hmul p q).1 ^ 2 + (hmul p q).2.1 ^ 2 + (hmul p q).2.2.1 ^ 2 + (hmul p q).2.2.2 ^ 2 =
      (p.1 ^ 2 + p.2.1 ^ 2 + p.2.2.1 ^ 2 + p.2.2.2 ^ 2) * (q.1 ^ 2 + q.2.1 ^ 2 + q.2.2.1 ^ 2 + q.2.2.2 ^ 2) := by
  obtain ⟨u, i, j, k⟩ := p
  obtain ⟨u2, i2, j2, k2⟩ := q
  simp only [hmul]
  ring

theorem c10_quaternion_real (t : ℝ) (v : V3) : qrot (t, 0, 0, 0) v = (t ^ 2 * v.1, t ^ 2 * v.2.1, t ^ 2 * v.2.2) := by
  simp only [qrot, ap, spatial_rotate_quaternion.cartesian, mul_zero, zero_mul, add_zero, sub_zero, sub_self,
    zero_add, sq]

theorem c10_quaternion_one (v : V3) : qrot (1, 0, 0, 0) v = v := by
  rw [c10_quaternion_real, one_pow, one_mul, one_mul, one_mul]

theorem c10_hmul_conj (u i j k : ℝ) : hmul (u, -i, -j, -k) (u, i, j, k) = (u ^ 2 + i ^ 2 + j ^ 2 + k ^ 2, 0, 0, 0) := by
  simp only [hmul]
  refine Prod.ext ?_ (Prod.ext ?_ (Prod.ext ?_ ?_)) <;> simp only <;> ring

theorem c10_quaternion_conj_general (u i j k : ℝ) (v : V3) :
    qrot (u, -i, -j, -k) (qrot (u, i, j, k) v) =
      ((u ^ 2 + i ^ 2 + j ^ 2 + k ^ 2) ^ 2 * v.1, (u ^ 2 + i ^ 2 + j ^ 2 + k ^ 2) ^ 2 * v.2.1,
        (u ^ 2 + i ^ 2 + j ^ 2 + k ^ 2) ^ 2 * v.2.2) := by
  rw [c10_quaternion_comp, c10_hmul_conj, c10_quaternion_real]

theorem c10_quaternion_inv (u i j k : ℝ) (hq : u ^ 2 + i ^ 2 + j ^ 2 + k ^ 2 = 1) (v : V3) :
    qrot (u, -i, -j, -k) (qrot (u, i, j, k) v) = v := by
  rw [c10_quaternion_conj_general, hq, one_pow, one_mul, one_mul, one_mul]

theorem c10_quaternion_inv' (u i j k : ℝ) (hq : u ^ 2 + i ^ 2 + j ^ 2 + k ^ 2 = 1) (v : V3) :
    qrot (u, i, j, k) (qrot (u, -i, -j, -k) v) = v := by
  have h := c10_quaternion_inv u (-i) (-j) (-k) (by rw [← hq]; ring) v
  simpa only [neg_neg] using h

/-- orientation: the scalar triple product is preserved by a unit quaternion, so the map is a proper rotation
(determinant +1), not a reflection -/
theorem c10_quaternion_triple (u i j k : ℝ) (hq : u ^ 2 + i ^ 2 + j ^ 2 + k ^ 2 = 1) (a b c : V3) :
    dot3 (qrot (u, i, j, k) a) (cross3 (qrot (u, i, j, k) b) (qrot (u, i, j, k) c)) = dot3 a (cross3 b c) := by
  simp only [qrot]
  rw [← c10_quaternion_cross u i j k hq, c10_quaternion_dot u i j k hq]

theorem c10_quaternion_fixes_axis (u i j k : ℝ) (hq : u ^ 2 + i ^ 2 + j ^ 2 + k ^ 2 = 1) :
    qrot (u, i, j, k) (i, j, k) = (i, j, k) := by
  simp only [qrot, ap, spatial_rotate_quaternion.cartesian]
  refine Prod.ext ?_ (Prod.ext ?_ ?_) <;> simp only
  · linear_combination i * hq
  · linear_combination j * hq
  · linear_combination k * hq

/-- composition at every coordinate system: via `c10_quaternion_eval` each non-Cartesian dispatch entry is `qrot` on the
Cartesian components, so two successive calls whose intermediate result is stored as Cartesian `(x, y, z)` (what the
method returns, `c10_quaternion_ret`) compose by the Hamilton product -/
theorem c10_quaternion_comp_eval (k0 : Az) (k1 : Lon) (p q : ℝ × ℝ × ℝ × ℝ) (c1 c2 c3 : ℝ) :
    qrot p (spatial_rotate_quaternion.eval k0 k1 q.1 q.2.1 q.2.2.1 q.2.2.2 c1 c2 c3) =
      qrot (hmul p q) (Spec10.cart k0 k1 c1 c2 c3) := by
  rw [c10_quaternion_eval, ← c10_quaternion_comp]
  rfl

/-! ### rotate_axis: angles about one axis add, because the half-angle quaternions about that axis multiply -/

/-- the unit quaternion `(cos(a/2), û sin(a/2))` of `c10_quaternion_eq_rotate_axis` -/
private noncomputable def axisQuat (a ux uy uz : ℝ) : ℝ × ℝ × ℝ × ℝ :=
  let n := Real.sqrt (ux ^ 2 + uy ^ 2 + uz ^ 2)
  (Real.cos (a / 2), ux / n * Real.sin (a / 2), uy / n * Real.sin (a / 2), uz / n * Real.sin (a / 2))

private theorem rotate_axis_eq_qrot (a : ℝ) {ux uy uz : ℝ} (hu : 0 < ux ^ 2 + uy ^ 2 + uz ^ 2) (v : V3) :
    ap (spatial_rotate_axis.cartesian a ux uy uz) v = qrot (axisQuat a ux uy uz) v :=
  (c10_quaternion_eq_rotate_axis a ux uy uz _ _ _ hu).symm

private theorem hmul_same_axis (e1 e2 e3 ca sa cb sb : ℝ) (he : e1 ^ 2 + e2 ^ 2 + e3 ^ 2 = 1) :
    hmul (ca, e1 * sa, e2 * sa, e3 * sa) (cb, e1 * sb, e2 * sb, e3 * sb) =
      (ca * cb - sa * sb, e1 * (sa * cb + ca * sb), e2 * (sa * cb + ca * sb), e3 * (sa * cb + ca * sb)) := by
  simp only [hmul]
  refine Prod.ext ?_ (Prod.ext ?_ (Prod.ext ?_ ?_)) <;> simp only
  · linear_combination (-(sa * sb)) * he
  · ring
  · ring
  · ring

theorem c10_rotate_axis_add (a b ux uy uz : ℝ) (hu : 0 < ux ^ 2 + uy ^ 2 + uz ^ 2) (v : V3) :
    ap (spatial_rotate_axis.cartesian (a + b) ux uy uz) v =
      ap (spatial_rotate_axis.cartesian a ux uy uz) (ap (spatial_rotate_axis.cartesian b ux uy uz) v) := by
  rw [rotate_axis_eq_qrot _ hu, rotate_axis_eq_qrot _ hu, rotate_axis_eq_qrot _ hu, c10_quaternion_comp]
  simp only [axisQuat, hmul_same_axis _ _ _ _ _ _ _ (c10_unit_axis hu rfl), add_div, Real.cos_add, Real.sin_add]

theorem c10_rotate_axis_zero (ux uy uz : ℝ) (v : V3) : ap (spatial_rotate_axis.cartesian 0 ux uy uz) v = v := by
  simp only [ap, spatial_rotate_axis.cartesian, Real.cos_zero, Real.sin_zero, sub_self, mul_zero, add_zero,
    one_mul, zero_mul, zero_add]

theorem c10_rotate_axis_inv (a ux uy uz : ℝ) (hu : 0 < ux ^ 2 + uy ^ 2 + uz ^ 2) (v : V3) :
    ap (spatial_rotate_axis.cartesian (-a) ux uy uz) (ap (spatial_rotate_axis.cartesian a ux uy uz) v) = v := by
  rw [← c10_rotate_axis_add _ _ _ _ _ hu, neg_add_cancel, c10_rotate_axis_zero]

-- the hypotheses are satisfiable, and the statements are not vacuous
example : qrot (0, 1, 0, 0) (qrot (0, 0, 1, 0) (1, 2, 3)) = qrot (hmul (0, 1, 0, 0) (0, 0, 1, 0)) (1, 2, 3) :=
  c10_quaternion_comp _ _ _
example : hmul (0, 1, 0, 0) (0, 0, 1, 0) = (0, 0, 0, 1) := by simp [hmul]
example : qrot (0, 0, 0, 1) (1, 2, 3) = (-1, -2, 3) := by
  simp only [qrot, ap, spatial_rotate_quaternion.cartesian]; norm_num
example : qrot (0, -1, 0, 0) (qrot (0, 1, 0, 0) (1, 2, 3)) = (1, 2, 3) := by
  simpa using c10_quaternion_inv 0 1 0 0 (by norm_num) (1, 2, 3)

end VR
