/-
Properties C14 / C07 / C18 of the FIELD LOOKUP chains of the Awkward backend (model: `Glue/Fields.lean`): the interpreter's
`from_fields` / `from_momentum_fields`, the numba typer (`_aztype_of`, `_ltype_of`, `_ttype_of`) and the numba lowering
(`_numba_lower` + getters).  For ALL scalar types `S`, all dimensions, both flavors.

Every chain — reader, typer, lowering — is "the first present name of a priority list" (`firstOr`).  The reader of either
flavor sees a record only through `resolved mom g` (under each generic name the value of its first present spelling), on which
both flavors run one chain (`c14f_az_resolved`, `c14f_lon_resolved`, `c14f_tmp_resolved`): hence momentum names are synonyms
(`c14f_synonym_prefix`), and field order and non-coordinate fields never matter (sections 4, 5).  Typer and lowering try the
spellings of a coordinate in different orders; per coordinate they find the same name unless a generic and a momentum spelling
are both present (`grp`).  So compiled = interpreted on the VALUES for every record (`c14f_numba_agrees`; the
`raise AssertionError` branches of `_numba_lower` are dead), while the DTYPE of the declared type may come from another field
than the one read — THE DEVIATION (section 7, `c14f_numba_dtype_conflict`): a momentum record with `x` and `px` of different
dtypes is read by the interpreter and rejected by the compiler (`TypingError`).  Section 8 is about the real `_wrap_result`
(`realWrap` of `Glue/Awkward.lean`, repair 17af0b2): whatever `self` carried, every reader of the result finds the fresh values.
-/
import VectorModel.Glue.Fields
import VectorModel.Props.C18

set_option linter.constructorNameAsVariable false
namespace VG
open VK

section
variable {S : Type}

/-! ## 0. field lists as maps -/

private theorem lookup_eq_some_iff_mem (fs : List (String × S)) (hnd : (fieldNames fs).Nodup) (n : String) (v : S) :
    List.lookup n fs = some v ↔ (n, v) ∈ fs := by
  induction fs with
  | nil => simp
  | cons kv fs ih =>
    obtain ⟨k, w⟩ := kv
    simp only [fieldNames, List.map_cons, List.nodup_cons] at hnd
    have ih := ih hnd.2
    simp only [List.lookup_cons, List.mem_cons, Prod.mk.injEq]
    by_cases hk : n = k
    · subst hk
      simp only [BEq.rfl, Option.some.injEq, true_and]
      constructor
      · intro h; exact Or.inl h.symm
      · rintro (h | h)
        · exact h.symm
        · exact absurd (List.mem_map.2 ⟨(n, v), h, rfl⟩) hnd.1
    · have : (n == k) = false := by simpa using hk
      simp only [this, hk, false_and, false_or]
      exact ih

/-- a field list with distinct names IS its name → value map: permuting the fields does not change it -/
theorem c14f_look_perm (fs fs' : List (String × S)) (hp : fs.Perm fs') (hnd : (fieldNames fs).Nodup) :
    look fs = look fs' := by
  have hnd' : (fieldNames fs').Nodup := ((hp.map (fun f : String × S => f.1)).nodup_iff).1 hnd
  funext n
  apply Option.ext
  intro v
  simp only [look]
  rw [lookup_eq_some_iff_mem fs hnd, lookup_eq_some_iff_mem fs' hnd', hp.mem_iff]

/-- `name in ak.fields(array)` ⇔ the map has a value -/
theorem c14f_names_contains (fs : List (String × S)) (n : String) :
    (fieldNames fs).contains n = (look fs).has n := by
  simp only [FMap.has, look, fieldNames]
  rw [Bool.eq_iff_iff]
  simp only [List.contains_eq_mem, List.mem_map, decide_eq_true_eq, List.lookup_isSome_iff, beq_iff_eq]
  constructor
  · rintro ⟨p, hp, rfl⟩; exact ⟨p, hp, rfl⟩
  · rintro ⟨p, hp, h⟩; exact ⟨p, hp, h.symm⟩

private theorem lookup_filter_name (q : String → Bool) (fs : List (String × S)) (n : String) :
    List.lookup n (fs.filter (fun f => q f.1)) = if q n then List.lookup n fs else none := by
  induction fs with
  | nil => simp
  | cons kv fs ih =>
    obtain ⟨k, w⟩ := kv
    by_cases hk : n = k
    · subst hk
      by_cases hq : q n <;> simp [hq, ih]
    · have hb : (n == k) = false := by simpa using hk
      by_cases hq : q k <;> simp [List.lookup_cons, hq, ih, hb]

/-! ## 1. what the chains compute (`c14f_priority_*`)

Every chain — reader, typer, lowering — hands the first present name of a priority list to a continuation (`firstOr`).
The reader of flavor `mom` therefore sees a record only through `resolved mom g`: under each generic coordinate name the
value of its first present spelling (generic records: the name itself; momentum records: `spellings`, generic spelling
first).  On the resolved record both flavors run the same chain: x-y before rho-phi, z before theta before eta, t before
tau. -/

/-- first name of the priority list `l` that is present, handed to `f`; `k` if there is none -/
private def firstOr {α : Type} (p : String → Bool) (l : List String) (f : String → α) (k : α) : α :=
  match l.find? p with
  | some n => f n
  | none => k

private theorem firstOr_nil {α : Type} (p : String → Bool) (f : String → α) (k : α) : firstOr p [] f k = k := rfl

private theorem firstOr_cons {α : Type} (p : String → Bool) (a : String) (l : List String) (f : String → α) (k : α) :
    firstOr p (a :: l) f k = if p a then f a else firstOr p l f k := by
  unfold firstOr
  rw [List.find?_cons]
  cases p a <;> rfl

private theorem firstOr_some {α : Type} {p : String → Bool} {l : List String} {n : String} (h : l.find? p = some n)
    (f : String → α) (k : α) : firstOr p l f k = f n := by
  unfold firstOr; rw [h]

private theorem firstOr_none {α : Type} {p : String → Bool} {l : List String} (h : l.find? p = none)
    (f : String → α) (k : α) : firstOr p l f k = k := by
  unfold firstOr; rw [h]

/-- typer's order for one coordinate: momentum spellings (momentum flavor only), then the generic name -/
private def tyOrd (mom : Bool) (a : String) (ms : List String) : List String := (if mom then ms else []) ++ [a]
/-- reader's order: the generic name, then (momentum flavor only) the momentum spellings -/
private def rdOrd (mom : Bool) (a : String) (ms : List String) : List String := a :: (if mom then ms else [])

private theorem find?_cons_idx (p : String → Bool) (b : String) (l : List String) :
    (b :: l).find? p = (idx p b).or (l.find? p) := by
  unfold idx; rw [List.find?_cons]; cases p b <;> rfl

private theorem tyOrd_find (mom : Bool) (p : String → Bool) (a : String) (ms : List String) :
    (tyOrd mom a ms).find? p = (if mom then ms.find? p else none).or (idx p a) := by
  cases mom <;> simp only [tyOrd, List.find?_append, find?_cons_idx, List.find?_nil, Option.or_none, if_true, if_false, Bool.false_eq_true]

/-- `firstOr` for a pair of coordinates: both must be found -/
private def firstOr2 {α : Type} (p : String → Bool) (l l' : List String) (f : String → String → α) (k : α) : α :=
  match l.find? p, l'.find? p with
  | some i, some j => f i j
  | _, _ => k

private theorem firstOr2_some {α : Type} {p : String → Bool} {l l' : List String} {i j : String} (h : l.find? p = some i)
    (h' : l'.find? p = some j) (f : String → String → α) (k : α) : firstOr2 p l l' f k = f i j := by
  unfold firstOr2; rw [h, h']

private theorem firstOr2_none {α : Type} {p : String → Bool} {l l' : List String} (h : l.find? p = none ∨ l'.find? p = none)
    (f : String → String → α) (k : α) : firstOr2 p l l' f k = k := by
  unfold firstOr2
  rcases h with h | h
  · rw [h]
  · rw [h]; cases l.find? p <;> rfl

private theorem pair11 {α : Type} (p : String → Bool) (a b : String) (f : String → String → α) (k : α) :
    (if p a && p b then f a b else k) = firstOr2 p [a] [b] f k := by
  simp only [firstOr2, List.find?_cons, List.find?_nil]
  cases p a <;> cases p b <;> rfl

private theorem pair21 {α : Type} (p : String → Bool) (a a' b : String) (f : String → String → α) (k : α) :
    (if p a && p b then f a b else if p a' && p b then f a' b else k) = firstOr2 p [a, a'] [b] f k := by
  simp only [firstOr2, List.find?_cons, List.find?_nil]
  cases p a <;> cases p a' <;> cases p b <;> rfl

private theorem pair22 {α : Type} (p : String → Bool) (a a' b b' : String) (f : String → String → α) (k : α) :
    (if p a && p b then f a b else if p a && p b' then f a b' else if p a' && p b then f a' b
      else if p a' && p b' then f a' b' else k) = firstOr2 p [a, a'] [b, b'] f k := by
  simp only [firstOr2, List.find?_cons, List.find?_nil]
  cases p a <;> cases p a' <;> cases p b <;> cases p b' <;> rfl

private theorem nbAzTypeP_eq (mom : Bool) (p : String → Bool) :
    nbAzTypeP mom p =
      firstOr2 p (tyOrd mom "x" ["px"]) (tyOrd mom "y" ["py"]) (fun i j => .ok (.xy, i, j))
        (firstOr2 p (tyOrd mom "rho" ["pt"]) (tyOrd mom "phi" []) (fun i j => .ok (.rhophi, i, j))
          (.error .typingError)) := by
  unfold nbAzTypeP firstOr2
  simp only [tyOrd_find, find?_cons_idx, List.find?_nil, Option.or_none, ite_self, Option.none_or]
  rfl

private theorem nbLonTypeP_eq (mom : Bool) (p : String → Bool) :
    nbLonTypeP mom p =
      firstOr p (tyOrd mom "z" ["pz"]) (fun i => .ok (.z, i))
        (firstOr p (tyOrd mom "theta" []) (fun i => .ok (.theta, i))
          (firstOr p (tyOrd mom "eta" []) (fun i => .ok (.eta, i)) (.error .typingError))) := by
  unfold nbLonTypeP firstOr
  simp only [tyOrd_find, find?_cons_idx, List.find?_nil, Option.or_none, ite_self, Option.none_or]
  rfl

private theorem nbTmpTypeP_eq (mom : Bool) (p : String → Bool) :
    nbTmpTypeP mom p =
      firstOr p (tyOrd mom "t" ["E", "e", "energy"]) (fun i => .ok (.t, i))
        (firstOr p (tyOrd mom "tau" ["M", "m", "mass"]) (fun i => .ok (.tau, i)) (.error .typingError)) := by
  unfold nbTmpTypeP firstOr
  simp only [tyOrd_find, find?_cons_idx, List.find?_nil, Option.or_none, Option.or_assoc]
  rfl

private theorem nbLowerAz_xy (p : String → Bool) :
    nbLowerAz .xy p = firstOr2 p ["x", "px"] ["y", "py"] (fun i j => .ok (i, j)) (.error .assertionError) :=
  pair22 p "x" "px" "y" "py" (fun i j => Except.ok (i, j)) _

private theorem nbLowerAz_rhophi (p : String → Bool) :
    nbLowerAz .rhophi p = firstOr2 p ["rho", "pt"] ["phi"] (fun i j => .ok (i, j)) (.error .assertionError) :=
  pair21 p "rho" "pt" "phi" (fun i j => Except.ok (i, j)) _

private theorem nbLowerLon_z (p : String → Bool) :
    nbLowerLon .z p = firstOr p ["z", "pz"] .ok (.error .assertionError) := by
  simp only [nbLowerLon, firstOr_cons, firstOr_nil]

private theorem nbLowerTmp_t (p : String → Bool) :
    nbLowerTmp .t p = firstOr p ["t", "E", "e", "energy"] .ok (.error .assertionError) := by
  simp only [nbLowerTmp, firstOr_cons, firstOr_nil]

private theorem nbLowerTmp_tau (p : String → Bool) :
    nbLowerTmp .tau p = firstOr p ["tau", "M", "m", "mass"] .ok (.error .assertionError) := by
  simp only [nbLowerTmp, firstOr_cons, firstOr_nil]

private theorem azOfM_eq (mom : Bool) (g : FMap S) :
    azOfM mom g =
      firstOr2 g.has (rdOrd mom "x" ["px"]) (rdOrd mom "y" ["py"]) (rd2 g .xy)
        (firstOr2 g.has (rdOrd mom "rho" ["pt"]) (rdOrd mom "phi" []) (rd2 g .rhophi) (.error .valueError)) := by
  cases mom with
  | false => simp only [azOfM, azFieldsM, rdOrd, pair11, if_false, Bool.false_eq_true]
  | true =>
    simp only [azOfM, azMomFieldsM, rdOrd, if_true]
    rw [pair22, pair21]

private theorem lonOfM_eq (mom : Bool) (g : FMap S) :
    lonOfM mom g =
      firstOr g.has (rdOrd mom "z" ["pz"]) (rd1 g .z)
        (firstOr g.has (rdOrd mom "theta" []) (rd1 g .theta)
          (firstOr g.has (rdOrd mom "eta" []) (rd1 g .eta) (.error .valueError))) := by
  cases mom <;>
    simp only [lonOfM, lonFieldsM, lonMomFieldsM, rdOrd, firstOr_cons, firstOr_nil, if_true, if_false,
      Bool.false_eq_true]

private theorem tmpOfM_eq (mom : Bool) (g : FMap S) :
    tmpOfM mom g =
      firstOr g.has (rdOrd mom "t" ["E", "e", "energy"]) (rd1 g .t)
        (firstOr g.has (rdOrd mom "tau" ["M", "m", "mass"]) (rd1 g .tau) (.error .valueError)) := by
  cases mom <;>
    simp only [tmpOfM, tmpFieldsM, tmpMomFieldsM, rdOrd, firstOr_cons, firstOr_nil, if_true, if_false,
      Bool.false_eq_true]

private theorem find?_has (g : FMap S) (l : List String) :
    (l.find? g.has = none ∧ l.findSome? g = none) ∨
    ∃ n v, l.find? g.has = some n ∧ g n = some v ∧ l.findSome? g = some v := by
  induction l with
  | nil => exact .inl ⟨rfl, rfl⟩
  | cons a l ih =>
    rw [List.find?_cons, List.findSome?_cons, FMap.has]
    cases ha : g a with
    | none => exact ih
    | some v => exact .inr ⟨a, v, rfl, ha, rfl⟩

private theorem firstOr_rd1 {C : Type} (g : FMap S) (c : C) (l : List String) (k : Except FErr (C × S)) :
    firstOr g.has l (rd1 g c) k = match l.findSome? g with | some v => .ok (c, v) | none => k := by
  rcases find?_has g l with ⟨h, e⟩ | ⟨n, v, h, hv, e⟩
  · rw [firstOr_none h, e]
  · rw [firstOr_some h, e, rd1, hv]

private theorem firstOr2_rd2 (g : FMap S) (c : Az) (l l' : List String) (k : Except FErr (Az × S × S)) :
    firstOr2 g.has l l' (rd2 g c) k =
      match l.findSome? g, l'.findSome? g with | some v, some w => .ok (c, v, w) | _, _ => k := by
  rcases find?_has g l with ⟨h, e⟩ | ⟨n, v, h, hv, e⟩
  · rw [firstOr2_none (.inl h), e]
  · rcases find?_has g l' with ⟨h', e'⟩ | ⟨n', w, h', hw, e'⟩
    · rw [firstOr2_none (.inr h'), e, e']
    · rw [firstOr2_some h h', e, e', rd2, hv, hw]

/-- the record as the reader of flavor `mom` sees it -/
def resolved (mom : Bool) (g : FMap S) : FMap S := fun c => (if mom then spellings c else [c]).findSome? g

private theorem findSome?_cons_or (g : FMap S) (a : String) (l : List String) :
    (a :: l).findSome? g = (g a).or (l.findSome? g) := by
  rw [List.findSome?_cons]; cases g a <;> rfl

theorem resolved_false (g : FMap S) (c : String) : resolved false g c = g c := by
  simp only [resolved, Bool.false_eq_true, if_false, findSome?_cons_or, List.findSome?_nil, Option.or_none]

/-- momentum records: the first present of the spellings (`hs` by `rfl`) -/
theorem resolved_true (g : FMap S) (c : String) (l : List String) (hs : spellings c = l) :
    resolved true g c = l.findSome? g := hs ▸ rfl

/-- a generic name that is present resolves to itself (`hs` by `rfl`) -/
theorem resolved_head {mom : Bool} {g : FMap S} {c : String} {l : List String} {v : S} (hs : spellings c = c :: l)
    (h : g c = some v) : resolved mom g c = some v := by
  cases mom <;> simp only [resolved, hs, if_true, if_false, Bool.false_eq_true, List.findSome?_cons, h]

private theorem findSome?_congr {l : List String} {g g' : FMap S} (h : ∀ s ∈ l, g s = g' s) :
    l.findSome? g = l.findSome? g' := by
  induction l with
  | nil => rfl
  | cons a l ih =>
    rw [List.findSome?_cons, List.findSome?_cons, h a List.mem_cons_self, ih fun s hs => h s (List.mem_cons_of_mem _ hs)]

private theorem resolved_congr {mom : Bool} {g g' : FMap S} {c : String} (h : ∀ s ∈ c :: spellings c, g s = g' s) :
    resolved mom g c = resolved mom g' c :=
  findSome?_congr fun s hs => h s (by
    cases mom
    · exact List.mem_singleton.1 hs ▸ List.mem_cons_self
    · exact List.mem_cons_of_mem _ hs)

theorem c14f_az_resolved (mom : Bool) (g : FMap S) :
    azOfM mom g =
      match resolved mom g "x", resolved mom g "y" with
      | some x, some y => .ok (.xy, x, y)
      | _, _ =>
        match resolved mom g "rho", resolved mom g "phi" with
        | some r, some p => .ok (.rhophi, r, p)
        | _, _ => .error .valueError := by
  rw [azOfM_eq, firstOr2_rd2, firstOr2_rd2]; cases mom <;> rfl

theorem c14f_lon_resolved (mom : Bool) (g : FMap S) :
    lonOfM mom g =
      match resolved mom g "z" with
      | some z => .ok (.z, z)
      | none =>
        match resolved mom g "theta" with
        | some th => .ok (.theta, th)
        | none =>
          match resolved mom g "eta" with
          | some e => .ok (.eta, e)
          | none => .error .valueError := by
  rw [lonOfM_eq, firstOr_rd1, firstOr_rd1, firstOr_rd1]; cases mom <;> rfl

theorem c14f_tmp_resolved (mom : Bool) (g : FMap S) :
    tmpOfM mom g =
      match resolved mom g "t" with
      | some t => .ok (.t, t)
      | none =>
        match resolved mom g "tau" with
        | some tau => .ok (.tau, tau)
        | none => .error .valueError := by
  rw [tmpOfM_eq, firstOr_rd1, firstOr_rd1]; cases mom <;> rfl

/-- a reader sees the record through the nine resolved names only -/
private theorem readM_congr_resolved (mom : Bool) (dim : Nat) (g g' : FMap S)
    (h : ∀ c ∈ genericNames, resolved mom g c = resolved mom g' c) : readM mom dim g = readM mom dim g' := by
  simp only [genericNames, List.forall_mem_cons] at h
  simp only [readM, c14f_az_resolved, c14f_lon_resolved, c14f_tmp_resolved, h]

/-- generic records: x-y first, then rho-phi; nothing else is looked at -/
theorem c14f_priority_az (g : FMap S) :
    azFieldsM g =
      match g "x", g "y" with
      | some x, some y => .ok (.xy, x, y)
      | _, _ =>
        match g "rho", g "phi" with
        | some r, some p => .ok (.rhophi, r, p)
        | _, _ => .error .valueError :=
  (c14f_az_resolved false g).trans (by simp only [resolved_false])

/-- momentum records: x-y (each of `x`/`px` and `y`/`py`, generic spelling first) before rho-phi (`rho` before `pt`) -/
theorem c14f_priority_az_mom (g : FMap S) :
    azMomFieldsM g =
      match (g "x").or (g "px"), (g "y").or (g "py") with
      | some x, some y => .ok (.xy, x, y)
      | _, _ =>
        match (g "rho").or (g "pt"), g "phi" with
        | some r, some p => .ok (.rhophi, r, p)
        | _, _ => .error .valueError :=
  (c14f_az_resolved true g).trans (by
    rw [resolved_true g "x" ["x", "px"] rfl, resolved_true g "y" ["y", "py"] rfl,
      resolved_true g "rho" ["rho", "pt"] rfl, resolved_true g "phi" ["phi"] rfl]
    simp only [findSome?_cons_or, List.findSome?_nil, Option.or_none])

/-- z before theta before eta -/
theorem c14f_priority_lon (g : FMap S) :
    lonFieldsM g =
      match g "z" with
      | some z => .ok (.z, z)
      | none =>
        match g "theta" with
        | some th => .ok (.theta, th)
        | none =>
          match g "eta" with
          | some e => .ok (.eta, e)
          | none => .error .valueError :=
  (c14f_lon_resolved false g).trans (by simp only [resolved_false])

/-- `z` before `pz`, then theta, then eta -/
theorem c14f_priority_lon_mom (g : FMap S) :
    lonMomFieldsM g =
      match (g "z").or (g "pz") with
      | some z => .ok (.z, z)
      | none =>
        match g "theta" with
        | some th => .ok (.theta, th)
        | none =>
          match g "eta" with
          | some e => .ok (.eta, e)
          | none => .error .valueError :=
  (c14f_lon_resolved true g).trans (by
    rw [resolved_true g "z" ["z", "pz"] rfl, resolved_true g "theta" ["theta"] rfl, resolved_true g "eta" ["eta"] rfl]
    simp only [findSome?_cons_or, List.findSome?_nil, Option.or_none])

/-- t before tau -/
theorem c14f_priority_tmp (g : FMap S) :
    tmpFieldsM g =
      match g "t" with
      | some t => .ok (.t, t)
      | none =>
        match g "tau" with
        | some tau => .ok (.tau, tau)
        | none => .error .valueError :=
  (c14f_tmp_resolved false g).trans (by simp only [resolved_false])

/-- `t`, `E`, `e`, `energy` (in this order) before `tau`, `M`, `m`, `mass` (in this order) -/
theorem c14f_priority_tmp_mom (g : FMap S) :
    tmpMomFieldsM g =
      match (((g "t").or (g "E")).or (g "e")).or (g "energy") with
      | some t => .ok (.t, t)
      | none =>
        match (((g "tau").or (g "M")).or (g "m")).or (g "mass") with
        | some tau => .ok (.tau, tau)
        | none => .error .valueError :=
  (c14f_tmp_resolved true g).trans (by
    rw [resolved_true g "t" ["t", "E", "e", "energy"] rfl, resolved_true g "tau" ["tau", "M", "m", "mass"] rfl]
    simp only [findSome?_cons_or, List.findSome?_nil, Option.or_none, Option.or_assoc])

/-- with x and y (below: z, t) present the interpreter reads x-y (z, t), whatever else the record has, in both flavors -/
theorem c14f_priority_xy (mom : Bool) (g : FMap S) (x y : S) (hx : g "x" = some x) (hy : g "y" = some y) :
    azOfM mom g = .ok (.xy, x, y) := by
  rw [c14f_az_resolved, resolved_head rfl hx, resolved_head rfl hy]

theorem c14f_priority_z (mom : Bool) (g : FMap S) (z : S) (hz : g "z" = some z) : lonOfM mom g = .ok (.z, z) := by
  rw [c14f_lon_resolved, resolved_head rfl hz]

theorem c14f_priority_t (mom : Bool) (g : FMap S) (t : S) (ht : g "t" = some t) : tmpOfM mom g = .ok (.t, t) := by
  rw [c14f_tmp_resolved, resolved_head rfl ht]

/-! ## 2. the readers only look at coordinate names, generic readers only at generic names (used in sections 5 and 10)

`coordFieldNames` (`Glue/Awkward.lean`) lists the 19 recognised spellings: the nine `genericNames` and the ten
`momentumNames` of `Glue/Fields.lean`. -/

private theorem readM_congr_generic (dim : Nat) (g g' : FMap S) (h : ∀ n ∈ genericNames, g n = g' n) :
    readM false dim g = readM false dim g' :=
  readM_congr_resolved false dim g g' fun c hc => by rw [resolved_false, resolved_false, h c hc]

private theorem readM_congr (mom : Bool) (dim : Nat) (g g' : FMap S) (h : ∀ n ∈ coordFieldNames, g n = g' n) :
    readM mom dim g = readM mom dim g' :=
  readM_congr_resolved mom dim g g' fun c hc => resolved_congr fun s hs => h s (by revert c s; decide)

/-! ## 3. compiled = interpreted (`c14f_numba_agrees`)

For one coordinate the priority lists of reader, typer and lowering hold the same spellings in different orders (`grp`); a
part is a few such stages (`stage1`, `stage2`), a record up to three parts (`read_parts`). -/

/-- a generic spelling together with a momentum spelling of the same coordinate -/
def doubled (p : String → Bool) : Bool :=
  (p "x" && p "px") || (p "y" && p "py") || (p "rho" && p "pt") || (p "z" && p "pz") ||
  (p "t" && (p "E" || p "e" || p "energy")) || (p "tau" && (p "M" || p "m" || p "mass"))

private theorem not_doubled {p : String → Bool} (h : doubled p = false) :
    (p "x" && ["px"].any p) = false ∧ (p "y" && ["py"].any p) = false ∧ (p "rho" && ["pt"].any p) = false ∧
    (p "z" && ["pz"].any p) = false ∧ (p "t" && ["E", "e", "energy"].any p) = false ∧
    (p "tau" && ["M", "m", "mass"].any p) = false := by
  simpa only [doubled, Bool.or_eq_false_iff, and_assoc, List.any_cons, List.any_nil, Bool.or_false, Bool.or_assoc]
    using h

/-- what the dtype comparison needs to know of the name `i` the typer found and the name `n` the lowering reads for one
coordinate -/
private structure Pair (mom : Bool) (p : String → Bool) (i n : String) : Prop where
  left : p i = true
  right : p n = true
  coordL : i ∈ coordFieldNames
  coordR : n ∈ coordFieldNames
  same : mom = false ∨ doubled p = false → i = n

private theorem Pair.refl {mom : Bool} {p : String → Bool} {i : String} (hp : p i = true) (hc : i ∈ coordFieldNames) :
    Pair mom p i i := ⟨hp, hp, hc, hc, fun _ => rfl⟩

/-- ONE COORDINATE with generic spelling `a` and momentum spellings `ms`.  The typer (order `tyOrd`) finds a spelling iff
the reader (order `rdOrd`) finds one; the lowering (order `a :: ms`, whatever the flavor) then finds the reader's; and the
typer's is the same one unless `a` and one of `ms` are both present in a momentum record. -/
private theorem grp (mom : Bool) (p : String → Bool) (a : String) (ms : List String)
    (hc : ∀ n ∈ a :: ms, n ∈ coordFieldNames) (hd : doubled p = false → (p a && ms.any p) = false) :
    ((tyOrd mom a ms).find? p = none ∧ (rdOrd mom a ms).find? p = none) ∨
    ∃ i n, (tyOrd mom a ms).find? p = some i ∧ (a :: ms).find? p = some n ∧ (rdOrd mom a ms).find? p = some n ∧
      Pair mom p i n := by
  have hca := hc a List.mem_cons_self
  cases mom with
  | false =>
    simp only [tyOrd, rdOrd, Bool.false_eq_true, if_false, List.nil_append]
    cases ha : p a with
    | false => exact Or.inl ⟨List.find?_cons_of_neg (by simp [ha]), List.find?_cons_of_neg (by simp [ha])⟩
    | true =>
      have h := List.find?_cons_of_pos (p := p) (l := ms) ha
      exact Or.inr ⟨a, a, List.find?_cons_of_pos ha, h, List.find?_cons_of_pos ha, .refl ha hca⟩
  | true =>
    simp only [tyOrd, rdOrd, if_true, List.find?_append]
    cases ha : p a with
    | false =>
      rw [List.find?_cons_of_neg (by simp [ha]), List.find?_cons_of_neg (by simp [ha]), List.find?_nil, Option.or_none]
      cases hm : ms.find? p with
      | none => exact Or.inl ⟨rfl, rfl⟩
      | some i =>
        exact Or.inr ⟨i, i, rfl, rfl, rfl,
          .refl (List.find?_some hm) (hc i (List.mem_cons_of_mem _ (List.mem_of_find?_eq_some hm)))⟩
    | true =>
      rw [List.find?_cons_of_pos ha, List.find?_cons_of_pos ha]
      cases hm : ms.find? p with
      | none => exact Or.inr ⟨a, a, rfl, rfl, rfl, .refl ha hca⟩
      | some i =>
        have hi := List.mem_of_find?_eq_some hm
        refine Or.inr ⟨i, a, rfl, rfl, rfl, List.find?_some hm, ha, hc i (List.mem_cons_of_mem _ hi), hca, fun h => ?_⟩
        rcases h with h | h
        · cases h
        · have := hd h
          rw [ha, Bool.true_and, List.any_eq_false] at this
          exact absurd (List.find?_some hm) (this i hi)

/-- typer `T` and reader `I` of a one-coordinate part agree: both fail, or the typer declares system `c` with dtype field
`i`, the lowering `low c` reads field `n`, and the reader returns `c` with the value of `n` -/
private def Spec1 {C : Type} (mom : Bool) (g : FMap S) (low : C → Except FErr String)
    (T : Except FErr (C × String)) (I : Except FErr (C × S)) : Prop :=
  (T = .error .typingError ∧ I = .error .valueError) ∨
  ∃ c i n v, T = .ok (c, i) ∧ low c = .ok n ∧ g n = some v ∧ I = .ok (c, v) ∧ Pair mom g.has i n

private theorem stage1 {C : Type} {mom : Bool} {g : FMap S} {low : C → Except FErr String} (c : C) (a : String)
    (ms : List String) (hc : ∀ n ∈ a :: ms, n ∈ coordFieldNames)
    (hd : doubled g.has = false → (g.has a && ms.any g.has) = false)
    (hlow : ∀ n, (a :: ms).find? g.has = some n → low c = .ok n)
    {K : Except FErr (C × String)} {K' : Except FErr (C × S)} (hK : Spec1 mom g low K K') :
    Spec1 mom g low (firstOr g.has (tyOrd mom a ms) (fun i => .ok (c, i)) K)
      (firstOr g.has (rdOrd mom a ms) (rd1 g c) K') := by
  rcases grp mom g.has a ms hc hd with ⟨h1, h2⟩ | ⟨i, n, h1, h2, h3, hP⟩
  · rw [firstOr_none h1, firstOr_none h2]; exact hK
  · obtain ⟨v, hv⟩ := Option.isSome_iff_exists.1 hP.right
    rw [firstOr_some h1, firstOr_some h3]
    exact Or.inr ⟨c, i, n, v, rfl, hlow n h2, hv, by simp only [rd1, hv], hP⟩

/-- the same for the azimuthal part, two coordinates at a time -/
private def Spec2 (mom : Bool) (g : FMap S) (T : Except FErr (Az × String × String)) (I : Except FErr (Az × S × S)) :
    Prop :=
  (T = .error .typingError ∧ I = .error .valueError) ∨
  ∃ c i j n m v w, T = .ok (c, i, j) ∧ nbLowerAz c g.has = .ok (n, m) ∧ g n = some v ∧ g m = some w ∧
    I = .ok (c, v, w) ∧ Pair mom g.has i n ∧ Pair mom g.has j m

private theorem stage2 {mom : Bool} {g : FMap S} (c : Az) (a : String) (ms : List String) (b : String) (ms' : List String)
    (hc : ∀ n ∈ a :: ms, n ∈ coordFieldNames) (hd : doubled g.has = false → (g.has a && ms.any g.has) = false)
    (hc' : ∀ n ∈ b :: ms', n ∈ coordFieldNames) (hd' : doubled g.has = false → (g.has b && ms'.any g.has) = false)
    (hlow : nbLowerAz c g.has =
      firstOr2 g.has (a :: ms) (b :: ms') (fun i j => .ok (i, j)) (.error .assertionError))
    {K : Except FErr (Az × String × String)} {K' : Except FErr (Az × S × S)} (hK : Spec2 mom g K K') :
    Spec2 mom g (firstOr2 g.has (tyOrd mom a ms) (tyOrd mom b ms') (fun i j => .ok (c, i, j)) K)
      (firstOr2 g.has (rdOrd mom a ms) (rdOrd mom b ms') (rd2 g c) K') := by
  rcases grp mom g.has a ms hc hd with ⟨h1, h2⟩ | ⟨i, n, h1, h2, h3, hP⟩
  · rw [firstOr2_none (.inl h1), firstOr2_none (.inl h2)]; exact hK
  · rcases grp mom g.has b ms' hc' hd' with ⟨k1, k2⟩ | ⟨j, m, k1, k2, k3, hQ⟩
    · rw [firstOr2_none (.inr k1), firstOr2_none (.inr k2)]; exact hK
    · obtain ⟨v, hv⟩ := Option.isSome_iff_exists.1 hP.right
      obtain ⟨w, hw⟩ := Option.isSome_iff_exists.1 hQ.right
      rw [firstOr2_some h1 k1, firstOr2_some h3 k3]
      exact Or.inr ⟨c, i, j, n, m, v, w, rfl, by rw [hlow, firstOr2_some h2 k2], hv, hw, by simp only [rd2, hv, hw],
        hP, hQ⟩

private theorem az_parts (mom : Bool) (g : FMap S) : Spec2 mom g (nbAzTypeP mom g.has) (azOfM mom g) := by
  rw [nbAzTypeP_eq, azOfM_eq]
  exact stage2 .xy "x" ["px"] "y" ["py"] (by decide) (fun h => (not_doubled h).1) (by decide)
    (fun h => (not_doubled h).2.1) (nbLowerAz_xy _)
    (stage2 .rhophi "rho" ["pt"] "phi" [] (by decide) (fun h => (not_doubled h).2.2.1) (by decide)
      (fun _ => Bool.and_false _) (nbLowerAz_rhophi _) (.inl ⟨rfl, rfl⟩))

private theorem lon_parts (mom : Bool) (g : FMap S) : Spec1 mom g (nbLowerLon · g.has) (nbLonTypeP mom g.has) (lonOfM mom g) := by
  rw [nbLonTypeP_eq, lonOfM_eq]
  have single : ∀ a n, [a].find? g.has = some n → Except.ok (ε := FErr) a = .ok n := fun a n h => by
    rw [List.mem_singleton.1 (List.mem_of_find?_eq_some h)]
  exact stage1 Lon.z "z" ["pz"] (by decide) (fun h => (not_doubled h).2.2.2.1)
    (fun n h => by rw [nbLowerLon_z, firstOr_some h])
    (stage1 Lon.theta "theta" [] (by decide) (fun _ => Bool.and_false _) (single _)
      (stage1 Lon.eta "eta" [] (by decide) (fun _ => Bool.and_false _) (single _) (.inl ⟨rfl, rfl⟩)))

private theorem tmp_parts (mom : Bool) (g : FMap S) : Spec1 mom g (nbLowerTmp · g.has) (nbTmpTypeP mom g.has) (tmpOfM mom g) := by
  rw [nbTmpTypeP_eq, tmpOfM_eq]
  exact stage1 Tmp.t "t" ["E", "e", "energy"] (by decide) (fun h => (not_doubled h).2.2.2.2.1)
    (fun n h => by rw [nbLowerTmp_t, firstOr_some h])
    (stage1 Tmp.tau "tau" ["M", "m", "mass"] (by decide) (fun h => (not_doubled h).2.2.2.2.2)
      (fun n h => by rw [nbLowerTmp_tau, firstOr_some h]) (.inl ⟨rfl, rfl⟩))

/-- a record that compiles and is read: the typer declares `ty`, the lowering chooses the getters `gt`, the getters and
the interpreter both return `st`; `ps` pairs, coordinate by coordinate, the name the typer found with the name the lowering
reads -/
private structure Parts (mom : Bool) (dim : Nat) (g : FMap S) (ty : NbType) (gt : NbGetters) (st : Stored S)
    (ps : List (String × String)) : Prop where
  typed : nbTypeP mom dim g.has = .ok ty
  lowered : nbLowerP ty g.has = .ok gt
  impl : nbImpl g ty gt = .ok st
  read : readM mom dim g = .ok st
  azTyped : nbAzTypeP mom g.has = .ok ty.az
  azLowered : nbLowerAz ty.az.1 g.has = .ok gt.az
  tyNames : ty.names = ps.map (·.1)
  gtNames : gt.names = ps.map (·.2)
  pairs : ∀ x ∈ ps, Pair mom g.has x.1 x.2

/-- typer and interpreter fail together, or the record compiles and is read (`Parts`) -/
private theorem read_parts (mom : Bool) (dim : Nat) (g : FMap S) :
    (nbTypeP mom dim g.has = .error .typingError ∧ readM mom dim g = .error .valueError) ∨
    ∃ ty gt st ps, Parts mom dim g ty gt st ps := by
  rcases az_parts mom g with ⟨hA, hI⟩ | ⟨c, i, j, n, m, v, w, hA, hn, hv, hw, hI, hP, hQ⟩
  · exact .inl ⟨by simp only [nbTypeP, hA], by simp only [readM, hI]⟩
  have hr : rd2 g c n m = .ok (c, v, w) := by simp only [rd2, hv, hw]
  by_cases h3 : dim < 3
  · exact .inr ⟨⟨(c, i, j), none, none⟩, ⟨(n, m), none, none⟩, ⟨(c, v, w), none, none⟩, [(i, n), (j, m)],
      by simp only [nbTypeP, hA, h3, if_true], by simp only [nbLowerP, hn], by simp only [nbImpl, hr],
      by simp only [readM, hI, h3, if_true], hA, hn, rfl, rfl, by simp [hP, hQ]⟩
  rcases lon_parts mom g with ⟨hA', hI'⟩ | ⟨c', i', n', v', hA', hn', hv', hI', hP'⟩
  · exact .inl ⟨by simp only [nbTypeP, hA, h3, if_false, hA'], by simp only [readM, hI, h3, if_false, hI']⟩
  have hr' : rd1 g c' n' = .ok (c', v') := by simp only [rd1, hv']
  by_cases h4 : dim < 4
  · exact .inr ⟨⟨(c, i, j), some (c', i'), none⟩, ⟨(n, m), some n', none⟩, ⟨(c, v, w), some (c', v'), none⟩,
      [(i, n), (j, m), (i', n')], by simp only [nbTypeP, hA, h3, if_false, hA', h4, if_true],
      by simp only [nbLowerP, hn, hn'], by simp only [nbImpl, hr, hr'],
      by simp only [readM, hI, h3, if_false, hI', h4, if_true], hA, hn, rfl, rfl, by simp [hP, hQ, hP']⟩
  rcases tmp_parts mom g with ⟨hA'', hI''⟩ | ⟨c'', i'', n'', v'', hA'', hn'', hv'', hI'', hP''⟩
  · exact .inl ⟨by simp only [nbTypeP, hA, h3, if_false, hA', h4, hA''],
      by simp only [readM, hI, h3, if_false, hI', h4, hI'']⟩
  have hr'' : rd1 g c'' n'' = .ok (c'', v'') := by simp only [rd1, hv'']
  exact .inr ⟨⟨(c, i, j), some (c', i'), some (c'', i'')⟩, ⟨(n, m), some n', some n''⟩,
    ⟨(c, v, w), some (c', v'), some (c'', v'')⟩, [(i, n), (j, m), (i', n'), (i'', n'')],
    by simp only [nbTypeP, hA, h3, if_false, hA', h4, hA''], by simp only [nbLowerP, hn, hn', hn''],
    by simp only [nbImpl, hr, hr', hr''], by simp only [readM, hI, h3, if_false, hI', h4, hI''], hA, hn, rfl, rfl,
    by simp [hP, hQ, hP', hP'']⟩

/-- the interpreter only ever raises `ValueError` -/
theorem c14f_read_error (mom : Bool) (dim : Nat) (g : FMap S) (e : FErr) (h : readM mom dim g = .error e) :
    e = .valueError := by
  rcases read_parts mom dim g with ⟨-, hI⟩ | ⟨_, _, _, _, hP⟩
  · rw [hI] at h; cases h; rfl
  · rw [hP.read] at h; cases h

/-- COMPILED = INTERPRETED on the values, for EVERY record (any number of spellings, any number of systems, any extras):
the numba typer + lowering + getters find the same coordinate systems and read the same fields as the interpreter chains;
where the interpreter raises `ValueError` the compilation fails with `TypingError` — and the lowering never reaches its
`raise AssertionError`, no getter reads a missing field. -/
theorem c14f_numba_agrees_map (mom : Bool) (dim : Nat) (g : FMap S) :
    nbReadM mom dim g = (readM mom dim g).mapError (fun _ => FErr.typingError) := by
  unfold nbReadM
  rcases read_parts mom dim g with ⟨hT, hI⟩ | ⟨ty, gt, st, ps, hP⟩
  · rw [hT, hI]; rfl
  · rw [hP.typed, hP.read]; simp only [hP.lowered, hP.impl]; rfl

private theorem of_typed {mom : Bool} {dim : Nat} {g : FMap S} {ty : NbType} {gt : NbGetters}
    (hT : nbTypeP mom dim g.has = .ok ty) (hL : nbLowerP ty g.has = .ok gt) :
    nbImpl g ty gt = readM mom dim g ∧
    ∃ ps : List (String × String), ty.names = ps.map (·.1) ∧ gt.names = ps.map (·.2) ∧
      ∀ x ∈ ps, Pair mom g.has x.1 x.2 := by
  rcases read_parts mom dim g with ⟨hT', -⟩ | ⟨ty', gt', _, ps, hP⟩
  · rw [hT'] at hT; cases hT
  · rw [hP.typed] at hT; cases hT
    rw [hP.lowered] at hL; cases hL
    exact ⟨hP.impl.trans hP.read.symm, ps, hP.tyNames, hP.gtNames, hP.pairs⟩

private theorem names_map_eq {β : Type} {mom : Bool} {dim : Nat} {g : FMap S} {ty : NbType} {gt : NbGetters}
    (f : String → β) (hf : ∀ i n, Pair mom g.has i n → f i = f n)
    (hT : nbTypeP mom dim g.has = .ok ty) (hL : nbLowerP ty g.has = .ok gt) : ty.names.map f = gt.names.map f := by
  obtain ⟨-, ps, h1, h2, h⟩ := of_typed hT hL
  rw [h1, h2, List.map_map, List.map_map]
  exact List.map_congr_left fun x hx => hf _ _ (h x hx)

private theorem has_eq (fs : List (String × S)) : (fun n => (fieldNames fs).contains n) = (look fs).has :=
  funext (c14f_names_contains fs)

theorem c14f_nbReadRec_eq (mom : Bool) (dim : Nat) (fs : List (String × S)) :
    nbReadRec mom dim fs = nbReadM mom dim (look fs) := by
  simp only [nbReadRec, nbReadM, nbType, nbLower, has_eq]

theorem c14f_nbReadRecD_eq {D : Type} [DecidableEq D] (dt : S → D) (mom : Bool) (dim : Nat) (fs : List (String × S)) :
    nbReadRecD dt mom dim fs = nbReadDM dt mom dim (look fs) := by
  simp only [nbReadRecD, nbReadDM, nbType, nbLower, has_eq]

/-- COMPILED = INTERPRETED on the values, for every field list -/
theorem c14f_numba_agrees (mom : Bool) (dim : Nat) (fs : List (String × S)) :
    nbReadRec mom dim fs = (readRec mom dim fs).mapError (fun _ => FErr.typingError) := by
  rw [c14f_nbReadRec_eq, readRec, c14f_numba_agrees_map]

theorem c14f_numba_agrees_ok (mom : Bool) (dim : Nat) (fs : List (String × S)) (st : Stored S) :
    nbReadRec mom dim fs = .ok st ↔ readRec mom dim fs = .ok st := by
  rw [c14f_numba_agrees]
  cases readRec mom dim fs <;> simp [Except.mapError]

/-- the compiled view only ever fails with `TypingError`: the `raise AssertionError` branches of `_numba_lower` are dead
code and no getter reads a missing field -/
theorem c14f_numba_error (mom : Bool) (dim : Nat) (fs : List (String × S)) (e : FErr)
    (h : nbReadRec mom dim fs = .error e) : e = .typingError := by
  rw [c14f_numba_agrees] at h
  cases h' : readRec mom dim fs with
  | ok st => simp [h', Except.mapError] at h
  | error e' => simp [h', Except.mapError] at h; exact h.symm

/-- no reader ever reads a field that is not there -/
theorem c14f_no_keyError (mom : Bool) (dim : Nat) (fs : List (String × S)) :
    readRec mom dim fs ≠ .error .keyError ∧ nbReadRec mom dim fs ≠ .error .keyError ∧
      nbReadRec mom dim fs ≠ .error .assertionError := by
  refine ⟨fun h => ?_, fun h => ?_, fun h => ?_⟩
  · exact absurd (c14f_read_error mom dim (look fs) _ h) (by decide)
  · exact absurd (c14f_numba_error mom dim fs _ h) (by decide)
  · exact absurd (c14f_numba_error mom dim fs _ h) (by decide)

/-! ## 4. field order (`c14f_order`) -/

/-- every reader depends only on the name → value map, not on the order of the fields -/
theorem c14f_order (mom : Bool) (dim : Nat) (fs fs' : List (String × S)) (hp : fs.Perm fs')
    (hnd : (fieldNames fs).Nodup) : readRec mom dim fs = readRec mom dim fs' := by
  simp only [readRec, c14f_look_perm fs fs' hp hnd]

theorem c14f_order_numba (mom : Bool) (dim : Nat) (fs fs' : List (String × S)) (hp : fs.Perm fs')
    (hnd : (fieldNames fs).Nodup) : nbReadRec mom dim fs = nbReadRec mom dim fs' := by
  simp only [c14f_nbReadRec_eq, c14f_look_perm fs fs' hp hnd]

theorem c14f_order_numba_dtype {D : Type} [DecidableEq D] (dt : S → D) (mom : Bool) (dim : Nat)
    (fs fs' : List (String × S)) (hp : fs.Perm fs') (hnd : (fieldNames fs).Nodup) :
    nbReadRecD dt mom dim fs = nbReadRecD dt mom dim fs' := by
  simp only [c14f_nbReadRecD_eq, c14f_look_perm fs fs' hp hnd]

theorem c14f_order_chains (fs fs' : List (String × S)) (hp : fs.Perm fs') (hnd : (fieldNames fs).Nodup) :
    azFields fs = azFields fs' ∧ azMomFields fs = azMomFields fs' ∧ lonFields fs = lonFields fs' ∧
      lonMomFields fs = lonMomFields fs' ∧ tmpFields fs = tmpFields fs' ∧ tmpMomFields fs = tmpMomFields fs' := by
  simp only [azFields, azMomFields, lonFields, lonMomFields, tmpFields, tmpMomFields, c14f_look_perm fs fs' hp hnd,
    and_self]

/-- numba typing and lowering look at the SET of names only -/
theorem c14f_order_typing (mom : Bool) (dim : Nat) (names names' : List String) (hp : names.Perm names') :
    nbType mom dim names = nbType mom dim names' ∧ ∀ ty, nbLower ty names = nbLower ty names' := by
  have : (fun n => names.contains n) = (fun n => names'.contains n) := by
    funext n
    rw [Bool.eq_iff_iff]
    simp [hp.mem_iff]
  simp only [nbType, nbLower, this, implies_true, and_self]

/-! ## 5. extra fields (`c14f_extras`), generic records and momentum-named fields -/

/-- the interpreter reads coordinate names only … -/
theorem c14f_extras_map (mom : Bool) (dim : Nat) (fs fs' : List (String × S))
    (h : ∀ n ∈ coordFieldNames, look fs n = look fs' n) : readRec mom dim fs = readRec mom dim fs' :=
  readM_congr mom dim _ _ h

/-- … and so does the compiled code -/
theorem c14f_extras_map_numba (mom : Bool) (dim : Nat) (fs fs' : List (String × S))
    (h : ∀ n ∈ coordFieldNames, look fs n = look fs' n) : nbReadRec mom dim fs = nbReadRec mom dim fs' := by
  rw [c14f_numba_agrees, c14f_numba_agrees, c14f_extras_map mom dim fs fs' h]

private theorem look_filter (q : String → Bool) (fs : List (String × S)) (n : String) (hq : q n = true) :
    look (fs.filter (fun f => q f.1)) n = look fs n := by
  simp only [look, lookup_filter_name, hq, if_true]

/-- fields whose name is not one of the 19 coordinate spellings never influence a reader: dropping them all changes
nothing -/
theorem c14f_extras (mom : Bool) (dim : Nat) (fs : List (String × S)) :
    readRec mom dim (fs.filter (fun f => coordFieldNames.contains f.1)) = readRec mom dim fs ∧
    nbReadRec mom dim (fs.filter (fun f => coordFieldNames.contains f.1)) = nbReadRec mom dim fs := by
  have h : ∀ n ∈ coordFieldNames, look (fs.filter (fun f => coordFieldNames.contains f.1)) n = look fs n :=
    fun n hn => look_filter (fun n => coordFieldNames.contains n) fs n (by simpa using hn)
  exact ⟨c14f_extras_map mom dim _ _ h, c14f_extras_map_numba mom dim _ _ h⟩

/-- … and neither does inserting one anywhere -/
theorem c14f_extras_insert (mom : Bool) (dim : Nat) (l₁ l₂ : List (String × S)) (n : String) (v : S)
    (hn : n ∉ coordFieldNames) :
    readRec mom dim (l₁ ++ (n, v) :: l₂) = readRec mom dim (l₁ ++ l₂) ∧
    nbReadRec mom dim (l₁ ++ (n, v) :: l₂) = nbReadRec mom dim (l₁ ++ l₂) := by
  have h : ∀ m ∈ coordFieldNames, look (l₁ ++ (n, v) :: l₂) m = look (l₁ ++ l₂) m := by
    intro m hm
    have hmn : (m == n) = false := by
      simp only [beq_eq_false_iff_ne, ne_eq]
      rintro rfl; exact hn hm
    simp only [look, List.lookup_append, List.lookup_cons, hmn]
  exact ⟨c14f_extras_map mom dim _ _ h, c14f_extras_map_numba mom dim _ _ h⟩

/-- generic records (`Vector2D/3D/4D`) read the nine generic names only … -/
theorem c14f_generic_map (dim : Nat) (fs fs' : List (String × S))
    (h : ∀ n ∈ genericNames, look fs n = look fs' n) :
    readRec false dim fs = readRec false dim fs' ∧ nbReadRec false dim fs = nbReadRec false dim fs' := by
  have := readM_congr_generic dim _ _ h
  refine ⟨this, ?_⟩
  rw [c14f_numba_agrees, c14f_numba_agrees]
  simp only [readRec, this]

/-- … so they ignore every momentum spelling: fields named px, py, pt, pz, E, e, energy, M, m, mass are plain extras -/
theorem c14f_generic_ignores_momentum (dim : Nat) (fs : List (String × S)) :
    readRec false dim (fs.filter (fun f => !momentumNames.contains f.1)) = readRec false dim fs ∧
    nbReadRec false dim (fs.filter (fun f => !momentumNames.contains f.1)) = nbReadRec false dim fs := by
  apply c14f_generic_map
  intro n hn
  apply look_filter (fun n => !momentumNames.contains n) fs n
  revert n
  decide

/-! ## 6. momentum names are exact synonyms (`c14f_synonym_*`) -/

private theorem look_rename (a b : String) (hab : a ≠ b) (fs : List (String × S)) (hb : b ∉ fieldNames fs)
    (n : String) :
    look (rename a b fs) n = if n = b then look fs a else if n = a then none else look fs n := by
  unfold look
  induction fs with
  | nil => simp [rename]
  | cons kv fs ih =>
    obtain ⟨k, w⟩ := kv
    simp only [fieldNames, List.map_cons, List.mem_cons, not_or] at hb
    have ih := ih hb.2
    simp only [rename, List.map_cons] at ih ⊢
    by_cases hka : k = a
    · subst hka
      simp only [BEq.rfl, if_true, List.lookup_cons]
      by_cases hnb : n = b
      · subst hnb; simp
      · have h1 : (n == b) = false := by simpa using hnb
        simp only [h1, ih, hnb, if_false]
        by_cases hnk : n = k
        · simp [hnk]
        · have h2 : (n == k) = false := by simpa using hnk
          simp [hnk, h2]
    · have h0 : (k == a) = false := by simpa using hka
      simp only [h0, List.lookup_cons, Bool.false_eq_true, if_false]
      by_cases hnk : n = k
      · subst hnk
        have : n ≠ b := fun h => hb.1 h.symm
        simp [this, hka]
      · have h2 : (n == k) = false := by simpa using hnk
        have h3 : (a == k) = false := by simpa using (fun h : a = k => hka h.symm)
        simp only [h2, ih, h3]

private theorem look_none (fs : List (String × S)) (n : String) (h : n ∉ fieldNames fs) : look fs n = none := by
  simp only [look, List.lookup_eq_none_iff]
  intro p hp
  simp only [bne_iff_ne, ne_eq]
  rintro rfl
  exact h (List.mem_map.2 ⟨p, hp, rfl⟩)

/-- within one priority list the value of `a` moves to a later spelling `b`: if `b` and the spellings between them are
absent, the first present spelling has the same value as before -/
private theorem findSome?_move (g : FMap S) (a b : String) (pre post : List String)
    (hnd : (a :: (pre ++ b :: post)).Nodup) (hpre : ∀ s ∈ pre, g s = none) (hb : g b = none) :
    (a :: (pre ++ b :: post)).findSome? (fun n => if n = b then g a else if n = a then none else g n) =
      (a :: (pre ++ b :: post)).findSome? g := by
  simp only [List.nodup_cons, List.nodup_append, List.mem_append, List.mem_cons, not_or] at hnd
  obtain ⟨⟨hap, hab, hapost⟩, -, ⟨hbpost, -⟩, hdis⟩ := hnd
  have e1 : pre.findSome? (fun n => if n = b then g a else if n = a then none else g n) = none :=
    List.findSome?_eq_none_iff.2 fun s hs => by
      rw [if_neg (hdis s hs b (.inl rfl)), if_neg (fun h : s = a => hap (h ▸ hs))]; exact hpre s hs
  have e2 : post.findSome? (fun n => if n = b then g a else if n = a then none else g n) = post.findSome? g :=
    findSome?_congr fun s hs => by
      rw [if_neg (fun h : s = b => hbpost (h ▸ hs)), if_neg (fun h : s = a => hapost (h ▸ hs))]
  simp only [List.findSome?_cons, List.findSome?_append, e1, e2, List.findSome?_eq_none_iff.2 hpre, hb, if_neg hab,
    if_true, Option.none_or]

/-- the spellings of one coordinate are distinct, and no name spells two coordinates -/
private theorem spellings_distinct : (∀ c ∈ genericNames, (spellings c).Nodup) ∧
    ∀ c ∈ genericNames, ∀ c' ∈ genericNames, ∀ s ∈ spellings c, s ∈ spellings c' → c = c' := by decide

/-- RENAMING TO A SYNONYM, in general: the field `a` is renamed to `b`, a later spelling of the same coordinate; when `b`
and the spellings the reader tries between `a` and `b` (`pre`) are absent, the interpreter reads the same -/
theorem c14f_synonym_prefix (dim : Nat) (fs : List (String × S)) (a b : String) (pre post : List String)
    (hs : spellings a = a :: (pre ++ b :: post)) (hpre : ∀ s ∈ pre, s ∉ fieldNames fs) (hb : b ∉ fieldNames fs) :
    readRec true dim (rename a b fs) = readRec true dim fs := by
  have ha : a ∈ genericNames := by
    unfold spellings at hs
    split at hs <;> first | decide | cases hs
  have hnd := hs ▸ spellings_distinct.1 a ha
  have hmem : ∀ s, s = a ∨ s = b → s ∈ spellings a := by
    rintro s (rfl | rfl) <;> simp [hs]
  have hab : a ≠ b := fun h => by simp [h] at hnd
  rw [readRec, readRec, funext (look_rename a b hab fs hb)]
  refine readM_congr_resolved true dim _ _ fun c hc => ?_
  simp only [resolved, if_true]
  by_cases hca : c = a
  · subst hca
    rw [hs]
    exact findSome?_move (look fs) c b pre post hnd (fun s h => look_none fs s (hpre s h)) (look_none fs b hb)
  · -- the spellings of another coordinate contain neither `a` nor `b`
    refine findSome?_congr fun s hsc => ?_
    have hne : ∀ x, x = a ∨ x = b → s ≠ x := fun x hx h =>
      hca (spellings_distinct.2 c hc a ha s hsc (h ▸ hmem x hx))
    rw [if_neg (hne b (.inr rfl)), if_neg (hne a (.inl rfl))]

theorem c14f_synonym_x (dim : Nat) (fs : List (String × S)) (h : "px" ∉ fieldNames fs) :
    readRec true dim (rename "x" "px" fs) = readRec true dim fs :=
  c14f_synonym_prefix dim fs "x" "px" [] [] rfl nofun h

theorem c14f_synonym_y (dim : Nat) (fs : List (String × S)) (h0 : "py" ∉ fieldNames fs) :
    readRec true dim (rename "y" "py" fs) = readRec true dim fs :=
  c14f_synonym_prefix dim fs "y" "py" [] [] rfl nofun h0

theorem c14f_synonym_rho (dim : Nat) (fs : List (String × S)) (h0 : "pt" ∉ fieldNames fs) :
    readRec true dim (rename "rho" "pt" fs) = readRec true dim fs :=
  c14f_synonym_prefix dim fs "rho" "pt" [] [] rfl nofun h0

theorem c14f_synonym_z (dim : Nat) (fs : List (String × S)) (h0 : "pz" ∉ fieldNames fs) :
    readRec true dim (rename "z" "pz" fs) = readRec true dim fs :=
  c14f_synonym_prefix dim fs "z" "pz" [] [] rfl nofun h0

/-- t → E (whatever other temporal spellings are present) -/
theorem c14f_synonym_t_E (dim : Nat) (fs : List (String × S)) (h0 : "E" ∉ fieldNames fs) :
    readRec true dim (rename "t" "E" fs) = readRec true dim fs :=
  c14f_synonym_prefix dim fs "t" "E" [] ["e", "energy"] rfl nofun h0

/-- t → e, when `E` (which is looked up before `e`) is absent -/
theorem c14f_synonym_t_e (dim : Nat) (fs : List (String × S)) (h0 : "E" ∉ fieldNames fs) (h1 : "e" ∉ fieldNames fs) :
    readRec true dim (rename "t" "e" fs) = readRec true dim fs :=
  c14f_synonym_prefix dim fs "t" "e" ["E"] ["energy"] rfl (by simpa using h0) h1

/-- t → energy, when `E` and `e` (looked up before `energy`) are absent -/
theorem c14f_synonym_t_energy (dim : Nat) (fs : List (String × S)) (h0 : "E" ∉ fieldNames fs) (h1 : "e" ∉ fieldNames fs)
    (h2 : "energy" ∉ fieldNames fs) : readRec true dim (rename "t" "energy" fs) = readRec true dim fs :=
  c14f_synonym_prefix dim fs "t" "energy" ["E", "e"] [] rfl (by simpa using And.intro h0 h1) h2

theorem c14f_synonym_tau_M (dim : Nat) (fs : List (String × S)) (h0 : "M" ∉ fieldNames fs) :
    readRec true dim (rename "tau" "M" fs) = readRec true dim fs :=
  c14f_synonym_prefix dim fs "tau" "M" [] ["m", "mass"] rfl nofun h0

/-- tau → m, when `M` is absent -/
theorem c14f_synonym_tau_m (dim : Nat) (fs : List (String × S)) (h0 : "M" ∉ fieldNames fs) (h1 : "m" ∉ fieldNames fs) :
    readRec true dim (rename "tau" "m" fs) = readRec true dim fs :=
  c14f_synonym_prefix dim fs "tau" "m" ["M"] ["mass"] rfl (by simpa using h0) h1

/-- tau → mass, when `M` and `m` are absent -/
theorem c14f_synonym_tau_mass (dim : Nat) (fs : List (String × S)) (h0 : "M" ∉ fieldNames fs) (h1 : "m" ∉ fieldNames fs)
    (h2 : "mass" ∉ fieldNames fs) : readRec true dim (rename "tau" "mass" fs) = readRec true dim fs :=
  c14f_synonym_prefix dim fs "tau" "mass" ["M", "m"] [] rfl (by simpa using And.intro h0 h1) h2

/-- every documented synonym is a later spelling of its generic name -/
private theorem synonymTable_split : ∀ p ∈ synonymTable, p.2 ∈ (spellings p.1).tail ∧
    (∀ s ∈ (spellings p.1).tail, s ∈ spellings p.1 ∧ s ≠ p.1) ∧
    spellings p.1 = p.1 :: ((spellings p.1).tail.takeWhile (· != p.2) ++
      p.2 :: ((spellings p.1).tail.dropWhile (· != p.2)).tail) := by decide

/-- ALL ten synonyms at once: renaming one field to its momentum synonym, when no other spelling of the same coordinate
is present, changes neither what the interpreter nor what the compiled code reads from a momentum record -/
theorem c14f_synonym (dim : Nat) (fs : List (String × S)) (a b : String) (hab : (a, b) ∈ synonymTable)
    (h : ∀ s ∈ spellings a, s ≠ a → s ∉ fieldNames fs) :
    readRec true dim (rename a b fs) = readRec true dim fs ∧
    nbReadRec true dim (rename a b fs) = nbReadRec true dim fs := by
  obtain ⟨hb, hsub, hs⟩ := synonymTable_split (a, b) hab
  have hn : ∀ s ∈ (spellings a).tail, s ∉ fieldNames fs := fun s hs' => h s (hsub s hs').1 (hsub s hs').2
  have key := c14f_synonym_prefix dim fs a b _ _ hs (fun s hs' => hn s (List.takeWhile_subset _ hs')) (hn b hb)
  exact ⟨key, by rw [c14f_numba_agrees, c14f_numba_agrees, key]⟩

/-- the hypothesis about other spellings cannot be dropped: with `E` present, renaming `t` to `e` hands the temporal
coordinate to `E` (which the chain looks up first) -/
theorem c14f_synonym_needs_hypothesis :
    let fs : List (String × Int) := [("x", 1), ("y", 2), ("z", 3), ("t", 4), ("E", 40)]
    readRec true 4 fs = .ok ⟨(.xy, 1, 2), some (.z, 3), some (.t, 4)⟩ ∧
    readRec true 4 (rename "t" "e" fs) = .ok ⟨(.xy, 1, 2), some (.z, 3), some (.t, 40)⟩ := by
  intro fs
  exact ⟨by rfl, by rfl⟩

/-- the hypotheses are satisfiable: a (px, py, eta, mass, charge) record — `mass` is the only temporal spelling, so it
reads like (px, py, eta, tau, charge) -/
example :
    let fs : List (String × Int) := [("px", 1), ("py", 2), ("eta", 3), ("tau", 4), ("charge", 5)]
    (∀ s ∈ spellings "tau", s ≠ "tau" → s ∉ fieldNames fs) ∧
    rename "tau" "mass" fs = [("px", 1), ("py", 2), ("eta", 3), ("mass", 4), ("charge", 5)] ∧
    readRec true 4 (rename "tau" "mass" fs) = .ok ⟨(.xy, 1, 2), some (.eta, 3), some (.tau, 4)⟩ ∧
    nbReadRec true 4 (rename "tau" "mass" fs) = .ok ⟨(.xy, 1, 2), some (.eta, 3), some (.tau, 4)⟩ ∧
    readRec false 4 (rename "tau" "mass" fs) = .error .valueError := by
  intro fs
  exact ⟨by decide, by rfl, by rfl, by rfl, by rfl⟩

/-! ## 7. typing order vs lowering order: dtypes (`c14f_numba_dtype_*`)

The typer looks the momentum spelling up FIRST (`px` before `x`, `E`/`e`/`energy` before `t`, …), the lowering the generic
one.  For the VALUES this is harmless (section 3: the getters decide, and they agree with the interpreter).  But the
declared type takes its dtypes from the fields the typer found. -/

/-- the first present name of `l ++ [a]`, as the chain of `if`s that picks it (`a` when nothing else is present) -/
private theorem find?_concat {p : String → Bool} {l : List String} {a i : String} (h : (l ++ [a]).find? p = some i) :
    i = l.foldr (fun b r => if p b then b else r) a := by
  induction l with
  | nil => exact List.mem_singleton.1 (List.mem_of_find?_eq_some h)
  | cons b l ih =>
    rw [List.cons_append, List.find?_cons] at h
    rw [List.foldr_cons]
    cases hb : p b with
    | true => rw [hb] at h; rw [if_pos rfl]; exact (Option.some.inj h).symm
    | false => rw [hb] at h; rw [if_neg Bool.false_ne_true]; exact ih h

/-- which field gives the dtype of the first azimuthal coordinate of a momentum record: `px` if present -/
theorem c14f_typer_prefers_momentum (p : String → Bool) :
    (∀ i j, nbAzTypeP true p = .ok (.xy, i, j) →
      i = (if p "px" then "px" else "x") ∧ j = (if p "py" then "py" else "y")) ∧
    (∀ i j, nbAzTypeP true p = .ok (.rhophi, i, j) → i = (if p "pt" then "pt" else "rho") ∧ j = "phi") ∧
    (∀ i, nbLonTypeP true p = .ok (.z, i) → i = (if p "pz" then "pz" else "z")) ∧
    (∀ i, nbTmpTypeP true p = .ok (.t, i) →
      i = (if p "E" then "E" else if p "e" then "e" else if p "energy" then "energy" else "t")) ∧
    (∀ i, nbTmpTypeP true p = .ok (.tau, i) →
      i = (if p "M" then "M" else if p "m" then "m" else if p "mass" then "mass" else "tau")) := by
  refine ⟨fun i j h => ?_, fun i j h => ?_, fun i h => ?_, fun i h => ?_, fun i h => ?_⟩
  · rw [nbAzTypeP_eq] at h; unfold firstOr2 at h
    split at h
    next hx hy => cases h; exact ⟨find?_concat hx, find?_concat hy⟩
    next => split at h <;> cases h
  · rw [nbAzTypeP_eq] at h; unfold firstOr2 at h
    split at h
    next => cases h
    next =>
      split at h
      next hr hp => cases h; exact ⟨find?_concat hr, find?_concat hp⟩
      next => cases h
  · rw [nbLonTypeP_eq] at h; unfold firstOr at h
    split at h
    next hz => cases h; exact find?_concat hz
    next =>
      split at h
      next => cases h
      next => split at h <;> cases h
  · rw [nbTmpTypeP_eq] at h; unfold firstOr at h
    split at h
    next ht => cases h; exact find?_concat ht
    next => split at h <;> cases h
  · rw [nbTmpTypeP_eq] at h; unfold firstOr at h
    split at h
    next => cases h
    next =>
      split at h
      next ht => cases h; exact find?_concat ht
      next => cases h

/-- which field the compiled code reads: the generic spelling if present (the interpreter's order) -/
theorem c14f_lowering_prefers_generic (p : String → Bool) :
    (∀ i j, nbLowerAz .xy p = .ok (i, j) → i = (if p "x" then "x" else "px") ∧ j = (if p "y" then "y" else "py")) ∧
    (∀ i j, nbLowerAz .rhophi p = .ok (i, j) → i = (if p "rho" then "rho" else "pt") ∧ j = "phi") ∧
    (∀ i, nbLowerLon .z p = .ok i → i = (if p "z" then "z" else "pz")) ∧
    (∀ i, nbLowerTmp .t p = .ok i →
      i = (if p "t" then "t" else if p "E" then "E" else if p "e" then "e" else "energy")) ∧
    (∀ i, nbLowerTmp .tau p = .ok i →
      i = (if p "tau" then "tau" else if p "M" then "M" else if p "m" then "m" else "mass")) := by
  refine ⟨fun i j h => ?_, fun i j h => ?_, fun i h => ?_, fun i h => ?_, fun i h => ?_⟩
  · rw [nbLowerAz_xy] at h; unfold firstOr2 at h
    split at h
    next hx hy => cases h; exact ⟨find?_concat (l := ["x"]) hx, find?_concat (l := ["y"]) hy⟩
    next => cases h
  · rw [nbLowerAz_rhophi] at h; unfold firstOr2 at h
    split at h
    next hr hp => cases h; exact ⟨find?_concat (l := ["rho"]) hr, find?_concat (l := []) hp⟩
    next => cases h
  · rw [nbLowerLon_z] at h; unfold firstOr at h
    split at h
    next hz => cases h; exact find?_concat (l := ["z"]) hz
    next => cases h
  · rw [nbLowerTmp_t] at h; unfold firstOr at h
    split at h
    next ht => cases h; exact find?_concat (l := ["t", "E", "e"]) ht
    next => cases h
  · rw [nbLowerTmp_tau] at h; unfold firstOr at h
    split at h
    next ht => cases h; exact find?_concat (l := ["tau", "M", "m"]) ht
    next => cases h

private theorem nbReadDM_eq_of {D : Type} [DecidableEq D] (dt : S → D) (mom : Bool) (dim : Nat) (g : FMap S)
    (h : ∀ ty gt, nbTypeP mom dim g.has = .ok ty → nbLowerP ty g.has = .ok gt →
      ty.names.map (fun n => (g n).map dt) = gt.names.map (fun n => (g n).map dt)) :
    nbReadDM dt mom dim g = nbReadM mom dim g := by
  unfold nbReadDM nbReadM
  cases hT : nbTypeP mom dim g.has with
  | error e => rfl
  | ok ty =>
    cases hL : nbLowerP ty g.has with
    | error e => simp only [hL]
    | ok gt =>
      simp only [hL]
      rw [if_pos (h ty gt hT hL)]

/-- the typer and the lowering pick the SAME fields — hence no dtype conflict, whatever the dtypes — on every generic
record, and on every momentum record that does not carry a generic and a momentum spelling of one coordinate -/
theorem c14f_numba_dtype_same_fields (mom : Bool) (dim : Nat) (g : FMap S)
    (hs : mom = false ∨ doubled g.has = false) (ty : NbType) (gt : NbGetters)
    (hT : nbTypeP mom dim g.has = .ok ty) (hL : nbLowerP ty g.has = .ok gt) : ty.names = gt.names := by
  simpa only [List.map_id] using names_map_eq id (fun i n hP => hP.same hs) hT hL

/-- (D1) generic records: compiled with dtypes = compiled on values, whatever the dtypes -/
theorem c14f_numba_dtype_generic {D : Type} [DecidableEq D] (dt : S → D) (dim : Nat) (fs : List (String × S)) :
    nbReadRecD dt false dim fs = nbReadRec false dim fs := by
  rw [c14f_nbReadRecD_eq, c14f_nbReadRec_eq]
  apply nbReadDM_eq_of
  intro ty gt hT hL
  rw [c14f_numba_dtype_same_fields false dim _ (Or.inl rfl) ty gt hT hL]

/-- (D2) momentum records with AT MOST ONE spelling per coordinate (no generic name next to one of its momentum
synonyms): compiled with dtypes = compiled on values = interpreted, whatever the dtypes -/
theorem c14f_numba_dtype_single {D : Type} [DecidableEq D] (dt : S → D) (mom : Bool) (dim : Nat)
    (fs : List (String × S)) (h : doubled (fun n => (fieldNames fs).contains n) = false) :
    nbReadRecD dt mom dim fs = nbReadRec mom dim fs ∧
    nbReadRecD dt mom dim fs = (readRec mom dim fs).mapError (fun _ => FErr.typingError) := by
  rw [has_eq] at h
  have key : nbReadRecD dt mom dim fs = nbReadRec mom dim fs := by
    rw [c14f_nbReadRecD_eq, c14f_nbReadRec_eq]
    apply nbReadDM_eq_of
    intro ty gt hT hL
    rw [c14f_numba_dtype_same_fields mom dim _ (Or.inr h) ty gt hT hL]
  exact ⟨key, by rw [key, c14f_numba_agrees]⟩

/-- (D3) all fields of one dtype: no dtype conflict, on every record -/
theorem c14f_numba_dtype_uniform {D : Type} [DecidableEq D] (dt : S → D) (d0 : D) (mom : Bool) (dim : Nat)
    (fs : List (String × S)) (hu : ∀ f ∈ fs, dt f.2 = d0) :
    nbReadRecD dt mom dim fs = nbReadRec mom dim fs := by
  rw [c14f_nbReadRecD_eq, c14f_nbReadRec_eq]
  apply nbReadDM_eq_of
  intro ty gt hT hL
  have hu' : ∀ n, (look fs).has n = true → (look fs n).map dt = some d0 := by
    intro n hn
    obtain ⟨v, hv⟩ := Option.isSome_iff_exists.1 hn
    rw [hv]
    obtain ⟨l₁, l₂, rfl, -⟩ := List.lookup_eq_some_iff.1 hv
    exact congrArg some (hu (n, v) (by simp))
  exact names_map_eq _ (fun i n hP => (hu' i hP.left).trans (hu' n hP.right).symm) hT hL

/-- (D4) THE DIFFERENCE between typing order and lowering order.  A momentum record with `x` AND `px` of different
dtypes (and a second azimuthal coordinate, `y` or `py`): the typer takes the dtype of `px`, the getter reads `x` — the
compilation fails with `TypingError`, in every dimension and whatever else the record has, although the interpreter
(and the value-level compiled view) read `x` and succeed whenever the other coordinates are there. -/
theorem c14f_numba_dtype_conflict_x {D : Type} [DecidableEq D] (dt : S → D) (dim : Nat) (g : FMap S) (x px : S)
    (hx : g "x" = some x) (hpx : g "px" = some px) (hy : g.has "y" = true ∨ g.has "py" = true)
    (hd : dt x ≠ dt px) : nbReadDM dt true dim g = .error .typingError := by
  unfold nbReadDM
  rcases read_parts true dim g with ⟨hT, -⟩ | ⟨⟨⟨c, i, j⟩, tl, tt⟩, ⟨⟨n, m⟩, gl, gt⟩, _, _, hP⟩
  · rw [hT]
  have hA := hP.azTyped
  have hn := hP.azLowered
  dsimp only at hA hn
  rw [hP.typed]
  simp only [hP.lowered]
  refine if_neg fun hc => ?_
  have hxh : g.has "x" = true := by rw [FMap.has, hx]; rfl
  have hpxh : g.has "px" = true := by rw [FMap.has, hpx]; rfl
  -- the typer finds `px` first, the lowering `x`; both find a second coordinate
  rcases grp true g.has "y" ["py"] (by decide) (fun h => by simp [doubled, hxh, hpxh] at h) with
    ⟨-, h0⟩ | ⟨j', m', hj, hm, -⟩
  · rw [List.find?_eq_none] at h0
    rcases hy with hy | hy
    · exact absurd hy (h0 "y" (by decide))
    · exact absurd hy (h0 "py" (by decide))
  have hi : (tyOrd true "x" ["px"]).find? g.has = some "px" := List.find?_cons_of_pos hpxh
  rw [nbAzTypeP_eq, firstOr2_some hi hj] at hA
  cases hA
  rw [nbLowerAz_xy, firstOr2_some (List.find?_cons_of_pos hxh) hm] at hn
  cases hn
  have : (g "px").map dt = (g "x").map dt := (List.cons.inj hc).1
  rw [hx, hpx] at this
  exact hd (Option.some.inj this).symm

/-- list form of (D4) -/
theorem c14f_numba_dtype_conflict {D : Type} [DecidableEq D] (dt : S → D) (dim : Nat) (fs : List (String × S))
    (x px : S) (hx : look fs "x" = some x) (hpx : look fs "px" = some px)
    (hy : "y" ∈ fieldNames fs ∨ "py" ∈ fieldNames fs) (hd : dt x ≠ dt px) :
    nbReadRecD dt true dim fs = .error .typingError := by
  rw [c14f_nbReadRecD_eq]
  refine c14f_numba_dtype_conflict_x dt dim _ x px hx hpx ?_ hd
  rcases hy with h | h
  · exact Or.inl (by rw [← c14f_names_contains]; simpa using h)
  · exact Or.inr (by rw [← c14f_names_contains]; simpa using h)

/-- the minimal witness (values with a dtype tag): `ak.zip({"x": float64, "px": int64, "y": float64},
with_name="Momentum2D")` — the interpreter reads (x, y), the typer declares the dtype of (px, y), the getter `_awkward_numba_xy`
reads (x, y): `TypingError` ("No conversion from MomentumObject2DType(AzimuthalObjectXY(float64 x 2)) to …(int64, float64)").
The same fields in a generic `Vector2D` record compile. -/
theorem c14f_numba_dtype_witness :
    let fs : List (String × (Int × String)) := [("x", (1, "f")), ("px", (10, "i")), ("y", (2, "f"))]
    readRec true 2 fs = .ok ⟨(.xy, (1, "f"), (2, "f")), none, none⟩ ∧
    nbReadRec true 2 fs = .ok ⟨(.xy, (1, "f"), (2, "f")), none, none⟩ ∧
    nbType true 2 (fieldNames fs) = .ok ⟨(.xy, "px", "y"), none, none⟩ ∧
    nbLower ⟨(.xy, "px", "y"), none, none⟩ (fieldNames fs) = .ok ⟨("x", "y"), none, none⟩ ∧
    nbReadRecD (fun v => v.2) true 2 fs = .error .typingError ∧
    nbReadRecD (fun v => v.2) false 2 fs = .ok ⟨(.xy, (1, "f"), (2, "f")), none, none⟩ := by
  intro fs
  exact ⟨by rfl, by rfl, by rfl, by rfl, by rfl, by rfl⟩

/-- one witness for each of the other five doubled coordinates (y/py, rho/pt, z/pz, t/E, tau/mass): interpreted fine,
compilation fails -/
theorem c14f_numba_dtype_witness_others :
    let dt : Int × String → String := fun v => v.2
    let r1 : List (String × (Int × String)) := [("x", (1, "i")), ("y", (2, "i")), ("py", (20, "f"))]
    let r2 : List (String × (Int × String)) := [("rho", (1, "i")), ("pt", (10, "f")), ("phi", (2, "i"))]
    let r3 : List (String × (Int × String)) := [("x", (1, "i")), ("y", (2, "i")), ("z", (3, "i")), ("pz", (30, "f"))]
    let r4 : List (String × (Int × String)) :=
      [("x", (1, "i")), ("y", (2, "i")), ("z", (3, "i")), ("t", (4, "i")), ("E", (40, "f"))]
    let r5 : List (String × (Int × String)) :=
      [("x", (1, "i")), ("y", (2, "i")), ("z", (3, "i")), ("tau", (4, "i")), ("mass", (40, "f"))]
    (readRec true 2 r1 = .ok ⟨(.xy, (1, "i"), (2, "i")), none, none⟩ ∧ nbReadRecD dt true 2 r1 = .error .typingError) ∧
    (readRec true 2 r2 = .ok ⟨(.rhophi, (1, "i"), (2, "i")), none, none⟩ ∧
      nbReadRecD dt true 2 r2 = .error .typingError) ∧
    (readRec true 3 r3 = .ok ⟨(.xy, (1, "i"), (2, "i")), some (.z, (3, "i")), none⟩ ∧
      nbReadRecD dt true 3 r3 = .error .typingError) ∧
    (readRec true 4 r4 = .ok ⟨(.xy, (1, "i"), (2, "i")), some (.z, (3, "i")), some (.t, (4, "i"))⟩ ∧
      nbReadRecD dt true 4 r4 = .error .typingError) ∧
    (readRec true 4 r5 = .ok ⟨(.xy, (1, "i"), (2, "i")), some (.z, (3, "i")), some (.tau, (4, "i"))⟩ ∧
      nbReadRecD dt true 4 r5 = .error .typingError) := by
  intro dt r1 r2 r3 r4 r5
  exact ⟨⟨by rfl, by rfl⟩, ⟨by rfl, by rfl⟩, ⟨by rfl, by rfl⟩, ⟨by rfl, by rfl⟩, ⟨by rfl, by rfl⟩⟩

/-- two spellings of the SAME momentum kind (`E` and `e`, `M` and `mass`) are no conflict: typer and lowering look them
up in the same order -/
example :
    let dt : Int × String → String := fun v => v.2
    let r : List (String × (Int × String)) :=
      [("x", (1, "i")), ("y", (2, "i")), ("z", (3, "i")), ("M", (4, "i")), ("mass", (40, "f")), ("e", (7, "f"))]
    nbReadRecD dt true 4 r = .ok ⟨(.xy, (1, "i"), (2, "i")), some (.z, (3, "i")), some (.t, (7, "f"))⟩ ∧
    readRec true 4 r = .ok ⟨(.xy, (1, "i"), (2, "i")), some (.z, (3, "i")), some (.t, (7, "f"))⟩ := by
  intro dt r
  exact ⟨by rfl, by rfl⟩

/-! ## 8. `_wrap_result` (the repair 17af0b2): reading the wrapped result gives the FRESH values

`realWrap` (Glue/Awkward.lean) = the real `_wrap_result`: the declared result coordinates under their generic names,
followed by the fields of `self` that the branch's literal tuple does not exclude.  Whatever `self` carried — stale
`px`, `py`, `pt`, … in any order — every reader of the result finds the fresh values.

The theorems of this section join two models: the result is built by the model of `_wrap_result` (`realWrap`, whose
properties are in `Props/C18.lean`) and read by the field-lookup model of this file (`readRec`, `nbReadRec` of
`Glue/Fields.lean`).  The parts of `realWrap` that occur below, all of `Glue/Awkward.lean`:
* `parts : List RP` (`RP` of `Prim/Keys.lean`), `resultNames parts` — the declared result (azimuthal, longitudinal, temporal part or `None`) and the
  generic names its coordinates are written under;
* `Branch`, `Branch.ofParts parts` — the five `isinstance` branches of `_wrap_result`, and the one the declared result selects;
* `b.excl` — the literal tuple of branch `b`: the names it does not copy from `self`;
* `exclAll` — the tuple of the three branches whose declared result ends in `None` or has a temporal part; it holds exactly
  the 19 coordinate spellings (`c18_real_exclAll_eq_coords`, `c18_real_full_branches`);
* `b.carried nv fs` — the fields of `self` that `b` appends: `fs` without the names in `b.excl`, and nothing unless the
  function has one vector argument (`nv = 1`);
* `b.dim sd` — the dimension of the result class, `sd` being that of the class of `self`. -/

private theorem azOfM_congr (mom : Bool) (g g' : FMap S)
    (h : ∀ n ∈ ["x", "px", "y", "py", "rho", "pt", "phi"], g n = g' n) : azOfM mom g = azOfM mom g' := by
  have hr : ∀ c ∈ ["x", "y", "rho", "phi"], resolved mom g c = resolved mom g' c := fun c hc =>
    resolved_congr fun s hs => h s (by revert c s; decide)
  simp only [List.forall_mem_cons] at hr
  simp only [c14f_az_resolved, hr]

private theorem lonOfM_congr (mom : Bool) (g g' : FMap S)
    (h : ∀ n ∈ ["z", "pz", "theta", "eta"], g n = g' n) : lonOfM mom g = lonOfM mom g' := by
  have hr : ∀ c ∈ ["z", "theta", "eta"], resolved mom g c = resolved mom g' c := fun c hc =>
    resolved_congr fun s hs => h s (by revert c s; decide)
  simp only [List.forall_mem_cons] at hr
  simp only [c14f_lon_resolved, hr]

private theorem tmpOfM_congr (mom : Bool) (g g' : FMap S)
    (h : ∀ n ∈ ["t", "E", "e", "energy", "tau", "M", "m", "mass"], g n = g' n) : tmpOfM mom g = tmpOfM mom g' := by
  have hr : ∀ c ∈ ["t", "tau"], resolved mom g c = resolved mom g' c := fun c hc =>
    resolved_congr fun s hs => h s (by revert c s; decide)
  simp only [List.forall_mem_cons] at hr
  simp only [c14f_tmp_resolved, hr]

private theorem lookup_carried (b : Branch) (nv : Nat) (fs : List (String × S)) (n : String) :
    List.lookup n (b.carried nv fs) = if nv == 1 ∧ ¬ n ∈ b.excl then List.lookup n fs else none := by
  unfold Branch.carried
  by_cases h1 : (nv == 1) = true
  · rw [if_pos h1, lookup_filter_name (fun n => !b.excl.contains n) fs n]
    by_cases hn : n ∈ b.excl <;> simp [h1, hn]
  · simp [h1]

private theorem look_wrapped (b : Branch) (nv : Nat) (fs A : List (String × S)) (n : String) (hn : n ∈ b.excl) :
    look (A ++ b.carried nv fs) n = look A n := by
  simp only [look, List.lookup_append, lookup_carried, hn, not_true_eq_false, and_false, if_false, Option.or_none]

/-- the result's declared coordinates, as a reader must find them -/
def freshStored : List RP → List S → Option (Stored S)
  | [.az a, .none], [r0, r1] => some ⟨(a, r0, r1), none, none⟩
  | [.az a, .lon l, .none], [r0, r1, r2] => some ⟨(a, r0, r1), some (l, r2), none⟩
  | [.az a, .lon l, .tmp t], [r0, r1, r2, r3] => some ⟨(a, r0, r1), some (l, r2), some (t, r3)⟩
  | _, _ => none

private theorem az_in_excl (b : Branch) : ∀ n ∈ ["x", "px", "y", "py", "rho", "pt", "phi"], n ∈ b.excl := by
  cases b <;> decide

private theorem wrap_az_reduce (b : Branch) (nv : Nat) (fs A : List (String × S)) (mom : Bool) :
    azOf mom (A ++ b.carried nv fs) = azOf mom A :=
  azOfM_congr mom _ _ (fun n hn => look_wrapped b nv fs A n (az_in_excl b n hn))

private theorem wrap_full_reduce (b : Branch) (hb : b.excl = exclAll) (nv : Nat) (fs A : List (String × S))
    (mom : Bool) (dim : Nat) : readRec mom dim (A ++ b.carried nv fs) = readRec mom dim A :=
  readM_congr mom dim _ _
    (fun n hn => look_wrapped b nv fs A n (by rw [hb]; exact (c18_real_exclAll_eq_coords n).2 hn))

/-- the five declared results `_wrap_result` accepts, with the raw values split accordingly -/
private theorem wrap_shapes (parts : List RP) (b : Branch) (hb : Branch.ofParts parts = some b) (raw : List S)
    (hraw : raw.length = (resultNames parts).length) :
    (∃ a r0 r1, parts = [.az a] ∧ raw = [r0, r1] ∧ b = .az) ∨
    (∃ a r0 r1, parts = [.az a, .none] ∧ raw = [r0, r1] ∧ b = .azNone) ∨
    (∃ a l r0 r1 r2, parts = [.az a, .lon l] ∧ raw = [r0, r1, r2] ∧ b = .azLon) ∨
    (∃ a l r0 r1 r2, parts = [.az a, .lon l, .none] ∧ raw = [r0, r1, r2] ∧ b = .azLonNone) ∨
    (∃ a l t r0 r1 r2 r3, parts = [.az a, .lon l, .tmp t] ∧ raw = [r0, r1, r2, r3] ∧ b = .azLonTmp) := by
  have len : ∀ a : Az, a.names.length = 2 := fun a => by cases a <;> rfl
  unfold Branch.ofParts at hb
  split at hb <;> cases hb <;>
    simp only [resultNames, List.flatMap_cons, List.flatMap_nil, RP.names, List.length_append, List.length_cons,
      List.length_nil, len] at hraw
  · match raw, hraw with
    | [r0, r1], _ => exact .inl ⟨_, r0, r1, rfl, rfl, rfl⟩
  · match raw, hraw with
    | [r0, r1], _ => exact .inr (.inl ⟨_, r0, r1, rfl, rfl, rfl⟩)
  · match raw, hraw with
    | [r0, r1, r2], _ => exact .inr (.inr (.inl ⟨_, _, r0, r1, r2, rfl, rfl, rfl⟩))
  · match raw, hraw with
    | [r0, r1, r2], _ => exact .inr (.inr (.inr (.inl ⟨_, _, r0, r1, r2, rfl, rfl, rfl⟩)))
  · match raw, hraw with
    | [r0, r1, r2, r3], _ => exact .inr (.inr (.inr (.inr ⟨_, _, _, r0, r1, r2, r3, rfl, rfl, rfl⟩)))

/-- a record that holds exactly the declared coordinates under their generic names reads back as declared, part by
part, in both flavors (evaluation over the 2, 2·3 and 2·3·2 coordinate systems) -/
private theorem canon2 (mom : Bool) (a : Az) (r0 r1 : S) : azOf mom (a.names.zip [r0, r1]) = .ok (a, r0, r1) := by
  cases a <;> cases mom <;> rfl

private theorem canon3 (mom : Bool) (a : Az) (l : Lon) (r0 r1 r2 : S) :
    azOf mom ((a.names ++ [l.str]).zip [r0, r1, r2]) = .ok (a, r0, r1) ∧
    lonOf mom ((a.names ++ [l.str]).zip [r0, r1, r2]) = .ok (l, r2) := by
  cases a <;> cases l <;> cases mom <;> exact ⟨rfl, rfl⟩

private theorem canon4 (mom : Bool) (a : Az) (l : Lon) (t : Tmp) (r0 r1 r2 r3 : S) :
    azOf mom ((a.names ++ [l.str, t.str]).zip [r0, r1, r2, r3]) = .ok (a, r0, r1) ∧
    lonOf mom ((a.names ++ [l.str, t.str]).zip [r0, r1, r2, r3]) = .ok (l, r2) ∧
    tmpOf mom ((a.names ++ [l.str, t.str]).zip [r0, r1, r2, r3]) = .ok (t, r3) := by
  cases a <;> cases l <;> cases t <;> cases mom <;> exact ⟨rfl, rfl, rfl⟩

private theorem readRec_of (mom : Bool) (dim : Nat) (A : List (String × S)) (az : Az × S × S) (lon : Lon × S)
    (tmp : Tmp × S) (hA : azOf mom A = .ok az) (hL : dim < 3 ∨ lonOf mom A = .ok lon)
    (hT : dim < 4 ∨ tmpOf mom A = .ok tmp) :
    readRec mom dim A = .ok ⟨az, if dim < 3 then none else some lon, if dim < 4 then none else some tmp⟩ := by
  unfold readRec readM
  rw [show azOfM mom (look A) = .ok az from hA]
  by_cases h3 : dim < 3
  · simp only [h3, if_true, show dim < 4 from Nat.lt_succ_of_lt h3]
  · rw [show lonOfM mom (look A) = .ok lon from hL.resolve_left h3]
    by_cases h4 : dim < 4
    · simp only [h3, h4, if_true, if_false]
    · rw [show tmpOfM mom (look A) = .ok tmp from hT.resolve_left h4]
      simp only [h3, h4, if_false]

/-- `_wrap_result` model against field-lookup model, azimuthal part — for EVERY branch `b`, every declared result `parts` with
`Branch.ofParts parts = some b`, every field list `fs` of `self` (raw momentum spellings, any order, stale values), unary
or binary, momentum or generic reader: the azimuthal coordinates read from the wrapped result are the declared system with
the first two raw values.  No stale spelling of `self` can win. -/
theorem c14f_wrap_fresh_az (parts : List RP) (b : Branch) (hb : Branch.ofParts parts = some b)
    (fs : List (String × S)) (raw : List S) (hraw : raw.length = (resultNames parts).length) (mom : Bool) (nv : Nat) :
    ∃ a r0 r1, parts.head? = some (.az a) ∧ raw.take 2 = [r0, r1] ∧
      azOf mom ((resultNames parts).zip raw ++ b.carried nv fs) = .ok (a, r0, r1) ∧
      azOf mom ((resultNames parts).zip raw ++ b.carried nv fs) = azOf mom ((resultNames parts).zip raw) := by
  rw [wrap_az_reduce]
  rcases wrap_shapes parts b hb raw hraw with ⟨a, r0, r1, rfl, rfl, -⟩ | ⟨a, r0, r1, rfl, rfl, -⟩ |
    ⟨a, l, r0, r1, r2, rfl, rfl, -⟩ | ⟨a, l, r0, r1, r2, rfl, rfl, -⟩ | ⟨a, l, t, r0, r1, r2, r3, rfl, rfl, -⟩
  · have h := canon2 mom a r0 r1
    cases a <;> exact ⟨_, r0, r1, rfl, rfl, h, rfl⟩
  · have h := canon2 mom a r0 r1
    cases a <;> exact ⟨_, r0, r1, rfl, rfl, h, rfl⟩
  · have h := (canon3 mom a l r0 r1 r2).1
    cases a <;> exact ⟨_, r0, r1, rfl, rfl, h, rfl⟩
  · have h := (canon3 mom a l r0 r1 r2).1
    cases a <;> exact ⟨_, r0, r1, rfl, rfl, h, rfl⟩
  · have h := (canon4 mom a l t r0 r1 r2 r3).1
    cases a <;> exact ⟨_, r0, r1, rfl, rfl, h, rfl⟩

/-- `_wrap_result` model against field-lookup model, full branches (`[Azimuthal, None]`, `[Azimuthal, Longitudinal, None]`,
`[Azimuthal, Longitudinal, Temporal]`, i.e. `b.excl = exclAll`, see `c18_real_full_branches`): interpreter AND compiled
code read exactly the declared coordinates with the raw values, in the dimension of the result class, whatever `self`
carried -/
theorem c14f_wrap_fresh_full (parts : List RP) (b : Branch) (hb : Branch.ofParts parts = some b)
    (hfull : b.excl = exclAll) (fs : List (String × S)) (raw : List S)
    (hraw : raw.length = (resultNames parts).length) (mom : Bool) (nv sd : Nat) :
    ∃ st, freshStored parts raw = some st ∧
      readRec mom (b.dim sd) ((resultNames parts).zip raw ++ b.carried nv fs) = .ok st ∧
      nbReadRec mom (b.dim sd) ((resultNames parts).zip raw ++ b.carried nv fs) = .ok st := by
  suffices h : ∃ st, freshStored parts raw = some st ∧
      readRec mom (b.dim sd) ((resultNames parts).zip raw ++ b.carried nv fs) = .ok st by
    obtain ⟨st, h1, h2⟩ := h
    exact ⟨st, h1, h2, (c14f_numba_agrees_ok _ _ _ _).2 h2⟩
  rw [wrap_full_reduce b hfull]
  rcases wrap_shapes parts b hb raw hraw with ⟨a, r0, r1, rfl, rfl, rfl⟩ | ⟨a, r0, r1, rfl, rfl, rfl⟩ |
    ⟨a, l, r0, r1, r2, rfl, rfl, rfl⟩ | ⟨a, l, r0, r1, r2, rfl, rfl, rfl⟩ | ⟨a, l, t, r0, r1, r2, r3, rfl, rfl, rfl⟩
  · exact absurd hfull (by decide)
  · refine ⟨_, rfl, ?_⟩
    have h := canon2 mom a r0 r1
    cases a <;> exact readRec_of mom 2 _ _ (.z, r0) (.t, r0) h (.inl (by decide)) (.inl (by decide))
  · exact absurd hfull (by decide)
  · refine ⟨_, rfl, ?_⟩
    have h := canon3 mom a l r0 r1 r2
    cases a <;> exact readRec_of mom 3 _ _ _ (.t, r0) h.1 (.inr h.2) (.inl (by decide))
  · refine ⟨_, rfl, ?_⟩
    have h := canon4 mom a l t r0 r1 r2 r3
    cases a <;> exact readRec_of mom 4 _ _ _ _ h.1 (.inr h.2.1) (.inr h.2.2)

/-- the same two theorems phrased on `realWrap` itself (the model of the real `_wrap_result`) -/
theorem c14f_wrap_realWrap (parts : List RP) (nv sd : Nat) (fs : List (String × S)) (raw : List S) (d : Nat)
    (out : List (String × S)) (h : realWrap parts nv sd fs raw = .ok (d, out))
    (hraw : raw.length = (resultNames parts).length) (mom : Bool) :
    (∃ a r0 r1, parts.head? = some (.az a) ∧ raw.take 2 = [r0, r1] ∧ azOf mom out = .ok (a, r0, r1)) ∧
    (∀ b, Branch.ofParts parts = some b → b.excl = exclAll →
      ∃ st, freshStored parts raw = some st ∧ readRec mom d out = .ok st ∧ nbReadRec mom d out = .ok st) := by
  unfold realWrap at h
  split at h
  · simp at h
  · rename_i b hb
    simp only [Except.ok.injEq, Prod.mk.injEq] at h
    obtain ⟨rfl, rfl⟩ := h
    refine ⟨?_, ?_⟩
    · obtain ⟨a, r0, r1, h1, h2, h3, _⟩ := c14f_wrap_fresh_az parts b hb fs raw hraw mom nv
      exact ⟨a, r0, r1, h1, h2, h3⟩
    · intro b' hb' hfull
      rw [hb] at hb'
      simp only [Option.some.injEq] at hb'
      subst hb'
      exact c14f_wrap_fresh_full parts b hb hfull fs raw hraw mom nv sd

private theorem lookup_zip_none (names : List String) (vals : List S) (n : String) (h : n ∉ names) :
    List.lookup n (names.zip vals) = none := by
  rw [List.lookup_eq_none_iff]
  intro p hp
  simp only [bne_iff_ne, ne_eq]
  rintro rfl
  exact h (List.of_mem_zip (a := p.1) (b := p.2) hp).1

private theorem look_passthrough (b : Branch) (names : List String) (vals : List S) (fs : List (String × S))
    (n : String) (h : n ∉ names ∧ n ∉ b.excl) : look (names.zip vals ++ b.carried 1 fs) n = look fs n := by
  simp [look, List.lookup_append, lookup_zip_none _ _ _ h.1, lookup_carried, h.2]

/-- pass-through branch `[Azimuthal]` (e.g. `rotateZ`) on a unary operand: the longitudinal and temporal coordinates of
the result are read exactly as they are read from `self` — same system, same value, under whatever spelling `self`
stores them (`pz`, `E`, `mass`, …) -/
theorem c14f_wrap_passthrough_az (a : Az) (fs : List (String × S)) (raw : List S) (mom : Bool) :
    lonOf mom ((resultNames [.az a]).zip raw ++ Branch.az.carried 1 fs) = lonOf mom fs ∧
    tmpOf mom ((resultNames [.az a]).zip raw ++ Branch.az.carried 1 fs) = tmpOf mom fs := by
  have hL : ∀ n ∈ ["z", "pz", "theta", "eta"], n ∉ resultNames [.az a] ∧ n ∉ Branch.az.excl := by
    cases a <;> decide
  have hT : ∀ n ∈ ["t", "E", "e", "energy", "tau", "M", "m", "mass"],
      n ∉ resultNames [.az a] ∧ n ∉ Branch.az.excl := by
    cases a <;> decide
  exact ⟨lonOfM_congr mom _ _ fun n hn => look_passthrough .az _ raw fs n (hL n hn),
    tmpOfM_congr mom _ _ fun n hn => look_passthrough .az _ raw fs n (hT n hn)⟩

/-- pass-through branch `[Azimuthal, Longitudinal]` (e.g. `rotateX`) on a unary operand: fresh longitudinal coordinate, the
temporal one is read exactly as from `self` -/
theorem c14f_wrap_passthrough_azLon (a : Az) (l : Lon) (fs : List (String × S)) (r0 r1 r2 : S) (mom : Bool) :
    lonOf mom ((resultNames [.az a, .lon l]).zip [r0, r1, r2] ++ Branch.azLon.carried 1 fs) = .ok (l, r2) ∧
    tmpOf mom ((resultNames [.az a, .lon l]).zip [r0, r1, r2] ++ Branch.azLon.carried 1 fs) = tmpOf mom fs := by
  have hT : ∀ n ∈ ["t", "E", "e", "energy", "tau", "M", "m", "mass"],
      n ∉ resultNames [.az a, .lon l] ∧ n ∉ Branch.azLon.excl := by
    cases a <;> cases l <;> decide
  refine ⟨?_, tmpOfM_congr mom _ _ fun n hn => look_passthrough .azLon _ _ fs n (hT n hn)⟩
  have : lonOf mom ((resultNames [.az a, .lon l]).zip [r0, r1, r2] ++ Branch.azLon.carried 1 fs) =
      lonOf mom ((resultNames [.az a, .lon l]).zip [r0, r1, r2]) :=
    lonOfM_congr mom _ _ fun n hn => look_wrapped .azLon 1 fs _ n (by revert n; decide)
  rw [this]
  have h := (canon3 mom a l r0 r1 r2).2
  cases a <;> exact h

/-! ## 9. the hypotheses are satisfiable: a (px, py, eta, mass, charge) record -/

/-- distinct names, one spelling per coordinate; interpreter = compiled = compiled with dtypes; any order; `charge` is
ignored; generic reading fails; `to_xyzt`-like and `rotateZ`-like results read back fresh -/
example :
    let fs : List (String × Int) := [("px", 1), ("py", 2), ("eta", 3), ("mass", 4), ("charge", 5)]
    (fieldNames fs).Nodup ∧ doubled (fun n => (fieldNames fs).contains n) = false ∧
    readRec true 4 fs = .ok ⟨(.xy, 1, 2), some (.eta, 3), some (.tau, 4)⟩ ∧
    nbReadRec true 4 fs = .ok ⟨(.xy, 1, 2), some (.eta, 3), some (.tau, 4)⟩ ∧
    nbReadRecD (fun _ => ()) true 4 fs = .ok ⟨(.xy, 1, 2), some (.eta, 3), some (.tau, 4)⟩ ∧
    readRec true 4 fs.reverse = readRec true 4 fs ∧
    readRec true 4 (fs.filter (fun f => coordFieldNames.contains f.1)) = readRec true 4 fs ∧
    readRec false 4 fs = .error .valueError ∧ nbReadRec false 4 fs = .error .typingError ∧
    Branch.ofParts [.az .xy, .lon .z, .tmp .t] = some .azLonTmp ∧
    realWrap [.az .xy, .lon .z, .tmp .t] 1 4 fs [10, 20, 30, 40] =
      .ok (4, [("x", 10), ("y", 20), ("z", 30), ("t", 40), ("charge", 5)]) ∧
    readRec true 4 [("x", 10), ("y", 20), ("z", 30), ("t", 40), ("charge", 5)] =
      .ok ⟨(.xy, 10, 20), some (.z, 30), some (.t, 40)⟩ ∧
    realWrap [.az .rhophi] 1 4 fs [10, 20] = .ok (4, [("rho", 10), ("phi", 20), ("eta", 3), ("mass", 4), ("charge", 5)]) ∧
    readRec true 4 [("rho", 10), ("phi", 20), ("eta", 3), ("mass", 4), ("charge", 5)] =
      .ok ⟨(.rhophi, 10, 20), some (.eta, 3), some (.tau, 4)⟩ := by
  intro fs
  refine ⟨by decide, by decide, by rfl, by rfl, by rfl, by rfl, by rfl, by rfl, by rfl, by rfl, by rfl, by rfl, by rfl,
    by rfl⟩

/-- what the pinned tree (before 17af0b2) did, and why the theorem needs the repaired tuples: with `px`, `py` NOT excluded
in branch `[Azimuthal]`, the stale `px`, `py` of `self` stay in the result next to the fresh `rho`, `phi` — and the momentum
reader prefers x-y: it reads the STALE pair -/
example :
    let stale : List (String × Int) := [("rho", 10), ("phi", 20), ("px", 1), ("py", 2), ("eta", 3), ("mass", 4)]
    azOf true stale = .ok (.xy, 1, 2) ∧ azOf false stale = .ok (.rhophi, 10, 20) := by
  intro stale
  exact ⟨by rfl, by rfl⟩

/-! ## 10. extras and the dtype-aware compiled view -/

private theorem nbTypeP_congr (mom : Bool) (dim : Nat) (p p' : String → Bool) (h : ∀ n ∈ coordFieldNames, p n = p' n) :
    nbTypeP mom dim p = nbTypeP mom dim p' := by
  simp only [coordFieldNames, List.forall_mem_cons] at h
  simp only [nbTypeP, nbAzTypeP, nbLonTypeP, nbTmpTypeP, idx, h]

private theorem nbLowerP_congr (ty : NbType) (p p' : String → Bool) (h : ∀ n ∈ coordFieldNames, p n = p' n) :
    nbLowerP ty p = nbLowerP ty p' := by
  simp only [coordFieldNames, List.forall_mem_cons] at h
  unfold nbLowerP nbLowerAz nbLowerLon nbLowerTmp
  simp only [h]
private theorem nbReadDM_congr {D : Type} [DecidableEq D] (dt : S → D) (mom : Bool) (dim : Nat) (g g' : FMap S)
    (h : ∀ n ∈ coordFieldNames, g n = g' n) : nbReadDM dt mom dim g = nbReadDM dt mom dim g' := by
  have hp : ∀ n ∈ coordFieldNames, g.has n = g'.has n := fun n hn => by simp only [FMap.has, h n hn]
  unfold nbReadDM
  rw [nbTypeP_congr mom dim g.has g'.has hp]
  cases hT : nbTypeP mom dim g'.has with
  | error e => rfl
  | ok ty =>
    simp only
    rw [nbLowerP_congr ty g.has g'.has hp]
    cases hL : nbLowerP ty g'.has with
    | error e => rfl
    | ok gt =>
      obtain ⟨hI', ps, h1, h2, hps⟩ := of_typed hT hL
      obtain ⟨hI, -⟩ :=
        of_typed (g := g) ((nbTypeP_congr mom dim _ _ hp).trans hT) ((nbLowerP_congr ty _ _ hp).trans hL)
      have e : ∀ π : String × String → String, (∀ x ∈ ps, π x ∈ coordFieldNames) →
          (ps.map π).map (fun n => (g n).map dt) = (ps.map π).map (fun n => (g' n).map dt) := fun π hπ => by
        rw [List.map_map, List.map_map]
        exact List.map_congr_left fun x hx => by simp only [Function.comp, h _ (hπ x hx)]
      simp only [h1, h2, e _ fun x hx => (hps x hx).coordL, e _ fun x hx => (hps x hx).coordR, hI, hI',
        readM_congr mom dim g g' h]

/-- the dtype-aware compiled view reads coordinate names only, too: non-coordinate fields never matter -/
theorem c14f_extras_dtype {D : Type} [DecidableEq D] (dt : S → D) (mom : Bool) (dim : Nat)
    (fs : List (String × S)) :
    nbReadRecD dt mom dim (fs.filter (fun f => coordFieldNames.contains f.1)) = nbReadRecD dt mom dim fs := by
  rw [c14f_nbReadRecD_eq, c14f_nbReadRecD_eq]
  exact nbReadDM_congr dt mom dim _ _
    (fun n hn => look_filter (fun n => coordFieldNames.contains n) fs n (by simpa using hn))

end
end VG

