/-
C12 — equality, inequality and closeness are coherent.
Theorems about the *generated* real-number model of
`_compute/{planar,spatial,lorentz}/{equal,not_equal,isclose}.py`, for every
coordinate-system key pair (4 / 36 / 144) at once.

Under every key the three modules compare the same pairs of (converted) coordinates: `equal` is `(u₁ = v₁ ∧ u₂ = v₂) ∧ u₃ = v₃`,
`not_equal` the same pairs with `≠` and `∨`, `isclose` with `P.isclose`.  For the planar and spatial keys each statement is
therefore an instance, found by unfolding the variant, of a fact about two or three pairs of variables.  A Lorentz variant is
the spatial variant of the same key and one more pair (`tCmp`); the 144-key statements follow from the 36-key ones.
-/
import VectorModel.Gen.Real.planar_equal
import VectorModel.Gen.Real.planar_not_equal
import VectorModel.Gen.Real.planar_isclose
import VectorModel.Gen.Real.spatial_equal
import VectorModel.Gen.Real.spatial_not_equal
import VectorModel.Gen.Real.spatial_isclose
import VectorModel.Gen.Real.lorentz_equal
import VectorModel.Gen.Real.lorentz_not_equal
import VectorModel.Gen.Real.lorentz_isclose
import VectorModel.Lemmas.Prim

namespace VR
open VK

/-! ### every Lorentz variant is the spatial variant of the same key together with a comparison of two temporal
quantities -/

/-- the two temporal quantities compared by the `equal` / `not_equal` / `isclose` variant under a key: the stored
coordinates when both operands store the same kind (`t`,`t` or `τ`,`τ`), the `t` accessor `tm` (`lorentz_t.eval` of the copy
at hand) of each operand otherwise -/
def tCmp (tm : Az → Lon → Tmp → ℝ → ℝ → ℝ → ℝ → ℝ) (k0 : Az) (k1 : Lon) (k2 : Tmp) (k3 : Az) (k4 : Lon) (k5 : Tmp)
    (a0 a1 a2 a3 a4 a5 a6 a7 : ℝ) : ℝ × ℝ :=
  match k2, k5 with
  | .t, .t => (a3, a7)
  | .tau, .tau => (a3, a7)
  | _, _ => (tm k0 k1 k2 a0 a1 a2 a3, tm k3 k4 k5 a4 a5 a6 a7)

theorem tCmp_same {tm : Az → Lon → Tmp → ℝ → ℝ → ℝ → ℝ → ℝ} (k0 : Az) (k1 : Lon) (k2 : Tmp) (k3 : Az) (k4 : Lon)
    (a0 a1 a2 a3 a4 a5 a6 a7 : ℝ) : tCmp tm k0 k1 k2 k3 k4 k2 a0 a1 a2 a3 a4 a5 a6 a7 = (a3, a7) := by
  cases k2 <;> rfl

theorem tCmp_swap {tm : Az → Lon → Tmp → ℝ → ℝ → ℝ → ℝ → ℝ} (k0 : Az) (k1 : Lon) (k2 : Tmp) (k3 : Az) (k4 : Lon) (k5 : Tmp)
    (a0 a1 a2 a3 a4 a5 a6 a7 : ℝ) :
    tCmp tm k3 k4 k5 k0 k1 k2 a4 a5 a6 a7 a0 a1 a2 a3 = (tCmp tm k0 k1 k2 k3 k4 k5 a0 a1 a2 a3 a4 a5 a6 a7).swap := by
  cases k2 <;> cases k5 <;> rfl

theorem lorentz_equal_eval_eq (k0 : Az) (k1 : Lon) (k2 : Tmp) (k3 : Az) (k4 : Lon) (k5 : Tmp)
    (a0 a1 a2 a3 a4 a5 a6 a7 : ℝ) :
    lorentz_equal.eval k0 k1 k2 k3 k4 k5 a0 a1 a2 a3 a4 a5 a6 a7 =
      ((tCmp lorentz_t.eval k0 k1 k2 k3 k4 k5 a0 a1 a2 a3 a4 a5 a6 a7).1
          = (tCmp lorentz_t.eval k0 k1 k2 k3 k4 k5 a0 a1 a2 a3 a4 a5 a6 a7).2 ∧
        spatial_equal.eval k0 k1 k3 k4 a0 a1 a2 a4 a5 a6) := by
  cases k0 <;> cases k1 <;> cases k2 <;> cases k3 <;> cases k4 <;> cases k5 <;> rfl

theorem lorentz_not_equal_eval_eq (k0 : Az) (k1 : Lon) (k2 : Tmp) (k3 : Az) (k4 : Lon) (k5 : Tmp)
    (a0 a1 a2 a3 a4 a5 a6 a7 : ℝ) :
    lorentz_not_equal.eval k0 k1 k2 k3 k4 k5 a0 a1 a2 a3 a4 a5 a6 a7 =
      ((tCmp lorentz_t.eval k0 k1 k2 k3 k4 k5 a0 a1 a2 a3 a4 a5 a6 a7).1
          ≠ (tCmp lorentz_t.eval k0 k1 k2 k3 k4 k5 a0 a1 a2 a3 a4 a5 a6 a7).2 ∨
        spatial_not_equal.eval k0 k1 k3 k4 a0 a1 a2 a4 a5 a6) := by
  cases k0 <;> cases k1 <;> cases k2 <;> cases k3 <;> cases k4 <;> cases k5 <;> rfl

theorem lorentz_isclose_eval_eq (k0 : Az) (k1 : Lon) (k2 : Tmp) (k3 : Az) (k4 : Lon) (k5 : Tmp)
    (r t e a0 a1 a2 a3 a4 a5 a6 a7 : ℝ) :
    lorentz_isclose.eval k0 k1 k2 k3 k4 k5 r t e a0 a1 a2 a3 a4 a5 a6 a7 =
      (P.isclose (tCmp lorentz_t.eval k0 k1 k2 k3 k4 k5 a0 a1 a2 a3 a4 a5 a6 a7).1
          (tCmp lorentz_t.eval k0 k1 k2 k3 k4 k5 a0 a1 a2 a3 a4 a5 a6 a7).2 r t e ∧
        spatial_isclose.eval k0 k1 k3 k4 r t e a0 a1 a2 a4 a5 a6) := by
  cases k0 <;> cases k1 <;> cases k2 <;> cases k3 <;> cases k4 <;> cases k5 <;> rfl

/-! ### `!=` is the logical negation of `==`, for every pairing of coordinate systems -/

/-- "some of three pairs differ" is the negation of "all three pairs agree", in the bracketing of the spatial variants -/
private theorem not_and_and {p q r : Prop} : (¬p ∨ ¬q) ∨ ¬r ↔ ¬((p ∧ q) ∧ r) := by
  rw [not_and_or, not_and_or]

theorem c12_planar_ne_iff_not_eq (k0 k1 : Az) (a0 a1 a2 a3 : ℝ) :
    planar_not_equal.eval k0 k1 a0 a1 a2 a3 ↔ ¬ planar_equal.eval k0 k1 a0 a1 a2 a3 := by
  cases k0 <;> cases k1 <;> exact not_and_or.symm

theorem c12_spatial_ne_iff_not_eq (k0 : Az) (k1 : Lon) (k2 : Az) (k3 : Lon) (a0 a1 a2 a3 a4 a5 : ℝ) :
    spatial_not_equal.eval k0 k1 k2 k3 a0 a1 a2 a3 a4 a5 ↔ ¬ spatial_equal.eval k0 k1 k2 k3 a0 a1 a2 a3 a4 a5 := by
  cases k0 <;> cases k1 <;> cases k2 <;> cases k3 <;> exact not_and_and

theorem c12_lorentz_ne_iff_not_eq (k0 : Az) (k1 : Lon) (k2 : Tmp) (k3 : Az) (k4 : Lon) (k5 : Tmp)
    (a0 a1 a2 a3 a4 a5 a6 a7 : ℝ) :
    lorentz_not_equal.eval k0 k1 k2 k3 k4 k5 a0 a1 a2 a3 a4 a5 a6 a7 ↔
      ¬ lorentz_equal.eval k0 k1 k2 k3 k4 k5 a0 a1 a2 a3 a4 a5 a6 a7 := by
  rw [lorentz_not_equal_eval_eq, lorentz_equal_eval_eq, c12_spatial_ne_iff_not_eq, not_and_or]

/-! ### `==` is reflexive and symmetric (symmetry relates key `(k₁,k₂)` to `(k₂,k₁)`) -/

theorem c12_planar_eq_refl (k : Az) (a0 a1 : ℝ) : planar_equal.eval k k a0 a1 a0 a1 := by
  induction k <;> simp only [d_planar_equal] <;> trivial

theorem c12_planar_eq_symm (k0 k1 : Az) (a0 a1 a2 a3 : ℝ) :
    planar_equal.eval k0 k1 a0 a1 a2 a3 ↔ planar_equal.eval k1 k0 a2 a3 a0 a1 := by
  cases k0 <;> cases k1 <;> simp only [d_planar_equal] <;>
    constructor <;> rintro ⟨h1, h2⟩ <;> exact ⟨h1.symm, h2.symm⟩

theorem c12_spatial_eq_refl (k0 : Az) (k1 : Lon) (a0 a1 a2 : ℝ) :
    spatial_equal.eval k0 k1 k0 k1 a0 a1 a2 a0 a1 a2 := by
  induction k0 <;> induction k1 <;> simp only [d_spatial_equal] <;> trivial

theorem c12_spatial_eq_symm (k0 : Az) (k1 : Lon) (k2 : Az) (k3 : Lon) (a0 a1 a2 a3 a4 a5 : ℝ) :
    spatial_equal.eval k0 k1 k2 k3 a0 a1 a2 a3 a4 a5 ↔ spatial_equal.eval k2 k3 k0 k1 a3 a4 a5 a0 a1 a2 := by
  cases k0 <;> cases k1 <;> cases k2 <;> cases k3 <;> exact and_congr (and_congr eq_comm eq_comm) eq_comm

theorem c12_lorentz_eq_refl (k0 : Az) (k1 : Lon) (k2 : Tmp) (a0 a1 a2 a3 : ℝ) :
    lorentz_equal.eval k0 k1 k2 k0 k1 k2 a0 a1 a2 a3 a0 a1 a2 a3 := by
  rw [lorentz_equal_eval_eq, tCmp_same]
  exact ⟨rfl, c12_spatial_eq_refl k0 k1 a0 a1 a2⟩

theorem c12_lorentz_eq_symm (k0 : Az) (k1 : Lon) (k2 : Tmp) (k3 : Az) (k4 : Lon) (k5 : Tmp)
    (a0 a1 a2 a3 a4 a5 a6 a7 : ℝ) :
    lorentz_equal.eval k0 k1 k2 k3 k4 k5 a0 a1 a2 a3 a4 a5 a6 a7 ↔
      lorentz_equal.eval k3 k4 k5 k0 k1 k2 a4 a5 a6 a7 a0 a1 a2 a3 := by
  rw [lorentz_equal_eval_eq, lorentz_equal_eval_eq, tCmp_swap]
  exact and_congr eq_comm (c12_spatial_eq_symm k0 k1 k3 k4 a0 a1 a2 a4 a5 a6)

/-! ### same-system operands: `==` ⇔ all stored coordinates equal; `isclose` ⇔ every stored
coordinate within `atol + rtol * |other|` -/

theorem c12_planar_eq_same (k : Az) (a0 a1 b0 b1 : ℝ) :
    planar_equal.eval k k a0 a1 b0 b1 ↔ (a0 = b0 ∧ a1 = b1) := by
  induction k <;> simp only [d_planar_equal]

theorem c12_spatial_eq_same (k0 : Az) (k1 : Lon) (a0 a1 a2 b0 b1 b2 : ℝ) :
    spatial_equal.eval k0 k1 k0 k1 a0 a1 a2 b0 b1 b2 ↔ (a0 = b0 ∧ a1 = b1 ∧ a2 = b2) := by
  induction k0 <;> induction k1 <;> simp only [d_spatial_equal, and_assoc]

theorem c12_lorentz_eq_same (k0 : Az) (k1 : Lon) (k2 : Tmp) (a0 a1 a2 a3 b0 b1 b2 b3 : ℝ) :
    lorentz_equal.eval k0 k1 k2 k0 k1 k2 a0 a1 a2 a3 b0 b1 b2 b3 ↔ (a0 = b0 ∧ a1 = b1 ∧ a2 = b2 ∧ a3 = b3) := by
  rw [lorentz_equal_eval_eq, tCmp_same, c12_spatial_eq_same, and_comm, and_assoc, and_assoc]

theorem c12_planar_isclose_same (k : Az) (r t e a0 a1 b0 b1 : ℝ) :
    planar_isclose.eval k k r t e a0 a1 b0 b1 ↔
      (|a0 - b0| ≤ t + r * |b0| ∧ |a1 - b1| ≤ t + r * |b1|) := by
  induction k <;> simp only [d_planar_isclose, P.isclose_iff]

theorem c12_spatial_isclose_same (k0 : Az) (k1 : Lon) (r t e a0 a1 a2 b0 b1 b2 : ℝ) :
    spatial_isclose.eval k0 k1 k0 k1 r t e a0 a1 a2 b0 b1 b2 ↔
      (|a0 - b0| ≤ t + r * |b0| ∧ |a1 - b1| ≤ t + r * |b1| ∧ |a2 - b2| ≤ t + r * |b2|) := by
  induction k0 <;> induction k1 <;> simp only [d_spatial_isclose, P.isclose_iff, and_assoc]

theorem c12_lorentz_isclose_same (k0 : Az) (k1 : Lon) (k2 : Tmp) (r t e a0 a1 a2 a3 b0 b1 b2 b3 : ℝ) :
    lorentz_isclose.eval k0 k1 k2 k0 k1 k2 r t e a0 a1 a2 a3 b0 b1 b2 b3 ↔
      (|a0 - b0| ≤ t + r * |b0| ∧ |a1 - b1| ≤ t + r * |b1| ∧ |a2 - b2| ≤ t + r * |b2| ∧
        |a3 - b3| ≤ t + r * |b3|) := by
  rw [lorentz_isclose_eval_eq, tCmp_same, c12_spatial_isclose_same, P.isclose_iff, and_comm, and_assoc, and_assoc]

/-! ### `isclose` is reflexive, implied by `==`, and never stricter when a tolerance grows
(for every pairing of coordinate systems) -/

theorem c12_planar_isclose_refl (k : Az) (r t e a0 a1 : ℝ) (hr : 0 ≤ r) (ht : 0 ≤ t) :
    planar_isclose.eval k k r t e a0 a1 a0 a1 := by
  induction k <;> simp only [d_planar_isclose] <;> exact ⟨P.isclose_refl hr ht _ _, P.isclose_refl hr ht _ _⟩

theorem c12_spatial_isclose_refl (k0 : Az) (k1 : Lon) (r t e a0 a1 a2 : ℝ) (hr : 0 ≤ r) (ht : 0 ≤ t) :
    spatial_isclose.eval k0 k1 k0 k1 r t e a0 a1 a2 a0 a1 a2 := by
  induction k0 <;> induction k1 <;> simp only [d_spatial_isclose] <;>
    exact ⟨⟨P.isclose_refl hr ht _ _, P.isclose_refl hr ht _ _⟩, P.isclose_refl hr ht _ _⟩

theorem c12_lorentz_isclose_refl (k0 : Az) (k1 : Lon) (k2 : Tmp) (r t e a0 a1 a2 a3 : ℝ)
    (hr : 0 ≤ r) (ht : 0 ≤ t) :
    lorentz_isclose.eval k0 k1 k2 k0 k1 k2 r t e a0 a1 a2 a3 a0 a1 a2 a3 := by
  rw [lorentz_isclose_eval_eq, tCmp_same]
  exact ⟨P.isclose_refl hr ht _ _, c12_spatial_isclose_refl k0 k1 r t e a0 a1 a2 hr ht⟩

private theorem isclose3_of_eq {r t : ℝ} (hr : 0 ≤ r) (ht : 0 ≤ t) (e : ℝ) {a b c d g h : ℝ}
    (H : (a = b ∧ c = d) ∧ g = h) : (P.isclose a b r t e ∧ P.isclose c d r t e) ∧ P.isclose g h r t e :=
  ⟨⟨P.isclose_of_eq H.1.1 hr ht e, P.isclose_of_eq H.1.2 hr ht e⟩, P.isclose_of_eq H.2 hr ht e⟩

private theorem isclose3_mono {r t r' t' e a b c d g h : ℝ} (hr : r ≤ r') (ht : t ≤ t')
    (H : (P.isclose a b r t e ∧ P.isclose c d r t e) ∧ P.isclose g h r t e) :
    (P.isclose a b r' t' e ∧ P.isclose c d r' t' e) ∧ P.isclose g h r' t' e :=
  ⟨⟨P.isclose_mono H.1.1 hr ht, P.isclose_mono H.1.2 hr ht⟩, P.isclose_mono H.2 hr ht⟩

theorem c12_planar_isclose_of_eq (k0 k1 : Az) (r t e a0 a1 a2 a3 : ℝ) (hr : 0 ≤ r) (ht : 0 ≤ t)
    (h : planar_equal.eval k0 k1 a0 a1 a2 a3) : planar_isclose.eval k0 k1 r t e a0 a1 a2 a3 := by
  revert h
  cases k0 <;> cases k1 <;> simp only [d_planar_isclose, d_planar_equal] <;>
    rintro ⟨h1, h2⟩ <;> exact ⟨P.isclose_of_eq h1 hr ht _, P.isclose_of_eq h2 hr ht _⟩

theorem c12_spatial_isclose_of_eq (k0 : Az) (k1 : Lon) (k2 : Az) (k3 : Lon) (r t e a0 a1 a2 a3 a4 a5 : ℝ)
    (hr : 0 ≤ r) (ht : 0 ≤ t) (h : spatial_equal.eval k0 k1 k2 k3 a0 a1 a2 a3 a4 a5) :
    spatial_isclose.eval k0 k1 k2 k3 r t e a0 a1 a2 a3 a4 a5 := by
  cases k0 <;> cases k1 <;> cases k2 <;> cases k3 <;> exact isclose3_of_eq hr ht e h

theorem c12_lorentz_isclose_of_eq (k0 : Az) (k1 : Lon) (k2 : Tmp) (k3 : Az) (k4 : Lon) (k5 : Tmp)
    (r t e a0 a1 a2 a3 a4 a5 a6 a7 : ℝ) (hr : 0 ≤ r) (ht : 0 ≤ t)
    (h : lorentz_equal.eval k0 k1 k2 k3 k4 k5 a0 a1 a2 a3 a4 a5 a6 a7) :
    lorentz_isclose.eval k0 k1 k2 k3 k4 k5 r t e a0 a1 a2 a3 a4 a5 a6 a7 := by
  rw [lorentz_equal_eval_eq] at h
  rw [lorentz_isclose_eval_eq]
  exact ⟨P.isclose_of_eq h.1 hr ht e, c12_spatial_isclose_of_eq k0 k1 k3 k4 r t e a0 a1 a2 a4 a5 a6 hr ht h.2⟩

theorem c12_planar_isclose_mono (k0 k1 : Az) (r t r' t' e a0 a1 a2 a3 : ℝ) (hr : r ≤ r') (ht : t ≤ t')
    (h : planar_isclose.eval k0 k1 r t e a0 a1 a2 a3) : planar_isclose.eval k0 k1 r' t' e a0 a1 a2 a3 := by
  revert h
  cases k0 <;> cases k1 <;> simp only [d_planar_isclose] <;>
    rintro ⟨h1, h2⟩ <;> exact ⟨P.isclose_mono h1 hr ht, P.isclose_mono h2 hr ht⟩

theorem c12_spatial_isclose_mono (k0 : Az) (k1 : Lon) (k2 : Az) (k3 : Lon) (r t r' t' e a0 a1 a2 a3 a4 a5 : ℝ)
    (hr : r ≤ r') (ht : t ≤ t') (h : spatial_isclose.eval k0 k1 k2 k3 r t e a0 a1 a2 a3 a4 a5) :
    spatial_isclose.eval k0 k1 k2 k3 r' t' e a0 a1 a2 a3 a4 a5 := by
  cases k0 <;> cases k1 <;> cases k2 <;> cases k3 <;> exact isclose3_mono hr ht h

theorem c12_lorentz_isclose_mono (k0 : Az) (k1 : Lon) (k2 : Tmp) (k3 : Az) (k4 : Lon) (k5 : Tmp)
    (r t r' t' e a0 a1 a2 a3 a4 a5 a6 a7 : ℝ) (hr : r ≤ r') (ht : t ≤ t')
    (h : lorentz_isclose.eval k0 k1 k2 k3 k4 k5 r t e a0 a1 a2 a3 a4 a5 a6 a7) :
    lorentz_isclose.eval k0 k1 k2 k3 k4 k5 r' t' e a0 a1 a2 a3 a4 a5 a6 a7 := by
  rw [lorentz_isclose_eval_eq] at h ⊢
  exact ⟨P.isclose_mono h.1 hr ht, c12_spatial_isclose_mono k0 k1 k3 k4 r t r' t' e a0 a1 a2 a4 a5 a6 hr ht h.2⟩

/-! non-vacuity: a concrete pair meeting the hypotheses -/
example : planar_equal.eval .xy .xy 1 2 1 2 ∧ (0:ℝ) ≤ 1e-5 := by
  simp only [d_planar_equal]; norm_num

end VR
