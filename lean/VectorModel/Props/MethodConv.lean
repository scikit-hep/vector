/-
Coordinate conversions (`to_<system>()`) and the angular/distance binary methods at the level of PUBLIC METHODS:
glue ∘ compute, instantiated with the generated real compute layer `evR` (prefix `c04m_`; recipe: header of
`Props/C01Method.lean`).

Part A, conversions.  `toSystem` reads every coordinate of the target system through its accessor: `toSystem_evR` says so for
any well-formed operand and any target, with the converted coordinates named `conv2`, `convLon`, `convTmp`; `conv2_x`,
`conv2_y`, `convLon_z`, `convTmp_t` say what they denote, under the hypotheses `LonOK`, `TmpOK` (collected on a vector as
`FwdOK`).  A.1: all 40 `to_<system>()` names on a vector of the target's dimension keep the denotation
(`c04m_toSystem_denote`, `c04m_to_denote`); A.2: every round trip returns the stored coordinates exactly, under `RtOK`
(`c04m_roundtrip`); A.3: on a lower-dimensional vector the missing coordinates are the keyword values or `0.0`, verbatim
(`c04m_lower_dim`), and on a higher-dimensional one the result is the projection (`c04m_to_project`).

Part B, the scalar- and truth-valued binary methods, in every storage pairing.  B.1 `deltaphi` (any dimensions); B.2
`deltaeta`, `deltaR2`, `deltaR`, `deltaangle` (3D / 4D operands, mixed allowed: `delta_eval`); B.3 `is_parallel`,
`is_antiparallel`, `is_perpendicular` (equal dimensions; 3D and 4D through the spatial modules: `pred_eval2`, `pred_eval3`),
with their guards.
-/
import VectorModel.Props.C01Method
import VectorModel.Props.MethodBin
import VectorModel.Props.C04
import VectorModel.Props.C13
import VectorModel.Refine.SpatialBin

set_option linter.unusedVariables false
set_option linter.constructorNameAsVariable false

namespace VR
namespace C04M
open VK VG Spec Real C01M
open C11M (dispatch_pair_scalar dispatch_pair_truth call_bin9)

/-! ### the converted coordinates (what `toSystem` computes, accessor by accessor) -/

/-- azimuthal coordinates of the target system `az` read from storage `az0` -/
noncomputable def conv2 (az0 az : Az) (a b : ℝ) : ℝ × ℝ :=
  match az with
  | .xy => (planar_x.eval az0 a b, planar_y.eval az0 a b)
  | .rhophi => (planar_rho.eval az0 a b, planar_phi.eval az0 a b)

/-- longitudinal coordinate of the target system `l` read from storage `(az0, l0)` -/
noncomputable def convLon (az0 : Az) (l0 l : Lon) (a b c : ℝ) : ℝ :=
  match l with
  | .z => spatial_z.eval az0 l0 a b c
  | .theta => spatial_theta.eval az0 l0 a b c
  | .eta => spatial_eta.eval az0 l0 a b c

/-- temporal coordinate of the target system `tm` read from storage `(az0, l0, t0)` -/
noncomputable def convTmp (az0 : Az) (l0 : Lon) (t0 tm : Tmp) (a b c d : ℝ) : ℝ :=
  match tm with
  | .t => lorentz_t.eval az0 l0 t0 a b c d
  | .tau => lorentz_tau.eval az0 l0 t0 a b c d

/-! ### evaluation of `toSystem`: every coordinate of the target system is read through its accessor -/

theorem getS_azPair (v : Vec ℝ) (hv : C01M.WFV v) (az : Az) :
    (azCNames az).mapM (fun n => getS evR n.acc v) =
      .ok [(conv2 v.ty.az az (c3 v).1 (c3 v).2.1).1, (conv2 v.ty.az az (c3 v).1 (c3 v).2.1).2] := by
  cases az
  · simp only [azCNames, List.mapM_cons, List.mapM_nil, CName.acc, getS_accR .x hv (two_le_dim _) (.inl rfl),
      getS_accR .y hv (two_le_dim _) (.inl rfl)]
    rfl
  · simp only [azCNames, List.mapM_cons, List.mapM_nil, CName.acc, getS_accR .rho hv (two_le_dim _) (.inl rfl),
      getS_accR .phi hv (two_le_dim _) (.inl rfl)]
    rfl

theorem getS_lon (v : Vec ℝ) (hv : C01M.WFV v) (hd : 3 ≤ v.ty.dim) (l : Lon) :
    getS evR (lonCName l).acc v = .ok (convLon v.ty.az (lonOf v) l (c3 v).1 (c3 v).2.1 (c3 v).2.2) := by
  cases l <;> exact getS_accR _ hv hd (.inl rfl)

theorem getS_tmp (be mom az0 l0 t0) (a b c d : ℝ) (tm : Tmp) :
    getS evR (tmpCName tm).acc ⟨⟨be, mom, az0, some l0, some t0⟩, [a, b, c, d]⟩ =
      .ok (convTmp az0 l0 t0 tm a b c d) := by
  cases tm <;> exact getS_accR _ ⟨by simp, rfl⟩ (Nat.le_refl 4) (.inl rfl)

/-- **`toSystem` over the real compute layer, any well-formed operand and any target**: the azimuthal pair is converted;
a longitudinal / temporal coordinate is converted when the operand stores one and imputed (keyword value or `z`)
otherwise -/
theorem toSystem_evR (z : ℝ) (v : Vec ℝ) (hv : C01M.WFV v) (az : Az) (lon : Option Lon) (tmp : Option Tmp)
    (kl kt : Option ℝ) :
    toSystem evR z v az lon tmp kl kt = .ok ⟨{ v.ty with az := az, lon := lon, tmp := tmp },
      [(conv2 v.ty.az az (c3 v).1 (c3 v).2.1).1, (conv2 v.ty.az az (c3 v).1 (c3 v).2.1).2] ++
      (lon.map fun l =>
        if 3 ≤ v.ty.dim then convLon v.ty.az (lonOf v) l (c3 v).1 (c3 v).2.1 (c3 v).2.2 else kl.getD z).toList ++
      (tmp.map fun tm =>
        if 4 ≤ v.ty.dim then convTmp v.ty.az (lonOf v) (C11M.tmpOf v) tm (c3 v).1 (c3 v).2.1 (c3 v).2.2 (C11M.c4 v)
        else kt.getD z).toList⟩ := by
  have ha := getS_azPair v hv az
  have hl := getS_lon v hv
  rcases wfv_cases hv with ⟨be, mom, az0, a, b, rfl⟩ | ⟨be, mom, az0, l0, a, b, c, rfl⟩ |
    ⟨be, mom, az0, l0, t0, a, b, c, d, rfl⟩
  · simp only [toSystem, ha]
    cases lon <;> cases tmp <;> rfl
  all_goals
    simp only [toSystem, ha, hl (by simp [VT.dim]), getS_tmp]
    cases lon <;> cases tmp <;> rfl

theorem toSystem_eval2 (z : ℝ) (be mom az0 az) (a b : ℝ) (kl kt : Option ℝ) :
    toSystem evR z ⟨⟨be, mom, az0, none, none⟩, [a, b]⟩ az none none kl kt =
      .ok ⟨⟨be, mom, az, none, none⟩, [(conv2 az0 az a b).1, (conv2 az0 az a b).2]⟩ :=
  toSystem_evR z _ ⟨by simp, rfl⟩ ..

theorem toSystem_eval3 (z : ℝ) (be mom az0 l0 az l) (a b c : ℝ) (kl kt : Option ℝ) :
    toSystem evR z ⟨⟨be, mom, az0, some l0, none⟩, [a, b, c]⟩ az (some l) none kl kt =
      .ok ⟨⟨be, mom, az, some l, none⟩, [(conv2 az0 az a b).1, (conv2 az0 az a b).2, convLon az0 l0 l a b c]⟩ :=
  toSystem_evR z _ ⟨by simp, rfl⟩ ..

theorem toSystem_eval4 (z : ℝ) (be mom az0 l0 t0 az l tm) (a b c d : ℝ) (kl kt : Option ℝ) :
    toSystem evR z ⟨⟨be, mom, az0, some l0, some t0⟩, [a, b, c, d]⟩ az (some l) (some tm) kl kt =
      .ok ⟨⟨be, mom, az, some l, some tm⟩,
        [(conv2 az0 az a b).1, (conv2 az0 az a b).2, convLon az0 l0 l a b c, convTmp az0 l0 t0 tm a b c d]⟩ :=
  toSystem_evR z _ ⟨by simp, rfl⟩ ..

/-- 2D operand, 3D target: the longitudinal coordinate is the keyword value or `0.0` -/
theorem toSystem_eval23 (z : ℝ) (be mom az0 az l) (a b : ℝ) (kl kt : Option ℝ) :
    toSystem evR z ⟨⟨be, mom, az0, none, none⟩, [a, b]⟩ az (some l) none kl kt =
      .ok ⟨⟨be, mom, az, some l, none⟩, [(conv2 az0 az a b).1, (conv2 az0 az a b).2, kl.getD z]⟩ :=
  toSystem_evR z _ ⟨by simp, rfl⟩ ..

theorem toSystem_eval24 (z : ℝ) (be mom az0 az l tm) (a b : ℝ) (kl kt : Option ℝ) :
    toSystem evR z ⟨⟨be, mom, az0, none, none⟩, [a, b]⟩ az (some l) (some tm) kl kt =
      .ok ⟨⟨be, mom, az, some l, some tm⟩, [(conv2 az0 az a b).1, (conv2 az0 az a b).2, kl.getD z, kt.getD z]⟩ :=
  toSystem_evR z _ ⟨by simp, rfl⟩ ..

theorem toSystem_eval34 (z : ℝ) (be mom az0 l0 az l tm) (a b c : ℝ) (kl kt : Option ℝ) :
    toSystem evR z ⟨⟨be, mom, az0, some l0, none⟩, [a, b, c]⟩ az (some l) (some tm) kl kt =
      .ok ⟨⟨be, mom, az, some l, some tm⟩,
        [(conv2 az0 az a b).1, (conv2 az0 az a b).2, convLon az0 l0 l a b c, kt.getD z]⟩ :=
  toSystem_evR z _ ⟨by simp, rfl⟩ ..

theorem toSystem_eval32 (z : ℝ) (be mom az0 l0 az) (a b c : ℝ) (kl kt : Option ℝ) :
    toSystem evR z ⟨⟨be, mom, az0, some l0, none⟩, [a, b, c]⟩ az none none kl kt =
      .ok ⟨⟨be, mom, az, none, none⟩, [(conv2 az0 az a b).1, (conv2 az0 az a b).2]⟩ :=
  toSystem_evR z _ ⟨by simp, rfl⟩ ..

theorem toSystem_eval42 (z : ℝ) (be mom az0 l0 t0 az) (a b c d : ℝ) (kl kt : Option ℝ) :
    toSystem evR z ⟨⟨be, mom, az0, some l0, some t0⟩, [a, b, c, d]⟩ az none none kl kt =
      .ok ⟨⟨be, mom, az, none, none⟩, [(conv2 az0 az a b).1, (conv2 az0 az a b).2]⟩ :=
  toSystem_evR z _ ⟨by simp, rfl⟩ ..

theorem toSystem_eval43 (z : ℝ) (be mom az0 l0 t0 az l) (a b c d : ℝ) (kl kt : Option ℝ) :
    toSystem evR z ⟨⟨be, mom, az0, some l0, some t0⟩, [a, b, c, d]⟩ az (some l) none kl kt =
      .ok ⟨⟨be, mom, az, some l, none⟩, [(conv2 az0 az a b).1, (conv2 az0 az a b).2, convLon az0 l0 l a b c]⟩ :=
  toSystem_evR z _ ⟨by simp, rfl⟩ ..

/-! ### what the converted coordinates denote -/

/-- the `x` denoted by the converted azimuthal pair — no hypothesis (also at the origin, where `arctan2` is arbitrary) -/
theorem conv2_x (az0 az : Az) (a b : ℝ) :
    xOf az (conv2 az0 az a b).1 (conv2 az0 az a b).2 = xOf az0 a b := by
  cases az0 <;> cases az
  · rfl
  · exact L.sqrt_mul_cos_arctan2 a b
  · rfl
  · rfl

theorem conv2_y (az0 az : Az) (a b : ℝ) :
    yOf az (conv2 az0 az a b).1 (conv2 az0 az a b).2 = yOf az0 a b := by
  cases az0 <;> cases az
  · rfl
  · exact L.sqrt_mul_sin_arctan2 a b
  · rfl
  · rfl

theorem conv2_rho (az0 az : Az) (a b : ℝ) (h : Canon2 az0 a b) :
    rhoOf az (conv2 az0 az a b).1 (conv2 az0 az a b).2 = rhoOf az0 a b := by
  cases az0 <;> cases az
  · rfl
  · rfl
  · have e := Spec.sq_xOf_add_sq_yOf .rhophi a b
    show sqrt (xOf .rhophi a b ^ 2 + yOf .rhophi a b ^ 2) = a
    rw [e]; exact sqrt_sq h
  · rfl

/-- hypothesis under which the longitudinal coordinate `l` read from storage `(az0, l0)` denotes the same `z` -/
def LonOK (az0 : Az) (l0 l : Lon) (a b c : ℝ) : Prop :=
  match l with
  | .z => TanOK l0 c
  | .theta => 0 < rhoOf az0 a b
  | .eta => 0 < rhoOf az0 a b ∧ CanonLon az0 l0 a b c

theorem convLon_z (az0 az : Az) (l0 l : Lon) (a b c : ℝ) (h : LonOK az0 l0 l a b c) :
    zOf az l (conv2 az0 az a b).1 (conv2 az0 az a b).2 (convLon az0 l0 l a b c) = zOf az0 l0 a b c := by
  cases l
  · simp only [zOf, convLon]
    exact refine_spatial_z az0 l0 a b c h
  · have hr : 0 < rhoOf az0 a b := h
    have e := refine_spatial_theta_zOf az0 l0 a b c hr
    simp only [zOf, convLon] at e ⊢
    rw [conv2_rho _ _ _ _ (canon2_of_rho_pos hr)]; exact e
  · have hr : 0 < rhoOf az0 a b := h.1
    have e := refine_spatial_eta_zOf az0 l0 a b c hr h.2
    simp only [zOf, convLon] at e ⊢
    rw [conv2_rho _ _ _ _ (canon2_of_rho_pos hr)]; exact e

theorem conv_mag2 (az0 az : Az) (l0 l : Lon) (a b c : ℝ) (h : LonOK az0 l0 l a b c) :
    mag2Of az l (conv2 az0 az a b).1 (conv2 az0 az a b).2 (convLon az0 l0 l a b c) = mag2Of az0 l0 a b c := by
  simp only [mag2Of, conv2_x, conv2_y, convLon_z _ _ _ _ _ _ _ h]

/-- hypothesis under which the temporal coordinate `tm` read from storage `(az0, l0, t0)` denotes the same `t` -/
def TmpOK (az0 : Az) (l0 : Lon) (t0 tm : Tmp) (a b c d : ℝ) : Prop :=
  match t0, tm with
  | .t, .t => True
  | .tau, .tau => True
  | .tau, .t => CanonLon az0 l0 a b c ∧ 0 ≤ d
  | .t, .tau => CanonLon az0 l0 a b c ∧ 0 ≤ d ∧ mag2Of az0 l0 a b c ≤ d ^ 2

theorem sign_mul_sqrt_abs_sq (s : ℝ) : (Real.sign s * sqrt |s|) ^ 2 = |s| := by
  rcases lt_trichotomy s 0 with hs | hs | hs
  · rw [Real.sign_of_neg hs, mul_pow, sq_sqrt (abs_nonneg s)]; ring
  · subst hs; simp
  · rw [Real.sign_of_pos hs, mul_pow, sq_sqrt (abs_nonneg s)]; ring

theorem convTmp_t (az0 az : Az) (l0 l : Lon) (t0 tm : Tmp) (a b c d : ℝ) (h : LonOK az0 l0 l a b c)
    (ht : TmpOK az0 l0 t0 tm a b c d) :
    tOf az l tm (conv2 az0 az a b).1 (conv2 az0 az a b).2 (convLon az0 l0 l a b c) (convTmp az0 l0 t0 tm a b c d)
      = tOf az0 l0 t0 a b c d := by
  have hM := conv_mag2 az0 az l0 l a b c h
  cases t0 <;> cases tm
  · simp only [tOf, convTmp]
    cases az0 <;> cases l0 <;> rfl
  · obtain ⟨hc, hd, hm⟩ := ht
    simp only [tOf, convTmp, hM]
    rw [refine_lorentz_tau az0 l0 .t a b c d hc trivial, sign_mul_sqrt_abs_sq]
    simp only [tOf]
    rw [abs_of_nonneg (by linarith), sub_add_cancel, sqrt_sq hd]
  · obtain ⟨hc, hd⟩ := ht
    simp only [tOf, convTmp]
    exact refine_lorentz_t az0 l0 .tau a b c d hc hd
  · simp only [tOf, convTmp, hM, refine_lorentz_tau_of_tau]

/-! ### Part A.1 — `to_<system>()` on a vector of the target's dimension: same denotation -/

/-- representability hypotheses of converting `v` to the longitudinal / temporal systems `lon`, `tmp`
(none for the azimuthal part; none when the target has the group in the stored system… see `LonOK`, `TmpOK`) -/
def FwdOK (v : Vec ℝ) (lon : Option Lon) (tmp : Option Tmp) : Prop :=
  match v.ty.lon, v.ty.tmp, v.c, lon, tmp with
  | some l0, none, [a, b, c], some l, _ => LonOK v.ty.az l0 l a b c
  | some l0, some t0, [a, b, c, d], some l, none => LonOK v.ty.az l0 l a b c
  | some l0, some t0, [a, b, c, d], some l, some tm => LonOK v.ty.az l0 l a b c ∧ TmpOK v.ty.az l0 t0 tm a b c d
  | _, _, _, _, _ => True

/-- **`toSystem` on a vector of the dimension of the target system, every storage → every system**: the result has the
backend and flavor of `v`, the requested coordinate systems, and denotes the same Cartesian components -/
theorem c04m_toSystem_denote (z : ℝ) (v : Vec ℝ) (hv : C01M.WFV v) (az : Az) (lon : Option Lon) (tmp : Option Tmp)
    (hl : lon.isSome = v.ty.lon.isSome) (ht : tmp.isSome = v.ty.tmp.isSome) (h : FwdOK v lon tmp) (kl kt : Option ℝ) :
    ∃ r, toSystem evR z v az lon tmp kl kt = .ok r ∧ r.ty = { v.ty with az := az, lon := lon, tmp := tmp } ∧ C01M.WFV r ∧
      denote r = denote v := by
  rcases wfv_cases hv with ⟨be, mom, az0, a, b, rfl⟩ | ⟨be, mom, az0, l0, a, b, c, rfl⟩ |
    ⟨be, mom, az0, l0, t0, a, b, c, d, rfl⟩
  · rcases lon with _ | l <;> rcases tmp with _ | tm <;> simp at hl ht
    refine ⟨_, toSystem_eval2 z be mom az0 az a b kl kt, rfl, ⟨by simp, rfl⟩, ?_⟩
    simp only [denote, conv2_x, conv2_y]
  · rcases lon with _ | l <;> rcases tmp with _ | tm <;> simp at hl ht
    refine ⟨_, toSystem_eval3 z be mom az0 l0 az l a b c kl kt, rfl, ⟨by simp, rfl⟩, ?_⟩
    have h' : LonOK az0 l0 l a b c := h
    simp only [denote, conv2_x, conv2_y, convLon_z _ _ _ _ _ _ _ h']
  · rcases lon with _ | l <;> rcases tmp with _ | tm <;> simp at hl ht
    refine ⟨_, toSystem_eval4 z be mom az0 l0 t0 az l tm a b c d kl kt, rfl, ⟨by simp, rfl⟩, ?_⟩
    have h' : LonOK az0 l0 l a b c ∧ TmpOK az0 l0 t0 tm a b c d := h
    simp only [denote, conv2_x, conv2_y, convLon_z _ _ _ _ _ _ _ h'.1, convTmp_t _ _ _ _ _ _ _ _ _ _ h'.1 h'.2]

/-- every entry of the table of the 40 conversions is found under its own name (the names are distinct) -/
theorem toTable_find : ∀ e ∈ toTable, toTable.find? (·.1 == e.1) = some e :=
  fun _ he => c04_find?_key c04_toTable_names_nodup he

/-- **all 40 `to_<system>()` methods** (generic and momentum spellings) on a vector of the dimension of the target, in
every storage: `Ok` of a vector with the backend and flavor of `v`, stored in the target system, with THE SAME denotation -/
theorem c04m_to_denote (K : Consts ℝ) (A : Arith ℝ) (e : String × Az × Option Lon × Option Tmp × String × String)
    (he : e ∈ toTable) (v : Vec ℝ) (hv : C01M.WFV v) (hl : e.2.2.1.isSome = v.ty.lon.isSome)
    (ht : e.2.2.2.1.isSome = v.ty.tmp.isSome) (h : FwdOK v e.2.2.1 e.2.2.2.1) :
    ∃ r, call evR K A e.1 v [] = .ok (.vec r) ∧
      r.ty = { v.ty with az := e.2.1, lon := e.2.2.1, tmp := e.2.2.2.1 } ∧ C01M.WFV r ∧ denote r = denote v := by
  obtain ⟨r, h1, h2, h3, h4⟩ := c04m_toSystem_denote K.zeroF v hv e.2.1 e.2.2.1 e.2.2.2.1 hl ht h none none
  refine ⟨r, ?_, h2, h3, h4⟩
  rw [c04_call_to evR K A e.1 v e (toTable_find e he), h1]; rfl

theorem wfv_iff (v : Vec ℝ) : C01M.WFV v ↔ VG.WFV v := Iff.rfl

/-- the real compute layer satisfies the identity laws of Props/C15, C04 (so `c04_call_to_id`, `c04_toSystem_id` apply) -/
theorem c04m_idLaws : IdLaws evR where
  x := fun a b => rfl
  y := fun a b => rfl
  rho := fun a b => rfl
  phi := fun a b => rfl
  z := fun az a b c => by cases az <;> rfl
  theta := fun az a b c => by cases az <;> rfl
  eta := fun az a b c => by cases az <;> rfl
  t := fun az lon a b c d => by cases az <;> cases lon <;> rfl
  tau := fun az lon a b c d => by cases az <;> cases lon <;> rfl

/-- the same by method NAME: any of the 40 names `n` whose target system (`C04.toTarget`, the table lookup) is
`(az, lon, tmp)` — e.g. `"to_rhophieta"` and its momentum spelling `"to_ptphieta"` (`c04_toTable_synonyms`) -/
theorem c04m_to_denote_name (K : Consts ℝ) (A : Arith ℝ) (n : String) (az : Az) (lon : Option Lon) (tmp : Option Tmp)
    (hn : C04.toTarget n = some (az, lon, tmp)) (v : Vec ℝ) (hv : C01M.WFV v) (hl : lon.isSome = v.ty.lon.isSome)
    (ht : tmp.isSome = v.ty.tmp.isSome) (h : FwdOK v lon tmp) :
    ∃ r, call evR K A n v [] = .ok (.vec r) ∧ r.ty = { v.ty with az := az, lon := lon, tmp := tmp } ∧ C01M.WFV r ∧
      denote r = denote v := by
  unfold C04.toTarget at hn
  cases he : toTable.find? (·.1 == n) with
  | none => simp [he] at hn
  | some e =>
    have hmem := List.mem_of_find?_eq_some he
    have hname : e.1 = n := by simpa using List.find?_some he
    simp only [he, Option.map_some, Option.some.injEq, Prod.mk.injEq] at hn
    obtain ⟨rfl, rfl, rfl⟩ := hn
    rw [← hname]
    exact c04m_to_denote K A e hmem v hv hl ht h

/-- `Vector2D(x=3, y=4).to_ptphi()` … on a momentum vector: polar storage, same point -/
example (K : Consts ℝ) (A : Arith ℝ) :
    ∃ r, call evR K A "to_ptphi" ⟨⟨.obj, true, .xy, none, none⟩, [3, 4]⟩ [] = .ok (.vec r) ∧
      r.ty = ⟨.obj, true, .rhophi, none, none⟩ ∧ denote r = some [3, 4] := by
  obtain ⟨r, h1, h2, _, h4⟩ := c04m_to_denote K A ("to_ptphi", .rhophi, none, none, "", "") (by decide)
    ⟨⟨.obj, true, .xy, none, none⟩, [3, 4]⟩ ⟨by simp, rfl⟩ rfl rfl trivial
  exact ⟨r, h1, h2, by rw [h4]; rfl⟩

/-- `MomentumObject4D(px=3, py=4, pz=1, E=13).to_ptphietamass()`: the hypotheses (`0 < ρ`; `0 ≤ E`, `|p|² ≤ E²`) hold -/
example (K : Consts ℝ) (A : Arith ℝ) :
    ∃ r, call evR K A "to_ptphietamass" ⟨⟨.obj, true, .xy, some .z, some .t⟩, [3, 4, 1, 13]⟩ [] = .ok (.vec r) ∧
      r.ty = ⟨.obj, true, .rhophi, some .eta, some .tau⟩ ∧ denote r = some [3, 4, 1, 13] := by
  have hr : 0 < rhoOf .xy 3 4 := L.sqrt_sumsq_pos (Or.inl (by norm_num))
  have hF : FwdOK ⟨⟨.obj, true, .xy, some .z, some .t⟩, [3, 4, 1, 13]⟩ (some .eta) (some .tau) := by
    show LonOK .xy .z .eta 3 4 1 ∧ TmpOK .xy .z .t .tau 3 4 1 13
    exact ⟨⟨hr, trivial⟩, trivial, by norm_num, by simp only [mag2Of, xOf, yOf, zOf]; norm_num⟩
  obtain ⟨r, h1, h2, _, h4⟩ := c04m_to_denote K A ("to_ptphietamass", .rhophi, some .eta, some .tau, "eta", "mass")
    (by decide) ⟨⟨.obj, true, .xy, some .z, some .t⟩, [3, 4, 1, 13]⟩ ⟨by simp, rfl⟩ rfl rfl hF
  exact ⟨r, h1, h2, by rw [h4]; rfl⟩

/-! ### Part A.2 — round trips -/

/-- polar storage canonical and off the origin: `0 < ρ`, `-π < φ ≤ π` (nothing for Cartesian storage) -/
def PolarOK : Az → ℝ → ℝ → Prop
  | .xy, _, _ => True
  | .rhophi, r, p => 0 < r ∧ -π < p ∧ p ≤ π

theorem canon2_of_polarOK {az0 : Az} {a b : ℝ} (h : PolarOK az0 a b) : Canon2 az0 a b := by
  cases az0
  · trivial
  · exact le_of_lt h.1

theorem conv2_roundtrip (az0 az : Az) (a b : ℝ) (h : PolarOK az0 a b) :
    conv2 az az0 (conv2 az0 az a b).1 (conv2 az0 az a b).2 = (a, b) := by
  cases az0 <;> cases az
  · rfl
  · exact Prod.ext (L.sqrt_mul_cos_arctan2 a b) (L.sqrt_mul_sin_arctan2 a b)
  · refine Prod.ext ?_ ?_
    · exact conv2_rho .rhophi .xy a b (le_of_lt h.1)
    · exact L.arctan2_polar h.1 h.2.1 h.2.2
  · rfl

theorem convLon_self (az : Az) (l : Lon) (a b c : ℝ) : convLon az l l a b c = c := by
  cases az <;> cases l <;> rfl

theorem convTmp_self (az : Az) (l : Lon) (t : Tmp) (a b c d : ℝ) : convTmp az l t t a b c d = d := by
  cases az <;> cases l <;> cases t <;> rfl

theorem conv_canonLon (az0 az : Az) (l0 l : Lon) (a b c : ℝ)
    (h : l = .z ∨ (0 < rhoOf az0 a b ∧ CanonLon az0 l0 a b c)) :
    CanonLon az l (conv2 az0 az a b).1 (conv2 az0 az a b).2 (convLon az0 l0 l a b c) := by
  rcases h with rfl | ⟨hr, hc⟩
  · trivial
  · have hr' : 0 < rhoOf az (conv2 az0 az a b).1 (conv2 az0 az a b).2 := by
      rw [conv2_rho _ _ _ _ (canon2_of_rho_pos hr)]; exact hr
    cases l
    · trivial
    · exact ⟨hr', refine_spatial_theta_mem az0 l0 a b c hr hc⟩
    · exact hr'

/-- hypothesis of the longitudinal round trip `l0 → l → l0`: nothing when `l = l0`; otherwise off the z axis, canonical
(`0 < θ < π`), and off the plane `z = 0` where a θ meets `tan θ` (θ stored: `cos θ ≠ 0`; z ↔ θ: `z ≠ 0`) -/
def LonRT (az0 : Az) (l0 l : Lon) (a b c : ℝ) : Prop :=
  l = l0 ∨ (0 < rhoOf az0 a b ∧ CanonLon az0 l0 a b c ∧ TanOK l0 c ∧ (l0 = .z → l = .theta → c ≠ 0))

theorem lonOK_of_RT {az0 : Az} {l0 l : Lon} {a b c : ℝ} (hr : 0 < rhoOf az0 a b) (hc : CanonLon az0 l0 a b c)
    (ht : TanOK l0 c) : LonOK az0 l0 l a b c := by
  cases l
  · exact ht
  · exact hr
  · exact ⟨hr, hc⟩

theorem convLon_roundtrip (az0 az : Az) (l0 l : Lon) (a b c : ℝ) (h2 : Canon2 az0 a b) (h : LonRT az0 l0 l a b c) :
    convLon az l l0 (conv2 az0 az a b).1 (conv2 az0 az a b).2 (convLon az0 l0 l a b c) = c := by
  rcases h with rfl | ⟨hr, hc, ht, hz⟩
  · rw [convLon_self, convLon_self]
  · have hL : LonOK az0 l0 l a b c := lonOK_of_RT hr hc ht
    have hZ := convLon_z az0 az l0 l a b c hL
    have hR := conv2_rho az0 az a b h2
    have hM := conv_mag2 az0 az l0 l a b c hL
    have hc' := conv_canonLon az0 az l0 l a b c (Or.inr ⟨hr, hc⟩)
    have hm : 0 < mag2Of az0 l0 a b c := by rw [Spec.mag2Of_eq]; positivity
    have hr' : 0 < rhoOf az (conv2 az0 az a b).1 (conv2 az0 az a b).2 := by rw [hR]; exact hr
    cases l0
    · have hT : TanOK l (convLon az0 .z l a b c) := by
        cases l
        · trivial
        · show cos (spatial_theta.eval az0 .z a b c) ≠ 0
          rw [refine_spatial_cos_theta az0 .z a b c h2 hr hc]
          have hc0 : c ≠ 0 := hz rfl rfl
          have : zOf az0 .z a b c = c := by simp only [zOf]
          rw [this]
          exact div_ne_zero hc0 (sqrt_pos.mpr hm).ne'
        · trivial
      show spatial_z.eval az l _ _ _ = c
      rw [refine_spatial_z az l _ _ _ hT, hZ]
      simp only [zOf]
    · show spatial_theta.eval az l _ _ _ = c
      rw [refine_spatial_theta az l _ _ _ ⟨canon2_of_rho_pos hr', hc'⟩ (by rw [hM]; exact hm), hZ, hM,
        ← refine_spatial_theta az0 .theta a b c ⟨h2, hc⟩ hm]
      cases az0 <;> rfl
    · show spatial_eta.eval az l _ _ _ = c
      rw [refine_spatial_eta az l _ _ _ hr' hc', hZ, hR, ← refine_spatial_eta az0 .eta a b c hr hc]
      cases az0 <;> rfl

/-- hypothesis of the temporal round trip `t0 → tm → t0`: nothing when `tm = t0`; otherwise the hypotheses under which
the spatial part and the time are converted faithfully (`0 ≤ τ`; `0 ≤ t`, `|p|² ≤ t²` for t → τ) and the converted
longitudinal coordinate is canonical -/
def TmpRT (az0 : Az) (l0 l : Lon) (t0 tm : Tmp) (a b c d : ℝ) : Prop :=
  tm = t0 ∨ (LonOK az0 l0 l a b c ∧ TmpOK az0 l0 t0 tm a b c d ∧
    (l = .z ∨ (0 < rhoOf az0 a b ∧ CanonLon az0 l0 a b c)))

theorem sign_mul_sqrt_abs_nonneg {s : ℝ} (h : 0 ≤ s) : 0 ≤ Real.sign s * sqrt |s| := by
  rcases eq_or_lt_of_le h with hs | hs
  · rw [← hs]; simp
  · rw [Real.sign_of_pos hs, one_mul]; exact sqrt_nonneg _

theorem convTmp_roundtrip (az0 az : Az) (l0 l : Lon) (t0 tm : Tmp) (a b c d : ℝ)
    (h : TmpRT az0 l0 l t0 tm a b c d) :
    convTmp az l tm t0 (conv2 az0 az a b).1 (conv2 az0 az a b).2 (convLon az0 l0 l a b c)
      (convTmp az0 l0 t0 tm a b c d) = d := by
  rcases h with rfl | ⟨hL, hT, hc⟩
  · rw [convTmp_self, convTmp_self]
  · have hc' := conv_canonLon az0 az l0 l a b c hc
    have hM := conv_mag2 az0 az l0 l a b c hL
    have hF := convTmp_t az0 az l0 l t0 tm a b c d hL hT
    cases t0 <;> cases tm
    · rw [convTmp_self, convTmp_self]
    · obtain ⟨hcl, hd, hm⟩ := hT
      have hτ : 0 ≤ convTmp az0 l0 .t .tau a b c d := by
        show 0 ≤ lorentz_tau.eval az0 l0 .t a b c d
        rw [refine_lorentz_tau az0 l0 .t a b c d hcl trivial]
        apply sign_mul_sqrt_abs_nonneg
        simp only [tOf]; linarith
      show lorentz_t.eval az l .tau _ _ _ _ = d
      rw [refine_lorentz_t az l .tau _ _ _ _ hc' hτ, hF]
      simp only [tOf]
    · obtain ⟨hcl, hd⟩ := hT
      show lorentz_tau.eval az l .t _ _ _ _ = d
      rw [refine_lorentz_tau az l .t _ _ _ _ hc' trivial, hM]
      have e : tOf az l .t (conv2 az0 az a b).1 (conv2 az0 az a b).2 (convLon az0 l0 l a b c)
          (convTmp az0 l0 .tau .t a b c d) = sqrt (d ^ 2 + mag2Of az0 l0 a b c) := by
        rw [hF]; simp only [tOf]
      have hm0 : 0 ≤ mag2Of az0 l0 a b c := Spec.mag2Of_nonneg' _ _ _ _ _
      rw [e, sq_sqrt (by positivity), add_sub_cancel_right, abs_of_nonneg (sq_nonneg d), sqrt_sq hd]
      rcases eq_or_lt_of_le hd with h0 | h0
      · rw [← h0]; simp
      · rw [Real.sign_of_pos (by positivity)]; ring
    · rw [convTmp_self, convTmp_self]

/-- hypotheses of the round trip of `v` through the systems `lon`, `tmp` (any azimuthal target) -/
def RtOK (v : Vec ℝ) (lon : Option Lon) (tmp : Option Tmp) : Prop :=
  match v.ty.lon, v.ty.tmp, v.c, lon, tmp with
  | none, none, [a, b], _, _ => PolarOK v.ty.az a b
  | some l0, none, [a, b, c], some l, _ => PolarOK v.ty.az a b ∧ LonRT v.ty.az l0 l a b c
  | some l0, some t0, [a, b, c, d], some l, some tm =>
    PolarOK v.ty.az a b ∧ LonRT v.ty.az l0 l a b c ∧ TmpRT v.ty.az l0 l t0 tm a b c d
  | _, _, _, _, _ => True

/-- **round trip at the level of `toSystem`**, every storage of `v`, every target system of the same dimension:
converting to `(az, lon, tmp)` and back to the stored system of `v` returns `v` itself (same type, the stored
coordinates exactly) -/
theorem c04m_toSystem_roundtrip (z z' : ℝ) (v : Vec ℝ) (hv : C01M.WFV v) (az : Az) (lon : Option Lon)
    (tmp : Option Tmp) (hl : lon.isSome = v.ty.lon.isSome) (ht : tmp.isSome = v.ty.tmp.isSome) (h : RtOK v lon tmp)
    (kl kt kl' kt' : Option ℝ) :
    ∃ w, toSystem evR z v az lon tmp kl kt = .ok w ∧ w.ty = { v.ty with az := az, lon := lon, tmp := tmp } ∧
      toSystem evR z' w v.ty.az v.ty.lon v.ty.tmp kl' kt' = .ok v := by
  rcases wfv_cases hv with ⟨be, mom, az0, a, b, rfl⟩ | ⟨be, mom, az0, l0, a, b, c, rfl⟩ |
    ⟨be, mom, az0, l0, t0, a, b, c, d, rfl⟩
  · rcases lon with _ | l <;> rcases tmp with _ | tm <;> simp at hl ht
    have h' : PolarOK az0 a b := h
    refine ⟨_, toSystem_eval2 z be mom az0 az a b kl kt, rfl, ?_⟩
    rw [toSystem_eval2, conv2_roundtrip az0 az a b h']
  · rcases lon with _ | l <;> rcases tmp with _ | tm <;> simp at hl ht
    have h' : PolarOK az0 a b ∧ LonRT az0 l0 l a b c := h
    refine ⟨_, toSystem_eval3 z be mom az0 l0 az l a b c kl kt, rfl, ?_⟩
    rw [toSystem_eval3, conv2_roundtrip az0 az a b h'.1,
      convLon_roundtrip az0 az l0 l a b c (canon2_of_polarOK h'.1) h'.2]
  · rcases lon with _ | l <;> rcases tmp with _ | tm <;> simp at hl ht
    have h' : PolarOK az0 a b ∧ LonRT az0 l0 l a b c ∧ TmpRT az0 l0 l t0 tm a b c d := h
    refine ⟨_, toSystem_eval4 z be mom az0 l0 t0 az l tm a b c d kl kt, rfl, ?_⟩
    rw [toSystem_eval4, conv2_roundtrip az0 az a b h'.1,
      convLon_roundtrip az0 az l0 l a b c (canon2_of_polarOK h'.1) h'.2.1,
      convTmp_roundtrip az0 az l0 l t0 tm a b c d h'.2.2]

/-- **round trip through the public methods**: for every conversion `e` of the table (all 40 names) of the dimension of
`v`, and every name `e'` of the system `v` is stored in: `v.<e>().<e'>() = v` -/
theorem c04m_roundtrip (K : Consts ℝ) (A : Arith ℝ) (e e' : String × Az × Option Lon × Option Tmp × String × String)
    (he : e ∈ toTable) (he' : e' ∈ toTable) (v : Vec ℝ) (hv : C01M.WFV v)
    (hl : e.2.2.1.isSome = v.ty.lon.isSome) (ht : e.2.2.2.1.isSome = v.ty.tmp.isSome)
    (hs : (e'.2.1, e'.2.2.1, e'.2.2.2.1) = (v.ty.az, v.ty.lon, v.ty.tmp)) (h : RtOK v e.2.2.1 e.2.2.2.1) :
    ∃ w, call evR K A e.1 v [] = .ok (.vec w) ∧
      w.ty = { v.ty with az := e.2.1, lon := e.2.2.1, tmp := e.2.2.2.1 } ∧
      call evR K A e'.1 w [] = .ok (.vec v) := by
  obtain ⟨w, h1, h2, h3⟩ :=
    c04m_toSystem_roundtrip K.zeroF K.zeroF v hv e.2.1 e.2.2.1 e.2.2.2.1 hl ht h none none none none
  simp only [Prod.mk.injEq] at hs
  obtain ⟨s1, s2, s3⟩ := hs
  refine ⟨w, ?_, h2, ?_⟩
  · rw [c04_call_to evR K A e.1 v e (toTable_find e he), h1]; rfl
  · rw [c04_call_to evR K A e'.1 w e' (toTable_find e' he'), s1, s2, s3, h3]; rfl

/-- `(ρ=2, φ=1, θ=1, τ=3).to_xyzt().to_rhophithetatau()` returns the vector itself -/
example (K : Consts ℝ) (A : Arith ℝ) :
    let v : Vec ℝ := ⟨⟨.obj, false, .rhophi, some .theta, some .tau⟩, [2, 1, 1, 3]⟩
    ∃ w, call evR K A "to_xyzt" v [] = .ok (.vec w) ∧ call evR K A "to_rhophithetatau" w [] = .ok (.vec v) := by
  intro v
  have hr : 0 < rhoOf .rhophi 2 1 := by norm_num [rhoOf]
  have hpi : (1 : ℝ) < π := by linarith [two_le_pi]
  have hcl : CanonLon .rhophi .theta 2 1 1 := ⟨hr, one_pos, hpi⟩
  have hR : RtOK v (some .z) (some .t) := by
    show PolarOK .rhophi 2 1 ∧ LonRT .rhophi .theta .z 2 1 1 ∧ TmpRT .rhophi .theta .z .tau .t 2 1 1 3
    refine ⟨⟨by norm_num, by linarith [pi_pos], hpi.le⟩, Or.inr ⟨hr, hcl, Spec.tanOK_one .theta, fun h => nomatch h⟩,
      Or.inr ⟨Spec.tanOK_one .theta, ⟨hcl, by norm_num⟩, Or.inl rfl⟩⟩
  obtain ⟨w, h1, _, h3⟩ := c04m_roundtrip K A ("to_xyzt", .xy, some .z, some .t, "z", "t")
    ("to_rhophithetatau", .rhophi, some .theta, some .tau, "theta", "tau") (by decide) (by decide) v ⟨by simp [v], rfl⟩
    rfl rfl rfl hR
  exact ⟨w, h1, h3⟩

/-! ### Part A.3 — `to_<system>(…)` on a LOWER-dimensional vector: imputation from the keywords -/

theorem toTable_kw_ne : ∀ e ∈ toTable, e.2.2.1.isSome → e.2.2.2.2.1 ≠ e.2.2.2.2.2 := by decide
theorem toTable_tmp_lon : ∀ e ∈ toTable, e.2.2.2.1.isSome → e.2.2.1.isSome := by decide

/-- the keyword arguments of a conversion: `kl` under the entry's longitudinal keyword, `kt` under its temporal one -/
def kwArgs {S : Type} (e : String × Az × Option Lon × Option Tmp × String × String) (kl kt : Option S) : List (Arg S) :=
  (kl.map (Arg.kw e.2.2.2.2.1 ·)).toList ++ (kt.map (Arg.kw e.2.2.2.2.2 ·)).toList

/-- a `to_<system>(kw…)` call with (some of) the keywords the table entry accepts is `toSystem` with those values
(any scalar type, any compute layer; extends `c04_call_to`) -/
theorem c04m_call_to_kw {S B : Type} (ev : Ev S B) (K : Consts S) (A : Arith S)
    (e : String × Az × Option Lon × Option Tmp × String × String) (he : e ∈ toTable) (v : Vec S)
    (kl kt : Option S) (hkl : kl.isSome → e.2.2.1.isSome) (hkt : kt.isSome → e.2.2.2.1.isSome) :
    call ev K A e.1 v (kwArgs e kl kt) = (toSystem ev K.zeroF v e.2.1 e.2.2.1 e.2.2.2.1 kl kt).map .vec := by
  have hf := toTable_find e he
  have hm := c04_toTable_not_mom e he
  have hne := toTable_kw_ne e he
  have htl := toTable_tmp_lon e he
  obtain ⟨n, az, lon, tmp, sl, st⟩ := e
  simp only at hf hm hne htl hkl hkt
  unfold call
  simp only [hm, hf]
  -- the `to_<system>` branch of `call`: every keyword given must be one of the entry's two, which holds when the target has
  -- the group (`hkl`, `hkt`; a temporal group comes with a longitudinal one, `htl`); each value is then looked up under
  -- its own keyword, and found there because the two keywords differ (`hne`)
  rcases kl with _ | s <;> rcases kt with _ | u <;>
    simp only [Option.isSome_some, Option.isSome_none, Bool.false_eq_true, forall_const, false_imp_iff] at hkl hkt
  · simp [kwArgs, kwargs]
  · simp [kwArgs, kwargs, hkt, htl hkt, (hne (htl hkt)).symm]
  · simp [kwArgs, kwargs, hkl, hne hkl]
  · simp [kwArgs, kwargs, hkt, hkl, hne hkl, (hne hkl).symm]

/-- **2D vector, 3D or 4D target (all 36 such names)**: the longitudinal (and temporal) coordinate of the result is the
keyword's value, or `0.0`, VERBATIM in the target's coordinate type; the azimuthal pair denotes the same `(x, y)` -/
theorem c04m_lower_dim_2 (K : Consts ℝ) (A : Arith ℝ) (e : String × Az × Option Lon × Option Tmp × String × String)
    (he : e ∈ toTable) (v : Vec ℝ) (hv : C01M.WFV v) (hd : v.ty.dim = 2) (hlon : e.2.2.1.isSome) (kl kt : Option ℝ)
    (hkt : kt.isSome → e.2.2.2.1.isSome) :
    ∃ r, call evR K A e.1 v (kwArgs e kl kt) = .ok (.vec r) ∧
      r.ty = { v.ty with az := e.2.1, lon := e.2.2.1, tmp := e.2.2.2.1 } ∧ C01M.WFV r ∧
      r.c.drop 2 = kl.getD K.zeroF :: (if e.2.2.2.1.isSome then [kt.getD K.zeroF] else []) ∧
      denote ⟨{ v.ty with az := e.2.1 }, r.c.take 2⟩ = denote v := by
  rw [c04m_call_to_kw evR K A e he v kl kt (fun _ => hlon) hkt]
  obtain ⟨n, az, lon, tmp, sl, st⟩ := e
  rcases wfv_cases hv with ⟨be, mom, az0, a, b, rfl⟩ | ⟨be, mom, az0, l0, a, b, c, rfl⟩ |
    ⟨be, mom, az0, l0, t0, a, b, c, d, rfl⟩
  · rcases lon with _ | l
    · simp at hlon
    rcases tmp with _ | tm
    · refine ⟨_, by rw [toSystem_eval23]; rfl, rfl, ⟨by simp, rfl⟩, rfl, ?_⟩
      simp only [denote, List.take, conv2_x, conv2_y]
    · refine ⟨_, by rw [toSystem_eval24]; rfl, rfl, ⟨by simp, rfl⟩, rfl, ?_⟩
      simp only [denote, List.take, conv2_x, conv2_y]
  · simp [VT.dim] at hd
  · simp [VT.dim] at hd

/-- **3D vector, 4D target (all 24 such names)**: the temporal coordinate of the result is the keyword's value, or `0.0`,
VERBATIM in the target's coordinate type (`t` or `tau`); the spatial part denotes the same `(x, y, z)` -/
theorem c04m_lower_dim_3 (K : Consts ℝ) (A : Arith ℝ) (e : String × Az × Option Lon × Option Tmp × String × String)
    (he : e ∈ toTable) (v : Vec ℝ) (hv : C01M.WFV v) (hd : v.ty.dim = 3) (htmp : e.2.2.2.1.isSome)
    (h : FwdOK v e.2.2.1 e.2.2.2.1) (kt : Option ℝ) :
    ∃ r, call evR K A e.1 v (kwArgs e none kt) = .ok (.vec r) ∧
      r.ty = { v.ty with az := e.2.1, lon := e.2.2.1, tmp := e.2.2.2.1 } ∧ C01M.WFV r ∧
      r.c.drop 3 = [kt.getD K.zeroF] ∧
      denote ⟨{ v.ty with az := e.2.1, lon := e.2.2.1 }, r.c.take 3⟩ = denote v := by
  rw [c04m_call_to_kw evR K A e he v none kt (fun h => nomatch h) (fun _ => htmp)]
  have hlon := toTable_tmp_lon e he htmp
  obtain ⟨n, az, lon, tmp, sl, st⟩ := e
  rcases wfv_cases hv with ⟨be, mom, az0, a, b, rfl⟩ | ⟨be, mom, az0, l0, a, b, c, rfl⟩ |
    ⟨be, mom, az0, l0, t0, a, b, c, d, rfl⟩
  · simp [VT.dim] at hd
  · rcases lon with _ | l
    · simp at hlon
    rcases tmp with _ | tm
    · simp at htmp
    have h' : LonOK az0 l0 l a b c := h
    refine ⟨_, by rw [toSystem_eval34]; rfl, rfl, ⟨by simp, rfl⟩, rfl, ?_⟩
    simp only [denote, List.take, conv2_x, conv2_y, convLon_z _ _ _ _ _ _ _ h']
  · simp [VT.dim] at hd

/-- **Part A.3 in one statement**: `c04m_lower_dim_2` and `c04m_lower_dim_3` -/
theorem c04m_lower_dim (K : Consts ℝ) (A : Arith ℝ) (e : String × Az × Option Lon × Option Tmp × String × String)
    (he : e ∈ toTable) (v : Vec ℝ) (hv : C01M.WFV v) :
    (v.ty.dim = 2 → e.2.2.1.isSome → ∀ kl kt : Option ℝ, (kt.isSome → e.2.2.2.1.isSome) →
      ∃ r, call evR K A e.1 v (kwArgs e kl kt) = .ok (.vec r) ∧
        r.ty = { v.ty with az := e.2.1, lon := e.2.2.1, tmp := e.2.2.2.1 } ∧ C01M.WFV r ∧
        r.c.drop 2 = kl.getD K.zeroF :: (if e.2.2.2.1.isSome then [kt.getD K.zeroF] else []) ∧
        denote ⟨{ v.ty with az := e.2.1 }, r.c.take 2⟩ = denote v) ∧
    (v.ty.dim = 3 → e.2.2.2.1.isSome → FwdOK v e.2.2.1 e.2.2.2.1 → ∀ kt : Option ℝ,
      ∃ r, call evR K A e.1 v (kwArgs e none kt) = .ok (.vec r) ∧
        r.ty = { v.ty with az := e.2.1, lon := e.2.2.1, tmp := e.2.2.2.1 } ∧ C01M.WFV r ∧
        r.c.drop 3 = [kt.getD K.zeroF] ∧
        denote ⟨{ v.ty with az := e.2.1, lon := e.2.2.1 }, r.c.take 3⟩ = denote v) :=
  ⟨fun hd hlon kl kt hkt => c04m_lower_dim_2 K A e he v hv hd hlon kl kt hkt,
   fun hd htmp h kt => c04m_lower_dim_3 K A e he v hv hd htmp h kt⟩

/-- **higher-dimensional vector, lower-dimensional target** (`to_xy` on 3D/4D, `to_rhophieta` on 4D, …): the result
denotes the prefix of the denotation -/
theorem c04m_to_project (K : Consts ℝ) (A : Arith ℝ) (e : String × Az × Option Lon × Option Tmp × String × String)
    (he : e ∈ toTable) (v : Vec ℝ) (hv : C01M.WFV v) (htmp : e.2.2.2.1 = none) (hl : e.2.2.1.isSome → v.ty.lon.isSome)
    (h : FwdOK v e.2.2.1 e.2.2.2.1) :
    ∃ r, call evR K A e.1 v [] = .ok (.vec r) ∧
      r.ty = { v.ty with az := e.2.1, lon := e.2.2.1, tmp := e.2.2.2.1 } ∧ C01M.WFV r ∧
      denote r = (denote v).map (List.take r.ty.dim) := by
  rw [c04_call_to evR K A e.1 v e (toTable_find e he)]
  obtain ⟨n, az, lon, tmp, sl, st⟩ := e
  simp only at htmp hl h ⊢
  subst htmp
  rcases wfv_cases hv with ⟨be, mom, az0, a, b, rfl⟩ | ⟨be, mom, az0, l0, a, b, c, rfl⟩ |
    ⟨be, mom, az0, l0, t0, a, b, c, d, rfl⟩
  · rcases lon with _ | l
    · refine ⟨_, by rw [toSystem_eval2]; rfl, rfl, ⟨by simp, rfl⟩, ?_⟩
      simp only [denote, conv2_x, conv2_y, VT.dim]; rfl
    · simp at hl
  · rcases lon with _ | l
    · refine ⟨_, by rw [toSystem_eval32]; rfl, rfl, ⟨by simp, rfl⟩, ?_⟩
      simp only [denote, conv2_x, conv2_y, VT.dim]; rfl
    · have h' : LonOK az0 l0 l a b c := h
      refine ⟨_, by rw [toSystem_eval3]; rfl, rfl, ⟨by simp, rfl⟩, ?_⟩
      simp only [denote, conv2_x, conv2_y, convLon_z _ _ _ _ _ _ _ h', VT.dim]; rfl
  · rcases lon with _ | l
    · refine ⟨_, by rw [toSystem_eval42]; rfl, rfl, ⟨by simp, rfl⟩, ?_⟩
      simp only [denote, conv2_x, conv2_y, VT.dim]; rfl
    · have h' : LonOK az0 l0 l a b c := h
      refine ⟨_, by rw [toSystem_eval43]; rfl, rfl, ⟨by simp, rfl⟩, ?_⟩
      simp only [denote, conv2_x, conv2_y, convLon_z _ _ _ _ _ _ _ h', VT.dim]; rfl

/-- `Vector2D(rho=2, phi=1).to_xyzt(z=5)`: third coordinate `5`, fourth `0.0`, both verbatim -/
example (K : Consts ℝ) (A : Arith ℝ) :
    ∃ r, call evR K A "to_xyzt" ⟨⟨.obj, false, .rhophi, none, none⟩, [2, 1]⟩ [.kw "z" 5] = .ok (.vec r) ∧
      r.ty = ⟨.obj, false, .xy, some .z, some .t⟩ ∧ r.c.drop 2 = [5, K.zeroF] := by
  obtain ⟨r, h1, h2, _, h4, _⟩ := c04m_lower_dim_2 K A ("to_xyzt", .xy, some .z, some .t, "z", "t") (by decide)
    ⟨⟨.obj, false, .rhophi, none, none⟩, [2, 1]⟩ ⟨by simp, rfl⟩ rfl rfl (some 5) none (fun h => nomatch h)
  exact ⟨r, h1, h2, h4⟩

/-! ## Part B — angular / distance binary methods, every storage pairing, mixed dimensions -/

/-! ### evaluation through `call` → `binary` → `dispatch`

`C11M.dispatch_pair_scalar` / `_truth` evaluate `dispatch` on two operands from the key atoms and coordinates each of them
contributes (`operandKey_one` / `operandKey_two`, in terms of `c3` / `lonOf`) and ONE call of the compute layer on arbitrary keys. -/

theorem call_delta {S B : Type} (ev : Ev S B) (K : Consts S) (A : Arith S) (v o : Vec S) :
    call ev K A "deltaphi" v [.v o] = dispatch ev .planar_deltaphi [] none [v, o] [v, o] ∧
    call ev K A "deltaeta" v [.v o] = binary ev K .deltaeta v o [] ∧
    call ev K A "deltaR2" v [.v o] = binary ev K .deltaR2 v o [] ∧
    call ev K A "deltaR" v [.v o] = binary ev K .deltaR v o [] ∧
    call ev K A "deltaangle" v [.v o] = binary ev K .deltaangle v o [] := ⟨rfl, rfl, rfl, rfl, rfl⟩

/-- `deltaeta`, `deltaR2`, `deltaR`, `deltaangle` on operands that pass the guards (both 3D or 4D) -/
theorem binary_delta {S B : Type} (ev : Ev S B) (K : Consts S) {v o : Vec S} (hd : 3 ≤ v.ty.dim) (hd' : 3 ≤ o.ty.dim) :
    binary ev K .deltaeta v o [] = dispatch ev .spatial_deltaeta [] none [v, o] [v, o] ∧
    binary ev K .deltaR2 v o [] = dispatch ev .spatial_deltaR2 [] none [v, o] [v, o] ∧
    binary ev K .deltaR v o [] = dispatch ev .spatial_deltaR [] none [v, o] [v, o] ∧
    binary ev K .deltaangle v o [] = dispatch ev .spatial_deltaangle [] none [v, o] [v, o] := by
  have hv : v.ty.dim = 3 ∨ v.ty.dim = 4 := by have := v.ty.dim_cases; omega
  have ho : o.ty.dim = 3 ∨ o.ty.dim = 4 := by have := o.ty.dim_cases; omega
  refine ⟨?_, ?_, ?_, ?_⟩ <;>
    exact binary_route_ok ev K [] (by rcases hv with h | h <;> rcases ho with h' | h' <;> rw [h, h'] <;> rfl) rfl

/-! ### Part B.1 — deltaphi -/

theorem deltaphi_eval (K : Consts ℝ) (A : Arith ℝ) (v o : Vec ℝ) (hv : C01M.WFV v) (ho : C01M.WFV o) :
    call evR K A "deltaphi" v [.v o] =
      .ok (.scalar (planar_deltaphi.eval v.ty.az o.ty.az (c3 v).1 (c3 v).2.1 (c3 o).1 (c3 o).2.1)) := by
  rw [(call_delta evR K A v o).1,
    dispatch_pair_scalar .planar_deltaphi rfl [] v o 1 1 rfl _ _ _ _ (operandKey_one hv) (operandKey_one ho) rfl]

/-- **deltaphi, operands of ANY dimensions (2D/3D/4D, mixed) and storages**, no hypothesis: the result lies in `[-π, π)`
and is the difference of the two `phi` accessors up to a multiple of 2π -/
theorem c04m_deltaphi_acc (K : Consts ℝ) (A : Arith ℝ) (v o : Vec ℝ) (hv : C01M.WFV v) (ho : C01M.WFV o) :
    ∃ d p₁ p₂, call evR K A "deltaphi" v [.v o] = .ok (.scalar d) ∧ call evR K A "phi" v [] = .ok (.scalar p₁) ∧
      call evR K A "phi" o [] = .ok (.scalar p₂) ∧ (-π ≤ d ∧ d < π) ∧ ∃ n : ℤ, d = p₁ - p₂ + 2 * π * n := by
  obtain ⟨hm, n, hn⟩ := refine_planar_deltaphi v.ty.az o.ty.az (c3 v).1 (c3 v).2.1 (c3 o).1 (c3 o).2.1
  refine ⟨_, _, _, deltaphi_eval K A v o hv ho, call_accR K A (a := .phi) rfl hv (two_le_dim _) (.inl rfl),
    call_accR K A (a := .phi) rfl ho (two_le_dim _) (.inl rfl), hm, -n, ?_⟩
  rw [hn, accR, accR]; push_cast; ring

/-- **deltaphi in terms of the denotations**: for operands off the z axis (`0 < ρ`; the stored φ need not be canonical),
`d ∈ [-π, π]` and `d = φ₁ − φ₂ + 2πn` with `φᵢ = arctan2(yᵢ, xᵢ)` the azimuth of the DENOTED points -/
theorem c04m_deltaphi (K : Consts ℝ) (A : Arith ℝ) (v o : Vec ℝ) (hv : C01M.WFV v) (ho : C01M.WFV o)
    (hr : Stored2 (fun k a b => 0 < rhoOf k a b) v) (hr' : Stored2 (fun k a b => 0 < rhoOf k a b) o)
    (x₁ y₁ x₂ y₂ : ℝ) (r₁ r₂ : List ℝ) (h₁ : denote v = some (x₁ :: y₁ :: r₁)) (h₂ : denote o = some (x₂ :: y₂ :: r₂)) :
    ∃ d, call evR K A "deltaphi" v [.v o] = .ok (.scalar d) ∧ (-π ≤ d ∧ d ≤ π) ∧
      ∃ n : ℤ, d = P.arctan2 y₁ x₁ - P.arctan2 y₂ x₂ + 2 * π * n := by
  refine ⟨_, deltaphi_eval K A v o hv ho, ?_⟩
  rw [refine_spatial_deltaphi_key _ _ _ _ _ _ hr hr', ← (denote_planar h₁).1, ← (denote_planar h₁).2,
    ← (denote_planar h₂).1, ← (denote_planar h₂).2]
  obtain ⟨hm, n, hn⟩ := refine_planar_deltaphi .xy .xy x₁ y₁ x₂ y₂
  refine ⟨⟨hm.1, hm.2.le⟩, -n, ?_⟩
  rw [hn]; push_cast
  show P.arctan2 y₁ x₁ - P.arctan2 y₂ x₂ - n * (2 * π) = _
  ring

/-! ### Part B.2 — deltaeta, deltaR2, deltaR, deltaangle on 3D/4D operands (mixed dimensions allowed) -/

/-- a scalar-valued binary method that is `dispatch` of a spatial module `m` (`hb`), on 3D/4D operands (mixed allowed): ONE
call of `m` (`he`: what the compute layer answers at key variables) -/
theorem delta_eval {K : Consts ℝ} {b : Bin} {m : ModuleId} {v o : Vec ℝ}
    (hb : binary evR K b v o [] = dispatch evR m [] none [v, o] [v, o]) (hk : m.kind = .float)
    (hs : operandSlots m.info.shape = [2, 2])
    {f : Az → Lon → Az → Lon → ℝ → ℝ → ℝ → ℝ → ℝ → ℝ → ℝ} {r : Az → Lon → Az → Lon → Ret}
    (he : ∀ k0 k1 k2 k3 a0 a1 a2 b0 b1 b2, evR m [.az k0, .lon k1, .az k2, .lon k3] [a0, a1, a2, b0, b1, b2] =
      some (.vals [f k0 k1 k2 k3 a0 a1 a2 b0 b1 b2], r k0 k1 k2 k3))
    (hv : C01M.WFV v) (ho : C01M.WFV o) (hd : 3 ≤ v.ty.dim) (hd' : 3 ≤ o.ty.dim) :
    binary evR K b v o [] = .ok (.scalar (f v.ty.az (lonOf v) o.ty.az (lonOf o) (c3 v).1 (c3 v).2.1 (c3 v).2.2
      (c3 o).1 (c3 o).2.1 (c3 o).2.2)) := by
  rw [hb, dispatch_pair_scalar m hk [] v o 2 2 hs _ _ _ _ (operandKey_two hv hd) (operandKey_two ho hd') (he ..)]

/-- hypothesis of the pseudorapidity-based methods on a 3D/4D operand: off the z axis (`0 < ρ`), stored θ in `(0, π)` -/
def EtaOKV (v : Vec ℝ) : Prop := Stored3 (fun k l a b c => 0 < rhoOf k a b ∧ CanonLon k l a b c) v

/-- hypothesis of `deltaangle` on a 3D/4D operand: `0 ≤ ρ` for polar storage, `cos θ ≠ 0` and `sin θ ≠ 0` for θ storage -/
def AngleOKV (v : Vec ℝ) : Prop := Stored3 (fun k l a b c => Canon2 k a b ∧ TanOK l c ∧ SinOK l c) v

/-- **deltaeta on 3D/4D operands (mixed allowed), every storage pairing**: `arsinh(z₁/ρ₁) − arsinh(z₂/ρ₂)` of the denotations -/
theorem c04m_deltaeta (K : Consts ℝ) (A : Arith ℝ) (v o : Vec ℝ) (hv : C01M.WFV v) (ho : C01M.WFV o)
    (hc : EtaOKV v) (hc' : EtaOKV o) (x₁ y₁ z₁ x₂ y₂ z₂ : ℝ) (r₁ r₂ : List ℝ)
    (h₁ : denote v = some (x₁ :: y₁ :: z₁ :: r₁)) (h₂ : denote o = some (x₂ :: y₂ :: z₂ :: r₂)) :
    call evR K A "deltaeta" v [.v o] =
      .ok (.scalar (arsinh (z₁ / sqrt (x₁ ^ 2 + y₁ ^ 2)) - arsinh (z₂ / sqrt (x₂ ^ 2 + y₂ ^ 2)))) := by
  obtain ⟨hd, hx, hy, hz⟩ := denote_spatial h₁
  obtain ⟨hd', hx', hy', hz'⟩ := denote_spatial h₂
  rw [(call_delta evR K A v o).2.1,
    delta_eval (binary_delta evR K hd hd').1 rfl rfl (fun _ _ _ _ _ _ _ _ _ _ => rfl) hv ho hd hd',
    refine_spatial_deltaeta _ _ _ _ _ _ _ _ _ _ hc.1 hc'.1 hc.2 hc'.2,
    hx, hy, hz, hx', hy', hz', rhoOf_eq_sqrt (canon2_of_rho_pos hc.1), rhoOf_eq_sqrt (canon2_of_rho_pos hc'.1)]

/-- **deltaR2**: `Δφ² + Δη²`, `Δφ` the rectified difference of the azimuths `arctan2(y, x)`, `Δη` as in `deltaeta` -/
theorem c04m_deltaR2 (K : Consts ℝ) (A : Arith ℝ) (v o : Vec ℝ) (hv : C01M.WFV v) (ho : C01M.WFV o)
    (hc : EtaOKV v) (hc' : EtaOKV o) (x₁ y₁ z₁ x₂ y₂ z₂ : ℝ) (r₁ r₂ : List ℝ)
    (h₁ : denote v = some (x₁ :: y₁ :: z₁ :: r₁)) (h₂ : denote o = some (x₂ :: y₂ :: z₂ :: r₂)) :
    call evR K A "deltaR2" v [.v o] =
      .ok (.scalar ((P.mod (P.arctan2 y₁ x₁ - P.arctan2 y₂ x₂ + π) (2 * π) - π) ^ 2
        + (arsinh (z₁ / sqrt (x₁ ^ 2 + y₁ ^ 2)) - arsinh (z₂ / sqrt (x₂ ^ 2 + y₂ ^ 2))) ^ 2)) := by
  obtain ⟨hd, hx, hy, hz⟩ := denote_spatial h₁
  obtain ⟨hd', hx', hy', hz'⟩ := denote_spatial h₂
  rw [(call_delta evR K A v o).2.2.1,
    delta_eval (binary_delta evR K hd hd').2.1 rfl rfl (fun _ _ _ _ _ _ _ _ _ _ => rfl) hv ho hd hd',
    refine_spatial_deltaR2 _ _ _ _ _ _ _ _ _ _ hc.1 hc'.1 hc.2 hc'.2,
    hx, hy, hz, hx', hy', hz', rhoOf_eq_sqrt (canon2_of_rho_pos hc.1), rhoOf_eq_sqrt (canon2_of_rho_pos hc'.1)]

/-- **deltaR** `= √(Δφ² + Δη²)` -/
theorem c04m_deltaR (K : Consts ℝ) (A : Arith ℝ) (v o : Vec ℝ) (hv : C01M.WFV v) (ho : C01M.WFV o)
    (hc : EtaOKV v) (hc' : EtaOKV o) (x₁ y₁ z₁ x₂ y₂ z₂ : ℝ) (r₁ r₂ : List ℝ)
    (h₁ : denote v = some (x₁ :: y₁ :: z₁ :: r₁)) (h₂ : denote o = some (x₂ :: y₂ :: z₂ :: r₂)) :
    call evR K A "deltaR" v [.v o] =
      .ok (.scalar (sqrt ((P.mod (P.arctan2 y₁ x₁ - P.arctan2 y₂ x₂ + π) (2 * π) - π) ^ 2
        + (arsinh (z₁ / sqrt (x₁ ^ 2 + y₁ ^ 2)) - arsinh (z₂ / sqrt (x₂ ^ 2 + y₂ ^ 2))) ^ 2))) := by
  obtain ⟨hd, hx, hy, hz⟩ := denote_spatial h₁
  obtain ⟨hd', hx', hy', hz'⟩ := denote_spatial h₂
  rw [(call_delta evR K A v o).2.2.2.1,
    delta_eval (binary_delta evR K hd hd').2.2.1 rfl rfl (fun _ _ _ _ _ _ _ _ _ _ => rfl) hv ho hd hd', refine_spatial_deltaR,
    refine_spatial_deltaR2 _ _ _ _ _ _ _ _ _ _ hc.1 hc'.1 hc.2 hc'.2,
    hx, hy, hz, hx', hy', hz', rhoOf_eq_sqrt (canon2_of_rho_pos hc.1), rhoOf_eq_sqrt (canon2_of_rho_pos hc'.1)]

/-- **deltaangle**: `arccos` of the clamped normalised scalar product of the spatial parts of the denotations -/
theorem c04m_deltaangle (K : Consts ℝ) (A : Arith ℝ) (v o : Vec ℝ) (hv : C01M.WFV v) (ho : C01M.WFV o)
    (hc : AngleOKV v) (hc' : AngleOKV o) (x₁ y₁ z₁ x₂ y₂ z₂ : ℝ) (r₁ r₂ : List ℝ)
    (h₁ : denote v = some (x₁ :: y₁ :: z₁ :: r₁)) (h₂ : denote o = some (x₂ :: y₂ :: z₂ :: r₂)) :
    call evR K A "deltaangle" v [.v o] =
      .ok (.scalar (arccos (max (-1) (min 1 ((x₁ * x₂ + y₁ * y₂ + z₁ * z₂)
        / sqrt (x₁ ^ 2 + y₁ ^ 2 + z₁ ^ 2) / sqrt (x₂ ^ 2 + y₂ ^ 2 + z₂ ^ 2)))))) := by
  obtain ⟨hd, hx, hy, hz⟩ := denote_spatial h₁
  obtain ⟨hd', hx', hy', hz'⟩ := denote_spatial h₂
  rw [(call_delta evR K A v o).2.2.2.2,
    delta_eval (binary_delta evR K hd hd').2.2.2 rfl rfl (fun _ _ _ _ _ _ _ _ _ _ => rfl) hv ho hd hd',
    refine_spatial_deltaangle _ _ _ _ _ _ _ _ _ _ hc.1 hc'.1 hc.2.1 hc'.2.1 (Spec.sinOK_iff.mp hc.2.2) (Spec.sinOK_iff.mp hc'.2.2),
    hx, hy, hz, hx', hy', hz']
  rfl

/-- **guards of the four methods** (any scalar type / compute layer): a 2D `self` has no such method (`AttributeError`);
a 2D argument is a `TypeError` -/
theorem c04m_delta_guards {S B : Type} (ev : Ev S B) (K : Consts S) (A : Arith S) (v o : Vec S) :
    (v.ty.dim < 3 →
      call ev K A "deltaeta" v [.v o] = .error .attributeError ∧ call ev K A "deltaR2" v [.v o] = .error .attributeError ∧
      call ev K A "deltaR" v [.v o] = .error .attributeError ∧
      call ev K A "deltaangle" v [.v o] = .error .attributeError) ∧
    (3 ≤ v.ty.dim → o.ty.dim = 2 →
      call ev K A "deltaeta" v [.v o] = .error .typeError ∧ call ev K A "deltaR2" v [.v o] = .error .typeError ∧
      call ev K A "deltaR" v [.v o] = .error .typeError ∧ call ev K A "deltaangle" v [.v o] = .error .typeError) := by
  obtain ⟨-, e1, e2, e3, e4⟩ := call_delta ev K A v o
  rw [e1, e2, e3, e4]
  refine ⟨fun h => ?_, fun h h' => ?_⟩
  · refine ⟨?_, ?_, ?_, ?_⟩ <;> exact binary_route_error ev K [] (if_pos h)
  · refine ⟨?_, ?_, ?_, ?_⟩ <;>
      exact binary_route_error ev K [] (by rw [h']; exact (if_neg (Nat.not_lt.2 h)).trans rfl)

/-! ### Part B.3 — is_parallel / is_antiparallel / is_perpendicular (same dimension required; 3D and 4D through the spatial modules) -/

theorem planar_rho_denote {k : Az} {a b : ℝ} (h : Canon2 k a b) :
    planar_rho.eval k a b = sqrt (xOf k a b ^ 2 + yOf k a b ^ 2) := by
  rw [refine_planar_rho, rhoOf_eq_sqrt h]

/-- hypothesis of the spatial angle predicates on a 3D/4D operand: `0 ≤ ρ`, `cos θ ≠ 0`, `sin θ ≠ 0` (`AngleOKV` under the
name their statements use) -/
def PredOKV (v : Vec ℝ) : Prop := AngleOKV v

/-- the scalar product and the lengths the planar predicates compare, in terms of the denotations -/
theorem planar_dot_rho_denote {v o : Vec ℝ} (hc : Stored2 Canon2 v)
    (hc' : Stored2 Canon2 o) {x₁ y₁ x₂ y₂ : ℝ} {r₁ r₂ : List ℝ} (h₁ : denote v = some (x₁ :: y₁ :: r₁))
    (h₂ : denote o = some (x₂ :: y₂ :: r₂)) :
    planar_dot.eval v.ty.az o.ty.az (c3 v).1 (c3 v).2.1 (c3 o).1 (c3 o).2.1 = x₁ * x₂ + y₁ * y₂ ∧
    planar_rho.eval v.ty.az (c3 v).1 (c3 v).2.1 = sqrt (x₁ ^ 2 + y₁ ^ 2) ∧
    planar_rho.eval o.ty.az (c3 o).1 (c3 o).2.1 = sqrt (x₂ ^ 2 + y₂ ^ 2) := by
  rw [refine_planar_dot, planar_rho_denote hc, planar_rho_denote hc', (denote_planar h₁).1, (denote_planar h₁).2,
    (denote_planar h₂).1, (denote_planar h₂).2]
  exact ⟨rfl, rfl, rfl⟩

theorem spatial_dot_mag_denote {v o : Vec ℝ} (hc : PredOKV v) (hc' : PredOKV o)
    {x₁ y₁ z₁ x₂ y₂ z₂ : ℝ} {r₁ r₂ : List ℝ} (h₁ : denote v = some (x₁ :: y₁ :: z₁ :: r₁))
    (h₂ : denote o = some (x₂ :: y₂ :: z₂ :: r₂)) :
    spatial_dot.eval v.ty.az (lonOf v) o.ty.az (lonOf o) (c3 v).1 (c3 v).2.1 (c3 v).2.2 (c3 o).1 (c3 o).2.1 (c3 o).2.2 =
      x₁ * x₂ + y₁ * y₂ + z₁ * z₂ ∧
    spatial_mag.eval v.ty.az (lonOf v) (c3 v).1 (c3 v).2.1 (c3 v).2.2 = sqrt (x₁ ^ 2 + y₁ ^ 2 + z₁ ^ 2) ∧
    spatial_mag.eval o.ty.az (lonOf o) (c3 o).1 (c3 o).2.1 (c3 o).2.2 = sqrt (x₂ ^ 2 + y₂ ^ 2 + z₂ ^ 2) := by
  obtain ⟨-, hx, hy, hz⟩ := denote_spatial h₁
  obtain ⟨-, hx', hy', hz'⟩ := denote_spatial h₂
  rw [refine_spatial_dot _ _ _ _ _ _ _ _ _ _ hc.2.1 hc'.2.1, refine_spatial_mag _ _ _ _ _ hc.1 hc.2.2,
    refine_spatial_mag _ _ _ _ _ hc'.1 hc'.2.2, hx, hy, hz, hx', hy', hz']
  exact ⟨rfl, rfl, rfl⟩

/-- a same-dimension predicate with a tolerance on 2D operands is ONE call of its planar module (`he`: what the compute layer
answers at key variables) -/
theorem pred_eval2 (K : Consts ℝ) (b : Bin) (hb : b.sameDim = true) (m : ModuleId) (hm : b.sameDimMod 2 = some m)
    (hk : m.kind = .bool) (hs : operandSlots m.info.shape = [1, 1])
    {P : Az → Az → ℝ → ℝ → ℝ → ℝ → ℝ → Prop} {r : Az → Az → Ret}
    (he : ∀ k0 k1 tol a0 a1 b0 b1,
      evR m [.az k0, .az k1] [tol, a0, a1, b0, b1] = some (.truth (P k0 k1 tol a0 a1 b0 b1), r k0 k1))
    (v o : Vec ℝ) (hv : C01M.WFV v) (ho : C01M.WFV o) (hd : v.ty.dim = 2) (hd' : o.ty.dim = 2) (extra : List ℝ) (tol : ℝ)
    (hx : Bin.scalars K b extra = [tol]) :
    binary evR K b v o extra = .ok (.truth (P v.ty.az o.ty.az tol (c3 v).1 (c3 v).2.1 (c3 o).1 (c3 o).2.1)) := by
  rw [C11M.binary_sameDim evR K b hb v o extra m (hd'.trans hd.symm) (by rw [hd]; exact hm), hx,
    dispatch_pair_truth m hk [tol] v o 1 1 hs _ _ _ _ (operandKey_one hv) (operandKey_one ho) (he ..)]

/-- … on 3D–3D and 4D–4D operands ONE call of its spatial module -/
theorem pred_eval3 (K : Consts ℝ) (b : Bin) (hb : b.sameDim = true) (m : ModuleId)
    (hm : ∀ n, b.sameDimMod (n + 3) = some m) (hk : m.kind = .bool) (hs : operandSlots m.info.shape = [2, 2])
    {P : Az → Lon → Az → Lon → ℝ → ℝ → ℝ → ℝ → ℝ → ℝ → ℝ → Prop}
    {r : Az → Lon → Az → Lon → Ret}
    (he : ∀ k0 k1 k2 k3 tol a0 a1 a2 b0 b1 b2, evR m [.az k0, .lon k1, .az k2, .lon k3] [tol, a0, a1, a2, b0, b1, b2] =
      some (.truth (P k0 k1 k2 k3 tol a0 a1 a2 b0 b1 b2), r k0 k1 k2 k3))
    (v o : Vec ℝ) (hv : C01M.WFV v) (ho : C01M.WFV o) (hd : 3 ≤ v.ty.dim) (hdim : o.ty.dim = v.ty.dim) (extra : List ℝ)
    (tol : ℝ) (hx : Bin.scalars K b extra = [tol]) :
    binary evR K b v o extra = .ok (.truth (P v.ty.az (lonOf v) o.ty.az (lonOf o) tol (c3 v).1 (c3 v).2.1 (c3 v).2.2
      (c3 o).1 (c3 o).2.1 (c3 o).2.2)) := by
  obtain ⟨n, hn⟩ := Nat.exists_eq_add_of_le' hd
  rw [C11M.binary_sameDim evR K b hb v o extra m hdim (hn ▸ hm n), hx,
    dispatch_pair_truth m hk [tol] v o 2 2 hs _ _ _ _ (operandKey_two hv hd) (operandKey_two ho (hdim ▸ hd)) (he ..)]

/-- **is_parallel on 2D operands, every storage pairing** (default tolerance `1e-5` = `K.tol`, or explicit): `.truth` of the
documented test on the DENOTED points -/
theorem c04m_is_parallel_2D (K : Consts ℝ) (A : Arith ℝ) (v o : Vec ℝ) (hv : C01M.WFV v) (ho : C01M.WFV o)
    (hd : v.ty.dim = 2) (hd' : o.ty.dim = 2) (hc : Stored2 Canon2 v) (hc' : Stored2 Canon2 o)
    (x₁ y₁ x₂ y₂ : ℝ) (h₁ : denote v = some [x₁, y₁]) (h₂ : denote o = some [x₂, y₂]) :
    (∃ p : Prop, call evR K A "is_parallel" v [.v o] = .ok (.truth p) ∧
      (p ↔ let tol := K.tol; (x₁ * x₂ + y₁ * y₂) > (1 - |tol|) * sqrt (x₁ ^ 2 + y₁ ^ 2) * sqrt (x₂ ^ 2 + y₂ ^ 2))) ∧
    ∀ tol : ℝ, ∃ p : Prop, call evR K A "is_parallel" v [.v o, .sc tol] = .ok (.truth p) ∧
      (p ↔ (x₁ * x₂ + y₁ * y₂) > (1 - |tol|) * sqrt (x₁ ^ 2 + y₁ ^ 2) * sqrt (x₂ ^ 2 + y₂ ^ 2)) := by
  obtain ⟨e1, e2, e3⟩ := planar_dot_rho_denote hc hc' h₁ h₂
  have e := pred_eval2 K .is_parallel rfl .planar_is_parallel rfl rfl rfl (fun _ _ _ _ _ _ _ => rfl) v o hv ho hd hd'
  exact ⟨⟨_, (call_bin9 evR K A v o).2.2.2.1.trans (e [] _ rfl),
      by rw [c13_planar_is_parallel_iff, e1, e2, e3]⟩,
    fun tol => ⟨_, (C11M.call_un evR K A v o tol).2.2.1.trans (e [tol] _ rfl),
      by rw [c13_planar_is_parallel_iff, e1, e2, e3]⟩⟩

/-- **is_parallel on 3D–3D and 4D–4D operands, every storage pairing**: the spatial modules on the spatial parts (a stored
t/τ is ignored): `.truth` of the documented test on the DENOTED spatial parts -/
theorem c04m_is_parallel_3D (K : Consts ℝ) (A : Arith ℝ) (v o : Vec ℝ) (hv : C01M.WFV v) (ho : C01M.WFV o)
    (hdim : o.ty.dim = v.ty.dim) (hc : PredOKV v) (hc' : PredOKV o)
    (x₁ y₁ z₁ x₂ y₂ z₂ : ℝ) (r₁ r₂ : List ℝ)
    (h₁ : denote v = some (x₁ :: y₁ :: z₁ :: r₁)) (h₂ : denote o = some (x₂ :: y₂ :: z₂ :: r₂)) :
    (∃ p : Prop, call evR K A "is_parallel" v [.v o] = .ok (.truth p) ∧
      (p ↔ let tol := K.tol; (x₁ * x₂ + y₁ * y₂ + z₁ * z₂) > (1 - |tol|) * sqrt (x₁ ^ 2 + y₁ ^ 2 + z₁ ^ 2) * sqrt (x₂ ^ 2 + y₂ ^ 2 + z₂ ^ 2))) ∧
    ∀ tol : ℝ, ∃ p : Prop, call evR K A "is_parallel" v [.v o, .sc tol] = .ok (.truth p) ∧
      (p ↔ (x₁ * x₂ + y₁ * y₂ + z₁ * z₂) > (1 - |tol|) * sqrt (x₁ ^ 2 + y₁ ^ 2 + z₁ ^ 2) * sqrt (x₂ ^ 2 + y₂ ^ 2 + z₂ ^ 2)) := by
  obtain ⟨e1, e2, e3⟩ := spatial_dot_mag_denote hc hc' h₁ h₂
  have hd := (denote_spatial h₁).1
  have e := pred_eval3 K .is_parallel rfl .spatial_is_parallel (fun _ => rfl) rfl rfl
    (fun _ _ _ _ _ _ _ _ _ _ _ => rfl) v o hv ho hd hdim
  exact ⟨⟨_, (call_bin9 evR K A v o).2.2.2.1.trans (e [] _ rfl),
      by rw [c13_spatial_is_parallel_iff, e1, e2, e3]⟩,
    fun tol => ⟨_, (C11M.call_un evR K A v o tol).2.2.1.trans (e [tol] _ rfl),
      by rw [c13_spatial_is_parallel_iff, e1, e2, e3]⟩⟩

/-- **is_antiparallel on 2D operands, every storage pairing** (default tolerance `1e-5` = `K.tol`, or explicit): `.truth` of the
documented test on the DENOTED points -/
theorem c04m_is_antiparallel_2D (K : Consts ℝ) (A : Arith ℝ) (v o : Vec ℝ) (hv : C01M.WFV v) (ho : C01M.WFV o)
    (hd : v.ty.dim = 2) (hd' : o.ty.dim = 2) (hc : Stored2 Canon2 v) (hc' : Stored2 Canon2 o)
    (x₁ y₁ x₂ y₂ : ℝ) (h₁ : denote v = some [x₁, y₁]) (h₂ : denote o = some [x₂, y₂]) :
    (∃ p : Prop, call evR K A "is_antiparallel" v [.v o] = .ok (.truth p) ∧
      (p ↔ let tol := K.tol; (x₁ * x₂ + y₁ * y₂) < (|tol| - 1) * sqrt (x₁ ^ 2 + y₁ ^ 2) * sqrt (x₂ ^ 2 + y₂ ^ 2))) ∧
    ∀ tol : ℝ, ∃ p : Prop, call evR K A "is_antiparallel" v [.v o, .sc tol] = .ok (.truth p) ∧
      (p ↔ (x₁ * x₂ + y₁ * y₂) < (|tol| - 1) * sqrt (x₁ ^ 2 + y₁ ^ 2) * sqrt (x₂ ^ 2 + y₂ ^ 2)) := by
  obtain ⟨e1, e2, e3⟩ := planar_dot_rho_denote hc hc' h₁ h₂
  have e := pred_eval2 K .is_antiparallel rfl .planar_is_antiparallel rfl rfl rfl (fun _ _ _ _ _ _ _ => rfl) v o hv ho hd hd'
  exact ⟨⟨_, (call_bin9 evR K A v o).2.2.2.2.1.trans (e [] _ rfl),
      by rw [c13_planar_is_antiparallel_iff, e1, e2, e3]⟩,
    fun tol => ⟨_, (C11M.call_un evR K A v o tol).2.2.2.1.trans (e [tol] _ rfl),
      by rw [c13_planar_is_antiparallel_iff, e1, e2, e3]⟩⟩

/-- **is_antiparallel on 3D–3D and 4D–4D operands, every storage pairing**: the spatial modules on the spatial parts (a stored
t/τ is ignored): `.truth` of the documented test on the DENOTED spatial parts -/
theorem c04m_is_antiparallel_3D (K : Consts ℝ) (A : Arith ℝ) (v o : Vec ℝ) (hv : C01M.WFV v) (ho : C01M.WFV o)
    (hdim : o.ty.dim = v.ty.dim) (hc : PredOKV v) (hc' : PredOKV o)
    (x₁ y₁ z₁ x₂ y₂ z₂ : ℝ) (r₁ r₂ : List ℝ)
    (h₁ : denote v = some (x₁ :: y₁ :: z₁ :: r₁)) (h₂ : denote o = some (x₂ :: y₂ :: z₂ :: r₂)) :
    (∃ p : Prop, call evR K A "is_antiparallel" v [.v o] = .ok (.truth p) ∧
      (p ↔ let tol := K.tol; (x₁ * x₂ + y₁ * y₂ + z₁ * z₂) < (|tol| - 1) * sqrt (x₁ ^ 2 + y₁ ^ 2 + z₁ ^ 2) * sqrt (x₂ ^ 2 + y₂ ^ 2 + z₂ ^ 2))) ∧
    ∀ tol : ℝ, ∃ p : Prop, call evR K A "is_antiparallel" v [.v o, .sc tol] = .ok (.truth p) ∧
      (p ↔ (x₁ * x₂ + y₁ * y₂ + z₁ * z₂) < (|tol| - 1) * sqrt (x₁ ^ 2 + y₁ ^ 2 + z₁ ^ 2) * sqrt (x₂ ^ 2 + y₂ ^ 2 + z₂ ^ 2)) := by
  obtain ⟨e1, e2, e3⟩ := spatial_dot_mag_denote hc hc' h₁ h₂
  have hd := (denote_spatial h₁).1
  have e := pred_eval3 K .is_antiparallel rfl .spatial_is_antiparallel (fun _ => rfl) rfl rfl
    (fun _ _ _ _ _ _ _ _ _ _ _ => rfl) v o hv ho hd hdim
  exact ⟨⟨_, (call_bin9 evR K A v o).2.2.2.2.1.trans (e [] _ rfl),
      by rw [c13_spatial_is_antiparallel_iff, e1, e2, e3]⟩,
    fun tol => ⟨_, (C11M.call_un evR K A v o tol).2.2.2.1.trans (e [tol] _ rfl),
      by rw [c13_spatial_is_antiparallel_iff, e1, e2, e3]⟩⟩

/-- **is_perpendicular on 2D operands, every storage pairing** (default tolerance `1e-5` = `K.tol`, or explicit): `.truth` of the
documented test on the DENOTED points -/
theorem c04m_is_perpendicular_2D (K : Consts ℝ) (A : Arith ℝ) (v o : Vec ℝ) (hv : C01M.WFV v) (ho : C01M.WFV o)
    (hd : v.ty.dim = 2) (hd' : o.ty.dim = 2) (hc : Stored2 Canon2 v) (hc' : Stored2 Canon2 o)
    (x₁ y₁ x₂ y₂ : ℝ) (h₁ : denote v = some [x₁, y₁]) (h₂ : denote o = some [x₂, y₂]) :
    (∃ p : Prop, call evR K A "is_perpendicular" v [.v o] = .ok (.truth p) ∧
      (p ↔ let tol := K.tol; |(x₁ * x₂ + y₁ * y₂)| < |tol| * sqrt (x₁ ^ 2 + y₁ ^ 2) * sqrt (x₂ ^ 2 + y₂ ^ 2))) ∧
    ∀ tol : ℝ, ∃ p : Prop, call evR K A "is_perpendicular" v [.v o, .sc tol] = .ok (.truth p) ∧
      (p ↔ |(x₁ * x₂ + y₁ * y₂)| < |tol| * sqrt (x₁ ^ 2 + y₁ ^ 2) * sqrt (x₂ ^ 2 + y₂ ^ 2)) := by
  obtain ⟨e1, e2, e3⟩ := planar_dot_rho_denote hc hc' h₁ h₂
  have e := pred_eval2 K .is_perpendicular rfl .planar_is_perpendicular rfl rfl rfl (fun _ _ _ _ _ _ _ => rfl) v o hv ho hd hd'
  exact ⟨⟨_, (call_bin9 evR K A v o).2.2.2.2.2.trans (e [] _ rfl),
      by rw [c13_planar_is_perpendicular_iff, e1, e2, e3]⟩,
    fun tol => ⟨_, (C11M.call_un evR K A v o tol).2.2.2.2.trans (e [tol] _ rfl),
      by rw [c13_planar_is_perpendicular_iff, e1, e2, e3]⟩⟩

/-- **is_perpendicular on 3D–3D and 4D–4D operands, every storage pairing**: the spatial modules on the spatial parts (a stored
t/τ is ignored): `.truth` of the documented test on the DENOTED spatial parts -/
theorem c04m_is_perpendicular_3D (K : Consts ℝ) (A : Arith ℝ) (v o : Vec ℝ) (hv : C01M.WFV v) (ho : C01M.WFV o)
    (hdim : o.ty.dim = v.ty.dim) (hc : PredOKV v) (hc' : PredOKV o)
    (x₁ y₁ z₁ x₂ y₂ z₂ : ℝ) (r₁ r₂ : List ℝ)
    (h₁ : denote v = some (x₁ :: y₁ :: z₁ :: r₁)) (h₂ : denote o = some (x₂ :: y₂ :: z₂ :: r₂)) :
    (∃ p : Prop, call evR K A "is_perpendicular" v [.v o] = .ok (.truth p) ∧
      (p ↔ let tol := K.tol; |(x₁ * x₂ + y₁ * y₂ + z₁ * z₂)| < |tol| * sqrt (x₁ ^ 2 + y₁ ^ 2 + z₁ ^ 2) * sqrt (x₂ ^ 2 + y₂ ^ 2 + z₂ ^ 2))) ∧
    ∀ tol : ℝ, ∃ p : Prop, call evR K A "is_perpendicular" v [.v o, .sc tol] = .ok (.truth p) ∧
      (p ↔ |(x₁ * x₂ + y₁ * y₂ + z₁ * z₂)| < |tol| * sqrt (x₁ ^ 2 + y₁ ^ 2 + z₁ ^ 2) * sqrt (x₂ ^ 2 + y₂ ^ 2 + z₂ ^ 2)) := by
  obtain ⟨e1, e2, e3⟩ := spatial_dot_mag_denote hc hc' h₁ h₂
  have hd := (denote_spatial h₁).1
  have e := pred_eval3 K .is_perpendicular rfl .spatial_is_perpendicular (fun _ => rfl) rfl rfl
    (fun _ _ _ _ _ _ _ _ _ _ _ => rfl) v o hv ho hd hdim
  exact ⟨⟨_, (call_bin9 evR K A v o).2.2.2.2.2.trans (e [] _ rfl),
      by rw [c13_spatial_is_perpendicular_iff, e1, e2, e3]⟩,
    fun tol => ⟨_, (C11M.call_un evR K A v o tol).2.2.2.2.trans (e [tol] _ rfl),
      by rw [c13_spatial_is_perpendicular_iff, e1, e2, e3]⟩⟩

/-- operands of different dimensions are rejected by all three predicates (any scalar type / compute layer) -/
theorem c04m_pred_guards {S B : Type} (ev : Ev S B) (K : Consts S) (A : Arith S) (v o : Vec S) (h : o.ty.dim ≠ v.ty.dim) :
    call ev K A "is_parallel" v [.v o] = .error .typeError ∧ call ev K A "is_antiparallel" v [.v o] = .error .typeError ∧
    call ev K A "is_perpendicular" v [.v o] = .error .typeError := by
  obtain ⟨-, -, -, e1, e2, e3⟩ := call_bin9 ev K A v o
  rw [e1, e2, e3]
  exact ⟨c05_binary_sameDim_guard ev K _ v o [] rfl h, c05_binary_sameDim_guard ev K _ v o [] rfl h,
    c05_binary_sameDim_guard ev K _ v o [] rfl h⟩

/-- the three tests above ARE the documented cosine tests: for operands of non-zero length `m₁, m₂` and scalar product `d`,
`cos∠ = d / (m₁ m₂)`; `is_parallel ⇔ cos∠ > 1 − |tol|`, `is_antiparallel ⇔ cos∠ < |tol| − 1`, `is_perpendicular ⇔ |cos∠| < |tol|`
(the product form used in the theorems is also meaningful for zero-length operands, where every test is `False`) -/
theorem c04m_cosine_form (d tol m₁ m₂ : ℝ) (h₁ : 0 < m₁) (h₂ : 0 < m₂) :
    (d > (1 - |tol|) * m₁ * m₂ ↔ d / (m₁ * m₂) > 1 - |tol|) ∧
    (d < (|tol| - 1) * m₁ * m₂ ↔ d / (m₁ * m₂) < |tol| - 1) ∧
    (|d| < |tol| * m₁ * m₂ ↔ |d / (m₁ * m₂)| < |tol|) := by
  have hm : 0 < m₁ * m₂ := mul_pos h₁ h₂
  refine ⟨?_, ?_, ?_⟩
  · rw [gt_iff_lt, gt_iff_lt, lt_div_iff₀ hm, mul_assoc]
  · rw [div_lt_iff₀ hm, mul_assoc]
  · rw [abs_div, abs_of_pos hm, div_lt_iff₀ hm, mul_assoc]

/-- for zero-length operands all three tests are `False` (strict inequalities against `0`) -/
example (tol : ℝ) : ¬ ((0 : ℝ) > (1 - |tol|) * 0 * 0) ∧ ¬ ((0 : ℝ) < (|tol| - 1) * 0 * 0) ∧ ¬ (|(0 : ℝ)| < |tol| * 0 * 0) := by
  simp

/-! ### a limit of the representation: `t < 0` does not survive a round trip through `tau` -/

/-- `Vector4D(x=0, y=0, z=0, t=-2).to_xyztau().to_xyzt()` has `t = +2`: the τ representation (`t = √(τ² + |p|²)`) cannot
hold a negative time component; this is why `c04m_roundtrip` asks `0 ≤ t` (and `|p|² ≤ t²`) for t → τ → t -/
theorem c04m_roundtrip_negative_t (K : Consts ℝ) (A : Arith ℝ) :
    ∃ w, call evR K A "to_xyztau" ⟨⟨.obj, false, .xy, some .z, some .t⟩, [0, 0, 0, -2]⟩ [] = .ok (.vec w) ∧
      call evR K A "to_xyzt" w [] = .ok (.vec ⟨⟨.obj, false, .xy, some .z, some .t⟩, [0, 0, 0, 2]⟩) := by
  have e1 : convTmp .xy .z .t .tau 0 0 0 (-2) = 2 := by
    show lorentz_tau.eval .xy .z .t 0 0 0 (-2) = 2
    rw [refine_lorentz_tau .xy .z .t 0 0 0 (-2) trivial trivial]
    have : tOf .xy .z .t 0 0 0 (-2) ^ 2 - mag2Of .xy .z 0 0 0 = 2 ^ 2 := by
      simp only [tOf, mag2Of, xOf, yOf, zOf]; norm_num
    rw [this, Real.sign_of_pos (by norm_num), abs_of_pos (by norm_num), sqrt_sq (by norm_num)]; ring
  have e2 : convTmp .xy .z .tau .t 0 0 0 2 = 2 := by
    show lorentz_t.eval .xy .z .tau 0 0 0 2 = 2
    rw [refine_lorentz_t .xy .z .tau 0 0 0 2 trivial (by show (0 : ℝ) ≤ 2; norm_num)]
    simp only [tOf, mag2Of, xOf, yOf, zOf]
    rw [show (2 : ℝ) ^ 2 + (0 ^ 2 + 0 ^ 2 + 0 ^ 2) = 2 ^ 2 by norm_num, sqrt_sq (by norm_num)]
  refine ⟨⟨⟨.obj, false, .xy, some .z, some .tau⟩, [0, 0, 0, 2]⟩, ?_, ?_⟩
  · rw [c04_call_to evR K A "to_xyztau" _ ("to_xyztau", .xy, some .z, some .tau, "z", "tau")
        (toTable_find ("to_xyztau", .xy, some .z, some .tau, "z", "tau") (by decide)),
      toSystem_eval4, e1]
    rfl
  · rw [c04_call_to evR K A "to_xyzt" _ ("to_xyzt", .xy, some .z, some .t, "z", "t")
        (toTable_find ("to_xyzt", .xy, some .z, some .t, "z", "t") (by decide)),
      toSystem_eval4, e2]
    rfl

/-! ### non-vacuity of the hypotheses of Part B -/

/-- a 4D vector stored as (ρ, φ, θ, τ) satisfies every hypothesis used in Part B -/
example : let v : Vec ℝ := ⟨⟨.obj, true, .rhophi, some .theta, some .tau⟩, [2, 1, 1, 3]⟩
    C01M.WFV v ∧ EtaOKV v ∧ AngleOKV v ∧ PredOKV v ∧ Stored2 (fun k a b => 0 < rhoOf k a b) v ∧ Stored2 Canon2 v := by
  intro v
  have hr : 0 < rhoOf .rhophi 2 1 := by norm_num [rhoOf]
  have hpi : (1 : ℝ) < π := by linarith [two_le_pi]
  have hs : sin (1 : ℝ) ≠ 0 := Spec.sinOK_one .theta
  have hA : AngleOKV v := ⟨hr.le, Spec.tanOK_one .theta, hs⟩
  exact ⟨⟨by simp [v], rfl⟩, ⟨hr, hr, one_pos, hpi⟩, hA, hA, hr, hr.le⟩

/-- `Vector2D(x=1, y=0).is_perpendicular(Vector2D(rho=2, phi=π/2), 0.5)` is `True`, `is_parallel` is `False` -/
example (K : Consts ℝ) (A : Arith ℝ) :
    let v : Vec ℝ := ⟨⟨.obj, false, .xy, none, none⟩, [1, 0]⟩
    let o : Vec ℝ := ⟨⟨.obj, false, .rhophi, none, none⟩, [2, π / 2]⟩
    (∃ p : Prop, call evR K A "is_perpendicular" v [.v o, .sc 0.5] = .ok (.truth p) ∧ p) ∧
    (∃ p : Prop, call evR K A "is_parallel" v [.v o, .sc 0.5] = .ok (.truth p) ∧ ¬ p) := by
  intro v o
  have hv : C01M.WFV v := ⟨by simp [v], rfl⟩
  have ho : C01M.WFV o := ⟨by simp [o], rfl⟩
  have h₁ : denote v = some [1, 0] := rfl
  have h₂ : denote o = some [0, 2] := by
    simp only [o, denote, xOf, yOf, cos_pi_div_two, sin_pi_div_two, mul_zero, mul_one]
  have hc' : Stored2 Canon2 o := by show (0 : ℝ) ≤ 2; norm_num
  have e1 : sqrt ((1 : ℝ) ^ 2 + 0 ^ 2) = 1 := by norm_num
  have e2 : sqrt ((0 : ℝ) ^ 2 + 2 ^ 2) = 2 := by
    rw [show (0 : ℝ) ^ 2 + 2 ^ 2 = 2 ^ 2 by norm_num, sqrt_sq (by norm_num)]
  constructor
  · obtain ⟨p, hp, hiff⟩ := (c04m_is_perpendicular_2D K A v o hv ho rfl rfl trivial hc' 1 0 0 2 h₁ h₂).2 0.5
    refine ⟨p, hp, hiff.mpr ?_⟩
    rw [e1, e2]; norm_num [abs_of_pos]
  · obtain ⟨p, hp, hiff⟩ := (c04m_is_parallel_2D K A v o hv ho rfl rfl trivial hc' 1 0 0 2 h₁ h₂).2 0.5
    refine ⟨p, hp, fun h => ?_⟩
    have := hiff.mp h
    rw [e1, e2] at this; norm_num [abs_of_pos] at this

end C04M
end VR
