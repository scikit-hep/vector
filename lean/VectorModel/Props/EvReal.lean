/-
The generated REAL compute layer `evR`, as the glue sees it, and what its declared results are.  The list wrapper of every module
of the real copy satisfies `EvalLSpec` (`real_spec.M`), by the script that proves it for the executable copy in `Props/C05.lean`
(`evalL_spec`): after the inversion of `VR.M.evalL k a = some (out, ret)` the declared result `VR.M.ret` at the key is compared with
the executable wrapper's at `Sym`, and the two are the same function of the key.  Together they are `real_spec`, the analogue of
`c05_exec_spec`; by its `.tab`, `evR` returns, for every key it accepts, the entry of the generated table (`c07m_evTables`), of the
KIND the module declares uniformly (`ModuleId.kind`, `EvTables.kind`): `evR_kind`, `evR_float`, `evR_bool`.

The declarations go into the namespaces of the files that use them: `evR` and `evR_kind`, `evR_float`, `evR_bool` into `VR.C01M`
(`Props/C01Method.lean` and the method layer), `real_spec.M`, `real_spec` and `c07m_evTables` into `VR.MB`
(`Props/MethodBackends.lean`: the `c07m_` theorems there are the statements of property C07 over the reals, and `c07m_evTables` is
their premise); this file has no namespace of its own.
-/
import VectorModel.Props.C05
import VectorModel.Gen.Real.All


namespace VR
namespace C01M

/-- the generated real-number compute layer, as the glue sees it -/
noncomputable def evR : VG.Ev ℝ Prop := fun m k a => VR.Compute.eval m k a

end C01M

namespace MB
open VK VG C01M

private theorem real_spec.lorentz_Et : EvalLSpec .lorentz_Et VR.lorentz_Et.evalL := by evalL_spec VR.lorentz_Et.evalL
private theorem real_spec.lorentz_Et2 : EvalLSpec .lorentz_Et2 VR.lorentz_Et2.evalL := by evalL_spec VR.lorentz_Et2.evalL
private theorem real_spec.lorentz_Mt : EvalLSpec .lorentz_Mt VR.lorentz_Mt.evalL := by evalL_spec VR.lorentz_Mt.evalL
private theorem real_spec.lorentz_Mt2 : EvalLSpec .lorentz_Mt2 VR.lorentz_Mt2.evalL := by evalL_spec VR.lorentz_Mt2.evalL
private theorem real_spec.lorentz_add : EvalLSpec .lorentz_add VR.lorentz_add.evalL := by evalL_spec VR.lorentz_add.evalL
private theorem real_spec.lorentz_beta : EvalLSpec .lorentz_beta VR.lorentz_beta.evalL := by evalL_spec VR.lorentz_beta.evalL
private theorem real_spec.lorentz_boostX_beta : EvalLSpec .lorentz_boostX_beta VR.lorentz_boostX_beta.evalL := by evalL_spec VR.lorentz_boostX_beta.evalL
private theorem real_spec.lorentz_boostX_gamma : EvalLSpec .lorentz_boostX_gamma VR.lorentz_boostX_gamma.evalL := by evalL_spec VR.lorentz_boostX_gamma.evalL
private theorem real_spec.lorentz_boostY_beta : EvalLSpec .lorentz_boostY_beta VR.lorentz_boostY_beta.evalL := by evalL_spec VR.lorentz_boostY_beta.evalL
private theorem real_spec.lorentz_boostY_gamma : EvalLSpec .lorentz_boostY_gamma VR.lorentz_boostY_gamma.evalL := by evalL_spec VR.lorentz_boostY_gamma.evalL
private theorem real_spec.lorentz_boostZ_beta : EvalLSpec .lorentz_boostZ_beta VR.lorentz_boostZ_beta.evalL := by evalL_spec VR.lorentz_boostZ_beta.evalL
private theorem real_spec.lorentz_boostZ_gamma : EvalLSpec .lorentz_boostZ_gamma VR.lorentz_boostZ_gamma.evalL := by evalL_spec VR.lorentz_boostZ_gamma.evalL
private theorem real_spec.lorentz_boost_beta3 : EvalLSpec .lorentz_boost_beta3 VR.lorentz_boost_beta3.evalL := by evalL_spec VR.lorentz_boost_beta3.evalL
private theorem real_spec.lorentz_boost_p4 : EvalLSpec .lorentz_boost_p4 VR.lorentz_boost_p4.evalL := by evalL_spec VR.lorentz_boost_p4.evalL
private theorem real_spec.lorentz_deltaRapidityPhi : EvalLSpec .lorentz_deltaRapidityPhi VR.lorentz_deltaRapidityPhi.evalL := by evalL_spec VR.lorentz_deltaRapidityPhi.evalL
private theorem real_spec.lorentz_deltaRapidityPhi2 : EvalLSpec .lorentz_deltaRapidityPhi2 VR.lorentz_deltaRapidityPhi2.evalL := by evalL_spec VR.lorentz_deltaRapidityPhi2.evalL
private theorem real_spec.lorentz_dot : EvalLSpec .lorentz_dot VR.lorentz_dot.evalL := by evalL_spec VR.lorentz_dot.evalL
private theorem real_spec.lorentz_equal : EvalLSpec .lorentz_equal VR.lorentz_equal.evalL := by evalL_spec VR.lorentz_equal.evalL
private theorem real_spec.lorentz_gamma : EvalLSpec .lorentz_gamma VR.lorentz_gamma.evalL := by evalL_spec VR.lorentz_gamma.evalL
private theorem real_spec.lorentz_is_lightlike : EvalLSpec .lorentz_is_lightlike VR.lorentz_is_lightlike.evalL := by evalL_spec VR.lorentz_is_lightlike.evalL
private theorem real_spec.lorentz_is_spacelike : EvalLSpec .lorentz_is_spacelike VR.lorentz_is_spacelike.evalL := by evalL_spec VR.lorentz_is_spacelike.evalL
private theorem real_spec.lorentz_is_timelike : EvalLSpec .lorentz_is_timelike VR.lorentz_is_timelike.evalL := by evalL_spec VR.lorentz_is_timelike.evalL
private theorem real_spec.lorentz_isclose : EvalLSpec .lorentz_isclose VR.lorentz_isclose.evalL := by evalL_spec VR.lorentz_isclose.evalL
private theorem real_spec.lorentz_not_equal : EvalLSpec .lorentz_not_equal VR.lorentz_not_equal.evalL := by evalL_spec VR.lorentz_not_equal.evalL
private theorem real_spec.lorentz_rapidity : EvalLSpec .lorentz_rapidity VR.lorentz_rapidity.evalL := by evalL_spec VR.lorentz_rapidity.evalL
private theorem real_spec.lorentz_scale : EvalLSpec .lorentz_scale VR.lorentz_scale.evalL := by evalL_spec VR.lorentz_scale.evalL
private theorem real_spec.lorentz_subtract : EvalLSpec .lorentz_subtract VR.lorentz_subtract.evalL := by evalL_spec VR.lorentz_subtract.evalL
private theorem real_spec.lorentz_t : EvalLSpec .lorentz_t VR.lorentz_t.evalL := by evalL_spec VR.lorentz_t.evalL
private theorem real_spec.lorentz_t2 : EvalLSpec .lorentz_t2 VR.lorentz_t2.evalL := by evalL_spec VR.lorentz_t2.evalL
private theorem real_spec.lorentz_tau : EvalLSpec .lorentz_tau VR.lorentz_tau.evalL := by evalL_spec VR.lorentz_tau.evalL
private theorem real_spec.lorentz_tau2 : EvalLSpec .lorentz_tau2 VR.lorentz_tau2.evalL := by evalL_spec VR.lorentz_tau2.evalL
private theorem real_spec.lorentz_to_beta3 : EvalLSpec .lorentz_to_beta3 VR.lorentz_to_beta3.evalL := by evalL_spec VR.lorentz_to_beta3.evalL
private theorem real_spec.lorentz_transform4D : EvalLSpec .lorentz_transform4D VR.lorentz_transform4D.evalL := by evalL_spec VR.lorentz_transform4D.evalL
private theorem real_spec.lorentz_unit : EvalLSpec .lorentz_unit VR.lorentz_unit.evalL := by evalL_spec VR.lorentz_unit.evalL
private theorem real_spec.planar_add : EvalLSpec .planar_add VR.planar_add.evalL := by evalL_spec VR.planar_add.evalL
private theorem real_spec.planar_deltaphi : EvalLSpec .planar_deltaphi VR.planar_deltaphi.evalL := by evalL_spec VR.planar_deltaphi.evalL
private theorem real_spec.planar_dot : EvalLSpec .planar_dot VR.planar_dot.evalL := by evalL_spec VR.planar_dot.evalL
private theorem real_spec.planar_equal : EvalLSpec .planar_equal VR.planar_equal.evalL := by evalL_spec VR.planar_equal.evalL
private theorem real_spec.planar_is_antiparallel : EvalLSpec .planar_is_antiparallel VR.planar_is_antiparallel.evalL := by evalL_spec VR.planar_is_antiparallel.evalL
private theorem real_spec.planar_is_parallel : EvalLSpec .planar_is_parallel VR.planar_is_parallel.evalL := by evalL_spec VR.planar_is_parallel.evalL
private theorem real_spec.planar_is_perpendicular : EvalLSpec .planar_is_perpendicular VR.planar_is_perpendicular.evalL := by evalL_spec VR.planar_is_perpendicular.evalL
private theorem real_spec.planar_isclose : EvalLSpec .planar_isclose VR.planar_isclose.evalL := by evalL_spec VR.planar_isclose.evalL
private theorem real_spec.planar_not_equal : EvalLSpec .planar_not_equal VR.planar_not_equal.evalL := by evalL_spec VR.planar_not_equal.evalL
private theorem real_spec.planar_phi : EvalLSpec .planar_phi VR.planar_phi.evalL := by evalL_spec VR.planar_phi.evalL
private theorem real_spec.planar_rho : EvalLSpec .planar_rho VR.planar_rho.evalL := by evalL_spec VR.planar_rho.evalL
private theorem real_spec.planar_rho2 : EvalLSpec .planar_rho2 VR.planar_rho2.evalL := by evalL_spec VR.planar_rho2.evalL
private theorem real_spec.planar_rotateZ : EvalLSpec .planar_rotateZ VR.planar_rotateZ.evalL := by evalL_spec VR.planar_rotateZ.evalL
private theorem real_spec.planar_scale : EvalLSpec .planar_scale VR.planar_scale.evalL := by evalL_spec VR.planar_scale.evalL
private theorem real_spec.planar_subtract : EvalLSpec .planar_subtract VR.planar_subtract.evalL := by evalL_spec VR.planar_subtract.evalL
private theorem real_spec.planar_transform2D : EvalLSpec .planar_transform2D VR.planar_transform2D.evalL := by evalL_spec VR.planar_transform2D.evalL
private theorem real_spec.planar_unit : EvalLSpec .planar_unit VR.planar_unit.evalL := by evalL_spec VR.planar_unit.evalL
private theorem real_spec.planar_x : EvalLSpec .planar_x VR.planar_x.evalL := by evalL_spec VR.planar_x.evalL
private theorem real_spec.planar_y : EvalLSpec .planar_y VR.planar_y.evalL := by evalL_spec VR.planar_y.evalL
private theorem real_spec.spatial_add : EvalLSpec .spatial_add VR.spatial_add.evalL := by evalL_spec VR.spatial_add.evalL
private theorem real_spec.spatial_costheta : EvalLSpec .spatial_costheta VR.spatial_costheta.evalL := by evalL_spec VR.spatial_costheta.evalL
private theorem real_spec.spatial_cottheta : EvalLSpec .spatial_cottheta VR.spatial_cottheta.evalL := by evalL_spec VR.spatial_cottheta.evalL
private theorem real_spec.spatial_cross : EvalLSpec .spatial_cross VR.spatial_cross.evalL := by evalL_spec VR.spatial_cross.evalL
private theorem real_spec.spatial_deltaR : EvalLSpec .spatial_deltaR VR.spatial_deltaR.evalL := by evalL_spec VR.spatial_deltaR.evalL
private theorem real_spec.spatial_deltaR2 : EvalLSpec .spatial_deltaR2 VR.spatial_deltaR2.evalL := by evalL_spec VR.spatial_deltaR2.evalL
private theorem real_spec.spatial_deltaangle : EvalLSpec .spatial_deltaangle VR.spatial_deltaangle.evalL := by evalL_spec VR.spatial_deltaangle.evalL
private theorem real_spec.spatial_deltaeta : EvalLSpec .spatial_deltaeta VR.spatial_deltaeta.evalL := by evalL_spec VR.spatial_deltaeta.evalL
private theorem real_spec.spatial_dot : EvalLSpec .spatial_dot VR.spatial_dot.evalL := by evalL_spec VR.spatial_dot.evalL
private theorem real_spec.spatial_equal : EvalLSpec .spatial_equal VR.spatial_equal.evalL := by evalL_spec VR.spatial_equal.evalL
private theorem real_spec.spatial_eta : EvalLSpec .spatial_eta VR.spatial_eta.evalL := by evalL_spec VR.spatial_eta.evalL
private theorem real_spec.spatial_is_antiparallel : EvalLSpec .spatial_is_antiparallel VR.spatial_is_antiparallel.evalL := by evalL_spec VR.spatial_is_antiparallel.evalL
private theorem real_spec.spatial_is_parallel : EvalLSpec .spatial_is_parallel VR.spatial_is_parallel.evalL := by evalL_spec VR.spatial_is_parallel.evalL
private theorem real_spec.spatial_is_perpendicular : EvalLSpec .spatial_is_perpendicular VR.spatial_is_perpendicular.evalL := by evalL_spec VR.spatial_is_perpendicular.evalL
private theorem real_spec.spatial_isclose : EvalLSpec .spatial_isclose VR.spatial_isclose.evalL := by evalL_spec VR.spatial_isclose.evalL
private theorem real_spec.spatial_mag : EvalLSpec .spatial_mag VR.spatial_mag.evalL := by evalL_spec VR.spatial_mag.evalL
private theorem real_spec.spatial_mag2 : EvalLSpec .spatial_mag2 VR.spatial_mag2.evalL := by evalL_spec VR.spatial_mag2.evalL
private theorem real_spec.spatial_not_equal : EvalLSpec .spatial_not_equal VR.spatial_not_equal.evalL := by evalL_spec VR.spatial_not_equal.evalL
private theorem real_spec.spatial_rotateX : EvalLSpec .spatial_rotateX VR.spatial_rotateX.evalL := by evalL_spec VR.spatial_rotateX.evalL
private theorem real_spec.spatial_rotateY : EvalLSpec .spatial_rotateY VR.spatial_rotateY.evalL := by evalL_spec VR.spatial_rotateY.evalL
private theorem real_spec.spatial_rotate_axis : EvalLSpec .spatial_rotate_axis VR.spatial_rotate_axis.evalL := by evalL_spec VR.spatial_rotate_axis.evalL
private theorem real_spec.spatial_rotate_euler : EvalLSpec .spatial_rotate_euler VR.spatial_rotate_euler.evalL := by evalL_spec VR.spatial_rotate_euler.evalL
private theorem real_spec.spatial_rotate_quaternion : EvalLSpec .spatial_rotate_quaternion VR.spatial_rotate_quaternion.evalL := by evalL_spec VR.spatial_rotate_quaternion.evalL
private theorem real_spec.spatial_scale : EvalLSpec .spatial_scale VR.spatial_scale.evalL := by evalL_spec VR.spatial_scale.evalL
private theorem real_spec.spatial_subtract : EvalLSpec .spatial_subtract VR.spatial_subtract.evalL := by evalL_spec VR.spatial_subtract.evalL
private theorem real_spec.spatial_theta : EvalLSpec .spatial_theta VR.spatial_theta.evalL := by evalL_spec VR.spatial_theta.evalL
private theorem real_spec.spatial_transform3D : EvalLSpec .spatial_transform3D VR.spatial_transform3D.evalL := by evalL_spec VR.spatial_transform3D.evalL
private theorem real_spec.spatial_unit : EvalLSpec .spatial_unit VR.spatial_unit.evalL := by evalL_spec VR.spatial_unit.evalL
private theorem real_spec.spatial_z : EvalLSpec .spatial_z VR.spatial_z.evalL := by evalL_spec VR.spatial_z.evalL

theorem real_spec : ∀ m : ModuleId, EvalLSpec m (VR.Compute.eval m)
  | .lorentz_Et => real_spec.lorentz_Et
  | .lorentz_Et2 => real_spec.lorentz_Et2
  | .lorentz_Mt => real_spec.lorentz_Mt
  | .lorentz_Mt2 => real_spec.lorentz_Mt2
  | .lorentz_add => real_spec.lorentz_add
  | .lorentz_beta => real_spec.lorentz_beta
  | .lorentz_boostX_beta => real_spec.lorentz_boostX_beta
  | .lorentz_boostX_gamma => real_spec.lorentz_boostX_gamma
  | .lorentz_boostY_beta => real_spec.lorentz_boostY_beta
  | .lorentz_boostY_gamma => real_spec.lorentz_boostY_gamma
  | .lorentz_boostZ_beta => real_spec.lorentz_boostZ_beta
  | .lorentz_boostZ_gamma => real_spec.lorentz_boostZ_gamma
  | .lorentz_boost_beta3 => real_spec.lorentz_boost_beta3
  | .lorentz_boost_p4 => real_spec.lorentz_boost_p4
  | .lorentz_deltaRapidityPhi => real_spec.lorentz_deltaRapidityPhi
  | .lorentz_deltaRapidityPhi2 => real_spec.lorentz_deltaRapidityPhi2
  | .lorentz_dot => real_spec.lorentz_dot
  | .lorentz_equal => real_spec.lorentz_equal
  | .lorentz_gamma => real_spec.lorentz_gamma
  | .lorentz_is_lightlike => real_spec.lorentz_is_lightlike
  | .lorentz_is_spacelike => real_spec.lorentz_is_spacelike
  | .lorentz_is_timelike => real_spec.lorentz_is_timelike
  | .lorentz_isclose => real_spec.lorentz_isclose
  | .lorentz_not_equal => real_spec.lorentz_not_equal
  | .lorentz_rapidity => real_spec.lorentz_rapidity
  | .lorentz_scale => real_spec.lorentz_scale
  | .lorentz_subtract => real_spec.lorentz_subtract
  | .lorentz_t => real_spec.lorentz_t
  | .lorentz_t2 => real_spec.lorentz_t2
  | .lorentz_tau => real_spec.lorentz_tau
  | .lorentz_tau2 => real_spec.lorentz_tau2
  | .lorentz_to_beta3 => real_spec.lorentz_to_beta3
  | .lorentz_transform4D => real_spec.lorentz_transform4D
  | .lorentz_unit => real_spec.lorentz_unit
  | .planar_add => real_spec.planar_add
  | .planar_deltaphi => real_spec.planar_deltaphi
  | .planar_dot => real_spec.planar_dot
  | .planar_equal => real_spec.planar_equal
  | .planar_is_antiparallel => real_spec.planar_is_antiparallel
  | .planar_is_parallel => real_spec.planar_is_parallel
  | .planar_is_perpendicular => real_spec.planar_is_perpendicular
  | .planar_isclose => real_spec.planar_isclose
  | .planar_not_equal => real_spec.planar_not_equal
  | .planar_phi => real_spec.planar_phi
  | .planar_rho => real_spec.planar_rho
  | .planar_rho2 => real_spec.planar_rho2
  | .planar_rotateZ => real_spec.planar_rotateZ
  | .planar_scale => real_spec.planar_scale
  | .planar_subtract => real_spec.planar_subtract
  | .planar_transform2D => real_spec.planar_transform2D
  | .planar_unit => real_spec.planar_unit
  | .planar_x => real_spec.planar_x
  | .planar_y => real_spec.planar_y
  | .spatial_add => real_spec.spatial_add
  | .spatial_costheta => real_spec.spatial_costheta
  | .spatial_cottheta => real_spec.spatial_cottheta
  | .spatial_cross => real_spec.spatial_cross
  | .spatial_deltaR => real_spec.spatial_deltaR
  | .spatial_deltaR2 => real_spec.spatial_deltaR2
  | .spatial_deltaangle => real_spec.spatial_deltaangle
  | .spatial_deltaeta => real_spec.spatial_deltaeta
  | .spatial_dot => real_spec.spatial_dot
  | .spatial_equal => real_spec.spatial_equal
  | .spatial_eta => real_spec.spatial_eta
  | .spatial_is_antiparallel => real_spec.spatial_is_antiparallel
  | .spatial_is_parallel => real_spec.spatial_is_parallel
  | .spatial_is_perpendicular => real_spec.spatial_is_perpendicular
  | .spatial_isclose => real_spec.spatial_isclose
  | .spatial_mag => real_spec.spatial_mag
  | .spatial_mag2 => real_spec.spatial_mag2
  | .spatial_not_equal => real_spec.spatial_not_equal
  | .spatial_rotateX => real_spec.spatial_rotateX
  | .spatial_rotateY => real_spec.spatial_rotateY
  | .spatial_rotate_axis => real_spec.spatial_rotate_axis
  | .spatial_rotate_euler => real_spec.spatial_rotate_euler
  | .spatial_rotate_quaternion => real_spec.spatial_rotate_quaternion
  | .spatial_scale => real_spec.spatial_scale
  | .spatial_subtract => real_spec.spatial_subtract
  | .spatial_theta => real_spec.spatial_theta
  | .spatial_transform3D => real_spec.spatial_transform3D
  | .spatial_unit => real_spec.spatial_unit
  | .spatial_z => real_spec.spatial_z

/-- the real compute layer returns, for every key it accepts, the declared result of the generated table -/
theorem c07m_evTables : EvTables evR :=
  ⟨fun m => (real_spec m).tab⟩

end MB

namespace C01M
open VK VG

theorem evR_kind {m : ModuleId} {k : List KA} {c : List ℝ} {out : Out ℝ Prop} {ret : Ret}
    (h : evR m k c = some (out, ret)) : retKind ret = some m.kind :=
  MB.c07m_evTables.kind h

theorem evR_float {m : ModuleId} (hm : m.kind = .float) {k : List KA} {c : List ℝ} {out : Out ℝ Prop} {ret : Ret}
    (h : evR m k c = some (out, ret)) : ret = .float := by
  have hk := hm ▸ evR_kind h
  unfold retKind at hk; split at hk <;> first | rfl | cases hk

theorem evR_bool {m : ModuleId} (hm : m.kind = .bool) {k : List KA} {c : List ℝ} {out : Out ℝ Prop} {ret : Ret}
    (h : evR m k c = some (out, ret)) : ret = .bool := by
  have hk := hm ▸ evR_kind h
  unfold retKind at hk; split at hk <;> first | rfl | cases hk

end C01M
end VR
