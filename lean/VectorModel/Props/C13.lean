/-
C13 — ranges, sign conventions and classification predicates are as documented.
Theorems about the *generated* real-number model of the compute modules
`planar.{phi,deltaphi,rho,rho2,is_parallel,is_antiparallel,is_perpendicular}`,
`spatial.{theta,costheta,cottheta,mag,mag2,deltaangle,is_parallel,is_antiparallel,is_perpendicular}`,
`lorentz.{t,t2,tau,tau2,beta,gamma,is_timelike,is_lightlike,is_spacelike}`.
Facts that are consequences of a refinement theorem (`Refine/*.lean`: `dot`, `mag2`, `deltaphi`, the signs of `costheta` and
`cottheta` for every key, the forms of `t` from `tau` and `tau` from `t`) are derived from it.
-/
import VectorModel.Gen.Real.planar_phi
import VectorModel.Gen.Real.planar_deltaphi
import VectorModel.Gen.Real.planar_rho
import VectorModel.Gen.Real.planar_rho2
import VectorModel.Gen.Real.planar_dot
import VectorModel.Gen.Real.planar_is_parallel
import VectorModel.Gen.Real.planar_is_antiparallel
import VectorModel.Gen.Real.planar_is_perpendicular
import VectorModel.Gen.Real.spatial_costheta__spatial_theta
import VectorModel.Gen.Real.spatial_cottheta
import VectorModel.Gen.Real.spatial_mag
import VectorModel.Gen.Real.spatial_mag2
import VectorModel.Gen.Real.spatial_dot
import VectorModel.Gen.Real.spatial_deltaangle
import VectorModel.Gen.Real.spatial_is_parallel
import VectorModel.Gen.Real.spatial_is_antiparallel
import VectorModel.Gen.Real.spatial_is_perpendicular
import VectorModel.Gen.Real.lorentz_t
import VectorModel.Gen.Real.lorentz_t2
import VectorModel.Gen.Real.lorentz_tau
import VectorModel.Gen.Real.lorentz_tau2
import VectorModel.Gen.Real.lorentz_beta
import VectorModel.Gen.Real.lorentz_gamma
import VectorModel.Gen.Real.lorentz_dot
import VectorModel.Gen.Real.lorentz_is_timelike
import VectorModel.Gen.Real.lorentz_is_lightlike
import VectorModel.Gen.Real.lorentz_is_spacelike
import Mathlib.Tactic.Ring
import Mathlib.Tactic.Linarith
import Mathlib.Tactic.NormNum
import Mathlib.Tactic.Positivity
import Mathlib.Tactic.LinearCombination
import VectorModel.Lemmas.Prim
import VectorModel.Lemmas.Real
import VectorModel.Refine.SpatialAcc
import VectorModel.Refine.SpatialBin
import VectorModel.Refine.LorentzAcc

namespace VR
open VK

/-! ## 1. Causal classification: `is_timelike`, `is_lightlike`, `is_spacelike`

For every one of the 12 coordinate systems the three predicates are thresholds on the SAME number,
the Minkowski self-product `lorentz_dot.eval k k v v`. -/

theorem c13_is_timelike_iff_dot (k0 : Az) (k1 : Lon) (k2 : Tmp) (tol a1 a2 a3 a4 : ℝ) :
    lorentz_is_timelike.eval k0 k1 k2 tol a1 a2 a3 a4 ↔
      lorentz_dot.eval k0 k1 k2 k0 k1 k2 a1 a2 a3 a4 a1 a2 a3 a4 > |tol| := by
  cases k0 <;> cases k1 <;> cases k2 <;> exact Iff.rfl

theorem c13_is_lightlike_iff_dot (k0 : Az) (k1 : Lon) (k2 : Tmp) (tol a1 a2 a3 a4 : ℝ) :
    lorentz_is_lightlike.eval k0 k1 k2 tol a1 a2 a3 a4 ↔
      |lorentz_dot.eval k0 k1 k2 k0 k1 k2 a1 a2 a3 a4 a1 a2 a3 a4| < |tol| := by
  cases k0 <;> cases k1 <;> cases k2 <;> exact Iff.rfl

theorem c13_is_spacelike_iff_dot (k0 : Az) (k1 : Lon) (k2 : Tmp) (tol a1 a2 a3 a4 : ℝ) :
    lorentz_is_spacelike.eval k0 k1 k2 tol a1 a2 a3 a4 ↔
      lorentz_dot.eval k0 k1 k2 k0 k1 k2 a1 a2 a3 a4 a1 a2 a3 a4 < -|tol| := by
  cases k0 <;> cases k1 <;> cases k2 <;> exact Iff.rfl

/-- timelike and lightlike never hold together (any key, any tolerance, same tolerance). -/
theorem c13_not_timelike_and_lightlike (k0 : Az) (k1 : Lon) (k2 : Tmp) (tol a1 a2 a3 a4 : ℝ) :
    ¬ (lorentz_is_timelike.eval k0 k1 k2 tol a1 a2 a3 a4 ∧
        lorentz_is_lightlike.eval k0 k1 k2 tol a1 a2 a3 a4) := by
  rw [c13_is_timelike_iff_dot, c13_is_lightlike_iff_dot]
  rintro ⟨h1, h2⟩
  have := (abs_lt.mp h2).2
  linarith

theorem c13_not_timelike_and_spacelike (k0 : Az) (k1 : Lon) (k2 : Tmp) (tol a1 a2 a3 a4 : ℝ) :
    ¬ (lorentz_is_timelike.eval k0 k1 k2 tol a1 a2 a3 a4 ∧
        lorentz_is_spacelike.eval k0 k1 k2 tol a1 a2 a3 a4) := by
  rw [c13_is_timelike_iff_dot, c13_is_spacelike_iff_dot]
  rintro ⟨h1, h2⟩
  have := abs_nonneg tol
  linarith

theorem c13_not_lightlike_and_spacelike (k0 : Az) (k1 : Lon) (k2 : Tmp) (tol a1 a2 a3 a4 : ℝ) :
    ¬ (lorentz_is_lightlike.eval k0 k1 k2 tol a1 a2 a3 a4 ∧
        lorentz_is_spacelike.eval k0 k1 k2 tol a1 a2 a3 a4) := by
  rw [c13_is_lightlike_iff_dot, c13_is_spacelike_iff_dot]
  rintro ⟨h1, h2⟩
  have := (abs_lt.mp h1).1
  linarith

/-- The three classes follow the sign of the self-product `s`: with `T = |tol|`,
`s > T` timelike, `s < -T` spacelike, `|s| < T` lightlike; the only vectors in no class are those
exactly on a threshold (`s = T` or `s = -T`). -/
theorem c13_causal_trichotomy (k0 : Az) (k1 : Lon) (k2 : Tmp) (tol a1 a2 a3 a4 : ℝ) :
    lorentz_is_timelike.eval k0 k1 k2 tol a1 a2 a3 a4 ∨
      lorentz_is_lightlike.eval k0 k1 k2 tol a1 a2 a3 a4 ∨
      lorentz_is_spacelike.eval k0 k1 k2 tol a1 a2 a3 a4 ∨
      lorentz_dot.eval k0 k1 k2 k0 k1 k2 a1 a2 a3 a4 a1 a2 a3 a4 = |tol| ∨
      lorentz_dot.eval k0 k1 k2 k0 k1 k2 a1 a2 a3 a4 a1 a2 a3 a4 = -|tol| := by
  rw [c13_is_timelike_iff_dot, c13_is_lightlike_iff_dot, c13_is_spacelike_iff_dot, abs_lt]
  rcases lt_trichotomy (lorentz_dot.eval k0 k1 k2 k0 k1 k2 a1 a2 a3 a4 a1 a2 a3 a4) |tol| with h | h | h
  · rcases lt_trichotomy (lorentz_dot.eval k0 k1 k2 k0 k1 k2 a1 a2 a3 a4 a1 a2 a3 a4) (-|tol|) with g | g | g
    · exact Or.inr (Or.inr (Or.inl g))
    · exact Or.inr (Or.inr (Or.inr (Or.inr g)))
    · exact Or.inr (Or.inl ⟨g, h⟩)
  · exact Or.inr (Or.inr (Or.inr (Or.inl h)))
  · exact Or.inl h

theorem c13_lorentz_dot_self_cartesian (x y z t : ℝ) :
    lorentz_dot.eval .xy .z .t .xy .z .t x y z t x y z t = t ^ 2 - (x ^ 2 + y ^ 2 + z ^ 2) := by
  simp only [d_lorentz_dot, d_lorentz_t, d_spatial_dot]
  ring

theorem c13_is_timelike_cartesian (tol x y z t : ℝ) :
    lorentz_is_timelike.eval .xy .z .t tol x y z t ↔ t ^ 2 - (x ^ 2 + y ^ 2 + z ^ 2) > |tol| := by
  rw [c13_is_timelike_iff_dot, c13_lorentz_dot_self_cartesian]

theorem c13_is_spacelike_cartesian (tol x y z t : ℝ) :
    lorentz_is_spacelike.eval .xy .z .t tol x y z t ↔ t ^ 2 - (x ^ 2 + y ^ 2 + z ^ 2) < -|tol| := by
  rw [c13_is_spacelike_iff_dot, c13_lorentz_dot_self_cartesian]

theorem c13_is_lightlike_cartesian (tol x y z t : ℝ) :
    lorentz_is_lightlike.eval .xy .z .t tol x y z t ↔ |t ^ 2 - (x ^ 2 + y ^ 2 + z ^ 2)| < |tol| := by
  rw [c13_is_lightlike_iff_dot, c13_lorentz_dot_self_cartesian]

/-- every class is inhabited (tolerance 1/2): (0,0,0,1) timelike, (1,0,0,1) lightlike, (1,0,0,0) spacelike -/
example : lorentz_is_timelike.eval .xy .z .t (1/2) 0 0 0 1 ∧ lorentz_is_lightlike.eval .xy .z .t (1/2) 1 0 0 1 ∧
    lorentz_is_spacelike.eval .xy .z .t (1/2) 1 0 0 0 := by
  rw [c13_is_timelike_cartesian, c13_is_lightlike_cartesian, c13_is_spacelike_cartesian]
  norm_num [abs_of_pos]

/-! ## 2. Angle predicates `is_parallel`, `is_antiparallel`, `is_perpendicular`

### 2a. every key pair: the predicate is the documented threshold on `dot` against `|a|·|b|` -/

theorem c13_planar_is_perpendicular_iff (k0 k1 : Az) (tol a0 a1 b0 b1 : ℝ) :
    planar_is_perpendicular.eval k0 k1 tol a0 a1 b0 b1 ↔
      |planar_dot.eval k0 k1 a0 a1 b0 b1| < |tol| * planar_rho.eval k0 a0 a1 * planar_rho.eval k1 b0 b1 := by
  cases k0 <;> cases k1 <;> exact Iff.rfl

theorem c13_planar_is_parallel_iff (k0 k1 : Az) (tol a0 a1 b0 b1 : ℝ) :
    planar_is_parallel.eval k0 k1 tol a0 a1 b0 b1 ↔
      planar_dot.eval k0 k1 a0 a1 b0 b1 > (1 - |tol|) * planar_rho.eval k0 a0 a1 * planar_rho.eval k1 b0 b1 := by
  cases k0 <;> cases k1 <;> exact Iff.rfl

theorem c13_planar_is_antiparallel_iff (k0 k1 : Az) (tol a0 a1 b0 b1 : ℝ) :
    planar_is_antiparallel.eval k0 k1 tol a0 a1 b0 b1 ↔
      planar_dot.eval k0 k1 a0 a1 b0 b1 < (|tol| - 1) * planar_rho.eval k0 a0 a1 * planar_rho.eval k1 b0 b1 := by
  cases k0 <;> cases k1 <;> exact Iff.rfl

theorem c13_spatial_is_perpendicular_iff (k0 : Az) (k1 : Lon) (k2 : Az) (k3 : Lon) (tol a0 a1 a2 b0 b1 b2 : ℝ) :
    spatial_is_perpendicular.eval k0 k1 k2 k3 tol a0 a1 a2 b0 b1 b2 ↔
      |spatial_dot.eval k0 k1 k2 k3 a0 a1 a2 b0 b1 b2| <
        |tol| * spatial_mag.eval k0 k1 a0 a1 a2 * spatial_mag.eval k2 k3 b0 b1 b2 := by
  cases k0 <;> cases k1 <;> cases k2 <;> cases k3 <;> exact Iff.rfl

theorem c13_spatial_is_parallel_iff (k0 : Az) (k1 : Lon) (k2 : Az) (k3 : Lon) (tol a0 a1 a2 b0 b1 b2 : ℝ) :
    spatial_is_parallel.eval k0 k1 k2 k3 tol a0 a1 a2 b0 b1 b2 ↔
      spatial_dot.eval k0 k1 k2 k3 a0 a1 a2 b0 b1 b2 >
        (1 - |tol|) * spatial_mag.eval k0 k1 a0 a1 a2 * spatial_mag.eval k2 k3 b0 b1 b2 := by
  cases k0 <;> cases k1 <;> cases k2 <;> cases k3 <;> exact Iff.rfl

theorem c13_spatial_is_antiparallel_iff (k0 : Az) (k1 : Lon) (k2 : Az) (k3 : Lon) (tol a0 a1 a2 b0 b1 b2 : ℝ) :
    spatial_is_antiparallel.eval k0 k1 k2 k3 tol a0 a1 a2 b0 b1 b2 ↔
      spatial_dot.eval k0 k1 k2 k3 a0 a1 a2 b0 b1 b2 <
        (|tol| - 1) * spatial_mag.eval k0 k1 a0 a1 a2 * spatial_mag.eval k2 k3 b0 b1 b2 := by
  cases k0 <;> cases k1 <;> cases k2 <;> cases k3 <;> exact Iff.rfl

/-! ### 2b. in terms of the cosine `dot / (|a|·|b|)`, for vectors of non-zero length -/

private theorem par_div {d T m1 m2 : ℝ} (h1 : 0 < m1) (h2 : 0 < m2) :
    d > (1 - T) * m1 * m2 ↔ d / (m1 * m2) > 1 - T := by
  rw [gt_iff_lt, gt_iff_lt, lt_div_iff₀ (mul_pos h1 h2), mul_assoc]

private theorem anti_div {d T m1 m2 : ℝ} (h1 : 0 < m1) (h2 : 0 < m2) :
    d < (T - 1) * m1 * m2 ↔ d / (m1 * m2) < T - 1 := by
  rw [div_lt_iff₀ (mul_pos h1 h2), mul_assoc]

private theorem perp_div {d T m1 m2 : ℝ} (h1 : 0 < m1) (h2 : 0 < m2) :
    |d| < T * m1 * m2 ↔ |d / (m1 * m2)| < T := by
  rw [abs_div, abs_of_pos (mul_pos h1 h2), div_lt_iff₀ (mul_pos h1 h2), mul_assoc]

private theorem abs_cos_le_one {d m1 m2 : ℝ} (h1 : 0 < m1) (h2 : 0 < m2) (hcs : |d| ≤ m1 * m2) :
    |d / (m1 * m2)| ≤ 1 := by
  rw [abs_div, abs_of_pos (mul_pos h1 h2), div_le_one (mul_pos h1 h2)]
  exact hcs

private theorem near_one {c T : ℝ} (hc : |c| ≤ 1) : c > 1 - T ↔ |c - 1| < T := by
  have := (abs_le.mp hc).2
  rw [abs_lt]
  constructor
  · intro h; constructor <;> linarith
  · rintro ⟨h, _⟩; linarith

private theorem near_neg_one {c T : ℝ} (hc : |c| ≤ 1) : c < T - 1 ↔ |c + 1| < T := by
  have := (abs_le.mp hc).1
  rw [abs_lt]
  constructor
  · intro h; constructor <;> linarith
  · rintro ⟨_, h⟩; linarith

private theorem add_sq_pos_iff {s : ℝ} (x : ℝ) (hs : 0 ≤ s) : 0 < s + x ^ 2 ↔ 0 < s ∨ x ≠ 0 := by
  constructor
  · intro h
    by_contra hc
    push Not at hc
    rw [hc.2, le_antisymm hc.1 hs] at h
    norm_num at h
  · rintro (h | h)
    · exact add_pos_of_pos_of_nonneg h (sq_nonneg x)
    · exact add_pos_of_nonneg_of_pos hs (sq_pos_of_ne_zero h)

theorem c13_sumsq2_pos_iff (x y : ℝ) : 0 < x ^ 2 + y ^ 2 ↔ x ≠ 0 ∨ y ≠ 0 :=
  (add_sq_pos_iff y (sq_nonneg x)).trans (or_congr sq_pos_iff Iff.rfl)

theorem c13_sumsq3_pos_iff (x y z : ℝ) : 0 < x ^ 2 + y ^ 2 + z ^ 2 ↔ x ≠ 0 ∨ y ≠ 0 ∨ z ≠ 0 :=
  ((add_sq_pos_iff z (by positivity)).trans (or_congr (c13_sumsq2_pos_iff x y) Iff.rfl)).trans or_assoc

theorem c13_planar_rho_xy_pos_iff (x y : ℝ) : 0 < planar_rho.eval .xy x y ↔ (x ≠ 0 ∨ y ≠ 0) := by
  simp only [d_planar_rho, d_planar_rho2, Real.sqrt_pos]
  exact c13_sumsq2_pos_iff x y

theorem c13_spatial_mag_xyz_pos_iff (x y z : ℝ) :
    0 < spatial_mag.eval .xy .z x y z ↔ (x ≠ 0 ∨ y ≠ 0 ∨ z ≠ 0) := by
  simp only [d_spatial_mag, d_spatial_mag2, Real.sqrt_pos]
  exact c13_sumsq3_pos_iff x y z

/-- Every key pair, vectors with positive length: `is_parallel ⇔ cos∠ > 1 - |tol|`. -/
theorem c13_planar_is_parallel_iff_cos (k0 k1 : Az) (tol a0 a1 b0 b1 : ℝ)
    (ha : 0 < planar_rho.eval k0 a0 a1) (hb : 0 < planar_rho.eval k1 b0 b1) :
    planar_is_parallel.eval k0 k1 tol a0 a1 b0 b1 ↔
      planar_dot.eval k0 k1 a0 a1 b0 b1 / (planar_rho.eval k0 a0 a1 * planar_rho.eval k1 b0 b1) > 1 - |tol| := by
  rw [c13_planar_is_parallel_iff, par_div ha hb]

theorem c13_planar_is_antiparallel_iff_cos (k0 k1 : Az) (tol a0 a1 b0 b1 : ℝ)
    (ha : 0 < planar_rho.eval k0 a0 a1) (hb : 0 < planar_rho.eval k1 b0 b1) :
    planar_is_antiparallel.eval k0 k1 tol a0 a1 b0 b1 ↔
      planar_dot.eval k0 k1 a0 a1 b0 b1 / (planar_rho.eval k0 a0 a1 * planar_rho.eval k1 b0 b1) < |tol| - 1 := by
  rw [c13_planar_is_antiparallel_iff, anti_div ha hb]

theorem c13_planar_is_perpendicular_iff_cos (k0 k1 : Az) (tol a0 a1 b0 b1 : ℝ)
    (ha : 0 < planar_rho.eval k0 a0 a1) (hb : 0 < planar_rho.eval k1 b0 b1) :
    planar_is_perpendicular.eval k0 k1 tol a0 a1 b0 b1 ↔
      |planar_dot.eval k0 k1 a0 a1 b0 b1 / (planar_rho.eval k0 a0 a1 * planar_rho.eval k1 b0 b1)| < |tol| := by
  rw [c13_planar_is_perpendicular_iff, perp_div ha hb]

theorem c13_spatial_is_parallel_iff_cos (k0 : Az) (k1 : Lon) (k2 : Az) (k3 : Lon) (tol a0 a1 a2 b0 b1 b2 : ℝ)
    (ha : 0 < spatial_mag.eval k0 k1 a0 a1 a2) (hb : 0 < spatial_mag.eval k2 k3 b0 b1 b2) :
    spatial_is_parallel.eval k0 k1 k2 k3 tol a0 a1 a2 b0 b1 b2 ↔
      spatial_dot.eval k0 k1 k2 k3 a0 a1 a2 b0 b1 b2 /
        (spatial_mag.eval k0 k1 a0 a1 a2 * spatial_mag.eval k2 k3 b0 b1 b2) > 1 - |tol| := by
  rw [c13_spatial_is_parallel_iff, par_div ha hb]

theorem c13_spatial_is_antiparallel_iff_cos (k0 : Az) (k1 : Lon) (k2 : Az) (k3 : Lon) (tol a0 a1 a2 b0 b1 b2 : ℝ)
    (ha : 0 < spatial_mag.eval k0 k1 a0 a1 a2) (hb : 0 < spatial_mag.eval k2 k3 b0 b1 b2) :
    spatial_is_antiparallel.eval k0 k1 k2 k3 tol a0 a1 a2 b0 b1 b2 ↔
      spatial_dot.eval k0 k1 k2 k3 a0 a1 a2 b0 b1 b2 /
        (spatial_mag.eval k0 k1 a0 a1 a2 * spatial_mag.eval k2 k3 b0 b1 b2) < |tol| - 1 := by
  rw [c13_spatial_is_antiparallel_iff, anti_div ha hb]

theorem c13_spatial_is_perpendicular_iff_cos (k0 : Az) (k1 : Lon) (k2 : Az) (k3 : Lon) (tol a0 a1 a2 b0 b1 b2 : ℝ)
    (ha : 0 < spatial_mag.eval k0 k1 a0 a1 a2) (hb : 0 < spatial_mag.eval k2 k3 b0 b1 b2) :
    spatial_is_perpendicular.eval k0 k1 k2 k3 tol a0 a1 a2 b0 b1 b2 ↔
      |spatial_dot.eval k0 k1 k2 k3 a0 a1 a2 b0 b1 b2 /
        (spatial_mag.eval k0 k1 a0 a1 a2 * spatial_mag.eval k2 k3 b0 b1 b2)| < |tol| := by
  rw [c13_spatial_is_perpendicular_iff, perp_div ha hb]

/-! ### 2c. "within the tolerance of +1 / -1 / 0": Cauchy–Schwarz gives `|cos∠| ≤ 1`, so the one-sided
thresholds of the code are the same as two-sided closeness. -/

private theorem cs2 (x1 y1 x2 y2 : ℝ) :
    |x1 * x2 + y1 * y2| ≤ √(x1 ^ 2 + y1 ^ 2) * √(x2 ^ 2 + y2 ^ 2) := by
  rw [← Real.sqrt_mul (by positivity)]
  apply Real.abs_le_sqrt
  have e : (x1 ^ 2 + y1 ^ 2) * (x2 ^ 2 + y2 ^ 2) - (x1 * x2 + y1 * y2) ^ 2 = (x1 * y2 - y1 * x2) ^ 2 := by ring
  exact sub_nonneg.mp (e ▸ sq_nonneg _)

private theorem cs_polar (r p x y : ℝ) (hr : 0 ≤ r) :
    |r * Real.cos p * x + r * Real.sin p * y| ≤ r * √(x ^ 2 + y ^ 2) := by
  have h := cs2 (r * Real.cos p) (r * Real.sin p) x y
  have e : (r * Real.cos p) ^ 2 + (r * Real.sin p) ^ 2 = r ^ 2 := by
    linear_combination (r ^ 2) * Real.cos_sq_add_sin_sq p
  rwa [e, Real.sqrt_sq hr] at h

/-- Cauchy–Schwarz for the generated planar `dot` and `rho`, every key pair (polar radii non-negative). -/
theorem c13_planar_abs_dot_le (k0 k1 : Az) (a0 a1 b0 b1 : ℝ)
    (ha : 0 ≤ planar_rho.eval k0 a0 a1) (hb : 0 ≤ planar_rho.eval k1 b0 b1) :
    |planar_dot.eval k0 k1 a0 a1 b0 b1| ≤ planar_rho.eval k0 a0 a1 * planar_rho.eval k1 b0 b1 := by
  cases k0 <;> cases k1 <;>
    simp only [d_planar_dot, d_planar_rho, d_planar_rho2, d_planar_x, d_planar_y] at ha hb ⊢
  · exact cs2 _ _ _ _
  · have := cs_polar b0 b1 a0 a1 hb
    rw [mul_comm (√_) b0]
    convert this using 2
    ring
  · exact cs_polar a0 a1 b0 b1 ha
  · rw [abs_mul, abs_of_nonneg (mul_nonneg ha hb)]
    exact mul_le_of_le_one_right (mul_nonneg ha hb) (Real.abs_cos_le_one _)

/-- Cauchy–Schwarz for the generated Cartesian spatial `dot` and `mag`. -/
theorem c13_spatial_abs_dot_le_cartesian (x1 y1 z1 x2 y2 z2 : ℝ) :
    |spatial_dot.eval .xy .z .xy .z x1 y1 z1 x2 y2 z2| ≤
      spatial_mag.eval .xy .z x1 y1 z1 * spatial_mag.eval .xy .z x2 y2 z2 := by
  simp only [spatial_dot.eval, spatial_dot.xy_z_xy_z, d_spatial_mag, d_spatial_mag2]
  rw [← Real.sqrt_mul (by positivity)]
  exact Real.abs_le_sqrt (L.cauchy_schwarz3 x1 y1 z1 x2 y2 z2)

/-- Every planar key pair, non-zero vectors: `is_parallel` ⇔ `cos∠` within `|tol|` of `+1`. -/
theorem c13_planar_is_parallel_iff_cos_near (k0 k1 : Az) (tol a0 a1 b0 b1 : ℝ)
    (ha : 0 < planar_rho.eval k0 a0 a1) (hb : 0 < planar_rho.eval k1 b0 b1) :
    planar_is_parallel.eval k0 k1 tol a0 a1 b0 b1 ↔
      |planar_dot.eval k0 k1 a0 a1 b0 b1 / (planar_rho.eval k0 a0 a1 * planar_rho.eval k1 b0 b1) - 1| < |tol| := by
  rw [c13_planar_is_parallel_iff_cos k0 k1 tol a0 a1 b0 b1 ha hb]
  exact near_one (abs_cos_le_one ha hb (c13_planar_abs_dot_le k0 k1 a0 a1 b0 b1 ha.le hb.le))

theorem c13_planar_is_antiparallel_iff_cos_near (k0 k1 : Az) (tol a0 a1 b0 b1 : ℝ)
    (ha : 0 < planar_rho.eval k0 a0 a1) (hb : 0 < planar_rho.eval k1 b0 b1) :
    planar_is_antiparallel.eval k0 k1 tol a0 a1 b0 b1 ↔
      |planar_dot.eval k0 k1 a0 a1 b0 b1 / (planar_rho.eval k0 a0 a1 * planar_rho.eval k1 b0 b1) + 1| < |tol| := by
  rw [c13_planar_is_antiparallel_iff_cos k0 k1 tol a0 a1 b0 b1 ha hb]
  exact near_neg_one (abs_cos_le_one ha hb (c13_planar_abs_dot_le k0 k1 a0 a1 b0 b1 ha.le hb.le))

/-- Cartesian spatial keys, non-zero vectors: `is_parallel` ⇔ `cos∠` within `|tol|` of `+1`. -/
theorem c13_spatial_is_parallel_cartesian (tol x1 y1 z1 x2 y2 z2 : ℝ)
    (ha : x1 ≠ 0 ∨ y1 ≠ 0 ∨ z1 ≠ 0) (hb : x2 ≠ 0 ∨ y2 ≠ 0 ∨ z2 ≠ 0) :
    spatial_is_parallel.eval .xy .z .xy .z tol x1 y1 z1 x2 y2 z2 ↔
      |spatial_dot.eval .xy .z .xy .z x1 y1 z1 x2 y2 z2 /
        (spatial_mag.eval .xy .z x1 y1 z1 * spatial_mag.eval .xy .z x2 y2 z2) - 1| < |tol| := by
  rw [← c13_spatial_mag_xyz_pos_iff] at ha hb
  rw [c13_spatial_is_parallel_iff_cos _ _ _ _ tol x1 y1 z1 x2 y2 z2 ha hb]
  exact near_one (abs_cos_le_one ha hb (c13_spatial_abs_dot_le_cartesian x1 y1 z1 x2 y2 z2))

theorem c13_spatial_is_antiparallel_cartesian (tol x1 y1 z1 x2 y2 z2 : ℝ)
    (ha : x1 ≠ 0 ∨ y1 ≠ 0 ∨ z1 ≠ 0) (hb : x2 ≠ 0 ∨ y2 ≠ 0 ∨ z2 ≠ 0) :
    spatial_is_antiparallel.eval .xy .z .xy .z tol x1 y1 z1 x2 y2 z2 ↔
      |spatial_dot.eval .xy .z .xy .z x1 y1 z1 x2 y2 z2 /
        (spatial_mag.eval .xy .z x1 y1 z1 * spatial_mag.eval .xy .z x2 y2 z2) + 1| < |tol| := by
  rw [← c13_spatial_mag_xyz_pos_iff] at ha hb
  rw [c13_spatial_is_antiparallel_iff_cos _ _ _ _ tol x1 y1 z1 x2 y2 z2 ha hb]
  exact near_neg_one (abs_cos_le_one ha hb (c13_spatial_abs_dot_le_cartesian x1 y1 z1 x2 y2 z2))

theorem c13_spatial_is_perpendicular_cartesian (tol x1 y1 z1 x2 y2 z2 : ℝ)
    (ha : x1 ≠ 0 ∨ y1 ≠ 0 ∨ z1 ≠ 0) (hb : x2 ≠ 0 ∨ y2 ≠ 0 ∨ z2 ≠ 0) :
    spatial_is_perpendicular.eval .xy .z .xy .z tol x1 y1 z1 x2 y2 z2 ↔
      |spatial_dot.eval .xy .z .xy .z x1 y1 z1 x2 y2 z2 /
        (spatial_mag.eval .xy .z x1 y1 z1 * spatial_mag.eval .xy .z x2 y2 z2)| < |tol| := by
  rw [← c13_spatial_mag_xyz_pos_iff] at ha hb
  exact c13_spatial_is_perpendicular_iff_cos _ _ _ _ tol x1 y1 z1 x2 y2 z2 ha hb

theorem c13_planar_is_parallel_cartesian (tol x1 y1 x2 y2 : ℝ) (ha : x1 ≠ 0 ∨ y1 ≠ 0) (hb : x2 ≠ 0 ∨ y2 ≠ 0) :
    planar_is_parallel.eval .xy .xy tol x1 y1 x2 y2 ↔
      |(x1 * x2 + y1 * y2) / (√(x1 ^ 2 + y1 ^ 2) * √(x2 ^ 2 + y2 ^ 2)) - 1| < |tol| := by
  rw [← c13_planar_rho_xy_pos_iff] at ha hb
  exact c13_planar_is_parallel_iff_cos_near .xy .xy tol x1 y1 x2 y2 ha hb

theorem c13_planar_is_antiparallel_cartesian (tol x1 y1 x2 y2 : ℝ) (ha : x1 ≠ 0 ∨ y1 ≠ 0) (hb : x2 ≠ 0 ∨ y2 ≠ 0) :
    planar_is_antiparallel.eval .xy .xy tol x1 y1 x2 y2 ↔
      |(x1 * x2 + y1 * y2) / (√(x1 ^ 2 + y1 ^ 2) * √(x2 ^ 2 + y2 ^ 2)) + 1| < |tol| := by
  rw [← c13_planar_rho_xy_pos_iff] at ha hb
  exact c13_planar_is_antiparallel_iff_cos_near .xy .xy tol x1 y1 x2 y2 ha hb

theorem c13_planar_is_perpendicular_cartesian (tol x1 y1 x2 y2 : ℝ) (ha : x1 ≠ 0 ∨ y1 ≠ 0) (hb : x2 ≠ 0 ∨ y2 ≠ 0) :
    planar_is_perpendicular.eval .xy .xy tol x1 y1 x2 y2 ↔
      |(x1 * x2 + y1 * y2) / (√(x1 ^ 2 + y1 ^ 2) * √(x2 ^ 2 + y2 ^ 2))| < |tol| := by
  rw [← c13_planar_rho_xy_pos_iff] at ha hb
  exact c13_planar_is_perpendicular_iff_cos .xy .xy tol x1 y1 x2 y2 ha hb

/-! ### 2d. mutual exclusion of the three angle classes -/

private theorem par_anti_excl {d T m1 m2 : ℝ} (h1 : 0 ≤ m1) (h2 : 0 ≤ m2) (hT : T ≤ 1) :
    ¬ (d > (1 - T) * m1 * m2 ∧ d < (T - 1) * m1 * m2) := by
  rintro ⟨h, g⟩
  have : 0 ≤ (1 - T) * (m1 * m2) := mul_nonneg (by linarith) (mul_nonneg h1 h2)
  linarith

private theorem par_perp_excl {d T m1 m2 : ℝ} (h1 : 0 ≤ m1) (h2 : 0 ≤ m2) (hT : T ≤ 1 / 2) :
    ¬ (d > (1 - T) * m1 * m2 ∧ |d| < T * m1 * m2) := by
  rintro ⟨h, g⟩
  have := (abs_lt.mp g).2
  have : 0 ≤ (1 - 2 * T) * (m1 * m2) := mul_nonneg (by linarith) (mul_nonneg h1 h2)
  linarith

private theorem anti_perp_excl {d T m1 m2 : ℝ} (h1 : 0 ≤ m1) (h2 : 0 ≤ m2) (hT : T ≤ 1 / 2) :
    ¬ (d < (T - 1) * m1 * m2 ∧ |d| < T * m1 * m2) := by
  rintro ⟨h, g⟩
  have := (abs_lt.mp g).1
  have : 0 ≤ (1 - 2 * T) * (m1 * m2) := mul_nonneg (by linarith) (mul_nonneg h1 h2)
  linarith

/-- `|tol| ≤ 1`: never both parallel and antiparallel (every planar key pair, radii non-negative). -/
theorem c13_planar_not_parallel_and_antiparallel (k0 k1 : Az) (tol a0 a1 b0 b1 : ℝ) (ht : |tol| ≤ 1)
    (ha : 0 ≤ planar_rho.eval k0 a0 a1) (hb : 0 ≤ planar_rho.eval k1 b0 b1) :
    ¬ (planar_is_parallel.eval k0 k1 tol a0 a1 b0 b1 ∧ planar_is_antiparallel.eval k0 k1 tol a0 a1 b0 b1) := by
  rw [c13_planar_is_parallel_iff, c13_planar_is_antiparallel_iff]
  exact par_anti_excl ha hb ht

/-- `|tol| ≤ 1/2`: never both parallel and perpendicular. -/
theorem c13_planar_not_parallel_and_perpendicular (k0 k1 : Az) (tol a0 a1 b0 b1 : ℝ) (ht : |tol| ≤ 1 / 2)
    (ha : 0 ≤ planar_rho.eval k0 a0 a1) (hb : 0 ≤ planar_rho.eval k1 b0 b1) :
    ¬ (planar_is_parallel.eval k0 k1 tol a0 a1 b0 b1 ∧ planar_is_perpendicular.eval k0 k1 tol a0 a1 b0 b1) := by
  rw [c13_planar_is_parallel_iff, c13_planar_is_perpendicular_iff]
  exact par_perp_excl ha hb ht

/-- `|tol| ≤ 1/2`: never both antiparallel and perpendicular. -/
theorem c13_planar_not_antiparallel_and_perpendicular (k0 k1 : Az) (tol a0 a1 b0 b1 : ℝ) (ht : |tol| ≤ 1 / 2)
    (ha : 0 ≤ planar_rho.eval k0 a0 a1) (hb : 0 ≤ planar_rho.eval k1 b0 b1) :
    ¬ (planar_is_antiparallel.eval k0 k1 tol a0 a1 b0 b1 ∧ planar_is_perpendicular.eval k0 k1 tol a0 a1 b0 b1) := by
  rw [c13_planar_is_antiparallel_iff, c13_planar_is_perpendicular_iff]
  exact anti_perp_excl ha hb ht

theorem c13_spatial_not_parallel_and_antiparallel (k0 : Az) (k1 : Lon) (k2 : Az) (k3 : Lon)
    (tol a0 a1 a2 b0 b1 b2 : ℝ) (ht : |tol| ≤ 1)
    (ha : 0 ≤ spatial_mag.eval k0 k1 a0 a1 a2) (hb : 0 ≤ spatial_mag.eval k2 k3 b0 b1 b2) :
    ¬ (spatial_is_parallel.eval k0 k1 k2 k3 tol a0 a1 a2 b0 b1 b2 ∧
        spatial_is_antiparallel.eval k0 k1 k2 k3 tol a0 a1 a2 b0 b1 b2) := by
  rw [c13_spatial_is_parallel_iff, c13_spatial_is_antiparallel_iff]
  exact par_anti_excl ha hb ht

theorem c13_spatial_not_parallel_and_perpendicular (k0 : Az) (k1 : Lon) (k2 : Az) (k3 : Lon)
    (tol a0 a1 a2 b0 b1 b2 : ℝ) (ht : |tol| ≤ 1 / 2)
    (ha : 0 ≤ spatial_mag.eval k0 k1 a0 a1 a2) (hb : 0 ≤ spatial_mag.eval k2 k3 b0 b1 b2) :
    ¬ (spatial_is_parallel.eval k0 k1 k2 k3 tol a0 a1 a2 b0 b1 b2 ∧
        spatial_is_perpendicular.eval k0 k1 k2 k3 tol a0 a1 a2 b0 b1 b2) := by
  rw [c13_spatial_is_parallel_iff, c13_spatial_is_perpendicular_iff]
  exact par_perp_excl ha hb ht

theorem c13_spatial_not_antiparallel_and_perpendicular (k0 : Az) (k1 : Lon) (k2 : Az) (k3 : Lon)
    (tol a0 a1 a2 b0 b1 b2 : ℝ) (ht : |tol| ≤ 1 / 2)
    (ha : 0 ≤ spatial_mag.eval k0 k1 a0 a1 a2) (hb : 0 ≤ spatial_mag.eval k2 k3 b0 b1 b2) :
    ¬ (spatial_is_antiparallel.eval k0 k1 k2 k3 tol a0 a1 a2 b0 b1 b2 ∧
        spatial_is_perpendicular.eval k0 k1 k2 k3 tol a0 a1 a2 b0 b1 b2) := by
  rw [c13_spatial_is_antiparallel_iff, c13_spatial_is_perpendicular_iff]
  exact anti_perp_excl ha hb ht

/-- The generated Cartesian norms are never negative, so for Cartesian operands the
exclusion theorems need no hypothesis on the vectors at all. -/
theorem c13_planar_rho_xy_nonneg (x y : ℝ) : 0 ≤ planar_rho.eval .xy x y := by
  simp only [d_planar_rho]; exact Real.sqrt_nonneg _

theorem c13_spatial_mag_xyz_nonneg (x y z : ℝ) : 0 ≤ spatial_mag.eval .xy .z x y z := by
  simp only [d_spatial_mag]; exact Real.sqrt_nonneg _

/-- The bound `1/2` is sharp in the sense that a tolerance in `(1/2, 1)` does allow overlap:
with `tol = 7/10` the vectors `(1,0)` and `(3,4)` (cos∠ = 3/5) are both "parallel" and "perpendicular". -/
theorem c13_parallel_perpendicular_overlap_large_tol :
    planar_is_parallel.eval .xy .xy (7 / 10) 1 0 3 4 ∧ planar_is_perpendicular.eval .xy .xy (7 / 10) 1 0 3 4 := by
  have e1 : √((1 : ℝ) ^ 2 + 0 ^ 2) = 1 := by norm_num
  have e2 : √((3 : ℝ) ^ 2 + 4 ^ 2) = 5 := by
    rw [show (3 : ℝ) ^ 2 + 4 ^ 2 = 5 ^ 2 by norm_num]; exact Real.sqrt_sq (by norm_num)
  rw [c13_planar_is_parallel_iff, c13_planar_is_perpendicular_iff]
  simp only [d_planar_dot, d_planar_rho, d_planar_rho2, e1, e2]
  norm_num [abs_of_pos]

/-- hypotheses are satisfiable / the classes are inhabited: with `tol = 1/10`,
`(1,0) ∥ (2,0)`, `(1,0)` antiparallel to `(-2,0)` (polar: `(2, π)`), `(1,0) ⟂ (0,3)`. -/
example : planar_is_parallel.eval .rhophi .rhophi (1 / 10) 1 0 2 0 ∧
    planar_is_antiparallel.eval .rhophi .rhophi (1 / 10) 1 0 2 Real.pi ∧
    planar_is_perpendicular.eval .rhophi .rhophi (1 / 10) 1 0 3 (Real.pi / 2) := by
  rw [c13_planar_is_parallel_iff, c13_planar_is_antiparallel_iff, c13_planar_is_perpendicular_iff]
  simp only [d_planar_dot, d_planar_rho]
  norm_num [abs_of_pos]

/-- the hypotheses `ha`, `hb` of the `…_iff_cos` theorems at `(3, 4)` resp. `(0, 0, 1)` -/
example : 0 < planar_rho.eval .xy 3 4 ∧ 0 < spatial_mag.eval .xy .z 0 0 1 :=
  ⟨(c13_planar_rho_xy_pos_iff 3 4).2 (Or.inl (by norm_num)),
   (c13_spatial_mag_xyz_pos_iff 0 0 1).2 (Or.inr (Or.inr (by norm_num)))⟩

/-! ## 3. Ranges -/

/-- `phi` computed from Cartesian coordinates lies in `(-π, π]`. -/
theorem c13_planar_phi_xy_range (x y : ℝ) :
    -Real.pi < planar_phi.xy x y ∧ planar_phi.xy x y ≤ Real.pi := by
  simp only [d_planar_phi, P.arctan2]
  exact ⟨Complex.neg_pi_lt_arg _, Complex.arg_le_pi _⟩

/-- `phi` for every key: computed (`xy`) or the stored value returned unchanged (`rhophi`). -/
theorem c13_planar_phi_range (k : Az) (a0 a1 : ℝ) (h : k = .rhophi → -Real.pi < a1 ∧ a1 ≤ Real.pi) :
    -Real.pi < planar_phi.eval k a0 a1 ∧ planar_phi.eval k a0 a1 ≤ Real.pi := by
  cases k
  · exact c13_planar_phi_xy_range a0 a1
  · exact h rfl

theorem c13_planar_phi_rhophi_eq (rho phi : ℝ) : planar_phi.eval .rhophi rho phi = phi := rfl

/-- the hypothesis of `c13_planar_phi_range` at a stored `φ = 0` -/
example : -Real.pi < (0 : ℝ) ∧ (0 : ℝ) ≤ Real.pi := ⟨by linarith [Real.pi_pos], Real.pi_pos.le⟩

theorem c13_rectify_range (phi : ℝ) :
    -Real.pi ≤ planar_deltaphi.rectify phi ∧ planar_deltaphi.rectify phi < Real.pi :=
  L.rectify_mem phi

/-- the θ flip of `scale`: `|θ + ½(sign k − 1)π|` is `θ` (k > 0), `π − θ` (k < 0), `|θ − π/2|` (k = 0);
it stays in `[0, π]` for `θ ∈ [0, π]`. -/
theorem c13_theta_flip_range (factor theta : ℝ) (h0 : 0 ≤ theta) (h1 : theta ≤ Real.pi) :
    0 ≤ |theta + 0.5 * (P.sign factor - 1) * Real.pi| ∧
      |theta + 0.5 * (P.sign factor - 1) * Real.pi| ≤ Real.pi := by
  refine ⟨abs_nonneg _, ?_⟩
  have hp := Real.pi_pos
  rw [abs_le]
  unfold P.sign
  rcases Real.sign_apply_eq factor with h | h | h <;> rw [h] <;> constructor <;> linarith

/-- `deltaphi` lies in `[-π, π)` for every pair of coordinate systems, whatever the stored angles are. -/
theorem c13_planar_deltaphi_range (k0 k1 : Az) (a0 a1 b0 b1 : ℝ) :
    -Real.pi ≤ planar_deltaphi.eval k0 k1 a0 a1 b0 b1 ∧ planar_deltaphi.eval k0 k1 a0 a1 b0 b1 < Real.pi :=
  (refine_planar_deltaphi k0 k1 a0 a1 b0 b1).1

theorem c13_planar_rho2_nonneg (k : Az) (a0 a1 : ℝ) : 0 ≤ planar_rho2.eval k a0 a1 := by
  cases k <;> simp only [d_planar_rho2] <;> positivity

/-- `rho ≥ 0`: computed as a square root (`xy`), or the stored `rho` (then the stored value must be ≥ 0). -/
theorem c13_planar_rho_nonneg (k : Az) (a0 a1 : ℝ) (h : k = .rhophi → 0 ≤ a0) : 0 ≤ planar_rho.eval k a0 a1 := by
  cases k
  · exact c13_planar_rho_xy_nonneg a0 a1
  · exact h rfl

/-- `mag2 ≥ 0` for all six keys (for `theta` keys away from the poles `sin θ = 0`, where the code divides by 0). -/
theorem c13_spatial_mag2_nonneg (k0 : Az) (k1 : Lon) (a0 a1 a2 : ℝ) (_hθ : k1 = .theta → Real.sin a2 ≠ 0) :
    0 ≤ spatial_mag2.eval k0 k1 a0 a1 a2 := by
  cases k0 <;> cases k1 <;> simp only [d_spatial_mag2] <;> positivity

theorem c13_spatial_mag2_xy_z_nonneg (x y z : ℝ) : 0 ≤ spatial_mag2.xy_z x y z :=
  c13_spatial_mag2_nonneg .xy .z x y z (fun h => by cases h)

/-- `mag ≥ 0` for all six keys; polar keys need the stored `rho ≥ 0` unless `mag` is a square root. -/
theorem c13_spatial_mag_nonneg (k0 : Az) (k1 : Lon) (a0 a1 a2 : ℝ)
    (hρ : k0 = .rhophi → 0 ≤ a0) (_hθ : k1 = .theta → Real.sin a2 ≠ 0) :
    0 ≤ spatial_mag.eval k0 k1 a0 a1 a2 := by
  cases k0 <;> cases k1 <;> simp only [d_spatial_mag] <;>
    -- `z` keys: a square root; `(xy, θ|η)`: a quotient / product of non-negative terms; `(ρφ, θ|η)`: the same with `0 ≤ ρ`
    first
    | exact Real.sqrt_nonneg _
    | positivity
    | (have := hρ rfl; positivity)

theorem c13_spatial_mag_xy_z_nonneg (x y z : ℝ) : 0 ≤ spatial_mag.xy_z x y z :=
  c13_spatial_mag_xyz_nonneg x y z

/-- `t2 ≥ 0` for all twelve keys: a square for `t` keys, clamped by `maximum(·, 0)` for `tau` keys. -/
theorem c13_lorentz_t2_nonneg (k0 : Az) (k1 : Lon) (k2 : Tmp) (a0 a1 a2 a3 : ℝ)
    (_hθ : k1 = .theta → Real.sin a2 ≠ 0) :
    0 ≤ lorentz_t2.eval k0 k1 k2 a0 a1 a2 a3 := by
  cases k0 <;> cases k1 <;> cases k2 <;>
    simp only [lorentz_t2.eval, d_lorentz_t2] <;>
    positivity

/-- the hypothesis `_hθ` of the non-negativity theorems above at `θ = π/2` -/
example : ((Lon.theta = .theta) → Real.sin (Real.pi / 2) ≠ 0) := fun _ => by norm_num

theorem c13_spatial_theta_xy_z_range (x y z : ℝ) (_h : x ≠ 0 ∨ y ≠ 0 ∨ z ≠ 0) :
    0 ≤ spatial_theta.xy_z x y z ∧ spatial_theta.xy_z x y z ≤ Real.pi := by
  simp only [spatial_theta.xy_z]
  exact ⟨Real.arccos_nonneg _, Real.arccos_le_pi _⟩

theorem c13_spatial_theta_rhophi_z_range (rho phi z : ℝ) (_h : rho ≠ 0 ∨ z ≠ 0) :
    0 ≤ spatial_theta.rhophi_z rho phi z ∧ spatial_theta.rhophi_z rho phi z ≤ Real.pi := by
  simp only [spatial_theta.rhophi_z]
  exact ⟨Real.arccos_nonneg _, Real.arccos_le_pi _⟩

/-- `theta` computed from `eta` (`2·arctan(exp(-η))`) lies strictly inside `(0, π)`. -/
theorem c13_spatial_theta_eta_range (k0 : Az) (a0 a1 eta : ℝ) :
    0 < spatial_theta.eval k0 .eta a0 a1 eta ∧ spatial_theta.eval k0 .eta a0 a1 eta < Real.pi := by
  cases k0 <;> simp only [d_spatial_theta, L.two_pt_zero] <;> exact ⟨L.two_arctan_exp_neg_pos eta, L.two_arctan_exp_neg_lt_pi eta⟩

/-- for `theta` keys the stored value is returned unchanged … -/
theorem c13_spatial_theta_theta_eq (k0 : Az) (a0 a1 theta : ℝ) :
    spatial_theta.eval k0 .theta a0 a1 theta = theta := by
  cases k0 <;> rfl

/-- … so `theta ∈ [0, π]` for every key, given a non-zero vector for the `z` keys and a stored
`theta ∈ [0, π]` for the `theta` keys. -/
theorem c13_spatial_theta_range (k0 : Az) (k1 : Lon) (a0 a1 a2 : ℝ)
    (_hz : k1 = .z → 0 < spatial_mag.eval k0 .z a0 a1 a2)
    (hθ : k1 = .theta → 0 ≤ a2 ∧ a2 ≤ Real.pi) :
    0 ≤ spatial_theta.eval k0 k1 a0 a1 a2 ∧ spatial_theta.eval k0 k1 a0 a1 a2 ≤ Real.pi := by
  cases k1
  · cases k0 <;> simp only [d_spatial_theta] <;> exact ⟨Real.arccos_nonneg _, Real.arccos_le_pi _⟩
  · rw [c13_spatial_theta_theta_eq]; exact hθ rfl
  · have := c13_spatial_theta_eta_range k0 a0 a1 a2
    exact ⟨this.1.le, this.2.le⟩

/-- `deltaangle ∈ [0, π]` for all 36 key pairs (vectors of positive length). -/
theorem c13_spatial_deltaangle_range (k0 : Az) (k1 : Lon) (k2 : Az) (k3 : Lon) (a0 a1 a2 b0 b1 b2 : ℝ)
    (_ha : 0 < spatial_mag.eval k0 k1 a0 a1 a2) (_hb : 0 < spatial_mag.eval k2 k3 b0 b1 b2) :
    0 ≤ spatial_deltaangle.eval k0 k1 k2 k3 a0 a1 a2 b0 b1 b2 ∧
      spatial_deltaangle.eval k0 k1 k2 k3 a0 a1 a2 b0 b1 b2 ≤ Real.pi := by
  cases k0 <;> cases k1 <;> cases k2 <;> cases k3 <;> simp only [d_spatial_deltaangle] <;>
    exact ⟨Real.arccos_nonneg _, Real.arccos_le_pi _⟩

theorem c13_spatial_deltaangle_cartesian_range (x1 y1 z1 x2 y2 z2 : ℝ)
    (ha : x1 ≠ 0 ∨ y1 ≠ 0 ∨ z1 ≠ 0) (hb : x2 ≠ 0 ∨ y2 ≠ 0 ∨ z2 ≠ 0) :
    0 ≤ spatial_deltaangle.xy_z_xy_z x1 y1 z1 x2 y2 z2 ∧ spatial_deltaangle.xy_z_xy_z x1 y1 z1 x2 y2 z2 ≤ Real.pi :=
  c13_spatial_deltaangle_range .xy .z .xy .z x1 y1 z1 x2 y2 z2
    ((c13_spatial_mag_xyz_pos_iff _ _ _).2 ha) ((c13_spatial_mag_xyz_pos_iff _ _ _).2 hb)

/-! ## 4. Sign conventions: `costheta` and `cottheta` have the sign of `z` -/

private theorem div_sign_iff (z : ℝ) {m : ℝ} (hm : 0 < m) :
    (0 < z / m ↔ 0 < z) ∧ (z / m < 0 ↔ z < 0) ∧ (z / m = 0 ↔ z = 0) := by
  refine ⟨div_pos_iff_of_pos_right hm, ?_, ?_⟩
  · rw [div_lt_iff₀ hm, zero_mul]
  · rw [div_eq_zero_iff]
    constructor
    · rintro (h | h)
      · exact h
      · exact absurd h hm.ne'
    · exact Or.inl

/-- Cartesian `costheta = z / mag` has exactly the sign of `z` for a non-zero vector. -/
theorem c13_spatial_costheta_xy_z_sign (x y z : ℝ) (h : x ≠ 0 ∨ y ≠ 0 ∨ z ≠ 0) :
    (0 < spatial_costheta.xy_z x y z ↔ 0 < z) ∧ (spatial_costheta.xy_z x y z < 0 ↔ z < 0) ∧
      (spatial_costheta.xy_z x y z = 0 ↔ z = 0) := by
  have hm : 0 < spatial_mag.xy_z x y z := (c13_spatial_mag_xyz_pos_iff x y z).2 h
  simp only [spatial_costheta.xy_z, P.nanToNum_eq]
  exact div_sign_iff z hm

/-- and it is a cosine: `|costheta| ≤ 1`. -/
theorem c13_spatial_costheta_xy_z_abs_le_one (x y z : ℝ) (h : x ≠ 0 ∨ y ≠ 0 ∨ z ≠ 0) :
    |spatial_costheta.xy_z x y z| ≤ 1 := by
  have hm : 0 < spatial_mag.xy_z x y z := (c13_spatial_mag_xyz_pos_iff x y z).2 h
  simp only [spatial_costheta.xy_z, P.nanToNum_eq]
  rw [abs_div, abs_of_pos hm, div_le_one hm]
  simp only [d_spatial_mag, d_spatial_mag2]
  exact Real.abs_le_sqrt (le_add_of_nonneg_left (by positivity))

theorem c13_spatial_costheta_rhophi_z_sign (rho phi z : ℝ) (h : rho ≠ 0 ∨ z ≠ 0) :
    (0 < spatial_costheta.rhophi_z rho phi z ↔ 0 < z) ∧ (spatial_costheta.rhophi_z rho phi z < 0 ↔ z < 0) ∧
      (spatial_costheta.rhophi_z rho phi z = 0 ↔ z = 0) := by
  have hm : 0 < spatial_mag.rhophi_z rho phi z := by
    simp only [d_spatial_mag, d_spatial_mag2, Real.sqrt_pos]
    exact (c13_sumsq2_pos_iff rho z).2 h
  simp only [spatial_costheta.rhophi_z, P.nanToNum_eq]
  exact div_sign_iff z hm

/-- Cartesian `cottheta = z / rho` has exactly the sign of `z` when `x² + y² > 0`. -/
theorem c13_spatial_cottheta_xy_z_sign (x y z : ℝ) (h : 0 < x ^ 2 + y ^ 2) :
    (0 < spatial_cottheta.xy_z x y z ↔ 0 < z) ∧ (spatial_cottheta.xy_z x y z < 0 ↔ z < 0) ∧
      (spatial_cottheta.xy_z x y z = 0 ↔ z = 0) := by
  have hm : 0 < planar_rho.xy x y := by
    simp only [d_planar_rho, d_planar_rho2, Real.sqrt_pos]; exact h
  simp only [spatial_cottheta.xy_z, P.nanToNum_eq]
  exact div_sign_iff z hm

theorem c13_spatial_cottheta_rhophi_z_sign (rho phi z : ℝ) (h : 0 < rho) :
    (0 < spatial_cottheta.rhophi_z rho phi z ↔ 0 < z) ∧ (spatial_cottheta.rhophi_z rho phi z < 0 ↔ z < 0) ∧
      (spatial_cottheta.rhophi_z rho phi z = 0 ↔ z = 0) := by
  simp only [spatial_cottheta.rhophi_z, P.nanToNum_eq]
  exact div_sign_iff z h

/-- the hypotheses of the `costheta` resp. `cottheta` sign theorems above at `(1, 0, -2)` -/
example : (1 : ℝ) ≠ 0 ∨ (0 : ℝ) ≠ 0 ∨ (-2 : ℝ) ≠ 0 := Or.inl one_ne_zero
example : (0 : ℝ) < 1 ^ 2 + 0 ^ 2 := by norm_num

/-! ## 5. `t` derived from `tau`, `tau` derived from `t` -/

/-- `t` from `tau` is a square root … -/
theorem c13_lorentz_t_tau_eq_sqrt (k0 : Az) (k1 : Lon) (a0 a1 a2 tau : ℝ) :
    lorentz_t.eval k0 k1 .tau a0 a1 a2 tau = √(lorentz_t2.eval k0 k1 .tau a0 a1 a2 tau) :=
  lorentz_t_tau_eval_eq k0 k1 a0 a1 a2 tau

/-- … of a number that is never negative (this is what keeps it from being NaN) … -/
theorem c13_lorentz_t2_tau_nonneg (k0 : Az) (k1 : Lon) (a0 a1 a2 tau : ℝ) (hθ : k1 = .theta → Real.sin a2 ≠ 0) :
    0 ≤ lorentz_t2.eval k0 k1 .tau a0 a1 a2 tau :=
  c13_lorentz_t2_nonneg k0 k1 .tau a0 a1 a2 tau hθ

/-- … hence non-negative, for all six `tau` keys. -/
theorem c13_lorentz_t_tau_nonneg (k0 : Az) (k1 : Lon) (a0 a1 a2 tau : ℝ) (_hθ : k1 = .theta → Real.sin a2 ≠ 0) :
    0 ≤ lorentz_t.eval k0 k1 .tau a0 a1 a2 tau := by
  rw [c13_lorentz_t_tau_eq_sqrt]; exact Real.sqrt_nonneg _

/-- and it squares back to `t2`. -/
theorem c13_lorentz_t_tau_sq (k0 : Az) (k1 : Lon) (a0 a1 a2 tau : ℝ) (hθ : k1 = .theta → Real.sin a2 ≠ 0) :
    lorentz_t.eval k0 k1 .tau a0 a1 a2 tau ^ 2 = lorentz_t2.eval k0 k1 .tau a0 a1 a2 tau := by
  rw [c13_lorentz_t_tau_eq_sqrt]; exact Real.sq_sqrt (c13_lorentz_t2_tau_nonneg k0 k1 a0 a1 a2 tau hθ)

/-- Six `tau` keys, `0 ≤ tau` (timelike or lightlike): `t² = tau² + mag²`. -/
theorem c13_lorentz_t_tau_sq_of_nonneg (k0 : Az) (k1 : Lon) (a0 a1 a2 tau : ℝ)
    (hθ : k1 = .theta → Real.sin a2 ≠ 0) (htau : 0 ≤ tau) :
    lorentz_t.eval k0 k1 .tau a0 a1 a2 tau ^ 2 = tau ^ 2 + spatial_mag2.eval k0 k1 a0 a1 a2 := by
  rw [c13_lorentz_t_tau_sq k0 k1 a0 a1 a2 tau hθ]
  have hm := c13_spatial_mag2_nonneg k0 k1 a0 a1 a2 hθ
  rw [lorentz_t2_tau_eval_eq, P.copysign_sq htau]
  exact max_eq_left (by positivity)

/-- Six `tau` keys, `tau < 0` (the library's encoding of spacelike): `t² = max(mag² - tau², 0)`. -/
theorem c13_lorentz_t_tau_sq_of_neg (k0 : Az) (k1 : Lon) (a0 a1 a2 tau : ℝ)
    (hθ : k1 = .theta → Real.sin a2 ≠ 0) (htau : tau < 0) :
    lorentz_t.eval k0 k1 .tau a0 a1 a2 tau ^ 2 = max (spatial_mag2.eval k0 k1 a0 a1 a2 - tau ^ 2) 0 := by
  rw [c13_lorentz_t_tau_sq k0 k1 a0 a1 a2 tau hθ]
  rw [lorentz_t2_tau_eval_eq, P.copysign_of_neg _ htau, abs_of_nonneg (sq_nonneg tau)]
  congr 1
  ring

theorem c13_lorentz_t_xy_z_tau_sq (x y z tau : ℝ) (htau : 0 ≤ tau) :
    lorentz_t.xy_z_tau x y z tau ^ 2 = tau ^ 2 + x ^ 2 + y ^ 2 + z ^ 2 := by
  have := c13_lorentz_t_tau_sq_of_nonneg .xy .z x y z tau (fun h => by cases h) htau
  simp only [lorentz_t.eval, spatial_mag2.eval, spatial_mag2.xy_z] at this
  rw [this]; ring

theorem c13_lorentz_t_xy_z_tau_nonneg (x y z tau : ℝ) : 0 ≤ lorentz_t.xy_z_tau x y z tau :=
  c13_lorentz_t_tau_nonneg .xy .z x y z tau (fun h => by cases h)

/-- the hypothesis `0 ≤ tau` of `c13_lorentz_t_tau_sq_of_nonneg` at `τ = 1` -/
example : (0 : ℝ) ≤ 1 := zero_le_one

private theorem lorentz_tau_t_eval (k0 : Az) (k1 : Lon) (a0 a1 a2 t : ℝ) :
    lorentz_tau.eval k0 k1 .t a0 a1 a2 t =
      P.copysign (√|t ^ 2 - spatial_mag2.eval k0 k1 a0 a1 a2|) (t ^ 2 - spatial_mag2.eval k0 k1 a0 a1 a2) := by
  rw [lorentz_tau_t_eval_eq, lorentz_tau2_t_eval_eq]

/-- Six `t` keys: `tau` derived from `t` is negative exactly for spacelike vectors (`t² < mag²`). -/
theorem c13_lorentz_tau_neg_iff (k0 : Az) (k1 : Lon) (a0 a1 a2 t : ℝ) (_hθ : k1 = .theta → Real.sin a2 ≠ 0) :
    lorentz_tau.eval k0 k1 .t a0 a1 a2 t < 0 ↔ t ^ 2 < spatial_mag2.eval k0 k1 a0 a1 a2 := by
  rw [lorentz_tau_t_eval, P.copysign_sqrt_abs_neg_iff, sub_neg]

/-- and its square is `|t² - mag²|`. -/
theorem c13_lorentz_tau_sq (k0 : Az) (k1 : Lon) (a0 a1 a2 t : ℝ) (_hθ : k1 = .theta → Real.sin a2 ≠ 0) :
    lorentz_tau.eval k0 k1 .t a0 a1 a2 t ^ 2 = |t ^ 2 - spatial_mag2.eval k0 k1 a0 a1 a2| := by
  rw [lorentz_tau_t_eval, P.copysign_sqrt_abs_sq]

theorem c13_lorentz_tau_xy_z_t_neg_iff (x y z t : ℝ) :
    lorentz_tau.xy_z_t x y z t < 0 ↔ t ^ 2 < x ^ 2 + y ^ 2 + z ^ 2 :=
  c13_lorentz_tau_neg_iff .xy .z x y z t (fun h => by cases h)

/-! ## 6. `beta` and `gamma` -/

private theorem lorentz_beta_t_eval (k0 : Az) (k1 : Lon) (a0 a1 a2 t : ℝ) :
    lorentz_beta.eval k0 k1 .t a0 a1 a2 t = spatial_mag.eval k0 k1 a0 a1 a2 / t := by
  cases k0 <;> cases k1 <;> rfl

/-- Six `t` keys: for a forward vector with `0 ≤ mag < t` (forward timelike), `0 ≤ beta < 1`. -/
theorem c13_lorentz_beta_range (k0 : Az) (k1 : Lon) (a0 a1 a2 t : ℝ)
    (hm : 0 ≤ spatial_mag.eval k0 k1 a0 a1 a2) (hlt : spatial_mag.eval k0 k1 a0 a1 a2 < t) :
    0 ≤ lorentz_beta.eval k0 k1 .t a0 a1 a2 t ∧ lorentz_beta.eval k0 k1 .t a0 a1 a2 t < 1 := by
  have ht : 0 < t := lt_of_le_of_lt hm hlt
  rw [lorentz_beta_t_eval]
  exact ⟨div_nonneg hm ht.le, (div_lt_one ht).2 hlt⟩

/-- Six `t` keys: on the forward light cone (`mag = t > 0`) `beta = 1`. -/
theorem c13_lorentz_beta_lightlike (k0 : Az) (k1 : Lon) (a0 a1 a2 t : ℝ) (ht : 0 < t)
    (heq : spatial_mag.eval k0 k1 a0 a1 a2 = t) :
    lorentz_beta.eval k0 k1 .t a0 a1 a2 t = 1 := by
  rw [lorentz_beta_t_eval, heq, div_self ht.ne']

theorem c13_lorentz_beta_xy_z_t_range (x y z t : ℝ) (ht : 0 < t) (h : x ^ 2 + y ^ 2 + z ^ 2 < t ^ 2) :
    0 ≤ lorentz_beta.xy_z_t x y z t ∧ lorentz_beta.xy_z_t x y z t < 1 := by
  apply c13_lorentz_beta_range .xy .z x y z t (c13_spatial_mag_xyz_nonneg x y z)
  simp only [d_spatial_mag, d_spatial_mag2]
  exact (Real.sqrt_lt' ht).2 h

theorem c13_lorentz_beta_xy_z_t_lightlike (x y z t : ℝ) (ht : 0 < t) (h : x ^ 2 + y ^ 2 + z ^ 2 = t ^ 2) :
    lorentz_beta.xy_z_t x y z t = 1 := by
  apply c13_lorentz_beta_lightlike .xy .z x y z t ht
  simp only [d_spatial_mag, d_spatial_mag2]
  rw [h]; exact Real.sqrt_sq ht.le

/-- Six `t` keys, forward timelike (`0 < t`, `0 ≤ mag2 < t²`): `gamma = t / tau ≥ 1`. -/
theorem c13_lorentz_gamma_ge_one (k0 : Az) (k1 : Lon) (a0 a1 a2 t : ℝ) (ht : 0 < t)
    (hm : 0 ≤ spatial_mag2.eval k0 k1 a0 a1 a2) (hlt : spatial_mag2.eval k0 k1 a0 a1 a2 < t ^ 2) :
    1 ≤ lorentz_gamma.eval k0 k1 .t a0 a1 a2 t := by
  have e : lorentz_gamma.eval k0 k1 .t a0 a1 a2 t =
      t / P.copysign (√|t ^ 2 - spatial_mag2.eval k0 k1 a0 a1 a2|) (t ^ 2 - spatial_mag2.eval k0 k1 a0 a1 a2) := by
    cases k0 <;> cases k1 <;> rfl
  have hs : 0 < t ^ 2 - spatial_mag2.eval k0 k1 a0 a1 a2 := by linarith
  rw [e, P.copysign_sqrt_abs_of_nonneg hs.le, one_le_div (Real.sqrt_pos.2 hs), Real.sqrt_le_left ht.le]
  linarith

theorem c13_lorentz_gamma_xy_z_t_ge_one (x y z t : ℝ) (ht : 0 < t) (h : x ^ 2 + y ^ 2 + z ^ 2 < t ^ 2) :
    1 ≤ lorentz_gamma.xy_z_t x y z t := by
  apply c13_lorentz_gamma_ge_one .xy .z x y z t ht (c13_spatial_mag2_nonneg .xy .z x y z (fun h => by cases h))
  simp only [d_spatial_mag2]
  exact h

/-- hypotheses satisfiable: (x,y,z,t) = (1,0,0,2) is forward timelike, (3,4,0,5) is on the forward light cone. -/
example : (0 : ℝ) < 2 ∧ (1 : ℝ) ^ 2 + 0 ^ 2 + 0 ^ 2 < 2 ^ 2 := by norm_num
example : (0 : ℝ) < 5 ∧ (3 : ℝ) ^ 2 + 4 ^ 2 + 0 ^ 2 = 5 ^ 2 := by norm_num

/-! ## 7. Sign conventions for every coordinate system: `costheta.eval` and `cottheta.eval` have the sign
of the generated `z.eval` of the same key (vectors off the beam axis: positive transverse radius). -/

/-- off the z axis, with `0 < θ < π` and `θ ≠ π/2` for θ storage, the storage is representable and `cos θ ≠ 0` -/
private theorem canon_of_offAxis {k0 : Az} {k1 : Lon} {a0 a1 a2 : ℝ} (hρ : 0 < planar_rho.eval k0 a0 a1)
    (hθ : k1 = .theta → 0 < a2 ∧ a2 < Real.pi ∧ a2 ≠ Real.pi / 2) :
    0 < Spec.rhoOf k0 a0 a1 ∧ Spec.Canon3 k0 k1 a0 a1 a2 ∧ Spec.TanOK k1 a2 := by
  rw [refine_planar_rho] at hρ
  refine ⟨hρ, ⟨Spec.canon2_of_rho_pos hρ, ?_⟩, ?_⟩ <;> cases k1
  · trivial
  · exact ⟨hρ, (hθ rfl).1, (hθ rfl).2.1⟩
  · exact hρ
  · trivial
  · obtain ⟨h0, hpi, hne⟩ := hθ rfl
    exact fun hc => hne (Real.injOn_cos ⟨h0.le, hpi.le⟩ ⟨by positivity, by linarith [Real.pi_pos]⟩
      (hc.trans Real.cos_pi_div_two.symm))
  · trivial

/-- All six keys: `costheta` has the sign of `z`. Hypotheses: positive transverse radius; for `theta`
keys the stored polar angle lies in `(0, π)` and is not exactly `π/2` (where the code's `z = rho / tan θ`
divides by an infinite tangent). -/
theorem c13_spatial_costheta_sign (k0 : Az) (k1 : Lon) (a0 a1 a2 : ℝ)
    (hρ : 0 < planar_rho.eval k0 a0 a1)
    (hθ : k1 = .theta → 0 < a2 ∧ a2 < Real.pi ∧ a2 ≠ Real.pi / 2) :
    (0 < spatial_costheta.eval k0 k1 a0 a1 a2 ↔ 0 < spatial_z.eval k0 k1 a0 a1 a2) ∧
      (spatial_costheta.eval k0 k1 a0 a1 a2 < 0 ↔ spatial_z.eval k0 k1 a0 a1 a2 < 0) ∧
      (spatial_costheta.eval k0 k1 a0 a1 a2 = 0 ↔ spatial_z.eval k0 k1 a0 a1 a2 = 0) := by
  obtain ⟨hr, hc, ht⟩ := canon_of_offAxis hρ hθ
  rw [refine_spatial_costheta k0 k1 a0 a1 a2 hc (Spec.mag2Of_pos hr), refine_spatial_z k0 k1 a0 a1 a2 ht]
  exact div_sign_iff _ (Real.sqrt_pos.mpr (Spec.mag2Of_pos hr))

/-- All six keys: `cottheta` has the sign of `z`. Hypotheses: positive transverse radius; the singular
inputs of `1 / tan` are excluded (`theta` keys: `θ ∈ (0, π)`, `θ ≠ π/2`; `eta` keys: `η ≠ 0`). -/
theorem c13_spatial_cottheta_sign (k0 : Az) (k1 : Lon) (a0 a1 a2 : ℝ)
    (hρ : 0 < planar_rho.eval k0 a0 a1)
    (hθ : k1 = .theta → 0 < a2 ∧ a2 < Real.pi ∧ a2 ≠ Real.pi / 2)
    (_hη : k1 = .eta → a2 ≠ 0) :
    (0 < spatial_cottheta.eval k0 k1 a0 a1 a2 ↔ 0 < spatial_z.eval k0 k1 a0 a1 a2) ∧
      (spatial_cottheta.eval k0 k1 a0 a1 a2 < 0 ↔ spatial_z.eval k0 k1 a0 a1 a2 < 0) ∧
      (spatial_cottheta.eval k0 k1 a0 a1 a2 = 0 ↔ spatial_z.eval k0 k1 a0 a1 a2 = 0) := by
  obtain ⟨hr, _, ht⟩ := canon_of_offAxis hρ hθ
  rw [refine_spatial_cottheta k0 k1 a0 a1 a2 hr ht, refine_spatial_z k0 k1 a0 a1 a2 ht]
  exact div_sign_iff _ hr

/-- the hypotheses of `c13_spatial_costheta_sign` / `c13_spatial_cottheta_sign` at `(ρ, θ) = (1, π/4)` -/
example : 0 < planar_rho.eval .rhophi 1 0 ∧ 0 < Real.pi / 4 ∧ Real.pi / 4 < Real.pi ∧ Real.pi / 4 ≠ Real.pi / 2 := by
  have := Real.pi_pos
  refine ⟨by simp only [d_planar_rho]; norm_num, by linarith, by linarith, ?_⟩
  intro h; linarith

/-! ## Remarks on the boundary: all thresholds are strict

With `tolerance = 0` nothing is lightlike / perpendicular (not even an exactly null vector or exactly
orthogonal vectors), and no Cartesian pair is parallel or antiparallel (not even `v` with itself). -/

theorem c13_is_lightlike_tol_zero (k0 : Az) (k1 : Lon) (k2 : Tmp) (a1 a2 a3 a4 : ℝ) :
    ¬ lorentz_is_lightlike.eval k0 k1 k2 0 a1 a2 a3 a4 := by
  rw [c13_is_lightlike_iff_dot, abs_zero]
  exact not_lt.2 (abs_nonneg _)

theorem c13_spatial_is_perpendicular_tol_zero (k0 : Az) (k1 : Lon) (k2 : Az) (k3 : Lon) (a0 a1 a2 b0 b1 b2 : ℝ) :
    ¬ spatial_is_perpendicular.eval k0 k1 k2 k3 0 a0 a1 a2 b0 b1 b2 := by
  rw [c13_spatial_is_perpendicular_iff, abs_zero, zero_mul, zero_mul]
  exact not_lt.2 (abs_nonneg _)

theorem c13_planar_is_perpendicular_tol_zero (k0 k1 : Az) (a0 a1 b0 b1 : ℝ) :
    ¬ planar_is_perpendicular.eval k0 k1 0 a0 a1 b0 b1 := by
  rw [c13_planar_is_perpendicular_iff, abs_zero, zero_mul, zero_mul]
  exact not_lt.2 (abs_nonneg _)

theorem c13_spatial_is_parallel_cartesian_tol_zero (x1 y1 z1 x2 y2 z2 : ℝ) :
    ¬ spatial_is_parallel.eval .xy .z .xy .z 0 x1 y1 z1 x2 y2 z2 := by
  rw [c13_spatial_is_parallel_iff, abs_zero, sub_zero, one_mul]
  have := (abs_le.mp (c13_spatial_abs_dot_le_cartesian x1 y1 z1 x2 y2 z2)).2
  exact not_lt.2 this

theorem c13_spatial_is_antiparallel_cartesian_tol_zero (x1 y1 z1 x2 y2 z2 : ℝ) :
    ¬ spatial_is_antiparallel.eval .xy .z .xy .z 0 x1 y1 z1 x2 y2 z2 := by
  rw [c13_spatial_is_antiparallel_iff, abs_zero]
  have := (abs_le.mp (c13_spatial_abs_dot_le_cartesian x1 y1 z1 x2 y2 z2)).1
  intro h
  linarith

/-! ## 8. Causal classification in every coordinate system follows `t² - mag²`

The spatial self-product equals the generated `mag2` of the same key, so for the six `t` keys the
Minkowski self-product is `t² - mag2`, and for the six `tau` keys with `0 ≤ tau` it is `tau²`. -/

/-- `a·a = |a|²` for every key, in the hypotheses of the refinement theorems -/
theorem c13_spatial_dot_self_ok (k0 : Az) (k1 : Lon) (a0 a1 a2 : ℝ) (ht : Spec.TanOK k1 a2) (hs : Spec.SinOK k1 a2) :
    spatial_dot.eval k0 k1 k0 k1 a0 a1 a2 a0 a1 a2 = spatial_mag2.eval k0 k1 a0 a1 a2 := by
  rw [refine_spatial_dot k0 k1 k0 k1 a0 a1 a2 a0 a1 a2 ht ht, refine_spatial_mag2 k0 k1 a0 a1 a2 hs]
  simp only [Spec.dot3, Spec.cart3, Spec.mag2Of]
  ring

/-- For `theta` keys the stored polar angle must not be a singular input of `tan` / `1/sin`. -/
theorem c13_spatial_dot_self (k0 : Az) (k1 : Lon) (a0 a1 a2 : ℝ)
    (hθ : k1 = .theta → Real.sin a2 ≠ 0 ∧ Real.cos a2 ≠ 0) :
    spatial_dot.eval k0 k1 k0 k1 a0 a1 a2 a0 a1 a2 = spatial_mag2.eval k0 k1 a0 a1 a2 := by
  exact c13_spatial_dot_self_ok k0 k1 a0 a1 a2 (Spec.sinOK_tanOK_of_theta hθ).2 (Spec.sinOK_tanOK_of_theta hθ).1

theorem c13_lorentz_dot_self_t (k0 : Az) (k1 : Lon) (a0 a1 a2 t : ℝ)
    (hθ : k1 = .theta → Real.sin a2 ≠ 0 ∧ Real.cos a2 ≠ 0) :
    lorentz_dot.eval k0 k1 .t k0 k1 .t a0 a1 a2 t a0 a1 a2 t = t ^ 2 - spatial_mag2.eval k0 k1 a0 a1 a2 := by
  have e : lorentz_dot.eval k0 k1 .t k0 k1 .t a0 a1 a2 t a0 a1 a2 t =
      t * t - spatial_dot.eval k0 k1 k0 k1 a0 a1 a2 a0 a1 a2 := by
    cases k0 <;> cases k1 <;> rfl
  rw [e, c13_spatial_dot_self k0 k1 a0 a1 a2 hθ]; ring

theorem c13_lorentz_dot_self_tau (k0 : Az) (k1 : Lon) (a0 a1 a2 tau : ℝ)
    (hθ : k1 = .theta → Real.sin a2 ≠ 0 ∧ Real.cos a2 ≠ 0) (htau : 0 ≤ tau) :
    lorentz_dot.eval k0 k1 .tau k0 k1 .tau a0 a1 a2 tau a0 a1 a2 tau = tau ^ 2 := by
  have e : lorentz_dot.eval k0 k1 .tau k0 k1 .tau a0 a1 a2 tau a0 a1 a2 tau =
      lorentz_t.eval k0 k1 .tau a0 a1 a2 tau * lorentz_t.eval k0 k1 .tau a0 a1 a2 tau -
        spatial_dot.eval k0 k1 k0 k1 a0 a1 a2 a0 a1 a2 := by
    cases k0 <;> cases k1 <;> rfl
  have h := c13_lorentz_t_tau_sq_of_nonneg k0 k1 a0 a1 a2 tau (fun h => (hθ h).1) htau
  rw [e, c13_spatial_dot_self k0 k1 a0 a1 a2 hθ, ← sq, h]; ring

/-- Six `t` keys: timelike ⇔ `t² - mag² > |tol|`, spacelike ⇔ `t² - mag² < -|tol|`, lightlike ⇔ `|t² - mag²| < |tol|`. -/
theorem c13_causal_classes_t_keys (k0 : Az) (k1 : Lon) (tol a0 a1 a2 t : ℝ)
    (hθ : k1 = .theta → Real.sin a2 ≠ 0 ∧ Real.cos a2 ≠ 0) :
    (lorentz_is_timelike.eval k0 k1 .t tol a0 a1 a2 t ↔ t ^ 2 - spatial_mag2.eval k0 k1 a0 a1 a2 > |tol|) ∧
    (lorentz_is_spacelike.eval k0 k1 .t tol a0 a1 a2 t ↔ t ^ 2 - spatial_mag2.eval k0 k1 a0 a1 a2 < -|tol|) ∧
    (lorentz_is_lightlike.eval k0 k1 .t tol a0 a1 a2 t ↔ |t ^ 2 - spatial_mag2.eval k0 k1 a0 a1 a2| < |tol|) := by
  rw [c13_is_timelike_iff_dot, c13_is_spacelike_iff_dot, c13_is_lightlike_iff_dot,
    c13_lorentz_dot_self_t k0 k1 a0 a1 a2 t hθ]
  exact ⟨Iff.rfl, Iff.rfl, Iff.rfl⟩

/-- Six `tau` keys, `0 ≤ tau`: timelike ⇔ `tau² > |tol|`, lightlike ⇔ `tau² < |tol|`, never spacelike. -/
theorem c13_causal_classes_tau_keys (k0 : Az) (k1 : Lon) (tol a0 a1 a2 tau : ℝ)
    (hθ : k1 = .theta → Real.sin a2 ≠ 0 ∧ Real.cos a2 ≠ 0) (htau : 0 ≤ tau) :
    (lorentz_is_timelike.eval k0 k1 .tau tol a0 a1 a2 tau ↔ tau ^ 2 > |tol|) ∧
    (lorentz_is_lightlike.eval k0 k1 .tau tol a0 a1 a2 tau ↔ tau ^ 2 < |tol|) ∧
    ¬ lorentz_is_spacelike.eval k0 k1 .tau tol a0 a1 a2 tau := by
  rw [c13_is_timelike_iff_dot, c13_is_spacelike_iff_dot, c13_is_lightlike_iff_dot,
    c13_lorentz_dot_self_tau k0 k1 a0 a1 a2 tau hθ htau, abs_of_nonneg (sq_nonneg tau)]
  refine ⟨Iff.rfl, Iff.rfl, ?_⟩
  have := abs_nonneg tol
  have := sq_nonneg tau
  intro h; linarith

/-- the hypothesis `hθ` of the causal-class theorems above at `θ = π/4` -/
example : Real.sin (Real.pi / 4) ≠ 0 ∧ Real.cos (Real.pi / 4) ≠ 0 := by
  rw [Real.sin_pi_div_four, Real.cos_pi_div_four]
  have : (0 : ℝ) < √2 / 2 := by positivity
  exact ⟨this.ne', this.ne'⟩

end VR
