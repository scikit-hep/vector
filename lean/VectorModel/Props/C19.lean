/-
Property C19 — "NumPy vector arrays behave as arrays of vectors".

A NumPy vector array with index set `ι` (any shape) over element scalars `X` is modelled as `Vec (ι → X)`
(`Glue/Arrays.lean`): ONE vector type (backend, flavor, coordinate system) and one column per stored coordinate.
* integer index            `index a i`      = `a.map (· i)`
* slice / mask / fancy index / reshape / transpose / view / copy / pickle round trip
                           `reindex r a`    = `a.map (· ∘ r)`   (`r` : position of the new array ↦ position shown)
* a single vector as array `asArray v`
* name index `a["x"]`      `column a c`     = the stored column named `c`.
The statements below are about this model for ALL `ι`, `X` (and all compute layers `ev` where one occurs); the facts
needed about the compute layer are the identity accessors `IdLaws` of `Props/C15.lean`, proved there for the
generated compute layer at every scalar type — in particular at columns.
-/
import VectorModel.Props.C15Exec
import VectorModel.Glue.Arrays

set_option linter.constructorNameAsVariable false
namespace VG
open VK

section
variable {ι κ μ X B Bx : Type}

/-! ### integer index -/

/-- an element has the array's vector type: same flavor (momentum or not), same azimuthal / longitudinal / temporal
coordinate system, same dimension.  (The model keeps the backend tag too — it marks "element of a NumPy array"; see
`elemObj` / `c03_array_vs_object` in `Props/C03.lean` for the relabelling to an object-backend vector.) -/
theorem c19_index_ty (a : Vec (ι → X)) (i : ι) :
    (index a i).ty = a.ty ∧ (index a i).ty.mom = a.ty.mom ∧ (index a i).ty.az = a.ty.az ∧
      (index a i).ty.lon = a.ty.lon ∧ (index a i).ty.tmp = a.ty.tmp ∧ (index a i).ty.dim = a.ty.dim :=
  ⟨rfl, rfl, rfl, rfl, rfl, rfl⟩

/-- … and exactly the element's coordinates: position `i` of every column, in storage order -/
theorem c19_index_coords (a : Vec (ι → X)) (i : ι) :
    (index a i).c = a.c.map (· i) ∧ (index a i).c.length = a.c.length ∧
      ∀ p : Nat, (index a i).c[p]? = (a.c[p]?).map (· i) :=
  ⟨rfl, by simp [index], fun p => by simp [index]⟩

theorem c19_index_groups (a : Vec (ι → X)) (i : ι) :
    (index a i).azEl = a.azEl.map (· i) ∧ (index a i).lonEl = a.lonEl.map (· i) ∧
      (index a i).tmpEl = a.tmpEl.map (· i) :=
  ⟨Vec.map_azEl _ a, Vec.map_lonEl _ a, Vec.map_tmpEl _ a⟩

theorem c19_index_wfv {a : Vec (ι → X)} (ha : WFV a) (i : ι) : WFV (index a i) :=
  ⟨ha.1, by simpa [index] using ha.2⟩

/-- an array IS its elements: two arrays of the same vector type (and as many columns) with equal elements are equal -/
theorem c19_ext {a b : Vec (ι → X)} (hty : a.ty = b.ty) (hlen : a.c.length = b.c.length)
    (h : ∀ i, index a i = index b i) : a = b := by
  apply Vec.ext' hty
  apply List.ext_getElem hlen
  intro n h1 h2
  funext i
  have := congrArg (fun v => v.c[n]?) (h i)
  simpa [index, List.getElem?_eq_getElem h1, List.getElem?_eq_getElem h2] using this

/-! ### slices, masks, reshapes, views, copies -/

/-- a slice / mask / reshape / view has the same vector type (coordinate system, flavor, dimension) -/
theorem c19_reindex_ty (r : κ → ι) (a : Vec (ι → X)) :
    (reindex r a).ty = a.ty ∧ (reindex r a).c.length = a.c.length := ⟨rfl, by simp [reindex]⟩

/-- element `j` of the slice is the element of the original array that position `j` shows -/
theorem c19_index_reindex (r : κ → ι) (a : Vec (ι → X)) (j : κ) : index (reindex r a) j = index a (r j) := by
  simp [index, reindex, Function.comp_def]

/-- slicing a slice is one slicing -/
theorem c19_reindex_reindex (r : κ → ι) (s : μ → κ) (a : Vec (ι → X)) :
    reindex s (reindex r a) = reindex (r ∘ s) a := by
  simp [reindex, Function.comp_def]

/-- a pickle / `copy()` / `a[...]` / `a[:]` round trip (the identity reindexing) gives the same array -/
theorem c19_reindex_id (a : Vec (ι → X)) : reindex id a = a := by
  obtain ⟨ty, c⟩ := a
  simp [reindex, Vec.map, Function.comp_def]

/-- a reshape / transpose and back (or any reindexing undone by another) gives the same array -/
theorem c19_reindex_roundtrip (r : κ → ι) (s : ι → κ) (h : ∀ i, r (s i) = i) (a : Vec (ι → X)) :
    reindex s (reindex r a) = a := by
  rw [c19_reindex_reindex, show r ∘ s = id from funext h, c19_reindex_id]

theorem c19_reindex_wfv {a : Vec (ι → X)} (ha : WFV a) (r : κ → ι) : WFV (reindex r a) :=
  ⟨ha.1, by simpa [reindex] using ha.2⟩

/-! ### a single vector as an array -/

theorem c19_asArray (v : Vec X) : (asArray v).ty = v.ty ∧ index (asArray v) () = v := by
  obtain ⟨ty, c⟩ := v
  exact ⟨rfl, by simp [index, asArray, Vec.map, Function.comp_def]⟩

/-- every reindexing of a one-element array shows that one element: a broadcast -/
theorem c19_reindex_asArray (v : Vec X) (r : κ → Unit) (j : κ) : index (reindex r (asArray v)) j = v := by
  rw [c19_index_reindex]; exact (c19_asArray v).2

/-- a broadcast vector is an array all of whose elements are the vector, of the vector's type -/
theorem c19_bcast (v : Vec X) (i : ι) : (bcast ι v).ty = v.ty ∧ index (bcast ι v) i = v :=
  ⟨rfl, index_bcast v i⟩

/-! ### name index -/

/-- `colPos` is the position `CName.pos` of `Props/C15.lean`, defined exactly on the names the type stores -/
theorem c19_colPos_eq (ty : VT) (c : CName) :
    colPos ty c = if c ∈ coordNames ty then some c.pos else none := by
  obtain ⟨be, mom, az, lon, tmp⟩ := ty
  -- the names a type stores for a group are names of that group, so `c` is looked up in its own group only
  have ha : ∀ n ∈ azCNames az, n.grp = .az := by cases az <;> decide
  have hl : ∀ n ∈ lon.toList.map lonCName, n.grp = .lon := by
    rcases lon with _ | l
    · nofun
    · cases l <;> decide
  have ht : ∀ n ∈ tmp.toList.map tmpCName, n.grp = .tmp := by
    rcases tmp with _ | t
    · nofun
    · cases t <;> decide
  have key : c ∈ coordNames ⟨be, mom, az, lon, tmp⟩ ↔ (c.grp = .az ∧ c ∈ azCNames az) ∨
      (c.grp = .lon ∧ c ∈ lon.toList.map lonCName) ∨ (c.grp = .tmp ∧ c ∈ tmp.toList.map tmpCName) := by
    simp only [coordNames, List.mem_append, or_assoc, and_iff_right_of_imp (ha c), and_iff_right_of_imp (hl c),
      and_iff_right_of_imp (ht c)]
  simp only [key]
  cases c <;> simp only [CName.grp, reduceCtorEq, false_and, true_and, or_false, false_or, colPos, CName.pos]
  case x | y | rho | phi => cases az <;> rfl
  case z | theta | eta => rcases lon with _ | (_ | _ | _) <;> rfl
  case t | tau => rcases tmp with _ | (_ | _) <;> rfl

/-- the name index returns a column exactly for the names the coordinate system stores (on a well-formed array) -/
theorem c19_column_isSome {a : Vec (ι → X)} (ha : WFV a) (c : CName) :
    (column a c).isSome ↔ c ∈ coordNames a.ty := by
  simp only [column, Vec.stored, c19_colPos_eq]
  constructor
  · intro h
    by_cases hc : c ∈ coordNames a.ty
    · exact hc
    · simp [hc] at h
  · intro hc
    obtain ⟨s, hs⟩ := c15_stored_pos ha hc
    simp [hc, hs]

/-- name index and integer index commute: position `i` of the column named `c` is the stored coordinate `c` of
element `i` -/
theorem c19_column_index (a : Vec (ι → X)) (c : CName) (i : ι) :
    (column a c).map (· i) = (index a i).stored c := by
  simp only [column, Vec.stored, index, Vec.map_ty, Vec.map_c]
  cases colPos a.ty c with
  | none => rfl
  | some p => simp

/-- name index and slicing commute -/
theorem c19_column_reindex (a : Vec (ι → X)) (c : CName) (r : κ → ι) :
    column (reindex r a) c = (column a c).map (· ∘ r) := by
  simp only [column, Vec.stored, reindex, Vec.map_ty, Vec.map_c]
  cases colPos a.ty c with
  | none => rfl
  | some p => simp

/-- the column named `c`, read through the PROPERTY of that name (`a.x`, `a.rho`, …: `getS` at the column type), is the
stored column — exactly, no arithmetic — whenever the compute layer's identity accessors are identities -/
theorem c19_name_index {ev : Ev (ι → X) B} (hid : IdLaws ev) {a : Vec (ι → X)} (ha : WFV a) {c : CName}
    {col : ι → X} (hc : column a c = some col) : getS ev c.acc a = .ok col := by
  have hmem : c ∈ coordNames a.ty := (c19_column_isSome ha c).mp (by simp [hc])
  simp only [column, Vec.stored, c19_colPos_eq, hmem, if_true, Option.bind_some] at hc
  exact c15_get_stored hid ha hmem hc

/-- … and at every position it is the stored coordinate of the element there, which is also what the element's own
property of that name returns -/
theorem c19_name_index_elem {evo : Ev X Bx} (hid : IdLaws evo) {a : Vec (ι → X)} (ha : WFV a) {c : CName}
    {col : ι → X} (hc : column a c = some col) (i : ι) :
    (index a i).stored c = some (col i) ∧ getS evo c.acc (index a i) = .ok (col i) := by
  have h1 : (index a i).stored c = some (col i) := by rw [← c19_column_index, hc]; rfl
  refine ⟨h1, ?_⟩
  have hmem : c ∈ coordNames a.ty := (c19_column_isSome ha c).mp (by simp [hc])
  have h2 := h1
  simp only [Vec.stored, c19_colPos_eq, index, Vec.map_ty, hmem, if_true, Option.bind_some] at h2
  exact c15_get_stored hid (c19_index_wfv ha i) hmem h2

/-- a name the coordinate system does not store is not a column of the array (NumPy raises on `a["rho"]` for a
Cartesian array), although the PROPERTY `a.rho` exists and is computed -/
theorem c19_column_none {a : Vec (ι → X)} {c : CName} (hc : c ∉ coordNames a.ty) : column a c = none := by
  simp [column, Vec.stored, c19_colPos_eq, hc]

end

/-! ### the generated compute layer; examples -/

section
open VE
variable {ι X : Type} [Scalar X]

/-- the identity accessors hold for the generated compute layer at COLUMNS (`c15_idLaws_exec` at `S := ι → X`) -/
theorem c19_idLaws_columns : IdLaws (execEv (ι → X)) := c15_idLaws_exec

/-- name index on the generated compute layer, unconditionally -/
theorem c19_exec_name_index {a : Vec (ι → X)} (ha : WFV a) {c : CName} {col : ι → X} (hc : column a c = some col)
    (i : ι) : getS (execEv (ι → X)) c.acc a = .ok col ∧ getS (execEv X) c.acc (index a i) = .ok (col i) :=
  ⟨c19_name_index c19_idLaws_columns ha hc, (c19_name_index_elem c15_idLaws_exec ha hc i).2⟩

/-- a concrete array of 4D momentum vectors (pt, phi, eta, mass) with index set `ι` -/
def exArr (pt phi eta m : ι → X) : Vec (ι → X) :=
  ⟨{ be := .np, mom := true, az := .rhophi, lon := some .eta, tmp := some .tau }, [pt, phi, eta, m]⟩

example (pt phi eta m : ι → X) : WFV (exArr pt phi eta m) := ⟨fun _ => rfl, rfl⟩

/-- integer index: the element, in the array's coordinate system and flavor -/
example (pt phi eta m : ι → X) (i : ι) :
    index (exArr pt phi eta m) i =
      ⟨{ be := .np, mom := true, az := .rhophi, lon := some .eta, tmp := some .tau }, [pt i, phi i, eta i, m i]⟩ := rfl

/-- a slice `a[1:]` of a flat array of length `n + 1`: position `j` shows position `j + 1` -/
example {n : Nat} (pt phi eta m : Fin (n + 1) → X) (j : Fin n) :
    index (reindex Fin.succ (exArr pt phi eta m)) j = index (exArr pt phi eta m) j.succ := c19_index_reindex _ _ _

/-- name index: `a["eta"]` is the eta column; `a["x"]` is not a column of a polar array -/
example (pt phi eta m : ι → X) :
    column (exArr pt phi eta m) .eta = some eta ∧ column (exArr pt phi eta m) .tau = some m ∧
      column (exArr pt phi eta m) .x = none := ⟨rfl, rfl, rfl⟩

/-- … and `a.eta` (the property) returns it exactly -/
example (pt phi eta m : ι → X) : getS (execEv (ι → X)) .eta (exArr pt phi eta m) = .ok eta := rfl

end
end VG
