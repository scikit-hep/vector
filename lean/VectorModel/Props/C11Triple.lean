/-
C11 — vector-space, dot, cross and unit laws: the identities that tie `dot` and `cross` together, for ALL signature
combinations (every pairing of the coordinate systems of the three operands).  Same method as `Props/C11.lean`: each
law is the refinement theorems of the generated model (`Refine/*.lean`) composed with the law on ℝ³ (`ring`).

* scalar triple product is cyclic and alternating:  a·(b×c) = b·(c×a),  a·(b×c) = −a·(c×b)
  (a·(a×c) = 0 is `c11_spatial_cross_orthogonal` of `Props/C11.lean`);
* vector triple product (BAC−CAB):  a×(b×c) = b (a·c) − c (a·b);
* Jacobi identity:  a×(b×c) + b×(c×a) + c×(a×b) = 0;
* Cauchy-Schwarz:  (a·b)² ≤ |a|² |b|².
-/
import VectorModel.Props.C11

namespace VR
open VK Spec Real

namespace Spec
theorem triple3_cyclic (p q r : ℝ × ℝ × ℝ) : dot3 p (cross3 q r) = dot3 q (cross3 r p) := by
  simp only [dot3, cross3]; ring
theorem triple3_swap (p q r : ℝ × ℝ × ℝ) : dot3 p (cross3 q r) = -dot3 p (cross3 r q) := by
  simp only [dot3, cross3]; ring
theorem bac_cab3 (p q r : ℝ × ℝ × ℝ) :
    cross3 p (cross3 q r) = sub3 (smul3 (dot3 p r) q) (smul3 (dot3 p q) r) := by
  simp only [dot3, cross3, sub3, smul3]
  refine Prod.ext ?_ (Prod.ext ?_ ?_) <;> simp only <;> ring
theorem jacobi3 (p q r : ℝ × ℝ × ℝ) :
    add3 (add3 (cross3 p (cross3 q r)) (cross3 q (cross3 r p))) (cross3 r (cross3 p q)) = (0, 0, 0) := by
  simp only [cross3, add3]
  refine Prod.ext ?_ (Prod.ext ?_ ?_) <;> simp only <;> ring
end Spec

/-- `a·(b×c) = b·(c×a)` in every coordinate system of `a`, `b`, `c` -/
theorem c11_spatial_triple_cyclic (k0 : Az) (k1 : Lon) (k2 : Az) (k3 : Lon) (k4 : Az) (k5 : Lon)
    (a0 a1 a2 b0 b1 b2 c0 c1 c2 : ℝ) (ha : TanOK k1 a2) (hb : TanOK k3 b2) (hc : TanOK k5 c2) :
    let bc := spatial_cross.eval k2 k3 k4 k5 b0 b1 b2 c0 c1 c2
    let ca := spatial_cross.eval k4 k5 k0 k1 c0 c1 c2 a0 a1 a2
    spatial_dot.eval k0 k1 .xy .z a0 a1 a2 bc.1 bc.2.1 bc.2.2
      = spatial_dot.eval k2 k3 .xy .z b0 b1 b2 ca.1 ca.2.1 ca.2.2 := by
  intro bc ca
  have e1 : cart3 .xy .z bc.1 bc.2.1 bc.2.2 = _ := spatial_cross_den k2 k3 k4 k5 b0 b1 b2 c0 c1 c2 hb hc
  have e2 : cart3 .xy .z ca.1 ca.2.1 ca.2.2 = _ := spatial_cross_den k4 k5 k0 k1 c0 c1 c2 a0 a1 a2 hc ha
  rw [refine_spatial_dot k0 k1 .xy .z a0 a1 a2 bc.1 bc.2.1 bc.2.2 ha trivial,
    refine_spatial_dot k2 k3 .xy .z b0 b1 b2 ca.1 ca.2.1 ca.2.2 hb trivial, e1, e2, triple3_cyclic]

/-- `a·(b×c) = −a·(c×b)` -/
theorem c11_spatial_triple_swap (k0 : Az) (k1 : Lon) (k2 : Az) (k3 : Lon) (k4 : Az) (k5 : Lon)
    (a0 a1 a2 b0 b1 b2 c0 c1 c2 : ℝ) (ha : TanOK k1 a2) (hb : TanOK k3 b2) (hc : TanOK k5 c2) :
    let bc := spatial_cross.eval k2 k3 k4 k5 b0 b1 b2 c0 c1 c2
    let cb := spatial_cross.eval k4 k5 k2 k3 c0 c1 c2 b0 b1 b2
    spatial_dot.eval k0 k1 .xy .z a0 a1 a2 bc.1 bc.2.1 bc.2.2
      = -spatial_dot.eval k0 k1 .xy .z a0 a1 a2 cb.1 cb.2.1 cb.2.2 := by
  intro bc cb
  have e1 : cart3 .xy .z bc.1 bc.2.1 bc.2.2 = _ := spatial_cross_den k2 k3 k4 k5 b0 b1 b2 c0 c1 c2 hb hc
  have e2 : cart3 .xy .z cb.1 cb.2.1 cb.2.2 = _ := spatial_cross_den k4 k5 k2 k3 c0 c1 c2 b0 b1 b2 hc hb
  rw [refine_spatial_dot k0 k1 .xy .z a0 a1 a2 bc.1 bc.2.1 bc.2.2 ha trivial,
    refine_spatial_dot k0 k1 .xy .z a0 a1 a2 cb.1 cb.2.1 cb.2.2 ha trivial, e1, e2, triple3_swap]

/-- BAC−CAB at the level of denotations: the raw result of `a.cross(b.cross(c))` denotes `b (a·c) − c (a·b)` -/
theorem c11_spatial_bac_cab (k0 : Az) (k1 : Lon) (k2 : Az) (k3 : Lon) (k4 : Az) (k5 : Lon)
    (a0 a1 a2 b0 b1 b2 c0 c1 c2 : ℝ) (ha : TanOK k1 a2) (hb : TanOK k3 b2) (hc : TanOK k5 c2) :
    let bc := spatial_cross.eval k2 k3 k4 k5 b0 b1 b2 c0 c1 c2
    let abc := spatial_cross.eval k0 k1 .xy .z a0 a1 a2 bc.1 bc.2.1 bc.2.2
    cart3 .xy .z abc.1 abc.2.1 abc.2.2
      = sub3 (smul3 (spatial_dot.eval k0 k1 k4 k5 a0 a1 a2 c0 c1 c2) (cart3 k2 k3 b0 b1 b2))
          (smul3 (spatial_dot.eval k0 k1 k2 k3 a0 a1 a2 b0 b1 b2) (cart3 k4 k5 c0 c1 c2)) := by
  intro bc abc
  have e1 : cart3 .xy .z bc.1 bc.2.1 bc.2.2 = _ := spatial_cross_den k2 k3 k4 k5 b0 b1 b2 c0 c1 c2 hb hc
  have e2 : cart3 .xy .z abc.1 abc.2.1 abc.2.2 = _ :=
    spatial_cross_den k0 k1 .xy .z a0 a1 a2 bc.1 bc.2.1 bc.2.2 ha trivial
  rw [e2, e1, refine_spatial_dot k0 k1 k4 k5 a0 a1 a2 c0 c1 c2 ha hc,
    refine_spatial_dot k0 k1 k2 k3 a0 a1 a2 b0 b1 b2 ha hb, bac_cab3]

/-- Jacobi identity at the level of denotations, every coordinate system of the three operands -/
theorem c11_spatial_jacobi (k0 : Az) (k1 : Lon) (k2 : Az) (k3 : Lon) (k4 : Az) (k5 : Lon)
    (a0 a1 a2 b0 b1 b2 c0 c1 c2 : ℝ) (ha : TanOK k1 a2) (hb : TanOK k3 b2) (hc : TanOK k5 c2) :
    let bc := spatial_cross.eval k2 k3 k4 k5 b0 b1 b2 c0 c1 c2
    let ca := spatial_cross.eval k4 k5 k0 k1 c0 c1 c2 a0 a1 a2
    let ab := spatial_cross.eval k0 k1 k2 k3 a0 a1 a2 b0 b1 b2
    let x := spatial_cross.eval k0 k1 .xy .z a0 a1 a2 bc.1 bc.2.1 bc.2.2
    let y := spatial_cross.eval k2 k3 .xy .z b0 b1 b2 ca.1 ca.2.1 ca.2.2
    let z := spatial_cross.eval k4 k5 .xy .z c0 c1 c2 ab.1 ab.2.1 ab.2.2
    add3 (add3 (cart3 .xy .z x.1 x.2.1 x.2.2) (cart3 .xy .z y.1 y.2.1 y.2.2)) (cart3 .xy .z z.1 z.2.1 z.2.2)
      = (0, 0, 0) := by
  intro bc ca ab x y z
  have e1 : cart3 .xy .z bc.1 bc.2.1 bc.2.2 = _ := spatial_cross_den k2 k3 k4 k5 b0 b1 b2 c0 c1 c2 hb hc
  have e2 : cart3 .xy .z ca.1 ca.2.1 ca.2.2 = _ := spatial_cross_den k4 k5 k0 k1 c0 c1 c2 a0 a1 a2 hc ha
  have e3 : cart3 .xy .z ab.1 ab.2.1 ab.2.2 = _ := spatial_cross_den k0 k1 k2 k3 a0 a1 a2 b0 b1 b2 ha hb
  have f1 : cart3 .xy .z x.1 x.2.1 x.2.2 = _ := spatial_cross_den k0 k1 .xy .z a0 a1 a2 bc.1 bc.2.1 bc.2.2 ha trivial
  have f2 : cart3 .xy .z y.1 y.2.1 y.2.2 = _ := spatial_cross_den k2 k3 .xy .z b0 b1 b2 ca.1 ca.2.1 ca.2.2 hb trivial
  have f3 : cart3 .xy .z z.1 z.2.1 z.2.2 = _ := spatial_cross_den k4 k5 .xy .z c0 c1 c2 ab.1 ab.2.1 ab.2.2 hc trivial
  rw [f1, f2, f3, e1, e2, e3, jacobi3]

/-- Cauchy-Schwarz for the generated `dot` and `mag2`, every pairing of coordinate systems -/
theorem c11_spatial_cauchy_schwarz (k0 : Az) (k1 : Lon) (k2 : Az) (k3 : Lon) (a0 a1 a2 b0 b1 b2 : ℝ)
    (ha : TanOK k1 a2) (hb : TanOK k3 b2) (sa : SinOK k1 a2) (sb : SinOK k3 b2) :
    spatial_dot.eval k0 k1 k2 k3 a0 a1 a2 b0 b1 b2 ^ 2
      ≤ spatial_mag2.eval k0 k1 a0 a1 a2 * spatial_mag2.eval k2 k3 b0 b1 b2 := by
  rw [refine_spatial_mag2 k0 k1 a0 a1 a2 sa, refine_spatial_mag2 k2 k3 b0 b1 b2 sb,
    refine_spatial_dot k0 k1 k2 k3 a0 a1 a2 b0 b1 b2 ha hb, mag2Of_eq_dot3, mag2Of_eq_dot3]
  simpa only [dot3, sq] using L.cauchy_schwarz3 _ _ _ _ _ _

-- the hypotheses are satisfiable for a θ-stored and an η-stored operand
example : TanOK .theta (1 : ℝ) ∧ TanOK .eta (0.5 : ℝ) ∧ TanOK .z (3 : ℝ) := by
  refine ⟨?_, trivial, trivial⟩
  show Real.cos 1 ≠ 0
  exact (Spec.tanOK_one .theta)

end VR
