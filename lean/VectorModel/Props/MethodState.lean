/-
Property C15 at the level of VALUES over ℝ (prefix `c15m_`): coordinate assignment and in-place operators of object
vectors — the glue state machine (`Glue/Methods.lean`: `setC`, `replaceData`, `stepE`, `step`, `run`, `runFinal`)
instantiated with the generated REAL compute layer `evR`.

`Props/C15.lean` proves the STRUCTURAL half for every compute layer (type / class / coordinate system kept, exact
read-back, a raising step changes nothing).  This file proves the VALUE half: what the vector DENOTES (Cartesian
components, `C01M.denote`) after an assignment / an in-place operator / a whole history.

An in-place operator is `_replace_data` of the functional result, and `_replace_data` is `toSystem` into the object's
own system (`c15m_replaceData_eq_toSystem`, every compute layer).  Hence `+=`, `-=` (one family of lemmas over the
operation, `c15m_iop_vec…`), `*=`, `/=` denote the functional result whenever that is representable in the object's system:
`FwdOK` in general, `CartOK` on the Cartesian sum / difference for operands stored in different systems, nothing for an
operand stored in the object's system.  The hypotheses are necessary (`c15m_axis_unrepresentable`,
`c15m_tau_unrepresentable`, `c15m_iop_sub_spacelike_counterexample`: in-place ≠ functional).  Histories go by induction
under the invariant `GoodRun`, which is PROVED from a condition on the denotations (`RunOKD`) for objects not stored with θ.
-/
import VectorModel.Props.C15
import VectorModel.Props.C01Method
import VectorModel.Props.MethodBin
import VectorModel.Props.MethodConv

set_option linter.unusedVariables false
set_option linter.constructorNameAsVariable false

namespace VR
namespace C15M
open VK VG Spec Real C01M C11M C04M

/-! ### 0. azimuthal assignment evaluated -/

/-- the partner value stored by an azimuthal assignment, and the assigned pair -/
noncomputable def azPair (c : CName) (a : ℝ) (az : Az) (p q : ℝ) : ℝ × ℝ :=
  match c with
  | .x => (a, planar_y.eval az p q)
  | .y => (planar_x.eval az p q, a)
  | .rho => (a, planar_phi.eval az p q)
  | .phi => (planar_rho.eval az p q, a)
  | _ => (p, q)

/-- **evaluation of an azimuthal assignment**: the group is re-stored in the system of the assigned name, the partner is
the value its accessor read BEFORE, the other groups' stored coordinates are kept verbatim -/
theorem setC_az_eval (v : Vec ℝ) (hv : C01M.WFV v) (c : CName) (hc : c.grp = .az) (a : ℝ) :
    setC evR c a v = .ok ⟨c.newTy v.ty,
      (azPair c a v.ty.az (c3 v).1 (c3 v).2.1).1 :: (azPair c a v.ty.az (c3 v).1 (c3 v).2.1).2 ::
        (v.lonEl ++ v.tmpEl)⟩ := by
  cases c <;> simp [CName.grp] at hc
  · simp only [setC, getS_accR .y hv (two_le_dim _) (.inl rfl)]; rfl
  · simp only [setC, getS_accR .x hv (two_le_dim _) (.inl rfl)]; rfl
  · simp only [setC, getS_accR .phi hv (two_le_dim _) (.inl rfl)]; rfl
  · simp only [setC, getS_accR .rho hv (two_le_dim _) (.inl rfl)]; rfl

/-! ### 1. coordinate assignment: existence, read-back, what the vector denotes afterwards -/

theorem setC_ok (v : Vec ℝ) (hv : C01M.WFV v) (c : CName) (a : ℝ) : ∃ v', setC evR c a v = .ok v' := by
  cases hc : c.grp with
  | az => exact ⟨_, setC_az_eval v hv c hc a⟩
  | lon => cases c <;> simp [CName.grp] at hc <;> (simp only [setC]; split <;> exact ⟨_, rfl⟩)
  | tmp => cases c <;> simp [CName.grp] at hc <;> (simp only [setC]; split <;> exact ⟨_, rfl⟩)

/-- **`v.<c> = a` for each of the nine coordinate names the class has, every dimension and storage** (structural part
and read-back, `Props/C15` instantiated with `c04m_idLaws`): the assignment succeeds; the result is well-formed, stored
in the documented system; the coordinate just assigned reads back EXACTLY; the partner coordinate of an azimuthal name
reads the same VALUE as before the assignment (no hypothesis: the partner is read through its accessor once, stored, and
read back through the identity accessor); the stored coordinates of the other groups are verbatim the old ones -/
theorem c15m_setC_denote (v : Vec ℝ) (hv : C01M.WFV v) (c : CName) (hg : c.hasGroup v.ty) (a : ℝ) :
    ∃ v', setC evR c a v = .ok v' ∧ C01M.WFV v' ∧ v'.ty = c.newTy v.ty ∧
      getS evR c.acc v' = .ok a ∧
      (∀ p, c.partner = some p → getS evR p.acc v' = getS evR p.acc v) ∧
      (c.grp ≠ .az → v'.azEl = v.azEl) ∧ (c.grp ≠ .lon → v'.lonEl = v.lonEl) ∧ (c.grp ≠ .tmp → v'.tmpEl = v.tmpEl) ∧
      (∀ n ∈ coordNames v.ty, n.grp ≠ c.grp → getS evR n.acc v' = getS evR n.acc v) := by
  obtain ⟨v', h⟩ := setC_ok v hv c a
  have hv' : VG.WFV v := hv
  obtain ⟨hty, -, -, h1, h2, h3⟩ := c15_setC_spec hv' hg h
  refine ⟨v', h, (c15_setC_inv hv' h).2.2.2, hty, c15_readback c04m_idLaws hv' hg h, ?_, h1, h2, h3, ?_⟩
  · intro p hp
    obtain ⟨b, hb1, -, hb2⟩ := c15_readback_partner c04m_idLaws hv' h hp
    rw [hb1, hb2]
  · intro n hn hgrp
    exact c15_readback_other c04m_idLaws hv' hg h hn hgrp

/-- the assigned group of a coordinate name a class does not have: the assignment is a plain attribute, no effect -/
theorem c15m_setC_noGroup (v : Vec ℝ) (hv : C01M.WFV v) (c : CName) (hg : ¬ c.hasGroup v.ty) (a : ℝ) :
    setC evR c a v = .ok v := c15_setC_noGroup (show VG.WFV v from hv) hg

/-- **azimuthal assignment (`x`, `y`, `rho`, `phi`), every dimension and storage — what the vector denotes**:
`x`/`y` replace that Cartesian component and keep the other; `rho` keeps the azimuth the accessor `phi` read, `phi`
keeps the transverse length the accessor `rho` read.  The STORED longitudinal / temporal coordinates are kept (that is
the documented behaviour), hence the Cartesian `z`, `t` they denote are unchanged when they are stored as `z` / `t`
(for θ/η/τ storage they follow the new `ρ`: see the example after `c15m_setC_phi_denote`) -/
theorem c15m_setC_az_denote (v : Vec ℝ) (hv : C01M.WFV v) (c : CName) (hc : c.grp = .az) (a x y : ℝ) (rest : List ℝ)
    (h : denote v = some (x :: y :: rest)) :
    ∃ v' x' y' rest', setC evR c a v = .ok v' ∧ denote v' = some (x' :: y' :: rest') ∧ rest'.length = rest.length ∧
      (c = .x → x' = a ∧ y' = y) ∧ (c = .y → x' = x ∧ y' = a) ∧
      (c = .rho → ∃ φ, getS evR .phi v = .ok φ ∧ x' = a * cos φ ∧ y' = a * sin φ) ∧
      (c = .phi → ∃ ρ, getS evR .rho v = .ok ρ ∧ x' = ρ * cos a ∧ y' = ρ * sin a) ∧
      v'.lonEl = v.lonEl ∧ v'.tmpEl = v.tmpEl ∧
      (v.ty.lon ≠ some .theta → v.ty.lon ≠ some .eta → v.ty.tmp ≠ some .tau → rest' = rest) := by
  have g3 : getS evR .rho v = .ok (planar_rho.eval v.ty.az (c3 v).1 (c3 v).2.1) := getS_accR .rho hv (two_le_dim _) (.inl rfl)
  have g4 : getS evR .phi v = .ok (planar_phi.eval v.ty.az (c3 v).1 (c3 v).2.1) := getS_accR .phi hv (two_le_dim _) (.inl rfl)
  have he := setC_az_eval v hv c hc a
  obtain ⟨hx, hy⟩ := denote_planar h
  obtain ⟨w, hw, -, -, -, -, -, hl, ht, -⟩ := c15m_setC_denote v hv c (by simp [CName.hasGroup, hc]) a
  rw [he] at hw
  cases hw
  cases c <;> simp [CName.grp] at hc
  · obtain ⟨rest', h1, h2, h3, -⟩ := restore_az_denote v .xy a (planar_y.eval v.ty.az (c3 v).1 (c3 v).2.1) x y rest h
    exact ⟨_, _, _, rest', he, h1, h2, fun _ => ⟨rfl, by show planar_y.eval _ _ _ = y; rw [refine_planar_y, hy]⟩, (fun h => by cases h),
      (fun h => by cases h), (fun h => by cases h), hl (by simp [CName.grp]), ht (by simp [CName.grp]), h3⟩
  · obtain ⟨rest', h1, h2, h3, -⟩ := restore_az_denote v .xy (planar_x.eval v.ty.az (c3 v).1 (c3 v).2.1) a x y rest h
    exact ⟨_, _, _, rest', he, h1, h2, (fun h => by cases h), fun _ => ⟨by show planar_x.eval _ _ _ = x; rw [refine_planar_x, hx], rfl⟩,
      (fun h => by cases h), (fun h => by cases h), hl (by simp [CName.grp]), ht (by simp [CName.grp]), h3⟩
  · obtain ⟨rest', h1, h2, h3, -⟩ :=
      restore_az_denote v .rhophi a (planar_phi.eval v.ty.az (c3 v).1 (c3 v).2.1) x y rest h
    exact ⟨_, _, _, rest', he, h1, h2, (fun h => by cases h), (fun h => by cases h), fun _ => ⟨_, g4, rfl, rfl⟩,
      (fun h => by cases h), hl (by simp [CName.grp]), ht (by simp [CName.grp]), h3⟩
  · obtain ⟨rest', h1, h2, h3, -⟩ :=
      restore_az_denote v .rhophi (planar_rho.eval v.ty.az (c3 v).1 (c3 v).2.1) a x y rest h
    exact ⟨_, _, _, rest', he, h1, h2, (fun h => by cases h), (fun h => by cases h), (fun h => by cases h),
      fun _ => ⟨_, g3, rfl, rfl⟩, hl (by simp [CName.grp]), ht (by simp [CName.grp]), h3⟩

/-- **`v.phi = a` in every dimension and storage**: the vector afterwards denotes `(ρ cos a, ρ sin a, z, t)` with the
SAME `z` and `t` — also for θ/η/τ storage, because the transverse length `ρ` (the value the accessor `rho` read) is kept.
No hypothesis on the stored coordinates. -/
theorem c15m_setC_phi_denote (v : Vec ℝ) (hv : C01M.WFV v) (a x y : ℝ) (rest : List ℝ)
    (h : denote v = some (x :: y :: rest)) :
    ∃ v' ρ, setC evR .phi a v = .ok v' ∧ getS evR .rho v = .ok ρ ∧ ρ ^ 2 = x ^ 2 + y ^ 2 ∧
      denote v' = some (ρ * cos a :: ρ * sin a :: rest) := by
  have g3 : getS evR .rho v = .ok (planar_rho.eval v.ty.az (c3 v).1 (c3 v).2.1) := getS_accR .rho hv (two_le_dim _) (.inl rfl)
  have he := setC_az_eval v hv .phi rfl a
  obtain ⟨hx, hy⟩ := denote_planar h
  obtain ⟨rest', h1, h2, -, h4⟩ :=
    restore_az_denote v .rhophi (planar_rho.eval v.ty.az (c3 v).1 (c3 v).2.1) a x y rest h
  have hρ : rhoOf .rhophi (planar_rho.eval v.ty.az (c3 v).1 (c3 v).2.1) a = rhoOf v.ty.az (c3 v).1 (c3 v).2.1 :=
    refine_planar_rho _ _ _
  refine ⟨_, _, he, g3, ?_, ?_⟩
  · rw [refine_planar_rho, hx, hy, Spec.sq_xOf_add_sq_yOf]
  · rw [← h4 hρ]; exact h1

/-- the documented caveat, concretely: `v.x = 2` on the (x, y, θ)-stored vector `(1, 0, π/4)` keeps the STORED `θ`, so the
Cartesian `z` it denotes follows the new `ρ` (`z = ρ / tan θ`: 1 before, 2 after) -/
example :
    denote ⟨⟨.obj, false, .xy, some .theta, none⟩, [1, 0, π / 4]⟩ = some [1, 0, 1] ∧
    ∃ v', setC evR .x 2 ⟨⟨.obj, false, .xy, some .theta, none⟩, [1, 0, π / 4]⟩ = .ok v' ∧
      v'.c = [2, 0, π / 4] ∧ denote v' = some [2, 0, 2] := by
  have hcot : cos (π / 4) / sin (π / 4) = 1 := by
    rw [cos_pi_div_four, sin_pi_div_four]; exact div_self (by positivity)
  refine ⟨?_, _, rfl, rfl, ?_⟩
  · simp only [denote, xOf, yOf, zOf, rhoOf, hcot]; norm_num
  · show some [xOf .xy 2 (planar_y.eval .xy 1 0), yOf .xy 2 (planar_y.eval .xy 1 0),
      zOf .xy .theta 2 (planar_y.eval .xy 1 0) (π / 4)] = _
    simp only [refine_planar_y, xOf, yOf, zOf, rhoOf, hcot]; norm_num
    rw [show (4 : ℝ) = 2 ^ 2 by norm_num, sqrt_sq (by norm_num)]

/-- **longitudinal assignment (`z`, `theta`, `eta`) on 3D and 4D vectors in every storage**: `x`, `y` are unchanged;
the new `z` is `a`, resp. `ρ / tan a`, `ρ sinh a` with the (unchanged) transverse length `ρ`; the stored azimuthal and
temporal coordinates are kept, so `t` is unchanged when it is stored as `t`; a stored `τ` is kept and then denotes
`t = √(τ² + |p'|²)` of the NEW momentum -/
theorem c15m_setC_lon_denote (v : Vec ℝ) (hv : C01M.WFV v) (c : CName) (hc : c.grp = .lon) (a x y z : ℝ)
    (rest : List ℝ) (h : denote v = some (x :: y :: z :: rest)) :
    ∃ v' z' rest', setC evR c a v = .ok v' ∧ denote v' = some (x :: y :: z' :: rest') ∧ rest'.length = rest.length ∧
      (c = .z → z' = a) ∧
      (c = .theta → ∃ ρ, getS evR .rho v = .ok ρ ∧ z' = ρ * (cos a / sin a)) ∧
      (c = .eta → ∃ ρ, getS evR .rho v = .ok ρ ∧ z' = ρ * sinh a) ∧
      v'.azEl = v.azEl ∧ v'.tmpEl = v.tmpEl ∧
      (v.ty.tmp ≠ some .tau → rest' = rest) ∧
      (∀ τ, v.ty.tmp = some .tau → v.tmpEl = [τ] → rest' = [sqrt (τ ^ 2 + (x ^ 2 + y ^ 2 + z' ^ 2))]) := by
  have g3 : getS evR .rho v = .ok (planar_rho.eval v.ty.az (c3 v).1 (c3 v).2.1) := getS_accR .rho hv (two_le_dim _) (.inl rfl)
  rw [refine_planar_rho] at g3
  rcases wfv_cases hv with ⟨be, mom, az, p, q, rfl⟩ | ⟨be, mom, az, l, p, q, r, rfl⟩ |
    ⟨be, mom, az, l, t, p, q, r, s, rfl⟩
  · simp [denote] at h
  all_goals
    simp only [denote, Option.some.injEq, List.cons.injEq] at h
    obtain ⟨hx, hy, hz, hr⟩ := h
    subst hx hy hz hr
  · cases c <;> simp [CName.grp] at hc
    · exact ⟨_, _, _, rfl, rfl, rfl, fun _ => rfl, (fun h => by cases h), (fun h => by cases h), rfl, rfl,
        fun _ => rfl, fun τ h => by cases h⟩
    · exact ⟨_, _, _, rfl, rfl, rfl, (fun h => by cases h), fun _ => ⟨_, g3, rfl⟩, (fun h => by cases h), rfl, rfl,
        fun _ => rfl, fun τ h => by cases h⟩
    · exact ⟨_, _, _, rfl, rfl, rfl, (fun h => by cases h), (fun h => by cases h), fun _ => ⟨_, g3, rfl⟩, rfl, rfl,
        fun _ => rfl, fun τ h => by cases h⟩
  · have ht : ∀ (l' : Lon) (τ : ℝ), (⟨⟨be, mom, az, some l, some t⟩, [p, q, r, s]⟩ : Vec ℝ).ty.tmp = some .tau →
        (⟨⟨be, mom, az, some l, some t⟩, [p, q, r, s]⟩ : Vec ℝ).tmpEl = [τ] →
        [tOf az l' t p q a s] = [sqrt (τ ^ 2 + (xOf az p q ^ 2 + yOf az p q ^ 2 + zOf az l' p q a ^ 2))] := by
      intro l' τ h1 h2
      simp only [Option.some.injEq] at h1
      subst h1
      simp only [Vec.tmpEl, Option.isSome_some, if_true, List.drop, List.take, List.cons.injEq, and_true] at h2
      subst h2
      rfl
    have hnt : ∀ (l' : Lon), (⟨⟨be, mom, az, some l, some t⟩, [p, q, r, s]⟩ : Vec ℝ).ty.tmp ≠ some .tau →
        [tOf az l' t p q a s] = [tOf az l t p q r s] := by
      intro l' h1
      cases t
      · rfl
      · exact absurd rfl h1
    cases c <;> simp [CName.grp] at hc
    · exact ⟨_, _, _, rfl, rfl, rfl, fun _ => rfl, (fun h => by cases h), (fun h => by cases h), rfl, rfl,
        hnt .z, ht .z⟩
    · exact ⟨_, _, _, rfl, rfl, rfl, (fun h => by cases h), fun _ => ⟨_, g3, rfl⟩, (fun h => by cases h), rfl, rfl,
        hnt .theta, ht .theta⟩
    · exact ⟨_, _, _, rfl, rfl, rfl, (fun h => by cases h), (fun h => by cases h), fun _ => ⟨_, g3, rfl⟩, rfl, rfl,
        hnt .eta, ht .eta⟩

/-- **temporal assignment (`t`, `tau`) on 4D vectors in every storage**: `x`, `y`, `z` are unchanged (the stored
azimuthal and longitudinal coordinates are kept verbatim); the new time component is `a`, resp. `√(a² + |p|²)` -/
theorem c15m_setC_tmp_denote (v : Vec ℝ) (hv : C01M.WFV v) (c : CName) (hc : c.grp = .tmp) (a x y z t : ℝ)
    (h : denote v = some [x, y, z, t]) :
    ∃ v' t', setC evR c a v = .ok v' ∧ denote v' = some [x, y, z, t'] ∧
      (c = .t → t' = a) ∧ (c = .tau → t' = sqrt (a ^ 2 + (x ^ 2 + y ^ 2 + z ^ 2))) ∧
      v'.azEl = v.azEl ∧ v'.lonEl = v.lonEl := by
  rcases wfv_cases hv with ⟨be, mom, az, p, q, rfl⟩ | ⟨be, mom, az, l, p, q, r, rfl⟩ |
    ⟨be, mom, az, l, t0, p, q, r, s, rfl⟩
  · simp [denote] at h
  · simp [denote] at h
  · simp only [denote, Option.some.injEq, List.cons.injEq] at h
    obtain ⟨hx, hy, hz, ht, -⟩ := h
    subst hx hy hz ht
    cases c <;> simp [CName.grp] at hc
    · exact ⟨_, _, rfl, rfl, fun _ => rfl, (fun h => by cases h), rfl, rfl⟩
    · exact ⟨_, _, rfl, rfl, (fun h => by cases h), fun _ => rfl, rfl, rfl⟩

/-- the hypotheses are satisfiable: a (ρ, φ, η, τ) momentum vector; `v.theta = 1` then `v.t = 7` -/
example : ∃ v' v'', setC evR .theta 1 ⟨⟨.obj, true, .rhophi, some .eta, some .tau⟩, [3, 0, 0, 4]⟩ = .ok v' ∧
    v'.ty = ⟨.obj, true, .rhophi, some .theta, some .tau⟩ ∧ v'.c = [3, 0, 1, 4] ∧
    setC evR .t 7 v' = .ok v'' ∧ v''.ty = ⟨.obj, true, .rhophi, some .theta, some .t⟩ ∧ v''.c = [3, 0, 1, 7] :=
  ⟨_, _, rfl, rfl, rfl, rfl, rfl, rfl⟩

/-! ### 2. `_replace_data` is the conversion of the functional result into the object's own coordinate system -/

/-- **`replaceData ev v r` is `toSystem` of `r` into the system of `v`, carrying `v`'s type** (class, flavor, backend of the
OBJECT, not of the result) — for every scalar type and compute layer; `r` of the dimension of the well-formed `v`, so no
coordinate is imputed and the keyword values `kl`, `kt` and the zero `z` are irrelevant -/
theorem c15m_replaceData_eq_toSystem {S B : Type} (ev : Ev S B) (z : S) (v r : Vec S) (hw : VG.WF v.ty)
    (hd : r.ty.dim = v.ty.dim) (kl kt : Option S) :
    replaceData ev v r =
      (toSystem ev z r v.ty.az v.ty.lon v.ty.tmp kl kt).map (fun w => (⟨v.ty, w.c⟩ : Vec S)) := by
  have h3 : v.ty.lon.isSome → r.ty.dim ≥ 3 := by rw [hd]; intro h; simp [VT.dim, h]
  have h4 : v.ty.tmp.isSome → r.ty.dim ≥ 4 := by rw [hd]; intro h; have := hw h; simp [VT.dim, h, this]
  -- both sides read the same accessors in the same order; `map` is pushed through the binds to the final `pure`
  show _ = (fun w => (⟨v.ty, w.c⟩ : Vec S)) <$> toSystem ev z r v.ty.az v.ty.lon v.ty.tmp kl kt
  unfold replaceData toSystem
  rcases hl : v.ty.lon with _ | l <;> rcases ht : v.ty.tmp with _ | t <;>
    simp only [hl, ht, Option.isSome_some, forall_const] at h3 h4 ⊢ <;>
    simp only [map_bind, map_pure, if_pos, h3, h4]

/-- the denotation only depends on the coordinate system and the stored coordinates, not on class / flavor / backend -/
theorem denote_retype (ty : VT) (w : Vec ℝ) (h1 : w.ty.az = ty.az) (h2 : w.ty.lon = ty.lon) (h3 : w.ty.tmp = ty.tmp) :
    denote ⟨ty, w.c⟩ = denote w := by
  simp only [denote, h1, h2, h3]

theorem isSome_of_dim {a b : VT} (ha : VG.WF a) (hb : VG.WF b) (hd : a.dim = b.dim) :
    a.lon.isSome = b.lon.isSome ∧ a.tmp.isSome = b.tmp.isSome := by
  obtain ⟨be1, m1, az1, l1, t1⟩ := a
  obtain ⟨be2, m2, az2, l2, t2⟩ := b
  cases l1 <;> cases t1 <;> cases l2 <;> cases t2 <;> simp [VG.WF, VT.dim] at ha hb hd ⊢

/-- **what `_replace_data` denotes**: for a well-formed object `v` and a well-formed functional result `r` of the same
dimension (any storage, any class), under the representability hypotheses `FwdOK` of reading `r` through the accessors
of `v`'s system (`Props/MethodConv`), the object afterwards has `v`'s WHOLE type and denotes what `r` denotes -/
theorem c15m_replaceData_denote (v r : Vec ℝ) (hv : C01M.WFV v) (hr : C01M.WFV r) (hd : r.ty.dim = v.ty.dim)
    (h : FwdOK r v.ty.lon v.ty.tmp) :
    ∃ v', replaceData evR v r = .ok v' ∧ v'.ty = v.ty ∧ C01M.WFV v' ∧ denote v' = denote r := by
  obtain ⟨hl, ht⟩ := isSome_of_dim (a := v.ty) (b := r.ty) hv.1 hr.1 hd.symm
  obtain ⟨w, hw, hty, hwf, hden⟩ := c04m_toSystem_denote 0 r hr v.ty.az v.ty.lon v.ty.tmp hl ht h none none
  have he := c15m_replaceData_eq_toSystem evR 0 v r hv.1 hd none none
  rw [hw] at he
  refine ⟨⟨v.ty, w.c⟩, he, rfl, ⟨hv.1, ?_⟩, ?_⟩
  · show w.c.length = v.ty.dim
    rw [hwf.2, hty]; rfl
  · rw [← hden]
    exact denote_retype v.ty w (by rw [hty]) (by rw [hty]) (by rw [hty])

/-- … and when the functional result is stored in the SAME system as the object, no hypothesis at all: the coordinates
are copied verbatim -/
theorem c15m_replaceData_same_system (v r : Vec ℝ) (hr : C01M.WFV r) (haz : r.ty.az = v.ty.az)
    (hlon : r.ty.lon = v.ty.lon) (htmp : r.ty.tmp = v.ty.tmp) :
    replaceData evR v r = .ok ⟨v.ty, r.c⟩ ∧ denote (⟨v.ty, r.c⟩ : Vec ℝ) = denote r :=
  ⟨c15_replaceData_same_system c04m_idLaws (show VG.WFV r from hr) haz hlon htmp, denote_retype v.ty r haz hlon htmp⟩

/-- the stored `τ` after `_replace_data` is non-negative (`CanonTmpV`): it is copied when the functional result is
τ-stored, and is `√(t² − |p|²)` of a causal future-directed result otherwise (part of `FwdOK`) -/
theorem replaceData_canonTmp (v r v' : Vec ℝ) (hv : C01M.WFV v) (hr : C01M.WFV r) (hd : r.ty.dim = v.ty.dim)
    (h : FwdOK r v.ty.lon v.ty.tmp) (hrt : r.ty.tmp = some .tau → CanonTmpV r)
    (he : replaceData evR v r = .ok v') : CanonTmpV v' := by
  obtain ⟨hl, ht⟩ := isSome_of_dim (a := v.ty) (b := r.ty) hv.1 hr.1 hd.symm
  rw [c15m_replaceData_eq_toSystem evR 0 v r hv.1 hd none none] at he
  obtain ⟨⟨bev, momv, azv, lv, tv⟩, cv⟩ := v
  rcases wfv_cases hr with ⟨be, mom, az0, a, b, rfl⟩ | ⟨be, mom, az0, l0, a, b, c, rfl⟩ |
    ⟨be, mom, az0, l0, t0, a, b, c, d, rfl⟩
  · rcases lv with _ | l <;> rcases tv with _ | tm <;> simp at hl ht
    rw [toSystem_eval2] at he
    cases he
    trivial
  · rcases lv with _ | l <;> rcases tv with _ | tm <;> simp at hl ht
    rw [toSystem_eval3] at he
    cases he
    trivial
  · rcases lv with _ | l <;> rcases tv with _ | tm <;> simp at hl ht
    rw [toSystem_eval4] at he
    cases he
    have h' : C04M.LonOK az0 l0 l a b c ∧ C04M.TmpOK az0 l0 t0 tm a b c d := h
    cases tm
    · trivial
    · show 0 ≤ convTmp az0 l0 t0 .tau a b c d
      cases t0
      · obtain ⟨hcl, hd0, hm⟩ := h'.2
        show 0 ≤ lorentz_tau.eval az0 l0 .t a b c d
        rw [refine_lorentz_tau az0 l0 .t a b c d hcl trivial]
        apply sign_mul_sqrt_abs_nonneg
        simp only [tOf]; linarith
      · show 0 ≤ lorentz_tau.eval az0 l0 .tau a b c d
        rw [refine_lorentz_tau_of_tau]
        exact hrt rfl

theorem scale_canonTmp (K : Consts ℝ) (A : Arith ℝ) (v r : Vec ℝ) (hv : C01M.WFV v) (f : ℝ) (hf : 0 ≤ f)
    (hC : CanonTmpV v) (he : call evR K A "scale" v [.sc f] = .ok (.vec r)) : CanonTmpV r := by
  rcases wfv_cases hv with ⟨be, mom, az, a, b, rfl⟩ | ⟨be, mom, az, l, a, b, c, rfl⟩ |
    ⟨be, mom, az, l, t, a, b, c, d, rfl⟩
  · rw [scale_eval2] at he; cases he; trivial
  · rw [scale_eval3] at he; cases he; trivial
  · rw [scale_eval4] at he
    cases he
    cases t
    · trivial
    · show 0 ≤ (lorentz_scale.eval az l .tau f a b c d).2.2.2
      rw [c13c_lorentz_scale_tau_eq]
      exact mul_nonneg hC hf

/-! ### 3. in-place operators: functional equivalence -/

/-- the functional result behind each in-place operator is the PUBLIC method / operator of that name -/
theorem iopResult_call {S B : Type} (ev : Ev S B) (K : Consts S) (A : Arith S) (v o : Vec S) (f : S) :
    iopResult ev K A v (.iopV .add o) = call ev K A "add" v [.v o] ∧
    iopResult ev K A v (.iopV .sub o) = call ev K A "subtract" v [.v o] ∧
    iopResult ev K A v (.iopS .mul f) = call ev K A "scale" v [.sc f] ∧
    iopResult ev K A v (.iopS .div f) = call ev K A "scale" v [.sc (A.inv f)] ∧
    iopResult ev K A v (.iopV .add o) = operator ev K A "add" v [.v o] ∧
    iopResult ev K A v (.iopV .sub o) = operator ev K A "sub" v [.v o] ∧
    iopResult ev K A v (.iopS .mul f) = operator ev K A "mul" v [.sc f] ∧
    iopResult ev K A v (.iopS .div f) = operator ev K A "truediv" v [.sc f] := by
  have e := c15_iopResult_eq ev K A v o f
  have b := C11M.call_bin ev K A v o
  have o' := C11M.c11m_operators ev K A v o
  exact ⟨e.1.trans b.1.symm, e.2.1.trans b.2.1.symm, e.2.2.1.trans (C11M.call_scale ev K A v f).symm,
    e.2.2.2.1.trans (C11M.call_scale ev K A v (A.inv f)).symm, e.1.trans (b.1.symm.trans o'.1.symm),
    e.2.1.trans (b.2.1.symm.trans o'.2.1.symm), rfl, rfl⟩

/-- `_replace_data` applied to a functional result: vectors are converted into the object, anything else is a TypeError -/
def intoObject {S B : Type} (ev : Ev S B) (v : Vec S) : Res S B → Except Err (Vec S)
  | .vec r => replaceData ev v r
  | _ => .error .typeError

/-- **functional equivalence, every compute layer** (definitional): the in-place operator is the functional operator
followed by `_replace_data` into the object -/
theorem c15m_iop_functional {S B : Type} (ev : Ev S B) (K : Consts S) (A : Arith S) (v o : Vec S) (f : S) :
    stepE ev K A v (.iopV .add o) = (binary ev K .add v o []).bind (intoObject ev v) ∧
    stepE ev K A v (.iopV .sub o) = (binary ev K .subtract v o []).bind (intoObject ev v) ∧
    stepE ev K A v (.iopS .mul f) = (scaleN ev v.ty.dim f v).bind (intoObject ev v) ∧
    stepE ev K A v (.iopS .div f) = (scaleN ev v.ty.dim (A.inv f) v).bind (intoObject ev v) := by
  refine ⟨?_, ?_, ?_, ?_⟩ <;> simp only [stepE, iopResult] <;>
    (split <;> simp_all [Except.bind, intoObject])

theorem vec_eta {S : Type} (ty : VT) (r : Vec S) (h : r.ty = ty) : (⟨ty, r.c⟩ : Vec S) = r := by
  cases r; cases h; rfl

/-- **an in-place operator whose functional result `r` is representable in the object's system** (`FwdOK`): the step
succeeds, the object keeps its WHOLE type (class, flavor, backend, coordinate system) and denotes what `r` denotes -/
theorem c15m_iop_denote (K : Consts ℝ) (A : Arith ℝ) (v r : Vec ℝ) (st : Step ℝ) (hv : C01M.WFV v) (hr : C01M.WFV r)
    (hd : r.ty.dim = v.ty.dim) (hres : iopResult evR K A v st = .ok (.vec r)) (h : FwdOK r v.ty.lon v.ty.tmp) :
    ∃ v', stepE evR K A v st = .ok v' ∧ v'.ty = v.ty ∧ C01M.WFV v' ∧ denote v' = denote r := by
  obtain ⟨w, g1, g2, g3, g4⟩ := c15m_replaceData_denote v r hv hr hd h
  exact ⟨w, (c15_stepE_functional hres).trans g1, g2, g3, g4⟩

/-- **in-place = functional, at the level of denotations**: whenever the in-place operator succeeds and the functional
result `r` is representable in the object's system, the object afterwards denotes what `r` denotes -/
theorem c15m_iop_functional_denote (K : Consts ℝ) (A : Arith ℝ) (v r v' : Vec ℝ) (st : Step ℝ) (hv : C01M.WFV v)
    (hr : C01M.WFV r) (hd : r.ty.dim = v.ty.dim) (hres : iopResult evR K A v st = .ok (.vec r))
    (h : FwdOK r v.ty.lon v.ty.tmp) (hstep : stepE evR K A v st = .ok v') :
    v'.ty = v.ty ∧ C01M.WFV v' ∧ denote v' = denote r := by
  obtain ⟨w, g1, g2, g3, g4⟩ := c15m_iop_denote K A v r st hv hr hd hres h
  rw [g1] at hstep
  cases hstep
  exact ⟨g2, g3, g4⟩

/-- … and when `r` is stored in the system of the object, with no hypothesis: the coordinates are copied verbatim -/
theorem c15m_iop_same_system (K : Consts ℝ) (A : Arith ℝ) (v r : Vec ℝ) (st : Step ℝ) (hr : C01M.WFV r)
    (hres : iopResult evR K A v st = .ok (.vec r)) (haz : r.ty.az = v.ty.az) (hlon : r.ty.lon = v.ty.lon)
    (htmp : r.ty.tmp = v.ty.tmp) :
    stepE evR K A v st = .ok ⟨v.ty, r.c⟩ ∧ denote (⟨v.ty, r.c⟩ : Vec ℝ) = denote r :=
  ⟨(c15_stepE_functional hres).trans (c15m_replaceData_same_system v r hr haz hlon htmp).1,
    (c15m_replaceData_same_system v r hr haz hlon htmp).2⟩

/-- **`v *= f` in every storage (2 + 6 + 12)** (hypotheses of `c11m_scale`; none on the conversion: `scale` returns the
object's own system, so `_replace_data` copies the coordinates verbatim): the object afterwards IS the functional result
`v * f` (same type, same stored coordinates), and denotes `f •` the denotation -/
theorem c15m_iop_mul (K : Consts ℝ) (A : Arith ℝ) (v : Vec ℝ) (hv : C01M.WFV v) (f : ℝ) (hθ : ThetaRangeV v)
    (hf : v.ty.tmp = some .tau → 0 ≤ f) :
    ∃ v' p, stepE evR K A v (.iopS .mul f) = .ok v' ∧ call evR K A "scale" v [.sc f] = .ok (.vec v') ∧
      v'.ty = v.ty ∧ C01M.WFV v' ∧ denote v = some p ∧ denote v' = some (p.map (f * ·)) := by
  obtain ⟨r, p, h1, h2, h3, h4, h5⟩ := c11m_scale K A v hv f hθ hf
  have hs := (c15m_iop_same_system K A v r (.iopS .mul f) h3 ((iopResult_call evR K A v v f).2.2.1.trans h1)
    (by rw [h2]) (by rw [h2]) (by rw [h2])).1
  rw [vec_eta v.ty r h2] at hs
  exact ⟨r, p, hs, h1, h2, h3, h4, h5⟩

/-- **`v /= f`** for `f ≠ 0` (`0 < f` for τ-stored vectors), given that the method layer's reciprocal is the real one -/
theorem c15m_iop_div (K : Consts ℝ) (A : Arith ℝ) (v : Vec ℝ) (hv : C01M.WFV v) (f : ℝ) (hA : A.inv f = f⁻¹)
    (hf0 : f ≠ 0) (hθ : ThetaRangeV v) (hf : v.ty.tmp = some .tau → 0 < f) :
    ∃ v' p, stepE evR K A v (.iopS .div f) = .ok v' ∧ call evR K A "scale" v [.sc (A.inv f)] = .ok (.vec v') ∧
      v'.ty = v.ty ∧ C01M.WFV v' ∧ denote v = some p ∧ denote v' = some (p.map (· / f)) := by
  -- in the model `v /= f` IS `v *= A.inv f` (`iopResult`), so the step below is the one of `c15m_iop_mul` definitionally
  obtain ⟨v', p, h1, h2, h3, h4, h5, h6⟩ :=
    c15m_iop_mul K A v hv (A.inv f) hθ fun h => by rw [hA]; exact (inv_pos.mpr (hf h)).le
  refine ⟨v', p, h1, h2, h3, h4, h5, ?_⟩
  rw [h6, hA]
  congr 1
  exact List.map_congr_left fun x _ => by rw [div_eq_inv_mul]

/-! #### `+=` and `-=` with a vector -/

def vecFn : IOp → ℝ → ℝ → ℝ
  | .sub => (· - ·)
  | _ => (· + ·)

/-- the hypotheses of `c11m_add` / `c11m_subtract` on the exact sum / difference -/
def RepOp : IOp → Vec ℝ → Vec ℝ → Prop
  | .add, v, o => RepAdd v o
  | .sub, v, o => RepSub v o ∧ SubCausal v o
  | _, _, _ => False

theorem subtract_ret_eq_add :
    (∀ az1 az2, planar_subtract.ret az1 az2 = planar_add.ret az1 az2) ∧
    (∀ az1 l1 az2 l2, spatial_subtract.ret az1 l1 az2 l2 = spatial_add.ret az1 l1 az2 l2) :=
  ⟨fun az1 az2 => by cases az1 <;> cases az2 <;> rfl,
    fun az1 l1 az2 l2 => (spatial_subtract_ret_sys az1 l1 az2 l2).trans (spatial_add_ret_sys az1 l1 az2 l2).symm⟩

/-- **the functional `v + o` / `v - o`** (`c11m_add`, `c11m_subtract`: every storage pairing of operands of equal
dimension, any classes) as the result behind `+=` / `-=` -/
theorem iopV_functional (K : Consts ℝ) (A : Arith ℝ) (op : IOp) (v o : Vec ℝ) (hv : C01M.WFV v) (ho : C01M.WFV o)
    (hd : v.ty.dim = o.ty.dim) (hT1 : TanOKV v) (hT2 : TanOKV o) (hS1 : SinOKV v) (hS2 : SinOKV o)
    (hC1 : CanonTmpV v) (hC2 : CanonTmpV o) (hrep : RepOp op v o) :
    ∃ r p q, iopResult evR K A v (.iopV op o) = .ok (.vec r) ∧ C01M.WFV r ∧ r.ty.dim = v.ty.dim ∧
      r.ty.tmp = tmpRes? v.ty.tmp o.ty.tmp ∧ DeclaredSys planar_add.ret spatial_add.ret v o r ∧ denote v = some p ∧
      denote o = some q ∧ denote r = some (List.zipWith (vecFn op) p q) := by
  obtain ⟨e1, e2, -⟩ := iopResult_call evR K A v o 0
  cases op
  · obtain ⟨r, p, q, h1, h2, h3, -, -, h4, hs, h5, h6, h7, -⟩ :=
      c11m_add_rng K A v o hv ho hd hT1 hT2 hS1 hS2 hC1 hC2 hrep
    exact ⟨r, p, q, e1.trans h1, h2, h3, h4, hs, h5, h6, h7⟩
  · obtain ⟨r, p, q, h1, h2, h3, -, -, h4, hs, h5, h6, h7, -⟩ :=
      c11m_subtract_rng K A v o hv ho hd hT1 hT2 hS1 hS2 hC1 hC2 hrep.1 hrep.2
    simp only [DeclaredSys, subtract_ret_eq_add.1, subtract_ret_eq_add.2] at hs
    exact ⟨r, p, q, e2.trans h1, h2, h3, h4, hs, h5, h6, h7⟩
  · exact hrep.elim
  · exact hrep.elim

/-- **`v += o` / `v -= o` in EVERY storage pairing of operands of equal dimension (2D 4, 3D 36, 4D 144), any classes**:
under the hypotheses of `c11m_add` / `c11m_subtract` and the representability `FwdOK` of the functional result `r` in
`v`'s OWN stored system, the step succeeds, the object keeps its WHOLE type, and denotes the component-wise sum /
difference of the denotations — exactly what the functional result denotes -/
theorem c15m_iop_vec (K : Consts ℝ) (A : Arith ℝ) (op : IOp) (v o : Vec ℝ) (hv : C01M.WFV v) (ho : C01M.WFV o)
    (hd : v.ty.dim = o.ty.dim) (hT1 : TanOKV v) (hT2 : TanOKV o) (hS1 : SinOKV v) (hS2 : SinOKV o)
    (hC1 : CanonTmpV v) (hC2 : CanonTmpV o) (hrep : RepOp op v o)
    (hfwd : ∀ r, iopResult evR K A v (.iopV op o) = .ok (.vec r) → FwdOK r v.ty.lon v.ty.tmp) :
    ∃ v' r p q, iopResult evR K A v (.iopV op o) = .ok (.vec r) ∧ stepE evR K A v (.iopV op o) = .ok v' ∧
      v'.ty = v.ty ∧ C01M.WFV v' ∧ denote v = some p ∧ denote o = some q ∧
      denote v' = some (List.zipWith (vecFn op) p q) := by
  obtain ⟨r, p, q, h1, h2, h3, -, -, h4, h5, h6⟩ := iopV_functional K A op v o hv ho hd hT1 hT2 hS1 hS2 hC1 hC2 hrep
  obtain ⟨v', g1, g2, g3, g4⟩ := c15m_iop_denote K A v r _ hv h2 h3 h1 (hfwd r h1)
  exact ⟨v', r, p, q, h1, g1, g2, g3, h4, h5, g4.trans h6⟩

/-! #### the representability hypothesis in terms of the Cartesian sum (functional result stored Cartesian) -/

/-- representability of Cartesian components `p` in the longitudinal / temporal systems `lon`, `tmp`: off the z axis for
θ/η; future-directed and causal (`0 ≤ t`, `|p|² ≤ t²`) for τ -/
def CartOK (lon : Option Lon) (tmp : Option Tmp) : List ℝ → Prop
  | [X, Y, _] => (lon = some .theta ∨ lon = some .eta) → 0 < X ^ 2 + Y ^ 2
  | [X, Y, Z, T] => ((lon = some .theta ∨ lon = some .eta) → 0 < X ^ 2 + Y ^ 2) ∧
      (tmp = some .tau → 0 ≤ T ∧ X ^ 2 + Y ^ 2 + Z ^ 2 ≤ T ^ 2)
  | _ => True

theorem fwdOK_none (r : Vec ℝ) (tmp : Option Tmp) : FwdOK r none tmp := by
  unfold FwdOK
  split <;> trivial

theorem lonOK_cart (l : Lon) (a b c : ℝ) (h : l = .theta ∨ l = .eta → 0 < a ^ 2 + b ^ 2) :
    C04M.LonOK .xy .z l a b c := by
  cases l
  · trivial
  · exact sqrt_pos.mpr (h (Or.inl rfl))
  · exact ⟨sqrt_pos.mpr (h (Or.inr rfl)), trivial⟩

/-- a functional result stored Cartesian (`x, y[, z[, t]]`) is representable in the systems `lon`, `tmp` as soon as the
components it denotes are (`CartOK`) -/
theorem fwdOK_of_cart (r : Vec ℝ) (hr : C01M.WFV r) (haz : r.ty.az = .xy) (hl : r.ty.lon ≠ some .theta)
    (hl' : r.ty.lon ≠ some .eta) (ht : r.ty.tmp ≠ some .tau) (lon : Option Lon) (tmp : Option Tmp) (p : List ℝ)
    (hd : denote r = some p) (H : CartOK lon tmp p) : FwdOK r lon tmp := by
  rcases lon with _ | l
  · exact fwdOK_none r tmp
  rcases wfv_cases hr with ⟨be, mom, az, a, b, rfl⟩ | ⟨be, mom, az, l0, a, b, c, rfl⟩ |
    ⟨be, mom, az, l0, t0, a, b, c, d, rfl⟩
  · trivial
  · simp only at haz hl hl'
    subst haz
    cases l0 <;> simp at hl hl'
    simp only [denote, Option.some.injEq] at hd
    subst hd
    exact lonOK_cart l a b c (fun h => H (by simpa using h))
  · simp only at haz hl hl' ht
    subst haz
    cases l0 <;> simp at hl hl'
    cases t0 <;> simp at ht
    simp only [denote, Option.some.injEq] at hd
    subst hd
    obtain ⟨H1, H2⟩ := H
    have hL : C04M.LonOK .xy .z l a b c := lonOK_cart l a b c (fun h => H1 (by simpa using h))
    rcases tmp with _ | tm
    · exact hL
    · refine ⟨hL, ?_⟩
      cases tm
      · trivial
      · obtain ⟨h1, h2⟩ := H2 rfl
        exact ⟨trivial, h1, by simpa only [mag2Of, xOf, yOf, zOf, tOf] using h2⟩

theorem spatial_add_ret_mixed (az1 : Az) (l1 : Lon) (az2 : Az) (l2 : Lon) (h : (az1, l1) ≠ (az2, l2)) :
    spatial_add.ret az1 l1 az2 l2 = Ret.vec [RP.az .xy, RP.lon .z] := by
  rw [spatial_add_ret_sys]; unfold commonSys; rw [if_neg fun e => h (Prod.ext e.1 e.2)]

theorem spatial_add_ret_same (az : Az) (l : Lon) : spatial_add.ret az l az l = Ret.vec [RP.az az, RP.lon l] := by
  rw [spatial_add_ret_sys]; unfold commonSys; rw [if_pos ⟨rfl, rfl⟩]

theorem tmpRes?_tau {a b : Option Tmp} (h : tmpRes? a b = some .tau) : a = some .tau ∧ b = some .tau := by
  rcases a with _ | _ | _ <;> rcases b with _ | _ | _ <;> first | exact ⟨rfl, rfl⟩ | cases h

theorem tmpRes?_self (t : Option Tmp) : tmpRes? t t = t := by
  rcases t with _ | _ | _ <;> rfl

/-- **`v += o` / `v -= o` for 3D / 4D operands stored in DIFFERENT spatial systems** (e.g. a (ρ,φ,η,τ) vector and an
(x,y,z,t) one), not both τ-stored: the functional result is Cartesian, so the representability hypothesis is a condition
on the SUM / DIFFERENCE of the denotations only (`CartOK`: off the z axis if `v` stores θ/η; `0 ≤ t`, `|p|² ≤ t²` if `v`
stores τ).  The stored `τ` afterwards is again non-negative. -/
theorem c15m_iop_vec_mixed (K : Consts ℝ) (A : Arith ℝ) (op : IOp) (hop : op = .add ∨ op = .sub) (v o : Vec ℝ)
    (hv : C01M.WFV v) (ho : C01M.WFV o) (hd : v.ty.dim = o.ty.dim) (hT1 : TanOKV v) (hT2 : TanOKV o) (hS1 : SinOKV v)
    (hS2 : SinOKV o) (hC1 : CanonTmpV v) (hC2 : CanonTmpV o) (h3 : v.ty.lon.isSome)
    (hmix : (v.ty.az, v.ty.lon) ≠ (o.ty.az, o.ty.lon))
    (hτ : ¬ (v.ty.tmp = some .tau ∧ o.ty.tmp = some .tau)) (p q : List ℝ) (hp : denote v = some p)
    (hq : denote o = some q) (H : CartOK v.ty.lon v.ty.tmp (List.zipWith (vecFn op) p q)) :
    RepOp op v o ∧ (∀ r, iopResult evR K A v (.iopV op o) = .ok (.vec r) → FwdOK r v.ty.lon v.ty.tmp) ∧
    ∃ v', stepE evR K A v (.iopV op o) = .ok v' ∧ v'.ty = v.ty ∧ C01M.WFV v' ∧ CanonTmpV v' ∧
      denote v' = some (List.zipWith (vecFn op) p q) := by
  have hret : spatial_add.ret v.ty.az (lonOf v) o.ty.az (lonOf o) = Ret.vec [RP.az .xy, RP.lon .z] := by
    refine spatial_add_ret_mixed _ _ _ _ fun e => hmix ?_
    obtain ⟨l1, e1⟩ := Option.isSome_iff_exists.mp h3
    obtain ⟨l2, e2⟩ := Option.isSome_iff_exists.mp ((isSome_of_dim hv.1 ho.1 hd).1 ▸ h3)
    simp only [lonOf, e1, e2, Option.getD_some, Prod.mk.injEq] at e ⊢
    exact ⟨e.1, congrArg some e.2⟩
  have hrep : RepOp op v o := by
    rcases hop with rfl | rfl
    · exact fun _ => Or.inl (by rw [hret]; rfl)
    · exact ⟨fun _ => Or.inl (by rw [subtract_ret_eq_add.2, hret]; rfl), fun e1 e2 => absurd ⟨e1, e2⟩ hτ⟩
  have hR : ∀ r, iopResult evR K A v (.iopV op o) = .ok (.vec r) →
      C01M.WFV r ∧ r.ty.dim = v.ty.dim ∧ r.ty.tmp ≠ some .tau ∧ FwdOK r v.ty.lon v.ty.tmp := by
    intro r hres
    obtain ⟨r0, p0, q0, g1, g2, g3, g4, gs, g5, g6, g7⟩ :=
      iopV_functional K A op v o hv ho hd hT1 hT2 hS1 hS2 hC1 hC2 hrep
    rw [hres] at g1; cases g1
    rw [hp] at g5; cases g5
    rw [hq] at g6; cases g6
    obtain ⟨haz, hlon⟩ := gs.2 h3
    rw [hret] at haz hlon
    have htmp : r.ty.tmp ≠ some .tau := fun e => hτ (tmpRes?_tau (g4 ▸ e))
    have hz : r.ty.lon = some .z := hlon
    exact ⟨g2, g3, htmp, fwdOK_of_cart r g2 haz (by rw [hz]; simp) (by rw [hz]; simp) htmp _ _ _ g7 H⟩
  refine ⟨hrep, fun r h => (hR r h).2.2.2, ?_⟩
  obtain ⟨v', r, p0, q0, gc, g1, g2, g3, g4, g5, g6⟩ :=
    c15m_iop_vec K A op v o hv ho hd hT1 hT2 hS1 hS2 hC1 hC2 hrep fun r h => (hR r h).2.2.2
  rw [hp] at g4; cases g4
  rw [hq] at g5; cases g5
  obtain ⟨r1, r2, r3, r4⟩ := hR r gc
  exact ⟨v', g1, g2, g3,
    replaceData_canonTmp v r v' hv r1 r2 r4 (fun e => absurd e r3) (c15_stepE_functional gc ▸ g1), g6⟩

/-! #### operands stored in the SAME system: no representability hypothesis on the conversion -/

theorem planar_add_ret_same (az : Az) : planar_add.ret az az = Ret.vec [RP.az az] := by cases az <;> rfl

/-- **`v += o` / `v -= o` when `o` is stored in the SAME coordinate system as `v`** (the everyday case; any classes /
flavors): the functional result is returned in that system, so `_replace_data` copies its coordinates VERBATIM — only the
hypotheses of `c11m_add` / `c11m_subtract`, none on the conversion -/
theorem c15m_iop_vec_same (K : Consts ℝ) (A : Arith ℝ) (op : IOp) (v o : Vec ℝ)
    (hv : C01M.WFV v) (ho : C01M.WFV o) (haz : o.ty.az = v.ty.az) (hlon : o.ty.lon = v.ty.lon)
    (htmp : o.ty.tmp = v.ty.tmp) (hT1 : TanOKV v) (hT2 : TanOKV o) (hS1 : SinOKV v) (hS2 : SinOKV o)
    (hC1 : CanonTmpV v) (hC2 : CanonTmpV o) (hrep : RepOp op v o) :
    ∃ v' r p q, iopResult evR K A v (.iopV op o) = .ok (.vec r) ∧ stepE evR K A v (.iopV op o) = .ok v' ∧
      v'.ty = v.ty ∧ v'.c = r.c ∧ C01M.WFV v' ∧ denote v = some p ∧ denote o = some q ∧
      denote v' = some (List.zipWith (vecFn op) p q) := by
  have hd : v.ty.dim = o.ty.dim := by simp only [VT.dim, hlon, htmp]
  obtain ⟨r, p, q, h1, h2, h3, h4, ⟨s2, s3⟩, h5, h6, h7⟩ :=
    iopV_functional K A op v o hv ho hd hT1 hT2 hS1 hS2 hC1 hC2 hrep
  have hlo : lonOf o = lonOf v := by unfold lonOf; rw [hlon]
  have hty : r.ty.az = v.ty.az ∧ r.ty.lon = v.ty.lon := by
    rcases hl : v.ty.lon with _ | l
    · rw [(s2 hl).1, (s2 hl).2, haz, planar_add_ret_same]; exact ⟨rfl, rfl⟩
    · have hlv : lonOf v = l := by unfold lonOf; rw [hl]; rfl
      rw [(s3 (by rw [hl]; rfl)).1, (s3 (by rw [hl]; rfl)).2, haz, hlo, hlv, spatial_add_ret_same]; exact ⟨rfl, rfl⟩
  obtain ⟨g1, g2⟩ := c15m_iop_same_system K A v r _ h2 h1 hty.1 hty.2 (by rw [h4, htmp, tmpRes?_self])
  exact ⟨⟨v.ty, r.c⟩, r, p, q, h1, g1, rfl, rfl, ⟨hv.1, by show r.c.length = _; rw [h2.2, h3]⟩, h5, h6,
    g2.trans h7⟩

/-- **`v += o`**: `c15m_iop_vec_same` with the functional result as the public call `add` -/
theorem c15m_iop_add_same (K : Consts ℝ) (A : Arith ℝ) (v o : Vec ℝ) (hv : C01M.WFV v) (ho : C01M.WFV o)
    (haz : o.ty.az = v.ty.az) (hlon : o.ty.lon = v.ty.lon) (htmp : o.ty.tmp = v.ty.tmp)
    (hT1 : TanOKV v) (hT2 : TanOKV o) (hS1 : SinOKV v) (hS2 : SinOKV o)
    (hC1 : CanonTmpV v) (hC2 : CanonTmpV o) (hrep : RepAdd v o) :
    ∃ v' r p q, call evR K A "add" v [.v o] = .ok (.vec r) ∧ stepE evR K A v (.iopV .add o) = .ok v' ∧
      v'.ty = v.ty ∧ v'.c = r.c ∧ C01M.WFV v' ∧ denote v = some p ∧ denote o = some q ∧
      denote v' = some (List.zipWith (· + ·) p q) := by
  obtain ⟨v', r, p, q, h1, h⟩ :=
    c15m_iop_vec_same K A .add v o hv ho haz hlon htmp hT1 hT2 hS1 hS2 hC1 hC2 hrep
  exact ⟨v', r, p, q, (iopResult_call evR K A v o 0).1.symm.trans h1, h⟩

/-- **`v -= o`**, likewise (for τ,τ storage the difference must be future-directed causal, `SubCausal`) -/
theorem c15m_iop_sub_same (K : Consts ℝ) (A : Arith ℝ) (v o : Vec ℝ) (hv : C01M.WFV v) (ho : C01M.WFV o)
    (haz : o.ty.az = v.ty.az) (hlon : o.ty.lon = v.ty.lon) (htmp : o.ty.tmp = v.ty.tmp)
    (hT1 : TanOKV v) (hT2 : TanOKV o) (hS1 : SinOKV v) (hS2 : SinOKV o)
    (hC1 : CanonTmpV v) (hC2 : CanonTmpV o) (hrep : RepSub v o) (hcaus : SubCausal v o) :
    ∃ v' r p q, call evR K A "subtract" v [.v o] = .ok (.vec r) ∧ stepE evR K A v (.iopV .sub o) = .ok v' ∧
      v'.ty = v.ty ∧ v'.c = r.c ∧ C01M.WFV v' ∧ denote v = some p ∧ denote o = some q ∧
      denote v' = some (List.zipWith (· - ·) p q) := by
  obtain ⟨v', r, p, q, h1, h⟩ :=
    c15m_iop_vec_same K A .sub v o hv ho haz hlon htmp hT1 hT2 hS1 hS2 hC1 hC2 ⟨hrep, hcaus⟩
  exact ⟨v', r, p, q, (iopResult_call evR K A v o 0).2.1.symm.trans h1, h⟩

/-- the hypotheses are satisfiable: two (x, y, z, t) vectors of different flavor; the object keeps ITS flavor -/
example (K : Consts ℝ) (A : Arith ℝ) :
    ∃ v', stepE evR K A ⟨⟨.obj, false, .xy, some .z, some .t⟩, [1, 2, 3, 4]⟩
        (.iopV .add ⟨⟨.obj, true, .xy, some .z, some .t⟩, [5, 6, 7, 8]⟩) = .ok v' ∧
      v'.ty = ⟨.obj, false, .xy, some .z, some .t⟩ ∧ denote v' = some [6, 8, 10, 12] := by
  obtain ⟨v', r, p, q, -, h1, h2, -, -, h3, h4, h5⟩ := c15m_iop_add_same K A
    ⟨⟨.obj, false, .xy, some .z, some .t⟩, [1, 2, 3, 4]⟩ ⟨⟨.obj, true, .xy, some .z, some .t⟩, [5, 6, 7, 8]⟩
    ⟨fun _ => rfl, rfl⟩ ⟨fun _ => rfl, rfl⟩ rfl rfl rfl trivial trivial (fun _ => trivial) (fun _ => trivial) trivial
    trivial (fun _ => Or.inl rfl)
  refine ⟨v', h1, h2, ?_⟩
  have e3 : p = [1, 2, 3, 4] := by
    have : denote (⟨⟨.obj, false, .xy, some .z, some .t⟩, [1, 2, 3, 4]⟩ : Vec ℝ) = some [1, 2, 3, 4] := rfl
    rw [this] at h3; exact (Option.some.inj h3).symm
  have e4 : q = [5, 6, 7, 8] := by
    have : denote (⟨⟨.obj, true, .xy, some .z, some .t⟩, [5, 6, 7, 8]⟩ : Vec ℝ) = some [5, 6, 7, 8] := rfl
    rw [this] at h4; exact (Option.some.inj h4).symm
  rw [h5, e3, e4]
  simp only [List.zipWith]
  norm_num

/-! #### the representability hypotheses are NECESSARY (they are not artifacts of the proof) -/

/-- a vector stored with θ or η cannot denote a point ON the z axis other than the origin: whatever `_replace_data`
stores, if the functional result has `x = y = 0 ≠ z`, the object (which keeps its θ/η system) cannot denote it -/
theorem c15m_axis_unrepresentable (v' : Vec ℝ) (hv : C01M.WFV v')
    (h : v'.ty.lon = some .theta ∨ v'.ty.lon = some .eta) (x y z : ℝ) (rest : List ℝ)
    (hd : denote v' = some (x :: y :: z :: rest)) (hxy : x ^ 2 + y ^ 2 = 0) : z = 0 := by
  obtain ⟨-, hx, hy, hz⟩ := denote_spatial hd
  have hρ : rhoOf v'.ty.az (c3 v').1 (c3 v').2.1 = 0 := by
    have := Spec.sq_xOf_add_sq_yOf v'.ty.az (c3 v').1 (c3 v').2.1
    rw [← hx, ← hy, hxy] at this
    exact pow_eq_zero_iff (two_ne_zero) |>.mp this.symm
  rw [hz]
  rcases h with h | h <;> simp only [lonOf, h, Option.getD_some, zOf, hρ, zero_mul]

/-- a τ-stored vector always denotes a future-directed causal 4-vector (`0 ≤ t`, `|p|² ≤ t²`): if the functional
result of `+=` / `-=` is space-like or has negative energy, NO value of the stored coordinates of the (τ-keeping)
object denotes it — the in-place and the functional result necessarily differ -/
theorem c15m_tau_unrepresentable (v' : Vec ℝ) (h : v'.ty.tmp = some .tau) (x y z t : ℝ)
    (hd : denote v' = some [x, y, z, t]) : 0 ≤ t ∧ x ^ 2 + y ^ 2 + z ^ 2 ≤ t ^ 2 := by
  unfold denote at hd
  split at hd <;> try (simp at hd; done)
  next l t0 a b c d hl ht hc =>
    rw [h] at ht
    cases ht
    simp only [Option.some.injEq, List.cons.injEq, and_true] at hd
    obtain ⟨rfl, rfl, rfl, rfl⟩ := hd
    have hm : 0 ≤ mag2Of v'.ty.az l a b c := Spec.mag2Of_nonneg' _ _ _ _ _
    simp only [tOf]
    refine ⟨sqrt_nonneg _, ?_⟩
    rw [sq_sqrt (by positivity)]
    have : xOf v'.ty.az a b ^ 2 + yOf v'.ty.az a b ^ 2 + zOf v'.ty.az l a b c ^ 2 = mag2Of v'.ty.az l a b c := rfl
    rw [this]
    nlinarith [sq_nonneg d]

/-- after ANY successful in-place operator on a τ-stored 4D object, the object denotes a future-directed causal
4-vector (its type, hence the τ storage, is kept) -/
theorem c15m_iop_tau_causal (K : Consts ℝ) (A : Arith ℝ) (v v' : Vec ℝ) (st : Step ℝ) (hst : st.isIop)
    (hτ : v.ty.tmp = some .tau) (h : stepE evR K A v st = .ok v') (x y z t : ℝ) (hd : denote v' = some [x, y, z, t]) :
    0 ≤ t ∧ x ^ 2 + y ^ 2 + z ^ 2 ≤ t ^ 2 :=
  c15m_tau_unrepresentable v' (by rw [(c15_stepE_iop_ty hst h).1]; exact hτ) x y z t hd

/-- **DISCREPANCY with the property text (in-place ≠ functional), concrete instance**: `p = (px=3, py=0, pz=0, mass=4)`
(so `E = 5`), `q = (0, 0, 0, E=9/2)`.  The functional `p - q` is the (x, y, z, t) vector denoting `(3, 0, 0, 1/2)`
(space-like); `p -= q` keeps the τ storage and therefore — whatever it stores — CANNOT denote that vector.  The
hypothesis `CartOK` (`|p|² ≤ t²` of the result for a τ-stored object) cannot be dropped. -/
theorem c15m_iop_sub_spacelike_counterexample (K : Consts ℝ) (A : Arith ℝ) :
    let p : Vec ℝ := ⟨⟨.obj, true, .xy, some .z, some .tau⟩, [3, 0, 0, 4]⟩
    let q : Vec ℝ := ⟨⟨.obj, true, .xy, some .z, some .t⟩, [0, 0, 0, 9 / 2]⟩
    ∃ r, call evR K A "subtract" p [.v q] = .ok (.vec r) ∧ denote r = some [3, 0, 0, 1 / 2] ∧
      ∀ v', stepE evR K A p (.iopV .sub q) = .ok v' → denote v' ≠ denote r := by
  intro p q
  have h25 : sqrt (25 : ℝ) = 5 := by
    rw [show (25 : ℝ) = 5 ^ 2 by norm_num]; exact sqrt_sq (by norm_num)
  have hdp : denote p = some [3, 0, 0, 5] := by
    simp only [p, denote, xOf, yOf, zOf, tOf, mag2Of]
    norm_num [h25]
  have hdq : denote q = some [0, 0, 0, 9 / 2] := rfl
  obtain ⟨r, p0, q0, h1, -, -, -, -, -, h4, h5, h6⟩ := c11m_subtract K A p q ⟨fun _ => rfl, rfl⟩ ⟨fun _ => rfl, rfl⟩
    rfl trivial trivial (fun _ => trivial) (fun _ => trivial) (show (0 : ℝ) ≤ 4 by norm_num) trivial
    (fun _ => Or.inl rfl) (fun _ e => by simp [q] at e)
  rw [hdp] at h4; cases h4
  rw [hdq] at h5; cases h5
  have hr : denote r = some [3, 0, 0, 1 / 2] := by
    rw [h6]; simp only [List.zipWith]; norm_num
  refine ⟨r, h1, hr, ?_⟩
  intro v' hs e
  rw [hr] at e
  have := (c15m_iop_tau_causal K A p v' (.iopV .sub q) rfl rfl hs 3 0 0 (1 / 2) e).2
  norm_num at this

/-! ### 4. whole histories of in-place operators -/

/-- the operation on Cartesian component lists behind an in-place arithmetic step -/
noncomputable def applyD : Step ℝ → List ℝ → Option (List ℝ)
  | .iopV .add o, p => (denote o).map (List.zipWith (· + ·) p)
  | .iopV .sub o, p => (denote o).map (List.zipWith (· - ·) p)
  | .iopS .mul f, p => some (p.map (f * ·))
  | .iopS .div f, p => some (p.map (· / f))
  | _, _ => none

/-- the fold of the operations of a history on a denotation -/
noncomputable def foldD : Option (List ℝ) → List (Step ℝ) → Option (List ℝ)
  | d, [] => d
  | d, st :: rest => foldD (d.bind (applyD st)) rest

/-- the representability predicate of ONE in-place step in state `v`: exactly the hypotheses of `c15m_iop_vec`
(at `.add` and `.sub`), `c15m_iop_mul`, `c15m_iop_div` (other steps are not arithmetic in-place operators: `False`) -/
def Good (K : Consts ℝ) (A : Arith ℝ) (v : Vec ℝ) : Step ℝ → Prop
  | .iopV .add o => C01M.WFV o ∧ v.ty.dim = o.ty.dim ∧ TanOKV v ∧ TanOKV o ∧ SinOKV v ∧ SinOKV o ∧ CanonTmpV v ∧
      CanonTmpV o ∧ RepAdd v o ∧ ∀ r, call evR K A "add" v [.v o] = .ok (.vec r) → FwdOK r v.ty.lon v.ty.tmp
  | .iopV .sub o => C01M.WFV o ∧ v.ty.dim = o.ty.dim ∧ TanOKV v ∧ TanOKV o ∧ SinOKV v ∧ SinOKV o ∧ CanonTmpV v ∧
      CanonTmpV o ∧ RepSub v o ∧ SubCausal v o ∧
      ∀ r, call evR K A "subtract" v [.v o] = .ok (.vec r) → FwdOK r v.ty.lon v.ty.tmp
  | .iopS .mul f => ThetaRangeV v ∧ (v.ty.tmp = some .tau → 0 ≤ f)
  | .iopS .div f => A.inv f = f⁻¹ ∧ f ≠ 0 ∧ ThetaRangeV v ∧ (v.ty.tmp = some .tau → 0 < f)
  | _ => False

/-- **one good step**: it does not raise, keeps the whole type, and acts on the denotation as `applyD` -/
theorem c15m_step_denote (K : Consts ℝ) (A : Arith ℝ) (v : Vec ℝ) (hv : C01M.WFV v) (st : Step ℝ)
    (hg : Good K A v st) :
    ∃ v' p p', stepE evR K A v st = .ok v' ∧ step evR K A v st = (v', none) ∧ v'.ty = v.ty ∧ C01M.WFV v' ∧
      denote v = some p ∧ applyD st p = some p' ∧ denote v' = some p' := by
  rcases st with _ | _ | _ | ⟨op, o⟩ | ⟨op, f⟩
  · exact hg.elim
  · exact hg.elim
  · exact hg.elim
  · cases op
    · obtain ⟨ho, hd, hT1, hT2, hS1, hS2, hC1, hC2, hrep, hfwd⟩ := hg
      obtain ⟨v', r, p, q, -, h1, h2, h3, h4, h5, h6⟩ := c15m_iop_vec K A .add v o hv ho hd hT1 hT2 hS1 hS2 hC1 hC2 hrep
        fun r h => hfwd r ((iopResult_call evR K A v o 0).1.symm.trans h)
      exact ⟨v', p, _, h1, c15_step_ok h1, h2, h3, h4, by simp only [applyD, h5, Option.map_some]; rfl, h6⟩
    · obtain ⟨ho, hd, hT1, hT2, hS1, hS2, hC1, hC2, hrep, hcaus, hfwd⟩ := hg
      obtain ⟨v', r, p, q, -, h1, h2, h3, h4, h5, h6⟩ := c15m_iop_vec K A .sub v o hv ho hd hT1 hT2 hS1 hS2 hC1 hC2
        ⟨hrep, hcaus⟩ fun r h => hfwd r ((iopResult_call evR K A v o 0).2.1.symm.trans h)
      exact ⟨v', p, _, h1, c15_step_ok h1, h2, h3, h4, by simp only [applyD, h5, Option.map_some]; rfl, h6⟩
    · exact hg.elim
    · exact hg.elim
  · cases op
    · exact hg.elim
    · exact hg.elim
    · obtain ⟨hθ, hf⟩ := hg
      obtain ⟨v', p, h1, -, h2, h3, h4, h5⟩ := c15m_iop_mul K A v hv f hθ hf
      exact ⟨v', p, _, h1, c15_step_ok h1, h2, h3, h4, rfl, h5⟩
    · obtain ⟨hA, hf0, hθ, hf⟩ := hg
      obtain ⟨v', p, h1, -, h2, h3, h4, h5⟩ := c15m_iop_div K A v hv f hA hf0 hθ hf
      exact ⟨v', p, _, h1, c15_step_ok h1, h2, h3, h4, rfl, h5⟩

/-- every intermediate state of the history satisfies `Good` for the step applied to it (the explicit INVARIANT
hypothesis of `c15m_run_denote`, by recursion over the history: `Good` now, and `GoodRun` from the next state on) -/
def GoodRun (K : Consts ℝ) (A : Arith ℝ) : Vec ℝ → List (Step ℝ) → Prop
  | _, [] => True
  | v, st :: rest => Good K A v st ∧ GoodRun K A (step evR K A v st).1 rest

/-- the same invariant, stated over prefixes: for every split `steps = pre ++ st :: post`, the step `st` is `Good` in
the state reached after `pre` -/
theorem goodRun_iff_prefix (K : Consts ℝ) (A : Arith ℝ) :
    ∀ (steps : List (Step ℝ)) (v : Vec ℝ), GoodRun K A v steps ↔
      ∀ pre st post, steps = pre ++ st :: post → Good K A (runFinal evR K A v pre) st
  | [], v => by
    simp only [GoodRun, true_iff]
    intro pre st post h
    exact absurd h (by simp)
  | s :: rest, v => by
    rw [GoodRun, goodRun_iff_prefix K A rest]
    constructor
    · rintro ⟨h1, h2⟩ pre st post h
      cases pre with
      | nil => simp only [List.nil_append, List.cons.injEq] at h; rw [← h.1]; exact h1
      | cons a pre =>
        simp only [List.cons_append, List.cons.injEq] at h
        obtain ⟨rfl, h⟩ := h
        exact h2 pre st post h
    · intro h
      exact ⟨h [] s rest rfl, fun pre st post e => h (s :: pre) st post (by rw [e]; rfl)⟩

/-- **histories of in-place operators (`+=`, `-=` with vectors, `*=`, `/=` with scalars) on a vector in ANY storage**.
CONDITIONAL on the invariant `GoodRun` (every intermediate state satisfies the representability predicate `Good` of
the step applied to it; preservation of `Good` is NOT proved in general — it is a property of the particular numbers):
no step raises, the type (class, flavor, backend, coordinate system) never changes, and the final state denotes the
fold of the corresponding functional operations on the denotation of the initial state -/
theorem c15m_run_denote (K : Consts ℝ) (A : Arith ℝ) :
    ∀ (steps : List (Step ℝ)) (v : Vec ℝ), C01M.WFV v → GoodRun K A v steps →
      (runFinal evR K A v steps).ty = v.ty ∧ C01M.WFV (runFinal evR K A v steps) ∧
      (∀ r ∈ run evR K A v steps, r.2 = none ∧ r.1.ty = v.ty) ∧
      (∃ p, foldD (denote v) steps = some p ∧ denote (runFinal evR K A v steps) = some p)
  | [], v, hv, _ => by
    refine ⟨rfl, hv, by simp [run], ?_⟩
    rcases wfv_cases hv with ⟨be, mom, az, a, b, rfl⟩ | ⟨be, mom, az, l, a, b, c, rfl⟩ |
      ⟨be, mom, az, l, t, a, b, c, d, rfl⟩ <;> exact ⟨_, rfl, rfl⟩
  | st :: rest, v, hv, hg => by
    obtain ⟨hg1, hg2⟩ := hg
    obtain ⟨v', p, p', h1, h2, h3, h4, h5, h6, h7⟩ := c15m_step_denote K A v hv st hg1
    rw [h2] at hg2
    obtain ⟨i1, i2, i3, q, i4, i5⟩ := c15m_run_denote K A rest v' h4 hg2
    refine ⟨?_, ?_, ?_, q, ?_, ?_⟩
    · simp only [runFinal, h2]; rw [i1, h3]
    · simp only [runFinal, h2]; exact i2
    · intro r hr
      simp only [run, h2, List.mem_cons] at hr
      rcases hr with rfl | hr
      · exact ⟨rfl, h3⟩
      · exact ⟨(i3 r hr).1, (i3 r hr).2.trans h3⟩
    · simp only [foldD, h5, Option.bind_some, h6]; rw [← h7]; exact i4
    · simp only [runFinal, h2]; exact i5

/-! #### preservation of `Good` for scalar steps, and an example history -/

/-- admissible scalar steps: `*= f` with `0 ≤ f`, `/= f` with `0 < f` (and the reciprocal of the method layer the real one) -/
def ScalarOK (A : Arith ℝ) : Step ℝ → Prop
  | .iopS .mul f => 0 ≤ f
  | .iopS .div f => A.inv f = f⁻¹ ∧ 0 < f
  | _ => False

theorem thetaRangeV_of_ne (v : Vec ℝ) (h : v.ty.lon ≠ some .theta) : ThetaRangeV v := by
  unfold ThetaRangeV lonOf
  rcases hl : v.ty.lon with _ | l
  · trivial
  · cases l
    · trivial
    · exact absurd hl h
    · trivial

/-- **`Good` is PRESERVED along histories of admissible scalar steps on a vector not stored with θ** (the type never
changes, and for `z`/`η` storage `scale` has no hypothesis on the stored coordinates) -/
theorem goodRun_scalars (K : Consts ℝ) (A : Arith ℝ) :
    ∀ (steps : List (Step ℝ)) (v : Vec ℝ), v.ty.lon ≠ some .theta → (∀ st ∈ steps, ScalarOK A st) →
      GoodRun K A v steps
  | [], _, _, _ => trivial
  | st :: rest, v, hl, h => by
    have h1 := h st (by simp)
    have hty : (step evR K A v st).1.ty = v.ty := by
      rcases st with _ | _ | _ | ⟨op, o⟩ | ⟨op, f⟩ <;> first | exact h1.elim | exact c15_step_iop_ty rfl
    refine ⟨?_, goodRun_scalars K A rest _ (by rw [hty]; exact hl) (fun s hs => h s (by simp [hs]))⟩
    rcases st with _ | _ | _ | ⟨op, o⟩ | ⟨op, f⟩ <;> try exact h1.elim
    cases op <;> try exact h1.elim
    · exact ⟨thetaRangeV_of_ne v hl, fun _ => h1⟩
    · exact ⟨h1.1, h1.2.ne', thetaRangeV_of_ne v hl, fun _ => h1.2⟩

theorem lonOf_ne_theta (v : Vec ℝ) (h : v.ty.lon ≠ some .theta) : lonOf v ≠ .theta := by
  unfold lonOf
  rcases hl : v.ty.lon with _ | l
  · simp
  · intro e
    simp only [Option.getD_some] at e
    exact h (by rw [hl, e])

theorem tanOKV_of_ne (v : Vec ℝ) (h : v.ty.lon ≠ some .theta) : TanOKV v := by
  unfold TanOKV
  split
  · next l _ _ _ _ hl _ =>
    cases l
    · trivial
    · exact absurd hl h
    · trivial
  · trivial

theorem sinOKV_of_ne (v : Vec ℝ) (h : v.ty.lon ≠ some .theta) : SinOKV v := by
  intro _
  have := lonOf_ne_theta v h
  revert this
  cases lonOf v <;> intro h' <;> trivial

theorem canonTmpV_of_ne (o : Vec ℝ) (h : o.ty.tmp ≠ some .tau) : CanonTmpV o := by
  unfold CanonTmpV C11M.tmpOf
  rcases ht : o.ty.tmp with _ | t
  · trivial
  · cases t
    · trivial
    · exact absurd ht h

/-- the hypotheses of one step on the TYPE of the object, the operand, and on DENOTATIONS only (`d`: what the object
denotes before the step): scalar steps as in `ScalarOK`; `+=` / `-=` with a well-formed vector of the same dimension
stored in a different spatial system, not τ-stored (for a θ-stored operand: `cos θ ≠ 0`, `sin θ ≠ 0`), whose sum /
difference with `d` is representable in the object's system (`CartOK`) -/
def StepOKD (A : Arith ℝ) (ty : VT) (d : List ℝ) : Step ℝ → Prop
  | .iopV .add o => C01M.WFV o ∧ ty.dim = o.ty.dim ∧ (ty.az, ty.lon) ≠ (o.ty.az, o.ty.lon) ∧ o.ty.tmp ≠ some .tau ∧
      TanOKV o ∧ SinOKV o ∧ ∃ q, denote o = some q ∧ CartOK ty.lon ty.tmp (List.zipWith (· + ·) d q)
  | .iopV .sub o => C01M.WFV o ∧ ty.dim = o.ty.dim ∧ (ty.az, ty.lon) ≠ (o.ty.az, o.ty.lon) ∧ o.ty.tmp ≠ some .tau ∧
      TanOKV o ∧ SinOKV o ∧ ∃ q, denote o = some q ∧ CartOK ty.lon ty.tmp (List.zipWith (· - ·) d q)
  | .iopS .mul f => 0 ≤ f
  | .iopS .div f => A.inv f = f⁻¹ ∧ 0 < f
  | _ => False

/-- `StepOKD` along the history, the denotation evolving by `applyD` — a condition on real numbers only, no
intermediate STATE occurs -/
def RunOKD (A : Arith ℝ) (ty : VT) : List ℝ → List (Step ℝ) → Prop
  | _, [] => True
  | d, st :: rest => StepOKD A ty d st ∧ ∀ d', applyD st d = some d' → RunOKD A ty d' rest

/-- one step of `RunOKD` on a 3D / 4D object not stored with θ: the step is `Good` and succeeds; the new state is again
well-formed, of the same type, with `0 ≤ τ`, and denotes `applyD` of the old denotation -/
theorem stepOKD_good (K : Consts ℝ) (A : Arith ℝ) (v : Vec ℝ) (p : List ℝ) (hv : C01M.WFV v) (h3 : v.ty.lon.isSome)
    (hl : v.ty.lon ≠ some .theta) (hC : CanonTmpV v) (hp : denote v = some p) (st : Step ℝ)
    (h1 : StepOKD A v.ty p st) :
    Good K A v st ∧ ∃ v' p', stepE evR K A v st = .ok v' ∧ v'.ty = v.ty ∧ C01M.WFV v' ∧ CanonTmpV v' ∧
      applyD st p = some p' ∧ denote v' = some p' := by
  rcases st with _ | _ | _ | ⟨op, o⟩ | ⟨op, f⟩
  · exact h1.elim
  · exact h1.elim
  · exact h1.elim
  · cases op
    · obtain ⟨ho, hd, hmix, hot, hT2, hS2, q, hq, H⟩ := h1
      obtain ⟨hrep, hfwd, v', g1, g2, g3, g4, g5⟩ := c15m_iop_vec_mixed K A .add (Or.inl rfl) v o hv ho hd
        (tanOKV_of_ne v hl) hT2 (sinOKV_of_ne v hl) hS2 hC (canonTmpV_of_ne o hot) h3 hmix (fun e => hot e.2) p q hp hq H
      exact ⟨⟨ho, hd, tanOKV_of_ne v hl, hT2, sinOKV_of_ne v hl, hS2, hC, canonTmpV_of_ne o hot, hrep,
        fun r h => hfwd r ((iopResult_call evR K A v o 0).1.trans h)⟩, v', _, g1, g2, g3, g4,
        by simp only [applyD, hq, Option.map_some]; rfl, g5⟩
    · obtain ⟨ho, hd, hmix, hot, hT2, hS2, q, hq, H⟩ := h1
      obtain ⟨hrep, hfwd, v', g1, g2, g3, g4, g5⟩ := c15m_iop_vec_mixed K A .sub (Or.inr rfl) v o hv ho hd
        (tanOKV_of_ne v hl) hT2 (sinOKV_of_ne v hl) hS2 hC (canonTmpV_of_ne o hot) h3 hmix (fun e => hot e.2) p q hp hq H
      exact ⟨⟨ho, hd, tanOKV_of_ne v hl, hT2, sinOKV_of_ne v hl, hS2, hC, canonTmpV_of_ne o hot, hrep.1, hrep.2,
        fun r h => hfwd r ((iopResult_call evR K A v o 0).2.1.trans h)⟩, v', _, g1, g2, g3, g4,
        by simp only [applyD, hq, Option.map_some]; rfl, g5⟩
    · exact h1.elim
    · exact h1.elim
  · cases op
    · exact h1.elim
    · exact h1.elim
    · obtain ⟨v', p0, g1, gc, g2, g3, g4, g5⟩ := c15m_iop_mul K A v hv f (thetaRangeV_of_ne v hl) (fun _ => h1)
      rw [hp] at g4; cases g4
      exact ⟨⟨thetaRangeV_of_ne v hl, fun _ => h1⟩, v', _, g1, g2, g3, scale_canonTmp K A v v' hv f h1 hC gc, rfl, g5⟩
    · have hf' : 0 ≤ A.inv f := by rw [h1.1]; exact (inv_pos.mpr h1.2).le
      obtain ⟨v', p0, g1, gc, g2, g3, g4, g5⟩ :=
        c15m_iop_div K A v hv f h1.1 h1.2.ne' (thetaRangeV_of_ne v hl) (fun _ => h1.2)
      rw [hp] at g4; cases g4
      exact ⟨⟨h1.1, h1.2.ne', thetaRangeV_of_ne v hl, fun _ => h1.2⟩, v', _, g1, g2, g3,
        scale_canonTmp K A v v' hv (A.inv f) hf' hC gc, rfl, g5⟩

/-- **preservation of `Good`, proved**: for a 3D / 4D object not stored with θ (any azimuthal system, `z` or `η`, `t` or
`τ ≥ 0`) the invariant `GoodRun` FOLLOWS from the condition `RunOKD` on the denotations -/
theorem c15m_goodRun_of_denotations (K : Consts ℝ) (A : Arith ℝ) :
    ∀ (steps : List (Step ℝ)) (v : Vec ℝ) (p : List ℝ), C01M.WFV v → v.ty.lon.isSome → v.ty.lon ≠ some .theta →
      CanonTmpV v → denote v = some p → RunOKD A v.ty p steps → GoodRun K A v steps
  | [], _, _, _, _, _, _, _, _ => trivial
  | st :: rest, v, p, hv, h3, hl, hC, hp, hrun => by
    obtain ⟨hg, v', p', g1, g2, g3, g4, g5, g6⟩ := stepOKD_good K A v p hv h3 hl hC hp st hrun.1
    refine ⟨hg, ?_⟩
    rw [c15_step_ok g1]
    exact c15m_goodRun_of_denotations K A rest v' p' g3 (g2 ▸ h3) (g2 ▸ hl) g4 g6 (g2 ▸ hrun.2 p' g5)

/-- **histories on a 3D / 4D object not stored with θ, UNCONDITIONAL on intermediate states**: `RunOKD` (a condition on
the denotations only) implies that no step raises, the type is kept, and the final state denotes the fold -/
theorem c15m_run_denote_of_denotations (K : Consts ℝ) (A : Arith ℝ) (steps : List (Step ℝ)) (v : Vec ℝ) (p : List ℝ)
    (hv : C01M.WFV v) (h3 : v.ty.lon.isSome) (hl : v.ty.lon ≠ some .theta) (hC : CanonTmpV v) (hp : denote v = some p)
    (hrun : RunOKD A v.ty p steps) :
    (runFinal evR K A v steps).ty = v.ty ∧ C01M.WFV (runFinal evR K A v steps) ∧
      (∀ r ∈ run evR K A v steps, r.2 = none ∧ r.1.ty = v.ty) ∧
      (∃ p', foldD (some p) steps = some p' ∧ denote (runFinal evR K A v steps) = some p') := by
  have := c15m_run_denote K A steps v hv (c15m_goodRun_of_denotations K A steps v p hv h3 hl hC hp hrun)
  rwa [hp] at this

/-- **example history of length 3 on a (ρ, φ, η, τ) momentum vector**, `Good` throughout:
`p = MomentumObject4D(pt=3, phi=0, eta=0, mass=4)` (denoting `(3, 0, 0, 5)`); `p += (px=1, py=0, pz=0, E=2)`; `p *= 2`;
`p /= 4`.  The object stays a (ρ, φ, η, τ) momentum vector and finally denotes `((3,0,0,5) + (1,0,0,2)) · 2 / 4` -/
example (K : Consts ℝ) (A : Arith ℝ) (hA : A.inv 4 = 4⁻¹) :
    let v0 : Vec ℝ := ⟨⟨.obj, true, .rhophi, some .eta, some .tau⟩, [3, 0, 0, 4]⟩
    let o : Vec ℝ := ⟨⟨.obj, true, .xy, some .z, some .t⟩, [1, 0, 0, 2]⟩
    let hist : List (Step ℝ) := [.iopV .add o, .iopS .mul 2, .iopS .div 4]
    GoodRun K A v0 hist ∧ (runFinal evR K A v0 hist).ty = v0.ty ∧
      denote (runFinal evR K A v0 hist) = some [2, 0, 0, 7 / 2] := by
  intro v0 o hist
  have hv0 : C01M.WFV v0 := ⟨fun _ => rfl, rfl⟩
  have ho : C01M.WFV o := ⟨fun _ => rfl, rfl⟩
  have h25 : sqrt (25 : ℝ) = 5 := by
    rw [show (25 : ℝ) = 5 ^ 2 by norm_num]; exact sqrt_sq (by norm_num)
  have hd0 : denote v0 = some [3, 0, 0, 5] := by
    simp only [v0, denote, xOf, yOf, zOf, rhoOf, tOf, mag2Of, cos_zero, sin_zero, sinh_zero]
    norm_num [h25]
  have hdo : denote o = some [1, 0, 0, 2] := rfl
  have hmixed := c15m_iop_vec_mixed K A .add (Or.inl rfl) v0 o hv0 ho rfl trivial trivial (fun _ => trivial)
    (fun _ => trivial) (show (0 : ℝ) ≤ 4 by norm_num) trivial rfl (by simp [v0, o]) (by simp [v0, o]) _ _ hd0 hdo
    (by simp only [CartOK, List.zipWith, vecFn]; norm_num)
  obtain ⟨hrep, hfwd, -⟩ := hmixed
  have hG : GoodRun K A v0 hist := by
    refine ⟨⟨ho, rfl, trivial, trivial, fun _ => trivial, fun _ => trivial, show (0 : ℝ) ≤ 4 by norm_num, trivial,
      hrep, fun r h => hfwd r ((iopResult_call evR K A v0 o 0).1.trans h)⟩, ?_⟩
    refine goodRun_scalars K A _ _ ?_ ?_
    · rw [c15_step_iop_ty (st := .iopV .add o) rfl]; simp [v0]
    · intro st hst
      simp only [List.mem_cons, List.mem_nil_iff, or_false] at hst
      rcases hst with rfl | rfl
      · exact (by norm_num : (0 : ℝ) ≤ 2)
      · exact ⟨hA, by norm_num⟩
  obtain ⟨h1, -, -, p, h2, h3⟩ := c15m_run_denote K A hist v0 hv0 hG
  refine ⟨hG, h1, ?_⟩
  rw [h3, ← h2, hd0]
  simp only [hist, foldD, applyD, hdo, Option.bind_some, Option.map_some, List.zipWith, List.map]
  norm_num

/-- **example history of length 4 with `+=` and `-=` in the middle**, same (ρ, φ, η, τ) momentum vector, through the
unconditional theorem: `p += (1,0,0,2)`; `p *= 2`; `p -= (1,0,0,1)`; `p /= 4`: denotations
`(3,0,0,5) → (4,0,0,7) → (8,0,0,14) → (7,0,0,13) → (7/4,0,0,13/4)`; `Good` holds throughout -/
example (K : Consts ℝ) (A : Arith ℝ) (hA : A.inv 4 = 4⁻¹) :
    let v0 : Vec ℝ := ⟨⟨.obj, true, .rhophi, some .eta, some .tau⟩, [3, 0, 0, 4]⟩
    let o1 : Vec ℝ := ⟨⟨.obj, true, .xy, some .z, some .t⟩, [1, 0, 0, 2]⟩
    let o2 : Vec ℝ := ⟨⟨.obj, false, .xy, some .z, some .t⟩, [1, 0, 0, 1]⟩
    let hist : List (Step ℝ) := [.iopV .add o1, .iopS .mul 2, .iopV .sub o2, .iopS .div 4]
    GoodRun K A v0 hist ∧ (runFinal evR K A v0 hist).ty = v0.ty ∧
      (∀ r ∈ run evR K A v0 hist, r.2 = none) ∧
      denote (runFinal evR K A v0 hist) = some [7 / 4, 0, 0, 13 / 4] := by
  intro v0 o1 o2 hist
  have hv0 : C01M.WFV v0 := ⟨fun _ => rfl, rfl⟩
  have h25 : sqrt (25 : ℝ) = 5 := by
    rw [show (25 : ℝ) = 5 ^ 2 by norm_num]; exact sqrt_sq (by norm_num)
  have hd0 : denote v0 = some [3, 0, 0, 5] := by
    simp only [v0, denote, xOf, yOf, zOf, rhoOf, tOf, mag2Of, cos_zero, sin_zero, sinh_zero]
    norm_num [h25]
  have hrun : RunOKD A v0.ty [3, 0, 0, 5] hist := by
    refine ⟨⟨⟨fun _ => rfl, rfl⟩, rfl, by simp [v0, o1], by simp [o1], trivial, fun _ => trivial, [1, 0, 0, 2], rfl, ?_⟩, ?_⟩
    · simp only [CartOK, List.zipWith]; norm_num
    intro d1 h1
    simp only [applyD, show denote o1 = some [1, 0, 0, 2] from rfl, Option.map_some, List.zipWith,
      Option.some.injEq] at h1
    subst h1
    refine ⟨(by norm_num : (0 : ℝ) ≤ 2), ?_⟩
    intro d2 h2
    simp only [applyD, List.map, Option.some.injEq] at h2
    subst h2
    refine ⟨⟨⟨fun _ => rfl, rfl⟩, rfl, by simp [v0, o2], by simp [o2], trivial, fun _ => trivial, [1, 0, 0, 1], rfl, ?_⟩, ?_⟩
    · simp only [CartOK, List.zipWith]; norm_num
    intro d3 h3
    simp only [applyD, show denote o2 = some [1, 0, 0, 1] from rfl, Option.map_some, List.zipWith,
      Option.some.injEq] at h3
    subst h3
    exact ⟨⟨hA, by norm_num⟩, fun _ _ => trivial⟩
  have hG := c15m_goodRun_of_denotations K A hist v0 _ hv0 rfl (by simp [v0]) (show (0 : ℝ) ≤ 4 by norm_num) hd0 hrun
  obtain ⟨h1, -, h2, p, h3, h4⟩ :=
    c15m_run_denote_of_denotations K A hist v0 _ hv0 rfl (by simp [v0]) (show (0 : ℝ) ≤ 4 by norm_num) hd0 hrun
  refine ⟨hG, h1, fun r hr => (h2 r hr).1, ?_⟩
  rw [h4, ← h3]
  simp only [hist, foldD, applyD, show denote o1 = some [1, 0, 0, 2] from rfl,
    show denote o2 = some [1, 0, 0, 1] from rfl, Option.bind_some, Option.map_some, List.zipWith, List.map]
  norm_num

/-! ### 5. a step that raises leaves the state AND the denotation unchanged -/

/-- **raising steps** (`Props/C15` instantiated for `evR`): the object — hence its type, stored coordinates and
denotation — is unchanged -/
theorem c15m_raise_unchanged (K : Consts ℝ) (A : Arith ℝ) (v : Vec ℝ) (st : Step ℝ) (e : Err)
    (h : (step evR K A v st).2 = some e) :
    (step evR K A v st).1 = v ∧ denote (step evR K A v st).1 = denote v ∧ stepE evR K A v st = .error e := by
  obtain ⟨h1, h2⟩ := c15_step_raise_unchanged h
  exact ⟨h1, by rw [h1], h2⟩

/-- the raising steps of the property text: `+=` / `-=` with a vector of a DIFFERENT dimension (TypeError), `*=` / `/=`
with a vector (TypeError), `+=` / `-=` with a scalar (TypeError), assignment to a read-only property (AttributeError) -/
theorem c15m_raising_steps (K : Consts ℝ) (A : Arith ℝ) (v o : Vec ℝ) (f : ℝ) :
    (o.ty.dim ≠ v.ty.dim → step evR K A v (.iopV .add o) = (v, some .typeError) ∧
      step evR K A v (.iopV .sub o) = (v, some .typeError)) ∧
    step evR K A v (.iopV .mul o) = (v, some .typeError) ∧
    step evR K A v (.iopV .div o) = (v, some .typeError) ∧
    step evR K A v (.iopS .add f) = (v, some .typeError) ∧
    step evR K A v (.iopS .sub f) = (v, some .typeError) ∧
    step evR K A v .setReadOnly = (v, some .attributeError) := by
  refine ⟨fun hd => ?_, rfl, rfl, rfl, rfl, rfl⟩
  constructor <;> simp only [step, stepE, iopResult, c05_binary_sameDim_guard evR K .add v o [] rfl hd,
    c05_binary_sameDim_guard evR K .subtract v o [] rfl hd]

/-- … and a history continues from the unchanged state after a raising step -/
theorem c15m_run_raise_skip (K : Consts ℝ) (A : Arith ℝ) (v : Vec ℝ) (st : Step ℝ) (e : Err) (rest : List (Step ℝ))
    (h : stepE evR K A v st = .error e) :
    runFinal evR K A v (st :: rest) = runFinal evR K A v rest ∧
    denote (runFinal evR K A v (st :: rest)) = denote (runFinal evR K A v rest) := by
  have := (c15_run_raise_skip (K := K) (A := A) rest h).2
  exact ⟨this, by rw [this]⟩

end C15M
end VR
